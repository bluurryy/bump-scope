/-
  Arena/Hist.lean — histories of the arena model: runs of `Arena.step`, what a correct base
  allocator guarantees about the responses it supplies (`EnvOK`), and the combined inductive
  invariant `Inv` over `GState` (definitions only; theorems are in `Lemmas/Inv*.lean`, `Lemmas/Hist*.lean` and
  `Props/Hist.lean`; `Lemmas/MemPlaced.lean` holds the predicates `LiveOK`, `PlacedAt` that `Inv` is stated with).
-/
import BumpProof.Arena.Inv
import BumpProof.Arena.Step
import BumpProof.Lemmas.MemPlaced

namespace Arena.Hist
open Rs

/-! ## Runs -/

/-- the state every history starts from -/
def initG (cfg : Cfg) : GState := ⟨initState cfg, []⟩

/-- run a finite history (each operation comes with the base-allocator responses available to it);
    any fault of any step is a fault of the run -/
def runOps (cfg : Cfg) : GState → List (Op × List BaseResp) → R GState
  | g, [] => pure g
  | g, (op, resps) :: rest => do
    let (g', _, _) ← step cfg g op resps
    runOps cfg g' rest

/-- one entry of the base-allocator log of a run: the requests a step made (in call order) and the
    responses that were supplied to it -/
abbrev LogEntry := List BaseReq × List BaseResp

/-- like `runOps`, also returning the base-allocator traffic of every step -/
def runLog (cfg : Cfg) : GState → List (Op × List BaseResp) → R (GState × List LogEntry)
  | g, [] => pure (g, [])
  | g, (op, resps) :: rest => do
    let (g', _, reqs) ← step cfg g op resps
    let (g'', log) ← runLog cfg g' rest
    pure (g'', (reqs, resps) :: log)

/-! ## The environment (base allocator) -/

/-- the state on which `stepCore` runs: the responses of this step installed, no requests yet -/
def install (g : GState) (resps : List BaseResp) : GState :=
  { g with s := { g.s with resps := resps, reqs := [] } }

/-- what a correct base allocator guarantees for the blocks it hands out during one step, whatever
    was asked: each granted block is aligned for the chunk header, not null, lies in the lower half of
    the address space (`RespGeomOK`), and overlaps neither a chunk the arena currently owns nor another
    block granted in the same step (`RespsFresh`).
    That a granted block is at least as large as REQUESTED is not part of `EnvOK`: the request size is
    computed by the model during the step, and the model faults (`Fault.rs`, the debug assertion in
    `NonDummyChunk::new`) on a block that is too small, so preservation of the invariant does not need it;
    it is the extra hypothesis `Answered` (built from `BaseOK` / `HeadOK` of Arena/Inv.lean) of the
    no-fault theorem (Lemmas/HistNoFault.lean). -/
def EnvOK (cfg : Cfg) (g : GState) (resps : List BaseResp) : Prop :=
  RespsOK cfg (install g resps).s ∧ RespsFresh (install g resps).s

/-! ## Checkpoints, frames, prepared allocations -/

/-- a checkpoint names a chunk of the arena and an address inside its content range, or it was
    taken while the arena was unallocated -/
def CpGeom (cfg : Cfg) (s : State) (cp : Checkpoint) : Prop :=
  match cp.cur with
  | .chunk i => ∃ c : Chunk, s.chunks[i]? = some c ∧ c.contentStart cfg ≤ cp.addr ∧ cp.addr ≤ c.contentEnd cfg
  | .unallocated => True
  | .claimed => False

/-- a checkpoint `cp` taken when `m` was the next block id: it is geometrically sound, `m` is not in
    the future, and every non-empty live block older than the checkpoint lies before it -/
structure CpOK (cfg : Cfg) (s : State) (cp : Checkpoint) (m : Nat) : Prop where
  geom : CpGeom cfg s cp
  mark : m ≤ s.nextId
  older : ∀ b ∈ s.live, b.id < m → 0 < b.size → Mem.PlacedAt cfg s cp b.addr b.size

/-- the chunk a `BumpAlignGuard` recorded when it was created (`Frame.alignedLower _ start`): the arena was
    unallocated (or the claimed dummy) at that moment, or `start` names a chunk that still exists (chunks are
    only appended while a region is open: `reset`, `drop` and `with_settings` need exclusive access) -/
def StartOK (s : State) : Cur → Prop
  | .chunk j => ∃ c : Chunk, s.chunks[j]? = some c
  | _ => True

/-- well-formedness of the open regions (innermost first) against the marks of the scope-like ones and
    the minimum alignment in force inside the innermost region -/
def FramesOK (cfg : Cfg) (s : State) : Nat → List Frame → List Nat → Prop
  | _, [], [] => True
  | ma, .scope cp :: fs, m :: ms => CpOK cfg s cp m ∧ FramesOK cfg s ma fs ms
  | _, .scopedAligned cp outer :: fs, m :: ms => MinAlignOK outer ∧ CpOK cfg s cp m ∧ FramesOK cfg s outer fs ms
  | _, .alignedLower outer start :: fs, ms => MinAlignOK outer ∧ StartOK s start ∧ FramesOK cfg s outer fs ms
  | ma, .alignedRaise outer :: fs, ms => MinAlignOK outer ∧ outer ≤ ma ∧ FramesOK cfg s outer fs ms
  | ma, .claim :: fs, ms => FramesOK cfg s ma fs ms
  | _, _, _ => False

/-- an outstanding prepared allocation: its range lies in the free part of the current chunk, both
    ends are aligned for the element type; the typed variant consists of whole element slots -/
structure PrepOK (cfg : Cfg) (s : State) (p : Prepared) : Prop where
  range : ∃ (i : Nat) (c : Chunk), s.cur = .chunk i ∧ s.chunks[i]? = some c ∧ p.rstart ≤ p.rend ∧
    (if cfg.up then c.pos ≤ p.rstart ∧ p.rend ≤ c.contentEnd cfg
     else c.contentStart cfg ≤ p.rstart ∧ p.rend ≤ c.pos)
  p2 : ∃ k, k < 64 ∧ p.ealign = 2 ^ k
  start_al : p.ealign ∣ p.rstart
  end_al : p.ealign ∣ p.rend
  typed : p.typed = true → 0 < p.esize ∧ p.ealign ∣ p.esize ∧ p.esize ∣ p.rend - p.rstart

/-! ## The combined invariant -/

/-- the inductive invariant of histories -/
structure Inv (cfg : Cfg) (g : GState) : Prop where
  cfgOK : CfgOK cfg
  /-- C10: geometry and position -/
  geom : GeomInv cfg g.s
  /-- granted blocks of different chunks do not overlap -/
  disj : ChunksDisjoint g.s
  /-- C01: live blocks are aligned, inside owned content memory, pairwise disjoint -/
  live : Mem.LiveOK cfg g.s
  unalloc : UnallocEmpty g.s
  /-- the active handle is never the claimed dummy -/
  notClaimed : g.s.cur ≠ .claimed
  /-- an unallocated arena has handed out nothing -/
  liveCur : g.s.cur = .unallocated → g.s.live = []
  ids : ∀ b ∈ g.s.live, b.id < g.s.nextId
  /-- block alignments are alignments of Rust layouts -/
  aligns : ∀ b ∈ g.s.live, ∃ k, k < 64 ∧ b.align = 2 ^ k
  frames : FramesOK cfg g.s g.s.minAlign g.s.frames g.marks
  marks : ∀ m ∈ g.marks, m ≤ g.s.nextId
  cps : ∀ x ∈ g.s.userCps, CpOK cfg g.s x.2.1 x.2.2
  prep : ∀ p, g.s.prepared = some p → PrepOK cfg g.s p

/-! ## Which operations the preservation theorem covers -/

/-- The operations for which preservation of `Inv` is proved: every constructor, with three side conditions
    that say that numeric arguments come from Rust values: `newWithSize n` takes a `usize`; the element
    alignment of `prepareSlice` is a power of two (alignment of a Rust type); the `Result` layout of
    `allocTryWith` has a size that is a multiple of its alignment (size of a Rust type — the model calls
    the fast path with `Hints.sized`, which asserts exactly this). -/
def _root_.Arena.Op.covered : Op → Bool
  | .newWithSize n => decide (n < 2 ^ 64)
  | .newWithCapacity _ => true
  | .newUnallocated => true
  | .drop => true
  | .allocate _ _ _ => true
  | .deallocate _ _ => true
  | .grow _ _ _ _ => true
  | .shrink _ _ _ => true
  | .allocLayout _ _ => true
  | .shrinkSlice _ _ => true
  | .prepare _ => true
  | .commit _ _ => true
  | .prepareSlice _ ealign _ _ => Rs.is_power_of_two ealign
  | .fillPrepared _ _ => true
  | .commitSlice _ => true
  | .abandonPrepared => true
  | .reserve _ _ => true
  | .scopeEnter => true
  | .scopeExit => true
  | .checkpoint _ => true
  | .resetTo _ => true
  | .reset => true
  | .resetToStart => true
  | .claim => true
  | .claimEnd => true
  | .onClaimed _ => true
  | .alignedEnter _ => true
  | .alignedExit => true
  | .scopedAlignedEnter _ => true
  | .scopedAlignedExit => true
  | .withSettings _ _ _ => true
  | .allocTryWith L _ _ _ _ _ => L.size % L.align == 0
  | .write _ _ => true
  | .split _ _ => true

def _root_.Arena.Op.Covered (op : Op) : Prop := op.covered = true

instance (op : Op) : Decidable op.Covered := by unfold Op.Covered; infer_instance

/-! ## Environment and coverage along a run -/

/-- every operation of the history is covered -/
def AllCovered (ops : List (Op × List BaseResp)) : Prop := ∀ x ∈ ops, x.1.Covered

/-- the base allocator behaves correctly at every step of the run (the states are those of the run) -/
def RunEnvOK (cfg : Cfg) : GState → List (Op × List BaseResp) → Prop
  | _, [] => True
  | g, (op, resps) :: rest =>
    EnvOK cfg g resps ∧ ∀ g' out reqs, step cfg g op resps = .ok (g', out, reqs) → RunEnvOK cfg g' rest

/-! ## The base-allocator ledger of a run (C05) -/

/-- a block the base allocator granted: pointer, granted size, the size and alignment that were requested -/
structure Grant where
  ptr : Nat
  granted : Nat
  reqSize : Nat
  align : Nat
  deriving Repr, DecidableEq

/-- the `.alloc` requests of one step paired with the responses in call order: the grants of the step -/
def grantsOf : List BaseReq → List BaseResp → List Grant
  | [], _ => []
  | .alloc sz al :: rs, .granted p g :: resps => ⟨p, g, sz, al⟩ :: grantsOf rs resps
  | .alloc _ _ :: rs, .fail :: resps => grantsOf rs resps
  | .alloc _ _ :: rs, [] => grantsOf rs []
  | .dealloc _ _ _ :: rs, resps => grantsOf rs resps

def isDealloc : BaseReq → Bool
  | .dealloc _ _ _ => true
  | .alloc _ _ => false

/-- the `.dealloc` requests of one step -/
def releasesOf (reqs : List BaseReq) : List BaseReq := reqs.filter isDealloc

/-- all grants / all releases of a log, in order -/
def logGrants (log : List LogEntry) : List Grant := log.flatMap (fun e => grantsOf e.1 e.2)
def logReleases (log : List LogEntry) : List BaseReq := log.flatMap (fun e => releasesOf e.1)

/-- what the arena must still give back: one release per chunk it owns -/
def owned (cfg : Cfg) (s : State) : List BaseReq := s.chunks.map (deallocReq cfg)

/-- chunk `c` was built in the block of grant `gr`: same pointer, header alignment requested, and the
    size in use (which is the size that will be released) lies between the requested and the granted size -/
def ChunkOfGrant (cfg : Cfg) (c : Chunk) (gr : Grant) : Prop :=
  c.base = gr.ptr ∧ gr.align = cfg.hdr.align ∧ gr.reqSize ≤ c.size ∧ c.size ≤ gr.granted

/-- the two lists correspond element by element -/
inductive Matched {α β : Type} (R : α → β → Prop) : List α → List β → Prop
  | nil : Matched R [] []
  | cons {a b as bs} : R a b → Matched R as bs → Matched R (a :: as) (b :: bs)

/-- the ledger is balanced: the chunks ever created (`acq`) correspond one to one, in order, to the grants,
    and the releases made so far together with the releases still due are exactly one release per chunk
    ever created -/
def Balanced (cfg : Cfg) (grants : List Grant) (releases : List BaseReq) (s : State) : Prop :=
  ∃ acq : List Chunk, Matched (ChunkOfGrant cfg) acq grants ∧
    (releases ++ owned cfg s).Perm (acq.map (deallocReq cfg))

end Arena.Hist
