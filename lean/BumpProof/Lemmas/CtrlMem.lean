/-
  Lemmas/CtrlMem.lean — the standing hypothesis `MemOk` of the read-after-write statements of C15 (the
  finalised slice holds the elements that were pushed): the chunks are pairwise disjoint address ranges
  and each carries exactly `size` bytes.  It is `Arena.Mem.MemWF` written by chunk index, as the statements
  of C15 speak of chunks (`s.chunks[i]?`); the read-after-write lemmas used are those of `Mem.MemWF`
  (`Lemmas/MemWrite.lean`), through `MemOk.memWF`, and `committed_read` for a finalised slice.
-/
import BumpProof.Lemmas.MemWrite

namespace Ctrl
open Arena

structure MemOk (s : State) : Prop where
  disjoint : ∀ (j k : Nat) (cj ck : Chunk), s.chunks[j]? = some cj → s.chunks[k]? = some ck → j ≠ k →
    cj.base + cj.size ≤ ck.base ∨ ck.base + ck.size ≤ cj.base
  dataSize : ∀ (j : Nat) (c : Chunk), s.chunks[j]? = some c → c.data.size = c.size

theorem MemOk.memWF {s : State} (h : MemOk s) : Mem.MemWF s :=
  ⟨(disjoint_iff s).1 fun i j a b hne ha hb => h.disjoint i j a b ha hb hne,
   fun c hc => let ⟨j, hj⟩ := List.getElem?_of_mem hc; h.dataSize j c hj⟩

theorem memOk_singleton {s : State} {c : Chunk} (hs : s.chunks = [c]) (hd : c.data.size = c.size) : MemOk s := by
  have hlt : ∀ {j : Nat} {d : Chunk}, s.chunks[j]? = some d → j = 0 ∧ d = c := fun h => by
    rw [hs] at h
    obtain ⟨hj, rfl⟩ := List.getElem?_eq_some_iff.1 h
    obtain rfl : _ = 0 := Nat.lt_one_iff.1 hj
    exact ⟨rfl, rfl⟩
  exact ⟨fun j k _ _ hj hk hjk => absurd ((hlt hj).1.trans (hlt hk).1.symm) hjk, fun j d hj => (hlt hj).2 ▸ hd⟩

/-- read-after-write for a finalised slice (the middle of `C15.allocatePreparedSlice_effect`): the bytes lie at `a`
    already or were copied there, then only a position moved -/
theorem committed_read {cfg : Cfg} {s s1 : State} {src a n q : Nat} (hmem : MemOk s)
    (h : (s1 = s ∧ a = src) ∨ copyBytes cfg s src a n false = .ok s1) :
    ∀ k, k < n → readByte (setCurPos s1 q) (a + k) = readByte s (src + k) := by
  intro k hk
  rw [Mem.readByte_setCurPos]
  rcases h with ⟨rfl, rfl⟩ | hcb
  · rfl
  · exact Mem.copyBytes_read_dst hmem.memWF hcb hk

end Ctrl
