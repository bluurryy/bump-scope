/-
  Lemmas/EqPrepareDown.lean — `bump_prepare_down` computes `Spec.prepareDown`.

  Three ways to the aligned end: `align ≤ min_align` known, the end is aligned already;
  otherwise `down_align`, followed by the test `end < start` unless `align ≤ 16` is known (then
  the 16-aligned start cannot lie above the aligned end of a regular range, and on the dummy
  range the fit test refuses).  All three end in the same fit test, characterised once (`hfit`).
-/
import BumpProof.Lemmas.RsOps
namespace Lemmas
open Gen.Bumping Rs C11

theorem bump_prepare_down_eq (p : BumpProps) (h : Valid false p) :
    bump_prepare_down p = .ok (Spec.prepareDown p.start p.«end» p.layout.size p.layout.align) := by
  unfold bump_prepare_down
  rw [debug_assert_valid_eq h, ok_bind, min_chunk_align_eq]
  extract_lets s e L m aic fit
  have hf : Facts false s e m L.size L.align p.size_is_multiple_of_align := Valid.facts h
  show _ = Except.ok (Spec.prepareDown s e L.size L.align)
  clear_value s e L m aic
  have hme := hf.min_dvd_end
  have hsz' := hf.size_lt
  have hrS := hf.range
  obtain ⟨hm, hm16, hm16d, ha, ha64, hap, hmp, hs0, he0, hs64, he64, hsz, -, hr⟩ := hf
  clear h
  rw [if_neg Bool.false_ne_true] at hr
  have hE1 := downAlign_dvd e L.align
  have hE2 := downAlign_le e L.align
  have hE64 : Spec.downAlign e L.align + L.align ≤ 2 ^ 64 :=
    add_le_of_dvd_of_lt hE1 (ha.dvd_two_pow_64 ha64) (Nat.lt_of_le_of_lt hE2 he64)
  have hfit : ∀ E, L.align ∣ E → E ≤ Spec.downAlign e L.align → ((s ≤ E ∧ E - s < 2 ^ 63) ∨ s = E + 16) →
      fit () E = .ok (if s + L.size ≤ E then some (Spec.upAlign s L.align, E) else none) := by
    intro E haE hEe hrE
    simp only [fit, remaining_test hsz'
      (Nat.lt_of_le_of_lt (Nat.le_trans hEe hE2) he64) hs64 hrE]
    by_cases hfit : s + L.size ≤ E
    · have hsE : s ≤ E := Nat.le_trans (Nat.le_add_right _ _) hfit
      have hE0 : E ≠ 0 := Nat.pos_iff_ne_zero.1 (Nat.lt_of_lt_of_le hs0 hsE)
      have hX0 : Spec.upAlign s L.align ≠ 0 := Nat.pos_iff_ne_zero.1 (Nat.lt_of_lt_of_le hs0 (le_upAlign s hap))
      rw [decide_eq_false (Nat.not_lt.2 hfit), if_neg Bool.false_ne_true, if_pos hfit,
        up_align_unchecked_eq ha ha64 (Nat.lt_of_lt_of_le
          (Nat.add_lt_add_of_le_of_lt (Nat.le_trans hsE hEe) (Nat.sub_lt hap Nat.one_pos)) hE64)]
      simp only [assert_p2 ha, sub_one_ok hap, assert_band ha (upAlign_dvd s L.align), assert_band ha haE,
        assert_decide hE0, assert_decide hX0, ok_bind, pure_eq_ok]
    · rw [decide_eq_true (Nat.lt_of_not_le hfit), if_pos rfl, if_neg hfit, pure_eq_ok]
  unfold Spec.prepareDown
  by_cases c1 : (aic && decide (L.align ≤ m)) = true
  · rw [if_pos c1]
    simp only [Bool.and_eq_true, decide_eq_true_eq] at c1
    have hae : L.align ∣ e := Nat.dvd_trans (ha.dvd_of_le hm c1.2) hme
    have hEe := downAlign_eq_self hae
    rw [hEe]
    exact hfit e hae (Nat.le_of_eq hEe.symm) hrS
  · rw [if_neg c1, down_align_eq ha ha64 he64, ok_bind]
    by_cases c2 : (aic && decide (L.align ≤ 16)) = true
    · rw [if_pos c2]
      simp only [Bool.and_eq_true, decide_eq_true_eq] at c2
      have ha16 : L.align ∣ 16 := ha.dvd_of_le P2.sixteen c2.2
      refine hfit _ hE1 (Nat.le_refl _) ?_
      rcases hr with ⟨h1, hcap, h3, _⟩ | ⟨h1, h2, _⟩
      · have := le_downAlign_of_dvd hap (Nat.dvd_trans ha16 h3) h1
        exact Or.inl ⟨this, Nat.lt_of_le_of_lt (Nat.sub_le_sub_right hE2 s) hcap⟩
      · rw [downAlign_eq_self (Nat.dvd_trans ha16 h2)]
        exact Or.inr h1
    · rw [if_neg c2]
      by_cases hEs : Spec.downAlign e L.align < s
      · rw [decide_eq_true hEs, if_pos rfl,
          if_neg (fun h => Nat.not_le.2 hEs (Nat.le_trans (Nat.le_add_right _ _) h)), pure_eq_ok]
      · rw [decide_eq_false hEs, if_neg Bool.false_ne_true]
        refine hfit _ hE1 (Nat.le_refl _) (Or.inl ⟨Nat.le_of_not_lt hEs, ?_⟩)
        rcases hr with ⟨_, hcap, _, _⟩ | ⟨h1, _, _⟩
        · exact Nat.lt_of_le_of_lt (Nat.sub_le_sub_right hE2 s) hcap
        · omega

end Lemmas
