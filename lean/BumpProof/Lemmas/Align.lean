/-
  Lemmas/Align.lean — facts about `Spec.upAlign` / `Spec.downAlign`, powers of two
  and the bit-mask formulas used by the generated code.
-/
import BumpProof.Rs
import BumpProof.Spec.Bump

namespace Lemmas
open Rs

theorem downAlign_eq (x a : Nat) : Spec.downAlign x a = x - x % a :=
  Nat.div_mul_self_eq_mod_sub_self

theorem downAlign_dvd (x a : Nat) : a ∣ Spec.downAlign x a :=
  Nat.dvd_mul_left a _

theorem downAlign_le (x a : Nat) : Spec.downAlign x a ≤ x :=
  Nat.div_mul_le_self x a

theorem lt_downAlign_add {a : Nat} (x : Nat) (ha : 0 < a) : x < Spec.downAlign x a + a :=
  Nat.lt_div_mul_add ha

/-- `downAlign x a` is the greatest multiple of `a` that is `≤ x`.  Like its twin `upAlign_le_iff` it rests on
    `Nat.le_of_lt_add_of_dvd`: two multiples of `a` less than `a` apart are in order. -/
theorem le_downAlign_iff {x a q : Nat} (ha : 0 < a) (hq : a ∣ q) : q ≤ Spec.downAlign x a ↔ q ≤ x :=
  ⟨fun h => Nat.le_trans h (downAlign_le x a),
   fun h => Nat.le_of_lt_add_of_dvd (Nat.lt_of_le_of_lt h (lt_downAlign_add x ha)) hq (downAlign_dvd x a)⟩

theorem le_downAlign_of_dvd {x a q : Nat} (ha : 0 < a) (hq : a ∣ q) (hqx : q ≤ x) :
    q ≤ Spec.downAlign x a :=
  (le_downAlign_iff ha hq).2 hqx

theorem downAlign_eq_self {x a : Nat} (h : a ∣ x) : Spec.downAlign x a = x :=
  Nat.div_mul_cancel h

theorem downAlign_zero (a : Nat) : Spec.downAlign 0 a = 0 := by
  unfold Spec.downAlign; simp

theorem downAlign_mono {x y : Nat} (a : Nat) (h : x ≤ y) : Spec.downAlign x a ≤ Spec.downAlign y a := by
  unfold Spec.downAlign
  exact Nat.mul_le_mul_right a (Nat.div_le_div_right h)

theorem upAlign_eq_downAlign (x a : Nat) : Spec.upAlign x a = Spec.downAlign (x + (a - 1)) a := rfl

theorem upAlign_dvd (x a : Nat) : a ∣ Spec.upAlign x a :=
  Nat.dvd_mul_left a _

theorem le_upAlign {a : Nat} (x : Nat) (ha : 0 < a) : x ≤ Spec.upAlign x a := by
  have := lt_downAlign_add (x + (a - 1)) ha
  rw [upAlign_eq_downAlign]
  omega

theorem upAlign_lt {a : Nat} (x : Nat) (ha : 0 < a) : Spec.upAlign x a < x + a := by
  have := downAlign_le (x + (a - 1)) a
  rw [upAlign_eq_downAlign]
  omega

theorem upAlign_le_iff {x a q : Nat} (ha : 0 < a) (hq : a ∣ q) : Spec.upAlign x a ≤ q ↔ x ≤ q :=
  ⟨fun h => Nat.le_trans (le_upAlign x ha) h,
   fun h => Nat.le_of_lt_add_of_dvd (Nat.lt_of_lt_of_le (upAlign_lt x ha) (Nat.add_le_add_right h a))
     (upAlign_dvd x a) hq⟩

theorem upAlign_le_of_dvd {x a q : Nat} (ha : 0 < a) (hq : a ∣ q) (hxq : x ≤ q) :
    Spec.upAlign x a ≤ q :=
  (upAlign_le_iff ha hq).2 hxq

theorem upAlign_eq_self {x a : Nat} (ha : 0 < a) (h : a ∣ x) : Spec.upAlign x a = x :=
  Nat.le_antisymm (upAlign_le_of_dvd ha h (Nat.le_refl x)) (le_upAlign x ha)

theorem upAlign_mono {x y : Nat} (a : Nat) (h : x ≤ y) : Spec.upAlign x a ≤ Spec.upAlign y a := by
  rw [upAlign_eq_downAlign, upAlign_eq_downAlign]
  exact downAlign_mono a (by omega)

/-- the formula used by the generic path of `bump_up` -/
theorem downAlign_pred_add {x a : Nat} (hx : 0 < x) (ha : 0 < a) :
    Spec.downAlign (x - 1) a + a = Spec.upAlign x a := by
  unfold Spec.downAlign Spec.upAlign
  have h1 : x + (a - 1) = (x - 1) + a := by omega
  rw [h1, Nat.add_div_right _ ha, Nat.succ_mul]

theorem upAlign_le_downAlign {s e a : Nat} (ha : 0 < a) (h : Spec.upAlign s a ≤ e) :
    Spec.upAlign s a ≤ Spec.downAlign e a :=
  le_downAlign_of_dvd ha (upAlign_dvd s a) h

/-- power of two: what `Layout` and `debug_assert_valid` guarantee of the two alignments, and all
    that the mask formulas of the generated code need -/
def P2 (a : Nat) : Prop := ∃ k, a = 2 ^ k

theorem P2.pos {a : Nat} (h : P2 a) : 0 < a := by
  obtain ⟨k, rfl⟩ := h; exact Nat.pow_pos (by decide)

theorem P2.dvd_of_le {a b : Nat} (ha : P2 a) (hb : P2 b) (h : a ≤ b) : a ∣ b := by
  obtain ⟨i, rfl⟩ := ha
  obtain ⟨j, rfl⟩ := hb
  exact Nat.pow_dvd_pow 2 ((Nat.pow_le_pow_iff_right (by decide)).1 h)

theorem P2.dvd_or_dvd {a b : Nat} (ha : P2 a) (hb : P2 b) : a ∣ b ∨ b ∣ a := by
  rcases Nat.le_total a b with h | h
  · exact Or.inl (ha.dvd_of_le hb h)
  · exact Or.inr (hb.dvd_of_le ha h)

theorem P2.sixteen : P2 16 := ⟨4, rfl⟩

theorem p2_of_min_align {m : Nat} (h : m = 1 ∨ m = 2 ∨ m = 4 ∨ m = 8 ∨ m = 16) : P2 m ∧ m ≤ 16 := by
  rcases h with rfl | rfl | rfl | rfl | rfl
  · exact ⟨⟨0, rfl⟩, by decide⟩
  · exact ⟨⟨1, rfl⟩, by decide⟩
  · exact ⟨⟨2, rfl⟩, by decide⟩
  · exact ⟨⟨3, rfl⟩, by decide⟩
  · exact ⟨⟨4, rfl⟩, by decide⟩

theorem P2.max {a b : Nat} (ha : P2 a) (hb : P2 b) : P2 (Nat.max a b) := by
  rcases Nat.le_total a b with h | h
  · rw [show Nat.max a b = b from Nat.max_eq_right h]; exact hb
  · rw [show Nat.max a b = a from Nat.max_eq_left h]; exact ha

theorem P2.dvd_two_pow_64 {a : Nat} (ha : P2 a) (h : a < 2 ^ 64) : a ∣ 2 ^ 64 :=
  ha.dvd_of_le ⟨64, rfl⟩ (Nat.le_of_lt h)

/-- aligning up leaves the address space exactly when adding `a - 1` does (which is what the checked addition in the
    generated `up_align` tests): `2 ^ 64` is itself a multiple of `a` -/
theorem P2.upAlign_lt_iff {a : Nat} (ha : P2 a) (ha64 : a < 2 ^ 64) (x : Nat) :
    Spec.upAlign x a < 2 ^ 64 ↔ x + (a - 1) < 2 ^ 64 := by
  rw [upAlign_eq_downAlign, ← Nat.not_le, ← Nat.not_le, le_downAlign_iff ha.pos (ha.dvd_two_pow_64 ha64)]

theorem P2.dvd_upAlign {m a x : Nat} (hm : P2 m) (ha : P2 a) (h : m ∣ x) : m ∣ Spec.upAlign x a := by
  rcases hm.dvd_or_dvd ha with h1 | h1
  · exact Nat.dvd_trans h1 (upAlign_dvd x a)
  · rw [upAlign_eq_self ha.pos (Nat.dvd_trans h1 h)]; exact h

theorem P2.dvd_downAlign {m a x : Nat} (hm : P2 m) (ha : P2 a) (h : m ∣ x) : m ∣ Spec.downAlign x a := by
  rcases hm.dvd_or_dvd ha with h1 | h1
  · exact Nat.dvd_trans h1 (downAlign_dvd x a)
  · rw [downAlign_eq_self (Nat.dvd_trans h1 h)]; exact h

theorem add_le_of_dvd_of_lt {a x y : Nat} (hx : a ∣ x) (hy : a ∣ y) (h : x < y) : x + a ≤ y :=
  Nat.le_of_lt_add_of_dvd (Nat.add_lt_add_right h a) (Nat.dvd_add hx (Nat.dvd_refl a)) hy

theorem add_sixteen_le {x : Nat} (h : 16 ∣ x) (hx : x < 2 ^ 64) : x + 16 ≤ 2 ^ 64 :=
  add_le_of_dvd_of_lt h (P2.sixteen.dvd_two_pow_64 (by decide)) hx

theorem rs_max_eq (a b : Nat) : Rs.max a b = Nat.max a b := by
  unfold Rs.max
  split
  · exact (Nat.max_eq_left ‹_›).symm
  · exact (Nat.max_eq_right (by omega)).symm

theorem max_dvd_facts {al ma : Nat} (hal : 0 < al) (hma : 0 < ma) (hdvd : al ∣ ma ∨ ma ∣ al) :
    al ∣ Nat.max al ma ∧ ma ∣ Nat.max al ma ∧ 0 < Nat.max al ma ∧
    (∀ q, al ∣ q → ma ∣ q → Nat.max al ma ∣ q) := by
  rcases hdvd with h | h
  · have hle : al ≤ ma := Nat.le_of_dvd hma h
    rw [show Nat.max al ma = ma from Nat.max_eq_right hle]
    exact ⟨h, Nat.dvd_refl ma, hma, fun q _ h2 => h2⟩
  · have hle : ma ≤ al := Nat.le_of_dvd hal h
    rw [show Nat.max al ma = al from Nat.max_eq_left hle]
    exact ⟨Nat.dvd_refl al, h, hal, fun q h1 _ => h1⟩

theorem dvd_max_left {a b : Nat} (ha : P2 a) (hb : P2 b) : a ∣ Nat.max a b :=
  (max_dvd_facts ha.pos hb.pos (ha.dvd_or_dvd hb)).1

theorem dvd_max_right {a b : Nat} (ha : P2 a) (hb : P2 b) : b ∣ Nat.max a b :=
  (max_dvd_facts ha.pos hb.pos (ha.dvd_or_dvd hb)).2.1

theorem two_pow_64 : (2:Nat) ^ 64 = 18446744073709551616 := by decide

theorem is_power_of_two_two_pow (k : Nat) : Rs.is_power_of_two (2 ^ k) = true := by
  unfold Rs.is_power_of_two
  have hpos : 0 < 2 ^ k := Nat.pow_pos (by decide)
  have h1 : (2 ^ k &&& (2 ^ k - 1)) = 0 := by
    rw [Nat.and_two_pow_sub_one_eq_mod]
    exact Nat.mod_self _
  simp [h1]

theorem P2.is_power_of_two {a : Nat} (h : P2 a) : Rs.is_power_of_two a = true := by
  obtain ⟨k, rfl⟩ := h; exact is_power_of_two_two_pow k

theorem band_bnot_two_pow {x k : Nat} (hx : x < 2 ^ 64) (hk : k ≤ 64) :
    Rs.band x (Rs.bnot (2 ^ k - 1)) = x / 2 ^ k * 2 ^ k := by
  unfold Rs.band Rs.bnot Rs.MAX
  have hpos : 0 < 2 ^ k := Nat.pow_pos (by decide)
  have hsplit : (2:Nat) ^ 64 = 2 ^ k * 2 ^ (64 - k) := by
    rw [← Nat.pow_add, Nat.add_sub_cancel' hk]
  -- the mask is `2^k * (2^(64-k) - 1)`: it has no bit below `k` and keeps every bit of `x / 2^k`
  rw [Nat.sub_sub, Nat.add_sub_cancel' hpos, hsplit, ← Nat.mul_sub_one,
    ← Nat.div_add_mod (x &&& 2 ^ k * (2 ^ (64 - k) - 1)) (2 ^ k), Nat.and_div_two_pow,
    Nat.mul_div_cancel_left _ hpos,
    Nat.and_two_pow_sub_one_of_lt_two_pow (Nat.div_lt_of_lt_mul (hsplit ▸ hx)),
    Nat.and_mod_two_pow, Nat.mul_mod_right, Nat.and_zero, Nat.add_zero, Nat.mul_comm]

theorem P2.band_mask {a : Nat} (ha : P2 a) (x : Nat) : Rs.band x (a - 1) = x % a := by
  obtain ⟨k, rfl⟩ := ha; exact Nat.and_two_pow_sub_one_eq_mod x k

theorem P2.band_bnot {a x : Nat} (ha : P2 a) (ha64 : a < 2 ^ 64) (hx : x < 2 ^ 64) :
    Rs.band x (Rs.bnot (a - 1)) = Spec.downAlign x a := by
  obtain ⟨k, rfl⟩ := ha
  have hk : k < 64 := (Nat.pow_lt_pow_iff_right (by decide)).1 ha64
  exact band_bnot_two_pow hx (Nat.le_of_lt hk)

theorem P2.band_mask_eq_zero {a x : Nat} (ha : P2 a) (h : a ∣ x) : Rs.band x (a - 1) = 0 := by
  rw [ha.band_mask, Nat.mod_eq_zero_of_dvd h]

end Lemmas
