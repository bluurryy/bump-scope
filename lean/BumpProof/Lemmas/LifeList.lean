/-
  Lemmas/LifeList.lean — the dynamic state of the region calculus (`Life/Calculus.lean`) as data: the association-list
  store, the arena table and what `set`, `setEpochs`, `push`, `endFrom`, `resetArena`, `killArena` and a new arena do to
  them field by field, and `cutAt` (the part of an epoch stack below an epoch).
-/
import BumpProof.Life.Calculus

namespace Life

@[simp] theorem DState.get_set_self (σ : DState) (x : Var) (r : Rt) : (σ.set x r).get x = some r := by
  simp [DState.get, DState.set]

theorem DState.get_set_ne (σ : DState) {x v : Var} (r : Rt) (h : v ≠ x) : (σ.set x r).get v = σ.get v := by
  have : (x == v) = false := by simpa using fun h' => h h'.symm
  simp [DState.get, DState.set, this]

@[simp] theorem DState.epochs_set (σ : DState) (x : Var) (r : Rt) (a : Nat) : (σ.set x r).epochs a = σ.epochs a := rfl

@[simp] theorem DState.next_set (σ : DState) (x : Var) (r : Rt) : (σ.set x r).next = σ.next := rfl

@[simp] theorem DState.frames_set (σ : DState) (x : Var) (r : Rt) : (σ.set x r).frames = σ.frames := rfl

@[simp] theorem DState.store_setEpochs (σ : DState) (a : Nat) (eps : List Nat) : (σ.setEpochs a eps).store = σ.store := rfl

@[simp] theorem DState.get_setEpochs (σ : DState) (a : Nat) (eps : List Nat) (v : Var) : (σ.setEpochs a eps).get v = σ.get v := rfl

@[simp] theorem DState.next_setEpochs (σ : DState) (a : Nat) (eps : List Nat) : (σ.setEpochs a eps).next = σ.next := rfl

@[simp] theorem DState.frames_setEpochs (σ : DState) (a : Nat) (eps : List Nat) : (σ.setEpochs a eps).frames = σ.frames := rfl

theorem DState.lt_of_epochs_ne_nil {σ : DState} {a : Nat} (h : σ.epochs a ≠ []) : a < σ.arenas.length := by
  unfold DState.epochs at h
  by_cases hlt : a < σ.arenas.length
  · exact hlt
  · exfalso; apply h
    simp [List.getD, List.getElem?_eq_none (Nat.le_of_not_lt hlt)]

theorem DState.epochs_setEpochs_self {σ : DState} {a : Nat} (h : a < σ.arenas.length) (eps : List Nat) :
    (σ.setEpochs a eps).epochs a = eps := by
  simp [DState.epochs, DState.setEpochs, List.getD, h]

theorem DState.epochs_setEpochs_ne (σ : DState) {a b : Nat} (h : b ≠ a) (eps : List Nat) :
    (σ.setEpochs a eps).epochs b = σ.epochs b := by
  simp [DState.epochs, DState.setEpochs, List.getD, List.getElem?_set_ne (Ne.symm h)]

theorem DState.epochs_setEpochs_nil (σ : DState) (a : Nat) : (σ.setEpochs a []).epochs a = [] := by
  by_cases h : a < σ.arenas.length
  · exact DState.epochs_setEpochs_self h []
  · have hl : (σ.arenas.set a []).length ≤ a := by simpa using Nat.le_of_not_lt h
    simp [DState.epochs, DState.setEpochs, List.getD, List.getElem?_eq_none hl]

theorem DState.epochs_push_self {σ : DState} {a : Nat} (h : a < σ.arenas.length) :
    (σ.push a).2.epochs a = σ.epochs a ++ [σ.next] := DState.epochs_setEpochs_self h _

theorem DState.epochs_endFrom_self {σ : DState} {a : Nat} (h : a < σ.arenas.length) (e : Nat) :
    (σ.endFrom a e).epochs a = cutAt e (σ.epochs a) := DState.epochs_setEpochs_self h _

@[simp] theorem DState.get_push (σ : DState) (a : Nat) (v : Var) : (σ.push a).2.get v = σ.get v := rfl

@[simp] theorem DState.next_push (σ : DState) (a : Nat) : (σ.push a).2.next = σ.next + 1 := rfl

@[simp] theorem DState.get_endFrom (σ : DState) (a e : Nat) (v : Var) : (σ.endFrom a e).get v = σ.get v := rfl

@[simp] theorem DState.next_endFrom (σ : DState) (a e : Nat) : (σ.endFrom a e).next = σ.next := rfl

@[simp] theorem DState.frames_endFrom (σ : DState) (a e : Nat) : (σ.endFrom a e).frames = σ.frames := rfl

@[simp] theorem DState.get_killArena (σ : DState) (a : Nat) (v : Var) : (σ.killArena a).get v = σ.get v := rfl

@[simp] theorem DState.frames_killArena (σ : DState) (a : Nat) : (σ.killArena a).frames = σ.frames := rfl

@[simp] theorem DState.get_resetArena (σ : DState) (a : Nat) (v : Var) : (σ.resetArena a).get v = σ.get v := rfl

@[simp] theorem DState.frames_resetArena (σ : DState) (a : Nat) : (σ.resetArena a).frames = σ.frames := rfl

@[simp] theorem DState.arenas_length_resetArena (σ : DState) (a : Nat) : (σ.resetArena a).arenas.length = σ.arenas.length := by
  simp [DState.resetArena, DState.setEpochs]

/-- the state that `runStmt` (`newBump`) and `runCall` (`poolGet`) of `Life/Calculus.lean` write inline: one more arena,
    with a single fresh epoch -/
def DState.newArena (σ : DState) : DState := { σ with arenas := σ.arenas ++ [[σ.next]], next := σ.next + 1 }

theorem DState.newArena_eq (σ : DState) : ({ σ with arenas := σ.arenas ++ [[σ.next]], next := σ.next + 1 } : DState) = σ.newArena := rfl

theorem DState.epochs_newArena_self (σ : DState) : σ.newArena.epochs σ.arenas.length = [σ.next] := by
  simp [DState.epochs, DState.newArena, List.getD]

theorem DState.epochs_newArena_ne (σ : DState) {a : Nat} (h : a ≠ σ.arenas.length) : σ.newArena.epochs a = σ.epochs a := by
  by_cases hlt : a < σ.arenas.length
  · simp [DState.epochs, DState.newArena, List.getD, List.getElem?_append_left hlt]
  · have h1 : σ.arenas.length ≤ a := Nat.le_of_not_lt hlt
    have h2 : (σ.arenas ++ [[σ.next]]).length ≤ a := by simp; omega
    simp [DState.epochs, DState.newArena, List.getD, List.getElem?_eq_none h1, List.getElem?_eq_none h2]

theorem cutAt_split {e : Nat} {p : List Nat} (hp : e ∉ p) (r : List Nat) : cutAt e (p ++ e :: r) = p := by
  rw [cutAt, List.takeWhile_append_of_pos fun x hx => by simpa using fun (h : x = e) => hp (h ▸ hx)]
  simp

theorem cutAt_of_not_mem {e : Nat} {l : List Nat} (h : e ∉ l) : cutAt e l = l := by
  have := List.takeWhile_append_of_pos (p := (· != e)) (l₁ := l) (l₂ := []) fun x hx => by
    simpa using fun (h' : x = e) => h (h' ▸ hx)
  simpa [cutAt] using this

theorem cutAt_nil (e : Nat) : cutAt e [] = [] := rfl

/-- the two normal forms of `cutAt e l` (`cutAt_of_not_mem`, `cutAt_split`): the facts below are case splits on this -/
theorem cutAt_cases (e : Nat) (l : List Nat) :
    (e ∉ l ∧ cutAt e l = l) ∨ ∃ p r, l = p ++ e :: r ∧ e ∉ p ∧ cutAt e l = p := by
  by_cases h : e ∈ l
  · obtain ⟨p, r, rfl, hp⟩ := List.eq_append_cons_of_mem h
    exact Or.inr ⟨p, r, rfl, hp, cutAt_split hp r⟩
  · exact Or.inl ⟨h, cutAt_of_not_mem h⟩

theorem cutAt_sublist (e : Nat) (l : List Nat) : (cutAt e l).Sublist l := List.takeWhile_sublist _

theorem mem_cutAt {e x : Nat} {l : List Nat} (h : x ∈ cutAt e l) : x ∈ l := (cutAt_sublist e l).subset h

theorem nodup_cutAt {e : Nat} {l : List Nat} (h : l.Nodup) : (cutAt e l).Nodup := h.sublist (cutAt_sublist e l)

theorem not_mem_cutAt_self (e : Nat) (l : List Nat) : e ∉ cutAt e l := by
  rcases cutAt_cases e l with ⟨h, hc⟩ | ⟨p, r, _, hp, hc⟩ <;> rw [hc] <;> assumption

theorem cutAt_append_of_mem {e : Nat} {l : List Nat} (h : e ∈ l) (n : List Nat) : cutAt e (l ++ n) = cutAt e l := by
  obtain ⟨p, r, rfl, hp⟩ := List.eq_append_cons_of_mem h
  rw [List.append_assoc, List.cons_append, cutAt_split hp, cutAt_split hp]

theorem cutAt_append_self {n : Nat} {l : List Nat} (h : n ∉ l) : cutAt n (l ++ [n]) = l := cutAt_split h []

theorem cutAt_cutAt_of_mem {e0 e : Nat} {l : List Nat} (h : e ∈ cutAt e0 l) : cutAt e (cutAt e0 l) = cutAt e l := by
  rcases cutAt_cases e0 l with ⟨_, hc⟩ | ⟨p, r, rfl, _, hc⟩ <;> rw [hc] at h ⊢
  exact (cutAt_append_of_mem h _).symm

theorem getLast_not_mem_cutAt {e : Nat} {l : List Nat} (hn : l.Nodup) (h : e ∈ l) {t : Nat} (ht : l.getLast? = some t) :
    t ∉ cutAt e l := by
  obtain ⟨p, r, rfl, hp⟩ := List.eq_append_cons_of_mem h
  rw [cutAt_split hp]
  -- the last element stands in `e :: r`, and the list has no duplicates
  have ht' : (e :: r).getLast? = some t := by
    rw [List.getLast?_append] at ht
    cases hr : (e :: r).getLast? with
    | none => simp at hr
    | some t' => rw [hr] at ht; exact ht
  exact fun htp => (List.nodup_append.1 hn).2.2 t htp t (List.mem_of_getLast? ht') rfl

theorem head?_cutAt (e : Nat) (l : List Nat) : (cutAt e l).head? = none ∨ (cutAt e l).head? = l.head? := by
  rcases cutAt_cases e l with ⟨_, hc⟩ | ⟨p, r, rfl, _, hc⟩ <;> rw [hc]
  · exact Or.inr rfl
  · cases p <;> simp

theorem cutAt_ne_nil {e : Nat} {l : List Nat} (hl : l ≠ []) (hh : l.head? ≠ some e) : cutAt e l ≠ [] := by
  rcases cutAt_cases e l with ⟨_, hc⟩ | ⟨p, r, rfl, _, hc⟩ <;> rw [hc]
  · exact hl
  · rintro rfl; exact hh rfl

end Life
