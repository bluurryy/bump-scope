/-
  Lemmas/FnRealloc.lean — the paths of the reallocating functions of the model (`grow`, `shrink`,
  `shrinkWithoutShrink`, `shrinkSlice`, the prepared commits, `reserve`, `reserveDyn`), each taken apart once, in
  three words: `CopyThenPos` (a copy, then a move of the bump position), `AllocVia` (the allocation attempt: `alloc`,
  or directly the slow path), `Moved` (the block is copied behind a successful attempt).  `grow_cases`,
  `shrink_cases`, `shrinkSlice_cases`, `reserveDyn_cases` keep the equations of every alternative (for the in-place
  shrinks: `ShrunkInPlace`); `grow_paths`, `shrink_paths`, `reserveDyn_paths` are their weakenings to the three words,
  `shrinkWithoutShrink_paths` takes its function apart directly and `reserve_paths` reads the graph `reserve_reserved`.  The two prepared commits are taken apart by their `_slides` lemmas and share one
  description in terms of the prepared range, `Commit`.  The `_path` lemmas at the end say only which primitive
  changes occur (`Fn.Path`).  (Namespace of all declarations: `Arena.Hist`.)
-/
import BumpProof.Lemmas.FnPath
namespace Arena.Hist
open Rs Fn

variable {cfg : Cfg}

theorem alignFits_of_not {p a : Nat} (h : ¬(!alignFits p a) = true) : alignFits p a = true := by simpa using h

/-- at most one `copyBytes`, then at most one `setCurPos`: what an in-place `grow` / `shrink` does -/
def CopyThenPos (cfg : Cfg) (s s' : State) : Prop :=
  ∃ s1, (s1 = s ∨ ∃ src dst len nov, copyBytes cfg s src dst len nov = .ok s1) ∧ (s' = s1 ∨ ∃ p, s' = setCurPos s1 p)

/-- the attempt to allocate `L` from `s` gave `(s1, r1)`: by `alloc`, or by the slow path `inAnotherChunk` directly (as
    `grow` does when the block is the last one but does not fit) -/
def AllocVia (cfg : Cfg) (s : State) (L : Layout) (s1 : State) (r1 : Except AErr Nat) : Prop :=
  alloc cfg s L = .ok (s1, r1) ∨
  ∃ r0, inAnotherChunk cfg .alloc s L Hints.custom = .ok (s1, r0) ∧ r1 = r0.map (·.1)

/-- behind the attempt `(s1, r1)`: on success the `len` bytes at `ptr` are copied to the new block, on a refusal nothing
    happens.  (A different notion from `Arena.Mem.Moved`, Lemmas/MemFresh.lean: only positions moved.) -/
def Moved (cfg : Cfg) (s1 : State) (r1 : Except AErr Nat) (ptr len : Nat) (s' : State) : Prop :=
  match r1 with
  | .error _ => s' = s1
  | .ok np => copyBytes cfg s1 ptr np len true = .ok s'

/-- the paths of `grow`: in place at the end of the current chunk (upwards the position moves on, downwards the block
    moves down and its bytes with it), or through an allocation followed by a copy -/
theorem grow_cases {s s' : State} {ptr old : Nat} {L : Layout} {r : Except AErr Nat}
    (h : grow cfg s ptr old L = .ok (s', r)) : old ≤ L.size ∧
    ((cfg.up = true ∧ isLast cfg s ptr old = true ∧ alignFits ptr L.align = true ∧ ∃ c rem t np, curChunk? s = some c ∧
        Rs.sub (c.contentEnd cfg) ptr = .ok rem ∧ L.size ≤ rem ∧ Rs.add ptr L.size = .ok t ∧
        Gen.LibArith.up_align_usize_unchecked t s.minAlign = .ok np ∧ s' = setCurPos s np ∧ r = .ok ptr) ∨
     (cfg.up = false ∧ isLast cfg s ptr old = true ∧ ∃ c add na s1 nov, curChunk? s = some c ∧
        Rs.sub L.size old = .ok add ∧ Gen.LibArith.bump_down ptr add (Rs.max L.align s.minAlign) = .ok na ∧
        c.contentStart cfg ≤ na ∧ copyBytes cfg s ptr na old nov = .ok s1 ∧ s' = setCurPos s1 na ∧ r = .ok na) ∨
     ∃ s1, AllocVia cfg s L s1 r ∧ Moved cfg s1 r ptr old s') := by
  obtain ⟨_, hassert, h⟩ := bind_eq_ok h
  have hsz : old ≤ L.size := liftM_assert_ok hassert
  refine ⟨hsz, ?_⟩
  have mv : ∀ {s1 : State} {r1 : Except AErr Nat},
      (match (s1, r1) with
        | (s', Except.error e) => (pure (s', Except.error e) : R (State × Except AErr Nat))
        | (s', Except.ok np) => do
          let s'' ← copyBytes cfg s' ptr np old true
          pure (s'', Except.ok np)) = .ok (s', r) → r1 = r ∧ Moved cfg s1 r ptr old s' := by
    intro s1 r1 hm
    cases r1 with
    | error e => cases hm; exact ⟨rfl, rfl⟩
    | ok np => obtain ⟨s2, hc, hm⟩ := bind_eq_ok hm; cases hm; exact ⟨rfl, hc⟩
  rcases ite_eq_ok h with ⟨hup, h⟩ | ⟨hup, h⟩
  · rcases ite_eq_ok h with ⟨hcond, h⟩ | ⟨_, h⟩
    · rw [Bool.and_eq_true] at hcond
      split at h
      · cases h
      · rename_i c hcc
        obtain ⟨rem, h1, h⟩ := bind_eq_ok h
        rcases ite_eq_ok h with ⟨hle, h⟩ | ⟨_, h⟩
        · obtain ⟨t, h2, h⟩ := bind_eq_ok h
          obtain ⟨np, h3, h⟩ := bind_eq_ok h
          cases h
          exact .inl ⟨hup, hcond.1, hcond.2, c, rem, t, np, hcc, liftM_eq_ok h1, hle, liftM_eq_ok h2,
            liftM_eq_ok h3, rfl, rfl⟩
        · obtain ⟨⟨s1, r0⟩, h1, h⟩ := bind_eq_ok h
          obtain ⟨e, hm⟩ := mv h
          exact .inr (.inr ⟨s1, .inr ⟨r0, h1, e.symm⟩, hm⟩)
    · obtain ⟨⟨s1, r1⟩, h1, h⟩ := bind_eq_ok h
      obtain ⟨e, hm⟩ := mv h
      cases e
      exact .inr (.inr ⟨s1, .inl h1, hm⟩)
  · rcases ite_eq_ok h with ⟨hlast, h⟩ | ⟨_, h⟩
    · split at h
      · cases h
      · rename_i c hcc
        obtain ⟨add, h1, h⟩ := bind_eq_ok h
        obtain ⟨na, h2, h⟩ := bind_eq_ok h
        rcases ite_eq_ok h with ⟨hge, h⟩ | ⟨_, h⟩
        · obtain ⟨_, _, h⟩ := bind_eq_ok h
          obtain ⟨s1, hc, h⟩ := bind_eq_ok h
          cases h
          exact .inr (.inl ⟨by simpa using hup, hlast, c, add, na, s1, _, hcc, liftM_eq_ok h1, liftM_eq_ok h2, hge, hc,
            rfl, rfl⟩)
        · obtain ⟨⟨s1, r0⟩, h1, h⟩ := bind_eq_ok h
          obtain ⟨e, hm⟩ := mv h
          exact .inr (.inr ⟨s1, .inr ⟨r0, h1, e.symm⟩, hm⟩)
    · obtain ⟨⟨s1, r1⟩, h1, h⟩ := bind_eq_ok h
      obtain ⟨e, hm⟩ := mv h
      cases e
      exact .inr (.inr ⟨s1, .inl h1, hm⟩)

theorem grow_paths {s s' : State} {ptr old : Nat} {L : Layout} {r : Except AErr Nat}
    (h : grow cfg s ptr old L = .ok (s', r)) :
    (CopyThenPos cfg s s' ∧ ∃ np, r = .ok np) ∨ ∃ s1, AllocVia cfg s L s1 r ∧ Moved cfg s1 r ptr old s' := by
  rcases (grow_cases h).2 with ⟨_, _, _, c, rem, t, np, _, _, _, _, _, rfl, rfl⟩ |
    ⟨_, _, c, add, na, s1, nov, _, _, _, _, hc, rfl, rfl⟩ | h
  · exact .inl ⟨⟨s, .inl rfl, .inr ⟨_, rfl⟩⟩, _, rfl⟩
  · exact .inl ⟨⟨s1, .inr ⟨_, _, _, _, hc⟩, .inr ⟨_, rfl⟩⟩, _, rfl⟩
  · exact .inr h

/-- an in-place shrink of `[ptr, ptr + old)`, the last allocation of the current chunk, to `new` bytes with
    alignment `al`: upwards the position moves back behind the block, downwards the block moves up to `np`
    (its bytes with it) and the position follows -/
def ShrunkInPlace (cfg : Cfg) (s : State) (ptr old new al : Nat) (s' : State) (np : Nat) : Prop :=
  isLast cfg s ptr old = true ∧ (∃ i, s.cur = .chunk i) ∧
  ((cfg.up = true ∧ ∃ e p, Rs.add ptr new = .ok e ∧ Gen.LibArith.up_align_usize_unchecked e s.minAlign = .ok p ∧
      s' = setCurPos s p ∧ np = ptr) ∨
   (cfg.up = false ∧ ∃ oe s1 nov, Rs.add ptr old = .ok oe ∧
      Gen.LibArith.bump_down oe new (Rs.max al s.minAlign) = .ok np ∧ copyBytes cfg s ptr np new nov = .ok s1 ∧
      s' = setCurPos s1 np))

theorem ShrunkInPlace.copyThenPos {s s' : State} {ptr old new al np : Nat}
    (h : ShrunkInPlace cfg s ptr old new al s' np) : CopyThenPos cfg s s' := by
  rcases h.2.2 with ⟨_, e, p, _, _, rfl, _⟩ | ⟨_, oe, s1, nov, _, _, hc, rfl⟩
  · exact ⟨s, .inl rfl, .inr ⟨_, rfl⟩⟩
  · exact ⟨s1, .inr ⟨_, _, _, _, hc⟩, .inr ⟨_, rfl⟩⟩

/-- the paths of `shrink`: the alignment fits and nothing is done or the block shrinks in place; or the block moves
    through an allocation; or (`shrink_unfit` of the last allocation) it is released first and allocated again -/
theorem shrink_cases {s s' : State} {ptr old : Nat} {L : Layout} {r : Except AErr (Nat × Nat)}
    (h : shrink cfg s ptr old L = .ok (s', r)) : L.size ≤ old ∧
    ((alignFits ptr L.align = true ∧ (s' = s ∧ r = .ok (ptr, old) ∨
        ∃ np, ShrunkInPlace cfg s ptr old L.size L.align s' np ∧ r = .ok (np, L.size))) ∨
     (∃ s1 r1, AllocVia cfg s L s1 r1 ∧ Moved cfg s1 r1 ptr L.size s' ∧ r = r1.map (·, L.size)) ∨
     (isLast cfg s ptr old = true ∧ ∃ sd, deallocAssumeLast cfg s ptr old = .ok sd ∧
       ((∃ v s2 nov, tryCur cfg .alloc sd L Hints.custom = .ok (some (v, s2)) ∧
           copyBytes cfg s2 ptr v.1 L.size nov = .ok s' ∧ r = .ok (v.1, L.size)) ∨
        ∃ s3 r1, AllocVia cfg (setCurPos sd (curPos cfg s)) L s3 r1 ∧ Moved cfg s3 r1 ptr L.size s' ∧
           r = r1.map (·, L.size)))) := by
  obtain ⟨_, hassert, h⟩ := bind_eq_ok h
  have hsz : L.size ≤ old := liftM_assert_ok hassert
  refine ⟨hsz, ?_⟩
  rcases ite_eq_ok h with ⟨_, h⟩ | ⟨hfit, h⟩
  · rcases ite_eq_ok h with ⟨hcond, h⟩ | ⟨_, h⟩
    · obtain ⟨sd, hd, h⟩ := bind_eq_ok h
      obtain ⟨o, ht, h⟩ := bind_eq_ok h
      refine .inr (.inr ⟨(Bool.and_eq_true _ _ ▸ hcond).2, sd, hd, ?_⟩)
      cases o with
      | some x =>
        obtain ⟨⟨np, y⟩, s2⟩ := x
        obtain ⟨s3, hc, h⟩ := bind_eq_ok h
        cases h
        exact .inl ⟨_, s2, _, ht, hc, rfl⟩
      | none =>
        obtain ⟨⟨s3, r0⟩, h1, h⟩ := bind_eq_ok h
        refine .inr ⟨s3, r0.map (·.1), .inr ⟨r0, h1, rfl⟩, ?_⟩
        cases r0 with
        | error e => cases h; exact ⟨rfl, rfl⟩
        | ok v => obtain ⟨s4, hc, h⟩ := bind_eq_ok h; cases h; exact ⟨hc, rfl⟩
    · obtain ⟨⟨s1, r1⟩, h1, h⟩ := bind_eq_ok h
      refine .inr (.inl ⟨s1, r1, .inl h1, ?_⟩)
      cases r1 with
      | error e => cases h; exact ⟨rfl, rfl⟩
      | ok np => obtain ⟨s2, hc, h⟩ := bind_eq_ok h; cases h; exact ⟨hc, rfl⟩
  · refine .inl ⟨alignFits_of_not hfit, ?_⟩
    rcases ite_eq_ok h with ⟨_, h⟩ | ⟨hcond, h⟩
    · cases h; exact .inl ⟨rfl, rfl⟩
    · have hlast : isLast cfg s ptr old = true := by
        cases hl : isLast cfg s ptr old
        · rw [hl] at hcond; exact absurd (by simp) hcond
        · rfl
      rcases ite_eq_ok h with ⟨hup, h⟩ | ⟨hup, h⟩
      · obtain ⟨e, h1, h⟩ := bind_eq_ok h
        obtain ⟨p, h2, h⟩ := bind_eq_ok h
        split at h
        · rename_i i hcur
          cases h
          exact .inr ⟨ptr, ⟨hlast, ⟨i, hcur⟩, .inl ⟨hup, e, p, liftM_eq_ok h1, liftM_eq_ok h2, rfl, rfl⟩⟩, rfl⟩
        · cases h
      · obtain ⟨oe, h1, h⟩ := bind_eq_ok h
        obtain ⟨na, h2, h⟩ := bind_eq_ok h
        obtain ⟨s1, h3, h⟩ := bind_eq_ok h
        split at h
        · rename_i i hcur
          cases h
          exact .inr ⟨na, ⟨hlast, ⟨i, hcur⟩,
            .inr ⟨by simpa using hup, oe, s1, _, liftM_eq_ok h1, liftM_eq_ok h2, h3, rfl⟩⟩, rfl⟩
        · cases h

theorem shrink_paths {s s' : State} {ptr old : Nat} {L : Layout} {r : Except AErr (Nat × Nat)}
    (h : shrink cfg s ptr old L = .ok (s', r)) :
    (CopyThenPos cfg s s' ∧ ∃ v, r = .ok v) ∨
    (∃ s1 r1, AllocVia cfg s L s1 r1 ∧ Moved cfg s1 r1 ptr L.size s' ∧ r = r1.map (·, L.size)) ∨
    (isLast cfg s ptr old = true ∧ ∃ sd, deallocAssumeLast cfg s ptr old = .ok sd ∧
      ((∃ v s2 nov, tryCur cfg .alloc sd L Hints.custom = .ok (some (v, s2)) ∧
          copyBytes cfg s2 ptr v.1 L.size nov = .ok s' ∧ r = .ok (v.1, L.size)) ∨
       ∃ s3 r1, AllocVia cfg (setCurPos sd (curPos cfg s)) L s3 r1 ∧ Moved cfg s3 r1 ptr L.size s' ∧
          r = r1.map (·, L.size))) := by
  rcases (shrink_cases h).2 with ⟨_, ⟨rfl, hr⟩ | ⟨np, hsh, hr⟩⟩ | h | h
  · exact .inl ⟨⟨_, .inl rfl, .inl rfl⟩, _, hr⟩
  · exact .inl ⟨hsh.copyThenPos, _, hr⟩
  · exact .inr (.inl h)
  · exact .inr (.inr h)

theorem shrinkWithoutShrink_paths {s s' : State} {ptr old : Nat} {L : Layout} {r : Except AErr (Nat × Nat)}
    (h : shrinkWithoutShrink cfg s ptr old L = .ok (s', r)) :
    (alignFits ptr L.align = true ∧ s' = s ∧ r = .ok (ptr, L.size)) ∨
    ∃ s1 r1, alloc cfg s L = .ok (s1, r1) ∧ Moved cfg s1 r1 ptr L.size s' ∧ r = r1.map (·, L.size) := by
  unfold shrinkWithoutShrink at h
  split at h
  · cases h; exact .inl ⟨‹_›, rfl, rfl⟩
  · obtain ⟨⟨s1, r1⟩, h1, h⟩ := bind_eq_ok h
    refine .inr ⟨s1, r1, h1, ?_⟩
    cases r1 with
    | error e => cases h; exact ⟨rfl, rfl⟩
    | ok np => obtain ⟨s2, hc, h⟩ := bind_eq_ok h; cases h; exact ⟨hc, rfl⟩

theorem shrinkSlice_cases {s s' : State} {ptr old new al : Nat} {r : Option Nat}
    (h : shrinkSlice cfg s ptr old new al = .ok (s', r)) :
    s' = s ∧ r = none ∨ ∃ np, ShrunkInPlace cfg s ptr old new al s' np ∧ r = some np := by
  rcases ite_eq_ok h with ⟨_, h⟩ | ⟨_, h⟩
  · cases h; exact .inl ⟨rfl, rfl⟩
  · rcases ite_eq_ok h with ⟨_, h⟩ | ⟨hcond, h⟩
    · cases h; exact .inl ⟨rfl, rfl⟩
    · have hlast : isLast cfg s ptr old = true := by
        cases hl : isLast cfg s ptr old
        · rw [hl] at hcond; exact absurd rfl hcond
        · rfl
      split at h
      · rename_i i hcur
        rcases ite_eq_ok h with ⟨hup, h⟩ | ⟨hup, h⟩
        · obtain ⟨e, h1, h⟩ := bind_eq_ok h
          obtain ⟨p, h2, h⟩ := bind_eq_ok h
          cases h
          exact .inr ⟨ptr, ⟨hlast, ⟨i, hcur⟩, .inl ⟨hup, e, p, liftM_eq_ok h1, liftM_eq_ok h2, rfl, rfl⟩⟩, rfl⟩
        · obtain ⟨oe, h1, h⟩ := bind_eq_ok h
          obtain ⟨na, h2, h⟩ := bind_eq_ok h
          obtain ⟨s1, h3, h⟩ := bind_eq_ok h
          cases h
          exact .inr ⟨na, ⟨hlast, ⟨i, hcur⟩,
            .inr ⟨by simpa using hup, oe, s1, _, liftM_eq_ok h1, liftM_eq_ok h2, h3, rfl⟩⟩, rfl⟩
      · cases h

/-- `set_pos_addr_and_align_from`: the position goes to `pos`, aligned to the minimum alignment unless the
    alignment of `pos` is at least that -/
theorem setPosAlignFrom_pos {s s' : State} {pos al : Nat} (h : setPosAlignFrom cfg s pos al = .ok s') :
    ∃ np, s' = setCurPos s np ∧ (np = pos ∨ liftM (Gen.LibArith.align_pos cfg.up s.minAlign pos) = .ok np) := by
  obtain ⟨_, _, h⟩ := bind_eq_ok h
  split at h <;> obtain ⟨p, hp, h⟩ := bind_eq_ok h <;> cases h
  · exact ⟨p, rfl, .inr hp⟩
  · cases hp; exact ⟨_, rfl, .inl rfl⟩

/-- `allocate_prepared(_rev)`: the bytes are copied to the allocated end of the prepared range (or lie there
    already), then the position is aligned behind the block; upwards the block starts at `rstart`, downwards it
    ends at `rend` -/
theorem allocatePrepared_slides {s s' : State} {size rstart rend addr : Nat} {rev : Bool}
    (h : allocatePrepared cfg s size rstart rend rev = .ok (s', addr)) :
    ∃ s1 p, (s1 = s ∧ addr = (if rev then rend - size else rstart) ∨
        copyBytes cfg s (if rev then rend - size else rstart) addr size false = .ok s1) ∧ s' = setCurPos s1 p ∧
      ((cfg.up = true ∧ addr = rstart ∧ ∃ e, liftM (Rs.add rstart size) = .ok e ∧
          liftM (Gen.LibArith.align_pos cfg.up s.minAlign e) = .ok p) ∨
       (cfg.up = false ∧ liftM (Rs.sub rend size) = .ok addr ∧
          liftM (Gen.LibArith.align_pos cfg.up s.minAlign addr) = .ok p)) := by
  unfold allocatePrepared at h
  split at h
  · rcases ite_eq_ok h with ⟨hup, h⟩ | ⟨hup, h⟩
    · cases rev
      all_goals
        obtain ⟨s1, h1, h⟩ := bind_eq_ok h
        obtain ⟨e, h2, h⟩ := bind_eq_ok h
        obtain ⟨p, h3, h⟩ := bind_eq_ok h
        cases h
      · cases h1; exact ⟨s, p, .inl ⟨rfl, rfl⟩, rfl, .inl ⟨hup, rfl, e, h2, h3⟩⟩
      · exact ⟨s1, p, .inr h1, rfl, .inl ⟨hup, rfl, e, h2, h3⟩⟩
    · obtain ⟨dst, h1, h⟩ := bind_eq_ok h
      have hup' : cfg.up = false := by simpa using hup
      cases rev
      all_goals
        obtain ⟨s1, h2, h⟩ := bind_eq_ok h
        obtain ⟨p, h3, h⟩ := bind_eq_ok h
        cases h
      · exact ⟨s1, p, .inr h2, rfl, .inr ⟨hup', h1, h3⟩⟩
      · cases h2; exact ⟨s, p, .inl ⟨rfl, (rs_sub_ok (liftM_eq_ok h1)).1⟩, rfl, .inr ⟨hup', h1, h3⟩⟩
  · cases h

/-- `allocate_prepared_slice(_rev)`: the `len` elements are copied to the allocated end of the `cap` slots (or lie
    there already), then `set_pos_addr_and_align_from` runs on the free end of the block -/
theorem allocatePreparedSlice_slides {s s' : State} {ptr len cap esize ealign addr : Nat} {rev : Bool}
    (h : allocatePreparedSlice cfg s ptr len cap esize ealign rev = .ok (s', addr)) :
    ∃ s1 pos, (s1 = s ∧ addr = (if rev then ptr - len * esize else ptr) ∨
        copyBytes cfg s (if rev then ptr - len * esize else ptr) addr (len * esize) false = .ok s1) ∧
      setPosAlignFrom cfg s1 pos ealign = .ok s' ∧
      addr = (if cfg.up then (if rev then ptr - cap * esize else ptr)
              else (if rev then ptr else ptr + cap * esize) - len * esize) ∧
      pos = (if cfg.up then addr + len * esize else addr) := by
  unfold allocatePreparedSlice at h
  split at h
  · cases rev <;> cases hup : cfg.up <;>
      simp only [hup, Bool.not_true, Bool.not_false, Bool.false_eq_true, ↓reduceIte] at h ⊢
    · obtain ⟨s1, h1, h⟩ := bind_eq_ok h
      obtain ⟨s2, h2, h⟩ := bind_eq_ok h
      cases h
      exact ⟨s1, _, .inr h1, h2, rfl, rfl⟩
    · obtain ⟨s2, h2, h⟩ := bind_eq_ok h
      cases h
      exact ⟨s, _, .inl ⟨rfl, rfl⟩, h2, rfl, rfl⟩
    · obtain ⟨s2, h2, h⟩ := bind_eq_ok h
      cases h
      exact ⟨s, _, .inl ⟨rfl, rfl⟩, h2, rfl, rfl⟩
    · obtain ⟨s1, h1, h⟩ := bind_eq_ok h
      obtain ⟨s2, h2, h⟩ := bind_eq_ok h
      cases h
      exact ⟨s1, _, .inr h1, h2, rfl, rfl⟩
  · cases h

/-- `size` bytes of the prepared range `[lo, hi)` are committed.  The collection wrote them at the start of the range
    (`rev = false`) or at its end; the block ends up at the ALLOCATED end of the range (its start when bumping upwards,
    its end when bumping downwards), after a copy when that is the other end; the position of the current chunk is
    then set to `np`: the free end of the block, aligned to the minimum alignment unless it is aligned already.
    Both commit functions do this (`allocatePrepared_commit`, `allocatePreparedSlice_commit`). -/
structure Commit (cfg : Cfg) (s s' : State) (lo hi size : Nat) (rev : Bool) (addr : Nat) : Prop where
  addr_eq : addr = if cfg.up then lo else hi - size
  slid : ∃ s1 np, (s1 = s ∧ addr = (if rev then hi - size else lo) ∨
        copyBytes cfg s (if rev then hi - size else lo) addr size false = .ok s1) ∧ s' = setCurPos s1 np ∧
      (np = (if cfg.up then addr + size else addr) ∨
        liftM (Gen.LibArith.align_pos cfg.up s.minAlign (if cfg.up then addr + size else addr)) = .ok np)

theorem Commit.copyThenPos {s s' : State} {lo hi size addr : Nat} {rev : Bool}
    (h : Commit cfg s s' lo hi size rev addr) : CopyThenPos cfg s s' :=
  let ⟨s1, np, h1, h2, _⟩ := h.slid
  ⟨s1, h1.imp (·.1) fun hc => ⟨_, _, _, _, hc⟩, .inr ⟨np, h2⟩⟩

theorem Commit.end_le {s s' : State} {lo hi size addr : Nat} {rev : Bool}
    (h : Commit cfg s s' lo hi size rev addr) (hsz : lo + size ≤ hi) : addr + size ≤ hi := by
  rw [h.addr_eq]; split <;> omega

theorem allocatePrepared_commit {s s' : State} {size rstart rend addr : Nat} {rev : Bool}
    (h : allocatePrepared cfg s size rstart rend rev = .ok (s', addr)) : Commit cfg s s' rstart rend size rev addr := by
  obtain ⟨s1, p, h1, rfl, ⟨hup, rfl, e, h2, h3⟩ | ⟨hup, h2, h3⟩⟩ := allocatePrepared_slides h
  · cases (rs_add_ok (liftM_eq_ok h2)).1
    exact ⟨by rw [if_pos hup], s1, p, h1, rfl, .inr (by rw [if_pos hup]; exact h3)⟩
  · cases (rs_sub_ok (liftM_eq_ok h2)).1
    have hn : ¬cfg.up = true := by rw [hup]; exact Bool.false_ne_true
    exact ⟨by rw [if_neg hn], s1, p, h1, rfl, .inr (by rw [if_neg hn]; exact h3)⟩

/-- the typed commit: the prepared range is the `cap` slots below `ptr` (reversed) or above it -/
theorem allocatePreparedSlice_commit {s s' : State} {ptr len cap esize ealign addr : Nat} {rev : Bool}
    (h : allocatePreparedSlice cfg s ptr len cap esize ealign rev = .ok (s', addr)) :
    Commit cfg s s' (if rev then ptr - cap * esize else ptr) (if rev then ptr else ptr + cap * esize) (len * esize) rev
      addr := by
  obtain ⟨s1, pos, h1, h2, ha, rfl⟩ := allocatePreparedSlice_slides h
  obtain ⟨np, rfl, hnp⟩ := setPosAlignFrom_pos h2
  have hm : s1.minAlign = s.minAlign := by
    rcases h1 with ⟨rfl, _⟩ | hc
    · rfl
    · exact (copyBytes_path (c := true) hc).kept.minAlign
  rw [hm] at hnp
  refine ⟨ha, s1, np, ?_, rfl, hnp⟩
  cases rev <;> exact h1

theorem reserve_paths {s s' : State} {n : Nat} {r : Except AErr Unit} (h : reserve cfg s n = .ok (s', r)) :
    s' = s ∨
    (s.cur = .unallocated ∧ layoutOk n 1 = true ∧ ∃ s1 r1, newChunkForCapacity cfg s ⟨n, 1⟩ = .ok (s1, r1) ∧
      match r1 with
      | .error _ => s' = s1
      | .ok i => s' = { s1 with cur := .chunk i }) ∨
    ((∃ i, s.cur = .chunk i) ∧ ∃ rest r1, layoutOk rest 1 = true ∧ appendFor cfg s ⟨rest, 1⟩ = .ok (s', r1)) := by
  cases reserve_reserved h with
  | claimed | enough | overflow => exact .inl rfl
  | firstRefused hcur hl hn => exact .inr (.inl ⟨hcur, hl, _, _, hn, rfl⟩)
  | first hcur hl hn => exact .inr (.inl ⟨hcur, hl, _, _, hn, rfl⟩)
  | appendRefused hcur hl hn => exact .inr (.inr ⟨⟨_, hcur⟩, _, _, hl, hn⟩)
  | append hcur hl hn => exact .inr (.inr ⟨⟨_, hcur⟩, _, _, hl, hn⟩)

/-- `for_trait_object::reserve`: refused without a trace when the size is no layout, otherwise a `.range` request whose
    result it forwards -/
theorem reserveDyn_cases {s s' : State} {n : Nat} {r : Except AErr Unit} (h : reserveDyn cfg s n = .ok (s', r)) :
    (s' = s ∧ r = .error .capacityOverflow ∧ layoutOk n 1 = false) ∨
    (layoutOk n 1 = true ∧ ∃ r1, allocGeneric cfg .range s ⟨n, 1⟩ Hints.custom Hints.custom = .ok (s', r1) ∧
      r = r1.map fun _ => ()) := by
  unfold reserveDyn at h
  split at h
  · rename_i hl
    cases h
    exact .inl ⟨rfl, rfl, by simpa using hl⟩
  · rename_i hl
    obtain ⟨⟨s1, r1⟩, h1, h⟩ := bind_eq_ok h
    cases h
    exact .inr ⟨layoutOk_of_not hl, r1, h1, rfl⟩

theorem reserveDyn_paths {s s' : State} {n : Nat} {r : Except AErr Unit} (h : reserveDyn cfg s n = .ok (s', r)) :
    s' = s ∨ layoutOk n 1 = true ∧
      ∃ r1, allocGeneric cfg .range s ⟨n, 1⟩ Hints.custom Hints.custom = .ok (s', r1) :=
  (reserveDyn_cases h).imp (·.1) fun ⟨hl, r1, h1, _⟩ => ⟨hl, r1, h1⟩

/-! ## their paths (`Lemmas/FnPath.lean`), word by word -/

theorem CopyThenPos.path {c : Bool} {s s' : State} (h : CopyThenPos cfg s s') : Fn.Path cfg c true s s' := by
  obtain ⟨s1, h1, h2⟩ := h
  have q1 : Fn.Path cfg c true s s1 := by
    rcases h1 with rfl | ⟨_, _, _, _, hc⟩
    · exact .refl _
    · exact Fn.copyBytes_path hc
  rcases h2 with rfl | ⟨p, rfl⟩
  · exact q1
  · exact q1.trans (.setCurPos _ _)

theorem AllocVia.path {w : Bool} {s s1 : State} {L : Layout} {r1 : Except AErr Nat} (h : AllocVia cfg s L s1 r1) :
    Fn.Path cfg true w s s1 := by
  rcases h with h | ⟨r0, h, _⟩
  · exact Fn.alloc_path h
  · exact Fn.inAnotherChunk_path h

theorem Moved.path {c : Bool} {s1 s' : State} {r1 : Except AErr Nat} {ptr len : Nat} (h : Moved cfg s1 r1 ptr len s') :
    Fn.Path cfg c true s1 s' := by
  cases r1 with
  | error e => cases h; exact .refl _
  | ok np => exact Fn.copyBytes_path h

theorem grow_path {s s' : State} {ptr oldSize : Nat} {newL : Layout} {r : Except AErr Nat}
    (h : grow cfg s ptr oldSize newL = .ok (s', r)) : Fn.Path cfg true true s s' := by
  rcases grow_paths h with ⟨hq, _⟩ | ⟨s1, ha, hm⟩
  · exact hq.path
  · exact ha.path.trans hm.path

theorem shrink_path {s s' : State} {ptr oldSize : Nat} {newL : Layout} {r : Except AErr (Nat × Nat)}
    (h : shrink cfg s ptr oldSize newL = .ok (s', r)) : Fn.Path cfg true true s s' := by
  rcases shrink_paths h with ⟨hq, _⟩ | ⟨s1, r1, ha, hm, _⟩ |
    ⟨_, sd, hd, ⟨v, s2, nov, ht, hcp, _⟩ | ⟨s3, r1, ha, hm, _⟩⟩
  · exact hq.path
  · exact ha.path.trans hm.path
  · exact ((Fn.deallocAssumeLast_path hd).trans (Fn.tryCur_path ht)).trans (Fn.copyBytes_path hcp)
  · exact (((Fn.deallocAssumeLast_path hd).trans (.setCurPos _ _)).trans ha.path).trans hm.path

theorem shrinkWithoutShrink_path {s s' : State} {ptr oldSize : Nat} {newL : Layout} {r : Except AErr (Nat × Nat)}
    (h : shrinkWithoutShrink cfg s ptr oldSize newL = .ok (s', r)) : Fn.Path cfg true true s s' := by
  rcases shrinkWithoutShrink_paths h with ⟨_, rfl, _⟩ | ⟨s1, r1, ha, hm, _⟩
  · exact .refl _
  · exact (Fn.alloc_path ha).trans hm.path

theorem shrinkSlice_path {c : Bool} {s s' : State} {ptr oldSize newSize ealign : Nat} {r : Option Nat}
    (h : shrinkSlice cfg s ptr oldSize newSize ealign = .ok (s', r)) : Fn.Path cfg c true s s' := by
  rcases shrinkSlice_cases h with ⟨rfl, _⟩ | ⟨np, hsh, _⟩
  · exact .refl _
  · exact hsh.copyThenPos.path

theorem allocatePrepared_path {c : Bool} {s s' : State} {size rstart rend addr : Nat} {rev : Bool}
    (h : allocatePrepared cfg s size rstart rend rev = .ok (s', addr)) : Fn.Path cfg c true s s' :=
  (allocatePrepared_commit h).copyThenPos.path

theorem allocatePreparedSlice_path {c : Bool} {s s' : State} {ptr len cap esize ealign addr : Nat} {rev : Bool}
    (h : allocatePreparedSlice cfg s ptr len cap esize ealign rev = .ok (s', addr)) : Fn.Path cfg c true s s' :=
  (allocatePreparedSlice_commit h).copyThenPos.path

theorem reserve_path {w : Bool} {s s' : State} {n : Nat} {r : Except AErr Unit} (h : reserve cfg s n = .ok (s', r)) :
    Fn.Path cfg true w s s' := by
  rcases reserve_paths h with rfl | ⟨_, _, s1, r1, h1, hr⟩ | ⟨_, rest, r1, _, h1⟩
  · exact .refl _
  · cases r1 with
    | error e => cases hr; exact Fn.newChunkForCapacity_path h1
    | ok i => cases hr; exact .cur _ (Fn.newChunkForCapacity_path h1)
  · exact Fn.appendFor_path h1

theorem reserveDyn_path {w : Bool} {s s' : State} {n : Nat} {r : Except AErr Unit}
    (h : reserveDyn cfg s n = .ok (s', r)) : Fn.Path cfg true w s s' := by
  rcases reserveDyn_paths h with rfl | ⟨_, r1, h1⟩
  · exact .refl _
  · exact Fn.allocGeneric_path h1

end Arena.Hist
