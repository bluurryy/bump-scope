/-
  Lemmas/FnWrite.lean — the one function of the model that writes bytes, `writeRange` (`zeroRange` is one by
  definition, a successful `copyBytes` is one: `copyBytes_writeRange`), taken apart once: which chunk it hits and what
  it stores there (`writeRange_ok`), and the relation `Wrote s s'` (nothing but byte contents changed) that every
  view of the state reads its own frame condition off.
-/
import BumpProof.Arena.Model

namespace Arena
open Rs

theorem map_modify_eq {α : Type _} {β : Type _} (l : List α) (i : Nat) (g : α → α) (f : α → β)
    (hfg : ∀ a, l[i]? = some a → f (g a) = f a) : (l.modify i g).map f = l.map f := by
  apply List.ext_getElem?
  intro j
  simp only [List.getElem?_map, List.getElem?_modify]
  cases hj : l[j]? with
  | none => rfl
  | some b =>
    by_cases hij : i = j
    · subst hij; simp [hfg b hj]
    · simp [hij]

theorem getElem?_of_map_append {α β} (g : α → β) {l l' : List α} {e : List β} (h : l'.map g = l.map g ++ e)
    {j : Nat} {c : α} (hc : l[j]? = some c) : ∃ c', l'[j]? = some c' ∧ g c' = g c := by
  have hlt := (List.getElem?_eq_some_iff.mp hc).1
  have : (l'.map g)[j]? = some (g c) := by
    rw [h, List.getElem?_append_left (by rwa [List.length_map]), List.getElem?_map, hc]
    rfl
  rw [List.getElem?_map] at this
  cases h' : l'[j]? with
  | none => rw [h'] at this; cases this
  | some c' => rw [h'] at this; exact ⟨c', rfl, Option.some.inj this⟩

theorem getElem?_of_map_eq {α β} {g : α → β} {l l' : List α} (h : l'.map g = l.map g)
    {j : Nat} {c : α} (hc : l[j]? = some c) : ∃ c', l'[j]? = some c' ∧ g c' = g c :=
  getElem?_of_map_append g (e := []) (by rw [h, List.append_nil]) hc

/-- everything of a chunk except the contents of its bytes -/
def Chunk.geom (c : Chunk) : Nat × Nat × Nat × Nat × Nat × Nat :=
  (c.base, c.size, c.pos, c.granted, c.reqSize, c.data.size)

namespace Fn

/-- the bytes `writeRange` stores into the chunk it hits -/
def writtenData (c : Chunk) (lo hi : Nat) (f : Nat → UInt8) : Array UInt8 :=
  Array.ofFn (n := c.data.size) fun (k : Fin c.data.size) =>
    if lo ≤ c.base + k.val ∧ c.base + k.val < hi then f (c.base + k.val) else c.data.getD k.val 0

theorem writtenData_size (c : Chunk) (lo hi : Nat) (f : Nat → UInt8) : (writtenData c lo hi f).size = c.data.size := by
  unfold writtenData; exact Array.size_ofFn

theorem writeRange_ok {cfg : Cfg} {s s' : State} {lo hi : Nat} {f : Nat → UInt8}
    (h : writeRange cfg s lo hi f = .ok s') :
    (hi ≤ lo ∧ s' = s) ∨
    (lo < hi ∧ ∃ i c, s.chunks[i]? = some c ∧ c.base ≤ lo ∧ hi ≤ c.base + c.size ∧
      c.contentStart cfg ≤ lo ∧ hi ≤ c.contentEnd cfg ∧
      s' = { s with chunks := s.chunks.modify i (fun d => { d with data := writtenData c lo hi f }) }) := by
  unfold writeRange at h
  split at h
  · cases h
    exact .inl ⟨‹hi ≤ lo›, rfl⟩
  · refine .inr ⟨by omega, ?_⟩
    split at h
    · cases h
    · rename_i i hfind
      split at h
      · cases h
      · rename_i c hc
        split at h <;> cases h
        rename_i hcont
        obtain ⟨_, hp, _⟩ := List.findIdx?_eq_some_iff_getElem.mp hfind
        rw [(List.getElem?_eq_some_iff.mp hc).2] at hp
        have hp' := of_decide_eq_true hp
        exact ⟨i, c, hc, hp'.1, hp'.2, hcont.1, hcont.2, rfl⟩

/-- `s'` is `s` with other byte contents: every field but `chunks` is the same, and every chunk keeps everything but
    the contents of `data` (the number of bytes included) -/
structure Wrote (s s' : State) : Prop where
  rest : s' = { s with chunks := s'.chunks }
  geom : s'.chunks.map Chunk.geom = s.chunks.map Chunk.geom

theorem Wrote.refl (s : State) : Wrote s s := ⟨rfl, rfl⟩

theorem Wrote.map {s s' : State} (h : Wrote s s') {β : Type} (g : Nat × Nat × Nat × Nat × Nat × Nat → β) :
    s'.chunks.map (fun c => g c.geom) = s.chunks.map (fun c => g c.geom) := by
  have := congrArg (List.map g) h.geom
  rwa [List.map_map, List.map_map] at this

theorem Wrote.getElem? {s s' : State} (h : Wrote s s') {β : Type} (g : Nat × Nat × Nat × Nat × Nat × Nat → β) (j : Nat) :
    (s'.chunks[j]?).map (fun c => g c.geom) = (s.chunks[j]?).map (fun c => g c.geom) := by
  rw [← List.getElem?_map, ← List.getElem?_map, h.map g]

theorem writeRange_wrote {cfg : Cfg} {s s' : State} {lo hi : Nat} {f : Nat → UInt8}
    (h : writeRange cfg s lo hi f = .ok s') : Wrote s s' := by
  rcases writeRange_ok h with ⟨_, rfl⟩ | ⟨_, i, c, hc, _, _, _, _, rfl⟩
  · exact .refl _
  · refine ⟨rfl, map_modify_eq _ _ _ _ fun a ha => ?_⟩
    cases hc.symm.trans ha
    simp only [Chunk.geom, writtenData_size]

theorem copyBytes_ok {cfg : Cfg} {s s' : State} {src dst len : Nat} {b : Bool}
    (h : copyBytes cfg s src dst len b = .ok s') :
    (len = 0 ∧ s' = s) ∨
    (0 < len ∧ ¬ (b = true ∧ src < dst + len ∧ dst < src + len) ∧
      (∃ i, findChunk s.chunks src (src + len) = some i) ∧
      writeRange cfg s dst (dst + len) (fun a => readByte s (src + (a - dst))) = .ok s') := by
  unfold copyBytes at h
  split at h
  · cases h
    exact .inl ⟨‹len = 0›, rfl⟩
  · split at h
    · cases h
    · split at h
      · cases h
      · exact .inr ⟨by omega, ‹_›, ⟨_, ‹_›⟩, h⟩

/-- a successful copy is the write of the source bytes to `[dst, dst+len)` (an empty write when `len = 0`) -/
theorem copyBytes_writeRange {cfg : Cfg} {s s' : State} {src dst len : Nat} {b : Bool}
    (h : copyBytes cfg s src dst len b = .ok s') :
    writeRange cfg s dst (dst + len) (fun a => readByte s (src + (a - dst))) = .ok s' := by
  rcases copyBytes_ok h with ⟨rfl, rfl⟩ | ⟨_, _, _, hwr⟩
  · unfold writeRange
    rw [if_pos (Nat.le_of_eq (Nat.add_zero dst))]
    rfl
  · exact hwr

theorem copyBytes_wrote {cfg : Cfg} {s s' : State} {src dst len : Nat} {b : Bool}
    (h : copyBytes cfg s src dst len b = .ok s') : Wrote s s' := writeRange_wrote (copyBytes_writeRange h)

end Fn
end Arena
