/-
  Lemmas/PoolHist.lean — lemmas about histories of the pool model (helper lemmas of C19):
  live-guard accounting and the peak, creation only on an empty idle stack, the frame of every step on
  arena contents, what `reset`/`reset_to_start`/`drop` do to every arena, no arena is dropped twice (`DropInv`),
  and the irrelevance of the poison flag.
-/
import BumpProof.Lemmas.PoolInv

namespace Pool

theorem created_step {s s' st o} (e : step s st = .ok (s', o)) :
    (s'.created = s.created ∧ ∀ a, o ≠ .got a true) ∨
    (∃ g, st = .get g .ok ∧ o = .got s.created true ∧ s.idle = [] ∧ s'.created = s.created + 1) := by
  cases step_steps e with
  | getFresh hd hg hi => exact Or.inr ⟨_, rfl, rfl, hi, rfl⟩
  | _ => exact Or.inl ⟨rfl, nofun⟩

theorem live_step {s s' st o} (e : step s st = .ok (s', o)) : s'.live = liveAfter s.live (st, o) := by
  cases step_steps e with
  | getIdle | getFresh => simp only [State.live, liveAfter, List.length_cons]; omega
  | put hd ht | forget hd ht => have := (takeOut_perm ht).length_eq; simp only [State.live, liveAfter, List.length_cons]; simp at this; omega
  | _ => rfl

theorem peak_ge : ∀ (log : List (Step × Out)) (c p : Nat), p ≤ peakFrom c p log
  | [], _, _ => Nat.le_refl _
  | e :: rest, c, p => by
    unfold peakFrom
    exact Nat.le_trans (Nat.le_max_left _ _) (peak_ge rest _ _)

/-- invariant of the peak computation: arenas created so far never exceed the maximum number of live
    guards seen so far.  Stated for an arbitrary start state (`s.live` live guards, previous peak `p ≥ s.created`) so
    that the induction goes through; a creating step found the idle stack empty, hence `created = live` before it. -/
theorem created_le_peakFrom : ∀ {h : List Step} {s s' : State} {log : List (Step × Out)} {p : Nat},
    Inv s → runLog s h = .ok (s', log) → s.created ≤ p → s'.created ≤ peakFrom s.live p log
  | [], s, s', log, p, _, e, hp => by cases e; exact hp
  | st :: rest, s, s', log, p, hi, e, hp => by
    unfold runLog at e
    split at e
    · rename_i s1 o1 h1
      split at e <;> cases e
      rename_i h2
      unfold peakFrom
      rw [← live_step h1]
      refine created_le_peakFrom (inv_step hi h1) h2 ?_
      rcases created_step h1 with ⟨hc, _⟩ | ⟨g, rfl, rfl, hidle, hc⟩
      · rw [hc]; exact Nat.le_trans hp (Nat.le_max_left _ _)
      · -- a fresh arena: the idle stack was empty, so every arena is behind a live guard
        have hlen := hi.length
        rw [hidle] at hlen
        have hl : s1.live = s.live + 1 := live_step h1
        rw [hc]
        exact Nat.le_trans (by simp at hlen; omega) (Nat.le_max_right _ _)
    · cases e

theorem arena_step {s s' st o} (e : step s st = .ok (s', o)) (hc : st.isClear = false) (a : ArenaId) :
    s'.arenas a = s.arenas a ∨
    ∃ g t, st = .alloc g t ∧ arenaOf g s.owned = some a ∧ s'.arenas a = (s.arenas a).alloc t := by
  cases step_steps e with
  | @alloc g t b hd hg =>
    by_cases hab : a = b
    · subst hab; exact Or.inr ⟨g, t, rfl, hg, update_same _ _ _⟩
    · exact Or.inl (update_other _ _ hab)
  | reset | resetToStart | drop => cases hc
  | _ => exact Or.inl rfl

theorem tags_prefix_run : ∀ {h : List Step} {s s' : State}, run s h = .ok s' →
    (∀ st ∈ h, st.isClear = false) → ∀ a, (s.arenas a).tags <+: (s'.arenas a).tags
  | [], s, s', e, _, a => by cases e; exact List.prefix_refl _
  | st :: rest, s, s', e, hc, a => by
    obtain ⟨s1, o, h1, e'⟩ := run_cons_ok e
    refine List.IsPrefix.trans ?_ (tags_prefix_run e' (fun x hx => hc x (List.mem_cons_of_mem _ hx)) a)
    rcases arena_step h1 (hc st List.mem_cons_self) a with h | ⟨g, t, _, _, h⟩ <;> rw [h]
    · exact List.prefix_refl _
    · exact List.prefix_append _ _

/-- with no guard live, the loop over the idle vector applies the single-arena operation exactly once to every arena
    that was ever created (and not leaked by `mem::forget`), and touches nothing else -/
theorem mapOver_covers {s} (hi : Inv s) (ho : s.owned = []) (op : Arena → Arena) :
    (∀ a, a < s.created → a ∉ s.leaked → mapOver op s.idle s.arenas a = op (s.arenas a)) ∧
    (∀ a, (s.created ≤ a ∨ a ∈ s.leaked) → mapOver op s.idle s.arenas a = s.arenas a) := by
  have hn := hi.nodup
  have hall : ∀ a, a < s.created ↔ a ∈ s.idle ∨ a ∈ s.leaked := fun a => by
    rw [← hi.mem_iff a]; simp [State.all, ho]
  simp only [State.all, ho, List.map_nil, List.nil_append, List.nodup_append] at hn
  constructor
  · intro a ha hl
    exact mapOver_mem op _ _ _ hn.1 (((hall a).1 ha).resolve_right hl)
  · intro a ha
    apply mapOver_not_mem
    intro hm
    rcases ha with ha | ha
    · exact absurd ((hall a).2 (Or.inl hm)) (Nat.not_lt.mpr ha)
    · exact hn.2.2 a hm a ha rfl

/-- no arena is ever dropped twice; before the pool is dropped none is dropped at all -/
structure DropInv (s : State) : Prop where
  none_before : s.dropped = false → ∀ a, (s.arenas a).drops = 0
  at_most_once : ∀ a, (s.arenas a).drops ≤ 1

theorem dropInv_init : DropInv init := ⟨fun _ _ => rfl, fun _ => by simp [init]⟩

theorem step_not_dropped {s s' st o} (e : step s st = .ok (s', o)) : s.dropped = false := by
  cases step_steps e <;> assumption

theorem dropInv_step {s s' st o} (hi : Inv s) (hd : DropInv s) (e : step s st = .ok (s', o)) : DropInv s' := by
  have h0 := hd.none_before (step_not_dropped e)
  have zero : ∀ {t : State}, (∀ a, (t.arenas a).drops = 0) → DropInv t :=
    fun h => ⟨fun _ => h, fun a => by rw [h a]; omega⟩
  -- a loop whose operation leaves the drop counter alone leaves every counter at 0
  have keep : ∀ op : Arena → Arena, (∀ x, (op x).drops = x.drops) → ∀ a, (mapOver op s.idle s.arenas a).drops = 0 := by
    intro op hop a
    by_cases hm : a ∈ s.idle
    · rw [mapOver_mem op _ _ _ (List.nodup_append.1 hi.nodup).1 hm, hop]; exact h0 a
    · rw [mapOver_not_mem op _ _ _ hm]; exact h0 a
  cases step_steps e with
  | @alloc g t b =>
    refine zero fun a => ?_
    show (update s.arenas b ((s.arenas b).alloc t) a).drops = 0
    by_cases hab : a = b
    · subst hab; rw [update_same]; exact h0 a
    · rw [update_other _ _ hab]; exact h0 a
  | reset | resetToStart => exact zero (keep _ fun _ => rfl)
  | drop =>
    refine ⟨nofun, fun a => ?_⟩
    show (mapOver Arena.drop s.idle s.arenas a).drops ≤ 1
    by_cases hm : a ∈ s.idle
    · rw [mapOver_mem _ _ _ _ (List.nodup_append.1 hi.nodup).1 hm]
      show (s.arenas a).drops + 1 ≤ 1
      rw [h0 a]; omega
    · rw [mapOver_not_mem _ _ _ _ hm, h0 a]; omega
  | _ => exact zero h0

theorem dropInv_run : ∀ {h : List Step} {s s'}, Inv s → DropInv s → run s h = .ok s' → DropInv s'
  | [], s, s', _, hd, e => by cases e; exact hd
  | st :: rest, s, s', hi, hd, e =>
    let ⟨_, _, h1, e'⟩ := run_cons_ok e
    dropInv_run (inv_step hi h1) (dropInv_step hi hd h1) e'

/-- the result of a step with the poison flag of the successor cleared -/
def erase (r : State × Out) : State × Out := (r.1.unpoison, r.2)

/-- no step looks at the poison flag: from the un-poisoned twin of a state every step gives the same
    verdict, the same output and the same successor (up to the flag) -/
theorem step_unpoison (s : State) (st : Step) : (step s.unpoison st).map erase = (step s st).map erase := by
  cases st with
  | get g c =>
    simp only [step, get, State.unpoison]
    by_cases hd : s.dropped = true
    · simp [hd]
    · by_cases hu : (arenaOf g s.owned).isSome = true
      · simp [hd, hu]
      · cases hi : s.idle with
        | nil => cases c <;> simp [hd, hu, hi, Except.map, erase, State.unpoison]
        | cons a rest => simp [hd, hu, Except.map, erase, State.unpoison]
  | put g | forget g =>
    simp only [step, put, forget, State.unpoison]
    by_cases hd : s.dropped = true
    · simp [hd]
    · cases ht : takeOut g s.owned <;> simp [hd, Except.map, erase, State.unpoison]
  | alloc g t =>
    simp only [step, alloc, State.unpoison]
    by_cases hd : s.dropped = true
    · simp [hd]
    · cases ht : arenaOf g s.owned <;> simp [hd, Except.map, erase, State.unpoison]
  | reset | resetToStart | drop =>
    simp only [step, dropPool, forAll, State.unpoison]
    by_cases hd : s.dropped = true
    · simp [hd]
    · by_cases ho : (!s.owned.isEmpty) = true <;> simp [hd, ho, Except.map, erase, State.unpoison]

theorem step_congr {s t : State} (h : s.unpoison = t.unpoison) (st : Step) :
    (step s st).map erase = (step t st).map erase := by
  rw [← step_unpoison s, ← step_unpoison t, h]

/-- the same for the result of a run (final state and log) -/
def erase' (r : State × List (Step × Out)) : State × List (Step × Out) := (r.1.unpoison, r.2)

theorem map_eq_cases {ε α β : Type} {f : α → β} {x y : Except ε α} (h : x.map f = y.map f) :
    (∃ e, x = .error e ∧ y = .error e) ∨ (∃ a b, x = .ok a ∧ y = .ok b ∧ f a = f b) := by
  cases x <;> cases y <;> simp only [Except.map, Except.error.injEq, Except.ok.injEq, reduceCtorEq] at h
  · exact Or.inl ⟨_, rfl, by rw [h]⟩
  · exact Or.inr ⟨_, _, rfl, rfl, h⟩

theorem runLog_congr : ∀ (h : List Step) {s t : State}, s.unpoison = t.unpoison →
    (runLog s h).map erase' = (runLog t h).map erase'
  | [], s, t, e => by simp [runLog, Except.map, erase', e]
  | st :: rest, s, t, e => by
    unfold runLog
    rcases map_eq_cases (step_congr e st) with ⟨x, h1, h2⟩ | ⟨⟨s1, o1⟩, ⟨t1, o2⟩, h1, h2, h3⟩ <;> rw [h1, h2]
    obtain ⟨h3, rfl⟩ := Prod.mk.inj h3
    rcases map_eq_cases (runLog_congr rest h3) with ⟨x, h4, h5⟩ | ⟨⟨s2, l2⟩, ⟨t2, l3⟩, h4, h5, h6⟩ <;> simp only [h4, h5]
    obtain ⟨h6, rfl⟩ := Prod.mk.inj h6
    simp only [Except.map, erase', h6]

end Pool
