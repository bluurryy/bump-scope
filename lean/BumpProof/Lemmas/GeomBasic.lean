/-
  Lemmas/GeomBasic.lean — what the geometry tower starts from: the judgement `Ensures` (both halves of an
  `_inv` / `_noFault` pair in one statement) with the rules by which a proof follows the `do` block of a model
  function, `Gen.LibArith.align_pos` by value (`alignPos`; the other helpers are `Fn.lib_*`, Lemmas/FnShape),
  consequences of `ChunkWF`, position updates, `SameShape`, `MovePost` (what a step leaves that only moves positions),
  `stats` written with `List.sum`, and the example states.
-/
import BumpProof.Arena.Inv
import BumpProof.Lemmas.FnShape
import BumpProof.Lemmas.FnWrite

set_option linter.unusedSimpArgs false
set_option linter.unusedVariables false

namespace Arena
open Rs Lemmas

-- `id rfl`, not `rfl`: `simp` then uses these as ordinary rewrite rules, not as `rfl`-lemmas (which it applies by `dsimp`)
theorem liftM_ok {α : Type} (v : α) : Arena.liftM (Except.ok v : Rs.M α) = .ok v := id rfl

theorem r_ok_bind {α β : Type} (a : α) (f : α → Arena.R β) : (Except.ok a >>= f) = f a := id rfl

export Fn (liftM_eq_ok bind_eq_ok)

theorem assert_false {P : Prop} {inst : Decidable P} (h : ¬ P) : Rs.assert (@decide P inst) = .error .assertion := by
  unfold Rs.assert
  rw [if_neg (by simpa using h)]
  rfl

/-- Partial and total correctness of a model computation in one statement: whatever `x` returns
    satisfies `P`, and under `Q` it does return (no fault).  The `_inv` / `_noFault` pairs of C10 are the
    two halves. -/
def Ensures {α : Type} (x : R α) (Q : Prop) (P : α → Prop) : Prop :=
  (∀ a, x = .ok a → P a) ∧ (Q → ∃ a, x = .ok a)

theorem Ensures.ok {α : Type} {a : α} {Q : Prop} {P : α → Prop} (h : P a) : Ensures (.ok a) Q P :=
  ⟨fun _ he => by cases he; exact h, fun _ => ⟨a, rfl⟩⟩

theorem Ensures.error {α : Type} {e : Fault} {Q : Prop} {P : α → Prop} (h : ¬ Q) : Ensures (.error e) Q P :=
  ⟨fun _ he => (by cases he), fun hq => absurd hq h⟩

theorem Ensures.bind {α β : Type} {x : R α} {f : α → R β} {Q : Prop} {P : α → Prop} {P' : β → Prop}
    (hx : Ensures x Q P) (hf : ∀ a, x = .ok a → P a → Ensures (f a) Q P') : Ensures (x >>= f) Q P' := by
  constructor
  · intro b he
    obtain ⟨a, h1, h2⟩ := bind_eq_ok he
    exact (hf a h1 (hx.1 a h1)).1 b h2
  · intro hq
    obtain ⟨a, h1⟩ := hx.2 hq
    obtain ⟨b, h2⟩ := (hf a h1 (hx.1 a h1)).2 hq
    exact ⟨b, by rw [h1]; exact h2⟩

theorem Ensures.mono {α : Type} {x : R α} {Q Q' : Prop} {P P' : α → Prop} (hx : Ensures x Q P)
    (hq : Q' → Q) (hp : ∀ a, P a → P' a) : Ensures x Q' P' :=
  ⟨fun a he => hp a (hx.1 a he), fun h => hx.2 (hq h)⟩

theorem Ensures.noFault {α β : Type} {x : R (α × β)} {Q : Prop} {P : α × β → Prop} (hx : Ensures x Q P) (hq : Q) :
    ∃ a b, x = .ok (a, b) :=
  let ⟨y, hy⟩ := hx.2 hq
  ⟨y.1, y.2, hy⟩

/-- the two halves for a computation that returns a pair, as the C10 theorems state them -/
theorem Ensures.pair {α β : Type} {x : R (α × β)} {Q : Prop} {P : α → β → Prop} (hx : Ensures x Q fun y => P y.1 y.2) :
    (∀ a b, x = .ok (a, b) → P a b) ∧ (Q → ∃ a b, x = .ok (a, b)) :=
  ⟨fun a b he => hx.1 (a, b) he, fun hq => let ⟨y, hy⟩ := hx.2 hq; ⟨y.1, y.2, hy⟩⟩

/-! ### The rules by which an `Ensures` statement follows the `do` block of a model function -/

section rules
variable {α β : Type} {Q : Prop} {P : β → Prop}

/-- an assertion holds under `Q`; behind it, it is known -/
theorem Ensures.assert {p : Prop} {inst : Decidable p} {f : Unit → R β} (hq : Q → p)
    (hf : p → Ensures (f ()) Q P) : Ensures (Arena.liftM (Rs.assert (@decide p inst)) >>= f) Q P := by
  by_cases hp : p
  · rw [assert_decide hp]; exact hf hp
  · rw [assert_false hp]; exact Ensures.error fun q => hp (hq q)

/-- a step of generated arithmetic, by its specification equation -/
theorem Ensures.lift {x : Rs.M α} {v : α} {f : α → R β} (hx : x = .ok v) (hf : Ensures (f v) Q P) :
    Ensures (Arena.liftM x >>= f) Q P := by
  rw [hx]; exact hf

theorem Ensures.call {x : R α} {v : α} {f : α → R β} (hx : x = .ok v) (hf : Ensures (f v) Q P) :
    Ensures (x >>= f) Q P := by
  rw [hx]; exact hf

theorem Ensures.branch {c : Prop} {inst : Decidable c} {t e : R β} (ht : c → Ensures t Q P) (he : ¬ c → Ensures e Q P) :
    Ensures (@ite _ c inst t e) Q P := by
  by_cases hc : c
  · rw [if_pos hc]; exact ht hc
  · rw [if_neg hc]; exact he hc

/-- a branching whose branches join again: `let a ← if c then t else e; f a`, as the `do` notation compiles it (the
    continuation is pushed into both branches) -/
theorem Ensures.join {P' : α → Prop} {c : Prop} {inst : Decidable c} {t e : R α} {f : α → R β}
    (hx : Ensures (@ite _ c inst t e) Q P') (hf : ∀ a, P' a → Ensures (f a) Q P) :
    Ensures (@ite _ c inst (t >>= f) (e >>= f)) Q P := by
  by_cases hc : c
  · rw [if_pos hc] at hx ⊢; exact hx.bind fun a _ => hf a
  · rw [if_neg hc] at hx ⊢; exact hx.bind fun a _ => hf a

theorem Ensures.total {x : R β} (hx : Ensures x True P) : ∃ a, x = .ok a ∧ P a :=
  let ⟨a, ha⟩ := hx.2 trivial
  ⟨a, ha, hx.1 a ha⟩

end rules

theorem MinAlignOK.p2 {m : Nat} (h : MinAlignOK m) : P2 m := (p2_of_min_align h).1

theorem MinAlignOK.dvd16 {m : Nat} (h : MinAlignOK m) : m ∣ 16 := by
  rcases h with h | h | h | h | h <;> rw [h] <;> decide

theorem MinAlignOK.le {m : Nat} (h : MinAlignOK m) : m ≤ 16 := Nat.le_of_dvd (by decide) h.dvd16

theorem MinAlignOK.pos {m : Nat} (h : MinAlignOK m) : 0 < m := Nat.pos_of_dvd_of_pos h.dvd16 (by decide)

theorem MinAlignOK.dvd_of_16 {m x : Nat} (h : MinAlignOK m) (hx : 16 ∣ x) : m ∣ x :=
  Nat.dvd_trans h.dvd16 hx

theorem MinAlignOK.lt64 {m : Nat} (h : MinAlignOK m) : m < 2 ^ 64 := by
  have := h.le; rw [two_pow_64]; omega

/-! ## The generated helpers of `src/lib.rs` -/

export Fn (lib_bump_down_eq)

/-- `align_pos` as a wide-integer function -/
def alignPos (up : Bool) (m x : Nat) : Nat := if up then Spec.upAlign x m else Spec.downAlign x m

theorem align_pos_eq {up : Bool} {m x : Nat} (hm : P2 m) (hm64 : m < 2 ^ 64)
    (hx : if up then x + (m - 1) < 2 ^ 64 else x < 2 ^ 64) :
    Gen.LibArith.align_pos up m x = .ok (alignPos up m x) := by
  cases up
  · exact Fn.lib_align_pos_down hm hm64 hx
  · exact Fn.lib_align_pos_up hm hm64 hx

theorem alignPos_dvd (up : Bool) (m x : Nat) : m ∣ alignPos up m x := by
  unfold alignPos; split
  · exact upAlign_dvd x m
  · exact downAlign_dvd x m

theorem alignPos_eq_self {up : Bool} {m x : Nat} (hm : 0 < m) (h : m ∣ x) : alignPos up m x = x := by
  unfold alignPos; split
  · exact upAlign_eq_self hm h
  · exact downAlign_eq_self h

theorem alignPos_mem {up : Bool} {m x lo hi : Nat} (hm : 0 < m) (hlo : m ∣ lo) (hhi : m ∣ hi)
    (h1 : lo ≤ x) (h2 : x ≤ hi) : lo ≤ alignPos up m x ∧ alignPos up m x ≤ hi := by
  unfold alignPos; split
  · exact ⟨Nat.le_trans h1 (le_upAlign x hm), upAlign_le_of_dvd hm hhi h2⟩
  · exact ⟨le_downAlign_of_dvd hm hlo h1, Nat.le_trans (downAlign_le x m) h2⟩

/-- aligning moves the position by less than `m`, towards the free side only -/
theorem alignPos_near {up : Bool} {m : Nat} (x : Nat) (hm : 0 < m) :
    if up then x ≤ alignPos up m x ∧ alignPos up m x < x + m else alignPos up m x ≤ x ∧ x < alignPos up m x + m := by
  unfold alignPos; cases up
  · simp only [Bool.false_eq_true, ↓reduceIte]; exact ⟨downAlign_le x m, lt_downAlign_add x hm⟩
  · simp only [↓reduceIte]; exact ⟨le_upAlign x hm, upAlign_lt x hm⟩

theorem alignPos_dir {up : Bool} {m x : Nat} (hm : 0 < m) :
    if up then x ≤ alignPos up m x else alignPos up m x ≤ x := by
  unfold alignPos; cases up
  · simp only [Bool.false_eq_true, ↓reduceIte]; exact downAlign_le x m
  · simp only [↓reduceIte]; exact le_upAlign x hm

theorem sum_map_le {α : Type} (l : List α) (f g : α → Nat) (h : ∀ x ∈ l, f x ≤ g x) :
    (l.map f).sum ≤ (l.map g).sum := by
  induction l with
  | nil => exact Nat.le_refl _
  | cons x xs ih =>
    simp only [List.map_cons, List.sum_cons]
    have h1 := h x (List.mem_cons_self)
    have h2 := ih (fun y hy => h y (List.mem_cons_of_mem x hy))
    omega

theorem split_at {α : Type} (l : List α) (i : Nat) (c : α) (h : l[i]? = some c) :
    l = l.take i ++ c :: l.drop (i + 1) := by
  obtain ⟨hlt, rfl⟩ := List.getElem?_eq_some_iff.1 h
  rw [← List.drop_eq_getElem_cons hlt, List.take_append_drop]

theorem hdr_p2 {cfg : Cfg} (hc : CfgOK cfg) : P2 cfg.hdr.align := by
  obtain ⟨j, _, _, hj⟩ := hc.hdr.pow; exact ⟨j, hj⟩

theorem hdr_16 {cfg : Cfg} (hc : CfgOK cfg) : 16 ∣ cfg.hdr.align := by
  obtain ⟨j, h4, _, hj⟩ := hc.hdr.pow
  rw [hj]; exact Nat.pow_dvd_pow 2 h4

theorem hdr_size_16 {cfg : Cfg} (hc : CfgOK cfg) : 16 ∣ cfg.hdr.size :=
  Nat.dvd_trans (hdr_16 hc) hc.hdr.dvd

theorem hdr_pos {cfg : Cfg} (hc : CfgOK cfg) : 0 < cfg.hdr.align := (hdr_p2 hc).pos

theorem hdr_lt64 {cfg : Cfg} (hc : CfgOK cfg) : cfg.hdr.align < 2 ^ 64 := by
  obtain ⟨j, _, h16, hj⟩ := hc.hdr.pow
  rw [hj]; exact Nat.pow_lt_pow_right (by decide) (by omega)

/-! ## Consequences of `ChunkWF` -/

section chunk
variable {cfg : Cfg} {c : Chunk}

theorem ChunkWF.base16 (hc : CfgOK cfg) (h : ChunkWF cfg c) : 16 ∣ c.base :=
  Nat.dvd_trans (hdr_16 hc) h.base_al

theorem ChunkWF.start16 (hc : CfgOK cfg) (h : ChunkWF cfg c) : 16 ∣ c.contentStart cfg := by
  unfold Chunk.contentStart
  split
  · exact (Nat.dvd_add_right (h.base16 hc)).2 (hdr_size_16 hc)
  · exact h.base16 hc

theorem ChunkWF.end16 (hc : CfgOK cfg) (h : ChunkWF cfg c) : 16 ∣ c.contentEnd cfg := by
  unfold Chunk.contentEnd
  have h1 : 16 ∣ c.base + c.size := (Nat.dvd_add_right (h.base16 hc)).2 h.size16
  split
  · exact h1
  · exact Nat.dvd_sub h1 (hdr_size_16 hc)

theorem ChunkWF.start_le_end (h : ChunkWF cfg c) : c.contentStart cfg ≤ c.contentEnd cfg :=
  Nat.le_trans h.pos_ge h.pos_le

theorem ChunkWF.base_le_start (h : ChunkWF cfg c) : c.base ≤ c.contentStart cfg := by
  unfold Chunk.contentStart; split
  · exact Nat.le_add_right _ _
  · exact Nat.le_refl _

theorem ChunkWF.end_le (h : ChunkWF cfg c) : c.contentEnd cfg ≤ c.base + c.size := by
  unfold Chunk.contentEnd; split
  · exact Nat.le_refl _
  · exact Nat.sub_le _ _

theorem ChunkWF.start_pos (h : ChunkWF cfg c) : 0 < c.contentStart cfg :=
  Nat.lt_of_lt_of_le (Nat.pos_of_ne_zero h.base_ne) h.base_le_start

theorem ChunkWF.end_lt64 (h : ChunkWF cfg c) : c.contentEnd cfg < 2 ^ 64 :=
  Nat.lt_of_le_of_lt h.end_le h.end_lt

/-- every chunk spends exactly one header outside its content range -/
theorem ChunkWF.cap_add (h : ChunkWF cfg c) : c.capacity cfg + cfg.hdr.size = c.size := by
  unfold Chunk.capacity Chunk.contentEnd Chunk.contentStart
  split
  · rw [Nat.add_sub_add_left, Nat.sub_add_cancel h.hdr_le]
  · rw [Nat.sub_right_comm, Nat.add_sub_cancel_left, Nat.sub_add_cancel h.hdr_le]

theorem ChunkWF.cap_le (h : ChunkWF cfg c) : c.contentEnd cfg - c.contentStart cfg ≤ c.size := by
  have : c.capacity cfg + cfg.hdr.size = c.size := h.cap_add
  unfold Chunk.capacity at this; omega

theorem ChunkWF.withPos (h : ChunkWF cfg c) {p : Nat} (h1 : c.contentStart cfg ≤ p) (h2 : p ≤ c.contentEnd cfg) :
    ChunkWF cfg { c with pos := p } :=
  { h with pos_ge := h1, pos_le := h2 }

theorem ChunkWF.resetPos (h : ChunkWF cfg c) : ChunkWF cfg (c.resetPos cfg) := by
  unfold Chunk.resetPos
  apply h.withPos
  · split
    · exact Nat.le_refl _
    · exact h.start_le_end
  · split
    · exact h.start_le_end
    · exact Nat.le_refl _

theorem resetPos_pos16 (hc : CfgOK cfg) (h : ChunkWF cfg c) : 16 ∣ (c.resetPos cfg).pos := by
  unfold Chunk.resetPos
  show 16 ∣ (if cfg.up then _ else _)
  split
  · exact h.start16 hc
  · exact h.end16 hc

theorem ChunkWF.withData (h : ChunkWF cfg c) {d : Array UInt8} (hd : d.size = c.data.size) :
    ChunkWF cfg { c with data := d } :=
  { h with data := by show d.size = c.size; rw [hd]; exact h.data }

end chunk

/-! ## Position updates -/

section state
variable {cfg : Cfg} {s : State}

export Fn (alignChunkAt_cases setPos_getElem? setPos_getElem?_self setPos_getElem?_ne setPos_cur setPos_length
  setCurPos_cur setCurPos_minAlign setCurPos_resps setCurPos_reqs)

theorem setPos_minAlign (s : State) (i p : Nat) : (setPos s i p).minAlign = s.minAlign := rfl
theorem setPos_resps (s : State) (i p : Nat) : (setPos s i p).resps = s.resps := rfl

theorem chunks_setPos (h : ∀ (j : Nat) (d : Chunk), s.chunks[j]? = some d → ChunkWF cfg d) {i p : Nat} {c : Chunk}
    (hi : s.chunks[i]? = some c) (h1 : c.contentStart cfg ≤ p) (h2 : p ≤ c.contentEnd cfg) :
    ∀ (j : Nat) (d : Chunk), (Arena.setPos s i p).chunks[j]? = some d → ChunkWF cfg d := by
  intro j d hj
  by_cases hij : i = j
  · subst hij
    rw [setPos_getElem?_self hi] at hj
    cases hj
    exact (h i c hi).withPos h1 h2
  · rw [setPos_getElem?_ne _ _ hij] at hj
    exact h j d hj

/-- moving the position of chunk `i` inside its content range to an address that is
    aligned (if the chunk is the current one) preserves the invariant -/
theorem GeomInv.setPos (h : GeomInv cfg s) {i p : Nat} {c : Chunk} (hi : s.chunks[i]? = some c)
    (h1 : c.contentStart cfg ≤ p) (h2 : p ≤ c.contentEnd cfg) (h3 : s.cur = .chunk i → s.minAlign ∣ p) :
    GeomInv cfg (Arena.setPos s i p) := by
  refine ⟨chunks_setPos h.chunks hi h1 h2, h.minAlign, ?_⟩
  intro j hj
  by_cases hij : i = j
  · subst hij
    exact ⟨_, setPos_getElem?_self hi p, h3 hj⟩
  · rw [setPos_getElem?_ne _ _ hij]
    exact h.cur j hj

/-- move the position of chunk `i`, make it current, and switch to minimum alignment `m` -/
theorem GeomInv.setPosCurMin (h : GeomInv cfg s) {m : Nat} (hm : MinAlignOK m) {i p : Nat} {c : Chunk}
    (hi : s.chunks[i]? = some c) (h1 : c.contentStart cfg ≤ p) (h2 : p ≤ c.contentEnd cfg) (h3 : m ∣ p) :
    GeomInv cfg { Arena.setPos { s with minAlign := m } i p with cur := .chunk i } :=
  ⟨chunks_setPos h.chunks hi h1 h2, hm, fun j hj => by cases hj; exact ⟨_, setPos_getElem?_self hi p, h3⟩⟩

theorem setCurPos_length (s : State) (p : Nat) : (setCurPos s p).chunks.length = s.chunks.length :=
  Fn.setCurPos_length s p

theorem curPos_setCurPos {i : Nat} {c : Chunk} (hcur : s.cur = .chunk i) (hi : s.chunks[i]? = some c) (p : Nat) :
    curPos cfg (Arena.setCurPos s p) = p := by
  unfold Arena.setCurPos curPos
  rw [hcur]
  simp only [setPos_cur, hcur, setPos_getElem?_self hi]

theorem GeomInv.curChunk (h : GeomInv cfg s) {i : Nat} (hcur : s.cur = .chunk i) :
    ∃ c, s.chunks[i]? = some c ∧ ChunkWF cfg c ∧ s.minAlign ∣ c.pos := by
  obtain ⟨c, hc, hd⟩ := h.cur i hcur
  exact ⟨c, hc, h.chunks i c hc, hd⟩

theorem GeomInv.lt_length (h : GeomInv cfg s) {i : Nat} (hcur : s.cur = .chunk i) : i < s.chunks.length := by
  obtain ⟨c, hc, _⟩ := h.cur i hcur
  exact (List.getElem?_eq_some_iff.1 hc).1

theorem GeomInv.mem (h : GeomInv cfg s) {c : Chunk} (hc : c ∈ s.chunks) : ChunkWF cfg c := by
  obtain ⟨i, hi⟩ := List.getElem?_of_mem hc
  exact h.chunks i c hi

end state

/-! ## Shapes: everything of a chunk except its position and the contents of its bytes -/

def Chunk.shape (c : Chunk) : Nat × Nat × Nat × Nat × Nat := (c.base, c.size, c.granted, c.reqSize, c.data.size)

/-- `s'` has the same chunks as `s` up to positions and byte contents -/
def SameShape (s s' : State) : Prop := s'.chunks.map Chunk.shape = s.chunks.map Chunk.shape

theorem SameShape.refl (s : State) : SameShape s s := rfl

theorem SameShape.symm {s s' : State} (h : SameShape s s') : SameShape s' s := Eq.symm h

theorem SameShape.trans {a b c : State} (h1 : SameShape a b) (h2 : SameShape b c) : SameShape a c :=
  Eq.trans h2 h1

theorem SameShape.length {s s' : State} (h : SameShape s s') : s'.chunks.length = s.chunks.length := by
  have := congrArg List.length h
  simpa only [List.length_map] using this

theorem SameShape.getElem? {s s' : State} (h : SameShape s s') (j : Nat) :
    (s'.chunks[j]?).map Chunk.shape = (s.chunks[j]?).map Chunk.shape := by
  rw [← List.getElem?_map, ← List.getElem?_map, h]

theorem SameShape.getLast? {s s' : State} (h : SameShape s s') :
    (s'.chunks.getLast?).map Chunk.shape = (s.chunks.getLast?).map Chunk.shape := by
  rw [← List.getLast?_map, ← List.getLast?_map, h]

theorem SameShape.getElem?' {s s' : State} (h : SameShape s s') {j : Nat} {c : Chunk} (hj : s.chunks[j]? = some c) :
    ∃ c', s'.chunks[j]? = some c' ∧ c'.shape = c.shape :=
  getElem?_of_map_eq h hj

theorem shape_base {c c' : Chunk} (h : c'.shape = c.shape) : c'.base = c.base ∧ c'.size = c.size := by
  simp only [Chunk.shape, Prod.mk.injEq] at h
  exact ⟨h.1, h.2.1⟩

theorem shape_contentStart {cfg : Cfg} {c c' : Chunk} (h : c'.shape = c.shape) : c'.contentStart cfg = c.contentStart cfg :=
  Chunk.contentStart_congr cfg (shape_base h).1

theorem shape_contentEnd {cfg : Cfg} {c c' : Chunk} (h : c'.shape = c.shape) : c'.contentEnd cfg = c.contentEnd cfg :=
  Chunk.contentEnd_congr cfg (shape_base h).1 (shape_base h).2

theorem setPos_shape (s : State) (i p : Nat) : SameShape s (setPos s i p) :=
  map_modify_eq _ _ _ _ (fun _ _ => rfl)

theorem setCurPos_shape (s : State) (p : Nat) : SameShape s (setCurPos s p) := by
  unfold setCurPos; split
  · exact setPos_shape _ _ _
  · exact SameShape.refl _

theorem SameShape.sizesIncreasing {s s' : State} (h : SameShape s s') (hs : SizesIncreasing s) : SizesIncreasing s' := by
  intro i a b ha hb
  obtain ⟨a', ha', ea⟩ := h.symm.getElem?' ha
  obtain ⟨b', hb', eb⟩ := h.symm.getElem?' hb
  rw [← (shape_base ea).2, ← (shape_base eb).2]
  exact hs i a' b' ha' hb'

/-! ## Steps that only move positions -/

/-- the post-condition of a step that only moves positions: the invariant holds again, the chunk list is the same up
    to positions and bytes (`SameShape`), `minAlign` and the pending responses are the same; `cur`, `live`, the frames
    and `reqs` are not constrained (needs no assumption on the pending responses) -/
structure MovePost (cfg : Cfg) (s s' : State) : Prop where
  inv : GeomInv cfg s'
  shape : SameShape s s'
  minAlign : s'.minAlign = s.minAlign
  resps : s'.resps = s.resps

section move
variable {cfg : Cfg} {s : State}

theorem MovePost.refl (h : GeomInv cfg s) : MovePost cfg s s := ⟨h, SameShape.refl _, rfl, rfl⟩

theorem MovePost.trans {a b c : State} (h1 : MovePost cfg a b) (h2 : MovePost cfg b c) : MovePost cfg a c :=
  ⟨h2.inv, h1.shape.trans h2.shape, h2.minAlign.trans h1.minAlign, h2.resps.trans h1.resps⟩

theorem GeomInv.move (h : GeomInv cfg s) {i p : Nat} {c : Chunk} (hi : s.chunks[i]? = some c)
    (h1 : c.contentStart cfg ≤ p) (h2 : p ≤ c.contentEnd cfg) (h3 : s.cur = .chunk i → s.minAlign ∣ p) :
    MovePost cfg s (Arena.setPos s i p) :=
  ⟨h.setPos hi h1 h2 h3, setPos_shape _ _ _, rfl, rfl⟩

theorem GeomInv.moveCur (h : GeomInv cfg s) {i p : Nat} {c : Chunk} (hcur : s.cur = .chunk i) (hi : s.chunks[i]? = some c)
    (h1 : c.contentStart cfg ≤ p) (h2 : p ≤ c.contentEnd cfg) (h3 : s.minAlign ∣ p) :
    MovePost cfg s (Arena.setCurPos s p) :=
  Fn.setCurPos_chunk hcur p ▸ h.move hi h1 h2 fun _ => h3

end move

/-- `stats` of an arena with a current chunk, the sums written with `List.sum` -/
theorem stats_chunk {cfg : Cfg} {s : State} {i : Nat} {c : Chunk} (hcur : s.cur = .chunk i) (hi : s.chunks[i]? = some c) :
    stats cfg s =
      { count := s.chunks.length,
        size := (s.chunks.map (·.size)).sum,
        capacity := (s.chunks.map (Chunk.capacity cfg)).sum,
        allocated := c.allocated cfg + ((s.chunks.take i).map (Chunk.capacity cfg)).sum,
        remaining := c.remaining cfg + ((s.chunks.drop (i+1)).map (Chunk.capacity cfg)).sum } := by
  unfold stats
  rw [hcur]
  simp only [hi, List.sum_eq_foldl_nat]

theorem ChunkWF.alloc_add_rem {cfg : Cfg} {c : Chunk} (h : ChunkWF cfg c) :
    c.allocated cfg + c.remaining cfg = c.capacity cfg := by
  unfold Chunk.allocated Chunk.remaining Chunk.capacity
  split
  · rw [Nat.add_comm]; exact Nat.sub_add_sub_cancel h.pos_le h.pos_ge
  · exact Nat.sub_add_sub_cancel h.pos_le h.pos_ge

theorem _root_.Rs.Layout.Valid.p2 {L : Layout} (h : L.Valid) : P2 L.align := layout_p2 h

theorem _root_.Rs.Layout.Valid.pos {L : Layout} (h : L.Valid) : 0 < L.align := h.p2.pos

theorem _root_.Rs.Layout.Valid.size_lt {L : Layout} (h : L.Valid) : L.size + (L.align - 1) < 2 ^ 63 := by
  have := h.2; rw [IMAX_eq] at this; omega

/-! ## The example states satisfy the invariant -/

theorem exCfg_ok : CfgOK exCfg :=
  ⟨⟨⟨4, by decide, by decide, by decide⟩, by decide, by decide, by decide⟩, Or.inr (Or.inr (Or.inr (Or.inl rfl))), by decide⟩

theorem exCfgDown_ok : CfgOK exCfgDown :=
  ⟨⟨⟨4, by decide, by decide, by decide⟩, by decide, by decide, by decide⟩, Or.inr (Or.inr (Or.inr (Or.inl rfl))), by decide⟩

theorem exChunk_wf : ChunkWF exCfg exChunk := by
  refine ⟨by decide, by decide, by decide, by decide, by decide, by decide, by decide, by decide, ?_, by decide, by decide, by decide⟩
  simp [exChunk]

theorem exChunk2_wf : ChunkWF exCfg exChunk2 := by
  refine ⟨by decide, by decide, by decide, by decide, by decide, by decide, by decide, by decide, ?_, by decide, by decide, by decide⟩
  simp [exChunk2]

theorem exChunkDown_wf : ChunkWF exCfgDown exChunkDown := by
  refine ⟨by decide, by decide, by decide, by decide, by decide, by decide, by decide, by decide, ?_, by decide, by decide, by decide⟩
  simp [exChunkDown]

theorem exState_chunks {c : Chunk} {i : Nat} (h : exState.chunks[i]? = some c) : c = exChunk ∨ c = exChunk2 := by
  rcases List.mem_cons.1 (List.mem_of_getElem? h) with rfl | h'
  · exact Or.inl rfl
  · exact Or.inr (List.mem_singleton.1 h')

theorem exState_inv : GeomInv exCfg exState := by
  refine ⟨?_, Or.inr (Or.inr (Or.inr (Or.inl rfl))), ?_⟩
  · intro i c hi
    rcases exState_chunks hi with rfl | rfl
    · exact exChunk_wf
    · exact exChunk2_wf
  · intro i hi
    cases hi
    exact ⟨exChunk, rfl, by decide⟩

theorem exStateDown_inv : GeomInv exCfgDown exStateDown := by
  refine ⟨?_, Or.inr (Or.inr (Or.inr (Or.inl rfl))), ?_⟩
  · intro i c hi
    match i, hi with
    | 0, hi => simp [exStateDown, exState] at hi; subst hi; exact exChunkDown_wf
    | n+1, hi => simp [exStateDown, exState] at hi
  · intro i hi
    simp [exStateDown, exState] at hi
    subst hi
    exact ⟨exChunkDown, rfl, by decide⟩

theorem exStateUnalloc_inv : GeomInv exCfg exStateUnalloc := by
  refine ⟨?_, Or.inr (Or.inr (Or.inr (Or.inl rfl))), ?_⟩
  · intro i c hi; simp [exStateUnalloc, exState] at hi
  · intro i hi; simp [exStateUnalloc, exState] at hi

end Arena
