/-
  Lemmas/MemExLive.lean — concrete states satisfying `LiveOK` and the other hypotheses of the C01 /
  C02 theorems about `stepCore` (non-vacuity witnesses).
-/
import BumpProof.Lemmas.MemAlloc
import BumpProof.Lemmas.MemEx
import BumpProof.Lemmas.MemLive

namespace Arena.Mem.Ex
open Arena Arena.Mem Rs


def L8 : Layout := { size := 8, align := 8 }

theorem exValidUp : C11.Valid cfgUp.up (bumpProps cfgUp stUp L8 Hints.custom) := by
  refine ⟨⟨by decide, by decide, by decide, by decide, by decide, ⟨⟨3, by decide, by decide⟩, by decide⟩, by decide⟩, Or.inl ?_⟩
  exact ⟨by decide, by decide, by decide⟩

theorem stUp_liveOK : LiveOK cfgUp stUp :=
  ⟨List.forall_mem_singleton.2 (by decide), List.forall_mem_singleton.2 fun _ =>
    ⟨0, 0, chunkUp, rfl, Nat.le_refl _, rfl, by unfold InContent; decide, fun _ => by unfold OnAllocatedSide; decide⟩,
   List.pairwise_singleton _ _⟩

theorem stUp_curPosOK : CurPosOK cfgUp stUp := by
  intro i c hcur hc
  cases hcur
  cases hc
  decide

/-- no slow-path state exists for `stUp` (no later chunk, no pending response) -/
theorem stUp_noSlow : ∀ t i' ct, SlowTry cfgUp stUp t i' ct → C11.Valid cfgUp.up (bumpProps cfgUp t L8 Hints.custom) := by
  intro t i' ct h
  exfalso
  rcases h.origin with ⟨c, hc, _⟩ | ⟨p, g, rest, size, size', hr, _⟩
  · have := h.after 0 (by decide) (fun i hi => Nat.zero_le i)
    have hlt : i' < stUp.chunks.length := (List.getElem?_eq_some_iff.mp hc).1
    simp only [stUp, List.length_singleton] at hlt
    omega
  · simp [stUp] at hr

def L200 : Layout := { size := 200, align := 1 }

-- `stUpR` differs from `stUp` in `resps` only, which `LiveOK` does not look at
theorem stUpR_liveOK : LiveOK cfgUp stUpR := LiveOK.of_geom (s := stUp) rfl rfl rfl stUp_liveOK

theorem stUpR_curPosOK : CurPosOK cfgUp stUpR := stUp_curPosOK

theorem exValidUpR : C11.Valid cfgUp.up (bumpProps cfgUp stUpR L200 Hints.custom) := by
  refine ⟨⟨by decide, by decide, by decide, by decide, by decide, ⟨⟨0, by decide, by decide⟩, by decide⟩, by decide⟩, Or.inl ?_⟩
  exact ⟨by decide, by decide, by decide⟩

/-- the only slow-path state for `stUpR` has the granted chunk `[256, 1280)` current; its bump request is valid -/
theorem stUpR_slowValid : ∀ t i' ct, SlowTry cfgUp stUpR t i' ct →
    C11.Valid cfgUp.up (bumpProps cfgUp t L200 Hints.custom) := by
  intro t i' ct h
  rcases h.origin with ⟨c, hc, _⟩ | ⟨p, g, rest, size, size', hr, hal, hct, _⟩
  · exfalso
    have := h.after 0 (by decide) (fun i hi => Nat.zero_le i)
    have hlt : i' < stUpR.chunks.length := (List.getElem?_eq_some_iff.mp hc).1
    simp only [stUpR, stUp, List.length_singleton] at hlt
    omega
  · simp only [stUpR, stUp, List.cons.injEq, BaseResp.granted.injEq] at hr
    obtain ⟨⟨rfl, rfl⟩, _⟩ := hr
    have hs : size' = 1024 := by
      have e : Gen.SizeConfig.align_size (sizeCfg cfgUp) 1024 = .ok 1024 := rfl
      rw [e] at hal; cases hal; rfl
    subst hs
    have hfr := freeRange_chunk (cfg := cfgUp) h.cur h.chunk
    have hma : t.minAlign = 1 := h.ghost.2
    have hprops : bumpProps cfgUp t L200 Hints.custom =
        { start := 288, «end» := 1280, min_align := 1, layout := L200, align_is_const := false,
          size_is_const := false, size_is_multiple_of_align := false } := by
      unfold bumpProps; rw [hfr, hma, hct]; rfl
    rw [hprops]
    refine ⟨⟨by decide, by decide, by decide, by decide, by decide, ⟨⟨0, by decide, by decide⟩, by decide⟩, by decide⟩, Or.inl ?_⟩
    exact ⟨by decide, by decide, by decide⟩

/-- scope exit: `stUp` inside a scope entered when the block already existed -/
def gScope : GState :=
  { s := { stUp with frames := [.scope { cur := .chunk 0, addr := 104 }] }, marks := [1] }

theorem gScope_placedAt : ∀ cp rest m ms, gScope.s.frames = .scope cp :: rest → gScope.marks = m :: ms →
    ∀ b ∈ gScope.s.live, b.id < m → 0 < b.size → PlacedAt cfgUp gScope.s cp b.addr b.size := by
  intro cp rest m ms hf hm b hb _ hs
  simp only [gScope, List.cons.injEq, Frame.scope.injEq] at hf
  obtain ⟨rfl, _⟩ := hf
  exact Placed.placedAt (s := stUp) (c := chunkUp) rfl rfl (stUp_liveOK.placed b hb hs)

/-- the steps that the examples of both `Props/C01.lean` and `Props/C02.lean` run -/
theorem stUp_allocate : ∃ g' out, stepCore cfgUp { s := stUp, marks := [] } (.allocate L8 true .plain) = .ok (g', out) :=
  ⟨_, _, rfl⟩

theorem stUp_deallocate : ∃ g' out, stepCore cfgUp { s := stUp, marks := [] } (.deallocate 0 .plain) = .ok (g', out) :=
  ⟨_, _, rfl⟩

theorem gScope_exit : ∃ g' out, stepCore cfgUp gScope .scopeExit = .ok (g', out) := ⟨_, _, rfl⟩

theorem stDown_liveOK : LiveOK cfgDown stDown :=
  ⟨List.forall_mem_singleton.2 (by decide), List.forall_mem_singleton.2 fun _ =>
    ⟨0, 0, chunkDown, rfl, Nat.le_refl _, rfl, by unfold InContent; decide, fun _ => by unfold OnAllocatedSide; decide⟩,
   List.pairwise_singleton _ _⟩

end Arena.Mem.Ex
