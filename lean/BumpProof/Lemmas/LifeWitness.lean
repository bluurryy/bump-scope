/-
  Lemmas/LifeWitness.lean — the tables and witness programs of `Props/C04.lean` (the extracted table without the
  recorded deviation C04-a; the two tables with a conversion that loses its lifetime bound; one program for each),
  and what the type checker and the run say of each witness, under the table that admits it and under `C04.table`.

  The facts about one witness are stated as one conjunction (`c04a_both`, `anystats_both`, `from_parts_both`): the two
  tables share their signatures, and almost all of an evaluation of `verdict` is the walk of `Table.lookup` through these
  (string comparisons), which a joint statement makes once for both tables.
-/
import BumpProof.Life.Calculus
import BumpProof.Gen.Sigs

namespace C04
open Life

/-- recorded deviation C04-a (known_findings.json): the `&'a mut Bump` implementor of `BumpAllocatorCoreScope<'a>` -/
def knownDeviations : List ImplTy := [.refMutBump]

def table : Table :=
  { Gen.Sigs.table with scopeImpls := Gen.Sigs.table.scopeImpls.filter (fun i => !knownDeviations.contains i.ty) }

/-- C04-a in the calculus:
    `let bm = b.borrow_mut_with_settings(); let x = BumpAllocatorTypedScope::alloc_str(&bm, ..); bm.reset(); use(x)` -/
def c04a_witness : List Stmt :=
  [.newBump 0, .call 1 0 .viewSame "Bump" "borrow_mut_with_settings", .call 2 1 .alloc "BumpAllocatorTypedScope" "alloc_str",
   .call 3 1 .resetAll "Bump" "reset", .use 2]

theorem c04a_both :
    (verdict Gen.Sigs.table ⟨true, true⟩ c04a_witness = none ∧ faultOf ⟨true, true⟩ c04a_witness = some (0, .uaf)) ∧
    verdict table ⟨true, true⟩ c04a_witness = some (2, .notApplicable) := by decide +kernel

/-- the extracted table with the `From<Stats> for AnyStats` header as it was before the fix (two elided lifetimes) -/
def untiedFrom : Table :=
  { table with valueConvs := [⟨.from_, "Stats", "AnyStats", "AnyStats", [.fresh], "stats/any.rs (before 19ca7c2)"⟩] }

/-- `let s = b.stats(); let a = AnyStats::from(s); drop(b); a.count()` -/
def anystats_witness : List Stmt :=
  [.newBump 0, .call 1 0 .alloc "Bump" "stats", .vconv 2 1 "Stats" "AnyStats", .drop 0, .use 2]

theorem anystats_both : (verdict untiedFrom ⟨true, true⟩ anystats_witness = none ∧
    faultOf ⟨true, true⟩ anystats_witness = some (0, .uaf)) ∧
    verdict table ⟨true, true⟩ anystats_witness = some (0, .dead) := by decide +kernel

/-- the extracted table with `BumpVec::from_parts` taking a `FixedBumpVec` of an unrelated lifetime -/
def untiedFromParts : Table :=
  { table with valueConvs := [⟨.ctor, "FixedBumpVec", "BumpVec::from_parts", "BumpVec", [.fresh], "bump_vec.rs (seed C04-c)"⟩] }

/-- `g = b.scope_guard(); s = g.scope(); f = s.alloc(..) (fixed vec); v = BumpVec::from_parts(f, &c); x = v.into_slice();
    drop(g); use(x)` -/
def from_parts_witness : List Stmt :=
  [.newBump 0, .newBump 1, .call 2 0 .mkGuard "Bump" "scope_guard", .call 3 2 .guardScope "BumpScopeGuard" "scope",
   .call 4 3 .alloc "BumpScope" "alloc_slice_copy", .coll 5 1 .shr, .call 6 5 .alloc "BumpVec" "into_slice",
   .join 6 4 "FixedBumpVec" "BumpVec::from_parts", .drop 2, .use 6]

theorem from_parts_both : (verdict untiedFromParts ⟨true, true⟩ from_parts_witness = none ∧
    faultOf ⟨true, true⟩ from_parts_witness = some (0, .uaf)) ∧
    verdict table ⟨true, true⟩ from_parts_witness = some (0, .dead) := by decide +kernel

end C04
