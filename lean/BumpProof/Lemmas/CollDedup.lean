/-
  Lemmas/CollDedup.lean — `Coll.dedupBy` (cursor/guard model of `BumpBox<[T]>::dedup_by`) computes
  `Coll.dedupSpec` on every well-formed vector, for every oracle and every set of panicking drops; the calls of
  `same_bucket` (`dedupCalls_eq`), and `dedup_by_key` as `dedup_by` on pairs of keys (`proj`, `dedupByKey_pair`).
-/
import BumpProof.Lemmas.CollRetain

namespace Coll

/-- `FillGapOnDrop::drop` -/
theorem dedupGuard_gap {kept rest dl esc : List Id} {k n r w : Nat} {T : List Slot}
    (hr : r = kept.length + k) (hw : w = kept.length) (hn : n = r + rest.length) :
    dedupGuard (gap kept k rest T n dl esc) r w = .ok ⟨I (kept ++ rest) ++ H k ++ T, kept.length + rest.length, dl, esc⟩ := by
  subst hn hw hr
  have hlen : (gap kept k rest T (kept.length + k + rest.length) dl esc).len = kept.length + k + rest.length := rfl
  simp only [dedupGuard, hlen, Nat.add_sub_cancel_left, gap_close rfl rfl rfl, setLen]
  congr 2
  omega

/-- the loop of `dedup_by` = `sieve (· == 0)`; no vacated slot at the start (`ptr::copy` of a slot onto itself) -/
theorem dedupLoop_eq (bombs : List Id) (rest : List Id) :
    ∀ (kept : List Id) (k : Nat) (T : List Slot) (n : Nat) (dl esc : List Id) (o : List Outcome) (r w : Nat),
      r = kept.length + k → w = kept.length → n = r + rest.length → kept ≠ [] →
      dedupLoop bombs rest.length (gap kept k rest T n dl esc) r w o =
        .ok (gapDone (sieve (· == 0) bombs kept rest o) k T dl esc) := by
  induction rest with
  | nil => intro kept k T n dl esc o r w hr hw _ _; subst hw; simp [dedupLoop, sieve, setLen, gap, gapDone]
  | cons x rest ih =>
    intro kept k T n dl esc o r w hr hw hn hne
    obtain ⟨kinit, klast, hk⟩ : ∃ a b, kept = a ++ [b] := ⟨_, _, (List.dropLast_concat_getLast hne).symm⟩
    have hl := List.length_cons (a := x) (as := rest)
    simp only [List.length_cons, dedupLoop, gap_peek hr]
    rw [peek_mid (A := I kinit) (x := klast) (B := H k ++ I (x :: rest) ++ T) (by simp [gap, hk]) (by simp [hw, hk])]
    match o with
    | [] => simp only [sieve, dedupGuard_gap hr hw hn, Except.map]; simp [gapDone]
    | .panic :: o => simp only [sieve, dedupGuard_gap hr hw hn, Except.map]; simp [gapDone]
    | .ret b :: o =>
      simp only [sieve]
      by_cases hb : b = 0
      · simp only [hb, ne_eq, not_true_eq_false, ↓reduceIte, BEq.rfl, gap_keep hr hw]
        exact ih (kept ++ [x]) k T n dl esc o (r + 1) (w + 1) (by simp; omega) (by simp [hw]) (by omega) (by simp)
      · simp only [hb, ne_eq, not_false_eq_true, ↓reduceIte, show (b == 0) = false by simp [hb], Bool.false_eq_true,
          gap_drop hr, Bool.not_false, Bool.true_and]
        cases hbomb : bombs.contains x with
        | true =>
          simp only [↓reduceIte, Except.map,
            dedupGuard_gap (kept := kept) (rest := rest) (k := k + 1) (r := r + 1) (n := n) (by omega) hw (by omega)]
          simp [gapDone]
        | false =>
          simp only [Bool.false_eq_true, ↓reduceIte,
            ih kept (k + 1) T n (dl ++ [x]) esc o (r + 1) w (by omega) hw (by omega) hne, gapDone_cons]

/-- the ghost trace of the loop = the list-level calls: each inspected element goes with the last RETAINED one -/
theorem dedupCallsLoop_eq (bombs : List Id) (rest : List Id) :
    ∀ (kinit : List Id) (klast : Id) (k : Nat) (T : List Slot) (n : Nat) (dl esc : List Id) (o : List Outcome) (r w : Nat),
      r = (kinit ++ [klast]).length + k → w = (kinit ++ [klast]).length →
      dedupCallsLoop bombs rest.length (gap (kinit ++ [klast]) k rest T n dl esc) r w o = dedupCallsSpec bombs klast rest o := by
  induction rest with
  | nil => intro kinit klast k T n dl esc o r w _ _; simp [dedupCallsLoop, dedupCallsSpec]
  | cons x rest ih =>
    intro kinit klast k T n dl esc o r w hr hw
    simp only [List.length_cons, dedupCallsLoop, gap_peek hr]
    rw [peek_mid (A := I kinit) (x := klast) (B := H k ++ I (x :: rest) ++ T) (by simp [gap]) (by simp [hw])]
    match o with
    | [] => simp [dedupCallsSpec]
    | .panic :: o => simp [dedupCallsSpec]
    | .ret b :: o =>
      simp only [dedupCallsSpec]
      congr 1
      by_cases hb : b = 0
      · simp only [hb, ne_eq, not_true_eq_false, ↓reduceIte, gap_keep hr hw]
        exact ih (kinit ++ [klast]) x k T n dl esc o (r + 1) (w + 1) (by simp at hr ⊢; omega) (by simp [hw])
      · simp only [hb, ne_eq, not_false_eq_true, ↓reduceIte, gap_drop hr, Bool.not_false, Bool.true_and]
        cases hbomb : bombs.contains x with
        | true => simp
        | false => exact ih kinit klast (k + 1) T n (dl ++ [x]) esc o (r + 1) w (by omega) hw

/-- **the calls of `dedup_by`**: on a vector holding `x :: xs`, `same_bucket` is called with exactly the pairs
    `Vec::dedup_by` would call it with — (inspected element, last retained element) -/
theorem dedupCalls_eq (bombs : List Id) (v : Vec) (x : Id) (xs : List Id) (o : List Outcome)
    (h : View.fwd.Shape v (x :: xs)) :
    dedupCalls bombs v o = dedupCallsSpec bombs x xs o := by
  revert v
  refine seg_cases fun k dl esc => ?_
  unfold dedupCalls
  cases xs with
  | nil => simp [dedupCallsSpec]
  | cons y xs =>
    rw [if_neg (by simp)]
    have := dedupCallsLoop_eq bombs (y :: xs) [] x 0 (H k) (x :: y :: xs).length dl esc o 1 1 rfl rfl
    simpa [gap] using this

theorem dedupBy_eq (bombs : List Id) (v : Vec) (xs : List Id) (o : List Outcome)
    (h : View.fwd.Shape v xs) :
    dedupBy bombs v o =
      .ok ⟨v.after (dedupSpec bombs xs o), (dedupSpec bombs xs o).exit, (dedupSpec bombs xs o).rest⟩ := by
  revert v
  refine seg_cases fun k dl esc => ?_
  unfold dedupBy dedupSpec
  simp only
  match xs with
  | [] => rw [if_pos (by simp), after_seg k (by simp)]; simp
  | [x] => rw [if_pos (by simp), after_seg k (by simp [sieve, Nat.add_comm])]; simp [sieve]
  | x :: y :: rest =>
    rw [if_neg (by simp)]
    have := dedupLoop_eq bombs (y :: rest) [x] 0 (H k) (x :: y :: rest).length dl esc o 1 1 rfl rfl
      (by simp [Nat.add_comm]) (by simp)
    simp only [gap, I_cons, I_nil, H_zero, List.append_nil, List.cons_append, List.nil_append, List.length_cons] at this
    have hlen := (sieve_perm (· == 0) bombs (y :: rest) [x] o).length_eq
    simp only [List.length_append, List.length_cons, List.length_nil] at hlen
    simp only [I_cons, List.length_cons, Nat.add_sub_cancel, List.cons_append, this]
    rw [after_seg ((sieve (· == 0) bombs [x] (y :: rest) o).dropped.length + k) (by simp <;> omega), sieve_escaped]
    simp [gapDone, H_add]

/-! ## dedup_by_key = dedup_by with the answers `key(a) == key(b)` -/

/-- the observable part of a result (the unconsumed oracle is bookkeeping) -/
def proj {α} (x : M (Out α)) : M (Vec × Exit α) := x.map (fun r => (r.vec, r.exit))

theorem proj_guard {v : Vec} {r w : Nat} {e : Exit Unit} {o1 o2 : List Outcome} :
    proj ((dedupGuard v r w).map (⟨·, e, o1⟩)) = proj ((dedupGuard v r w).map (⟨·, e, o2⟩)) := by
  unfold proj; cases dedupGuard v r w <;> rfl

theorem dedupKeyLoop_pair (bombs : List Id) (fuel : Nat) : ∀ (v : Vec) (r w : Nat) (o : List Outcome),
    proj (dedupKeyLoop bombs fuel v r w o) = proj (dedupLoop bombs fuel v r w (pairUp o)) := by
  induction fuel with
  | zero => intro v r w o; simp [dedupKeyLoop, dedupLoop, proj, Except.map]
  | succ fuel ih =>
    intro v r w o
    simp only [dedupKeyLoop, dedupLoop]
    cases h1 : peek v r with
    | error e => rfl
    | ok a =>
      cases h2 : peek v (w - 1) with
      | error e => rfl
      | ok b =>
        simp only
        match o with
        | [] => simp only [pairUp]
        | .panic :: o => simp only [pairUp]; exact proj_guard
        | [.ret _] => simp only [pairUp]
        | .ret _ :: .panic :: o => simp only [pairUp]; exact proj_guard
        | .ret ka :: .ret kb :: o =>
          simp only [pairUp]
          by_cases hk : ka = kb
          · simp only [hk, ↓reduceIte, ne_eq, Nat.succ_ne_zero, not_false_eq_true, Nat.add_one_ne_zero]
            cases h3 : dropAt bombs false v r with
            | error e => rfl
            | ok p =>
              obtain ⟨v1, pk⟩ := p
              simp only
              cases pk with
              | true => simp only [↓reduceIte]; exact proj_guard
              | false => simp only [Bool.false_eq_true, ↓reduceIte]; exact ih _ _ _ _
          · simp only [hk, ↓reduceIte, ne_eq, not_true_eq_false]
            cases h3 : copy v r w 1 with
            | error e => rfl
            | ok v1 => simp only; exact ih _ _ _ _

theorem dedupByKey_pair (bombs : List Id) (v : Vec) (o : List Outcome) :
    proj (dedupByKey bombs v o) = proj (dedupBy bombs v (pairUp o)) := by
  unfold dedupByKey dedupBy
  simp only
  split
  · rfl
  · exact dedupKeyLoop_pair bombs _ v 1 1 o

theorem proj_ok {α} {x y : M (Out α)} {r : Out α} (h : proj x = proj y) (hy : y = .ok r) :
    ∃ r', x = .ok r' ∧ r'.vec = r.vec ∧ r'.exit = r.exit := by
  subst hy
  cases x with
  | error e => simp [proj, Except.map] at h
  | ok r' =>
    simp only [proj, Except.map, Except.ok.injEq, Prod.mk.injEq] at h
    exact ⟨r', rfl, h.1, h.2⟩

end Coll
