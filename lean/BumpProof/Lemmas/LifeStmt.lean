/-
  Lemmas/LifeStmt.lean — cases of the soundness proof of the region calculus: the statements that declare, touch or give
  away one variable (`newBump`, `newPool`, `slot`, `use`, `drop`, `send`, `share`).  An accepted one runs without a fault
  and re-establishes the invariant.
-/
import BumpProof.Lemmas.LifeAdd

namespace Life

theorem step_newBump {fl : Flags} {Γ Γ' : SEnv} {σ : DState} (inv : Inv Γ σ) {b : Var}
    (hc : Γ.declare ⟨b, .bump, .own, [], [], true, Γ.depth⟩ = .ok Γ') :
    ∃ σ', runStmt fl σ (.newBump b) = .ok σ' ∧ Inv Γ' σ' := by
  rcases declare_ok hc with ⟨hfresh, rfl⟩
  refine ⟨_, rfl, ?_⟩
  -- the new handle is on the new arena only, and nothing that existed before is on that arena
  have notOn : ∀ a, EnderOn σ.newArena ⟨b, .bump, .own, [], [], true, Γ.depth⟩ ⟨.bump, σ.arenas.length, none, true, []⟩ a →
      a = σ.arenas.length := by
    rintro a (⟨h, _⟩ | ⟨_, _, h⟩ | ⟨h, _⟩)
    · cases h
    · exact h.symm
    · cases h
  have hnoHandle : ∀ h ∈ Γ.ents, h.valid = true → h.isHandle = true → ∀ rh, σ.get h.var = some rh →
      rh.arena ≠ σ.arenas.length :=
    fun h hh hv hH rh hrh => Nat.ne_of_lt (inv.handle_arena_lt hh hv hH hrh)
  apply inv.newArena.add _ _ hfresh
  · simp [Typed, Entry.isHandle, DState.epochs_newArena_self]
  · simp
  · intro h; cases h
  · intro e he hv hke re hre ex hex hend
    exact absurd (notOn _ hend.1) (Nat.ne_of_lt (inv.val_arena_lt he hv hke hre hex))
  · intro _ g hg hgv rg hrg hon
    exact absurd (inv.ender_arena_lt hg hgv hrg (EnderOn_of_newArena inv hg hgv hrg hon)) (Nat.lt_irrefl _)
  · intro h hh hv hH rh hrh hon
    exact absurd (notOn _ hon) (hnoHandle h hh hv hH rh hrh)
  · intro _ _ h2 hh2 hv2 hH2 r2 hr2 har
    exact absurd har.symm (hnoHandle h2 hh2 hv2 hH2 r2 hr2)
  · intro _ h1 hh1 hv1 hH1 _ r1 hr1 har
    exact absurd har (hnoHandle h1 hh1 hv1 hH1 r1 hr1)

theorem step_newPool {fl : Flags} {Γ Γ' : SEnv} {σ : DState} (inv : Inv Γ σ) {p : Var}
    (hc : Γ.declare ⟨p, .pool, .own, [], [], true, Γ.depth⟩ = .ok Γ') :
    ∃ σ', runStmt fl σ (.newPool p) = .ok σ' ∧ Inv Γ' σ' := by
  rcases declare_ok hc with ⟨hfresh, rfl⟩
  exact ⟨_, rfl, inv.addInert p .pool _ ⟨.pool, 0, none, true, []⟩ hfresh (by simp [Typed, Entry.isHandle])
    (Or.inr rfl) rfl rfl⟩

theorem step_slot {fl : Flags} {Γ Γ' : SEnv} {σ : DState} (inv : Inv Γ σ) {o : Var}
    (hc : Γ.declare ⟨o, .val, .own, [], [], true, Γ.depth⟩ = .ok Γ') :
    ∃ σ', runStmt fl σ (.slot o) = .ok σ' ∧ Inv Γ' σ' := by
  rcases declare_ok hc with ⟨hfresh, rfl⟩
  exact ⟨_, rfl, inv.addInert o .val _ (Rt.val 0 none) hfresh (Typed.val rfl rfl (fun _ h => nomatch h))
    (Or.inl rfl) rfl rfl⟩

theorem step_use {t : Table} {fl : Flags} {Γ Γ' : SEnv} {σ : DState} (inv : Inv Γ σ) {x : Var}
    (hc : checkStmt t fl Γ (.use x) = .ok Γ') :
    ∃ σ', runStmt fl σ (.use x) = .ok σ' ∧ Inv Γ' σ' := by
  simp only [checkStmt] at hc
  split at hc <;> cases hc
  rename_i e hl
  rcases lookupValid_ok hl with ⟨he, rfl, hv⟩
  rcases inv.typed e he hv with ⟨r, hr, _⟩
  exact ⟨σ, by simp only [runStmt, hr, (use_sound inv he hv hr).1]; rfl, (use_sound inv he hv hr).2⟩

theorem step_drop {t : Table} {fl : Flags} {Γ Γ' : SEnv} {σ : DState} (inv : Inv Γ σ) {x : Var}
    (hc : checkStmt t fl Γ (.drop x) = .ok Γ') :
    ∃ σ', runStmt fl σ (.drop x) = .ok σ' ∧ Inv Γ' σ' := by
  simp only [checkStmt] at hc
  split at hc
  · cases hc
  · rename_i e hl
    split at hc <;> cases hc
    rcases lookupValid_ok hl with ⟨he, rfl, hv⟩
    rcases inv.typed e he hv with ⟨r, hr, _⟩
    rcases dropRt_sound inv he hv hr with ⟨σ', h1, h2, _⟩
    exact ⟨σ', by simp only [runStmt, hr]; exact h1, h2⟩

theorem step_send {t : Table} (hok : sigOK t = true) {fl : Flags} {Γ Γ' : SEnv} {σ : DState} (inv : Inv Γ σ) {x : Var}
    (hc : checkStmt t fl Γ (.send x) = .ok Γ') :
    ∃ σ', runStmt fl σ (.send x) = .ok σ' ∧ Inv Γ' σ' := by
  simp only [checkStmt] at hc
  split at hc
  · cases hc
  · rename_i e hl
    split at hc
    · cases hc
    · rename_i hmv
      split at hc <;> cases hc
      rename_i hsend
      rcases lookupValid_ok hl with ⟨he, rfl, hv⟩
      rcases inv.typed e he hv with ⟨r, hr, ht⟩
      rcases dropRt_sound inv he hv hr with ⟨σ', h1, h2, _⟩
      refine ⟨σ', ?_, h2⟩
      have hsafe : threadSafe fl r false = true := by
        unfold threadSafe
        by_cases hk : e.kind = .val
        · rw [ht.kind, hk]
        · have hs : sendOK t fl e = true := by simpa using hsend
          have hmv' : e.movable = true := by simpa [hk] using hmv
          have hacc : e.acc = .own := by
            rcases (Bool.or_eq_true _ _).mp hmv' with h | h
            · simpa using h
            · -- a collection is never `Send`
              simp [sendOK, show e.kind = .coll by simpa using h] at hs
          rcases (threads_sound (sigOK_threads hok) fl e hk).2 hacc hs with ⟨hb | hp, hsnd⟩ | ⟨hpg, hsnd, hsyn⟩
          · simp [ht.kind, hb, hsnd, (ht.bump hb).1.2 hacc]
          · simp [ht.kind, hp, hsnd]
          · simp [ht.kind, hpg, hsnd, hsyn]
      simp only [runStmt, hr]
      simp [hsafe]; exact h1

theorem step_share {t : Table} (hok : sigOK t = true) {fl : Flags} {Γ Γ' : SEnv} {σ : DState} (inv : Inv Γ σ) {x : Var}
    (hc : checkStmt t fl Γ (.share x) = .ok Γ') :
    ∃ σ', runStmt fl σ (.share x) = .ok σ' ∧ Inv Γ' σ' := by
  simp only [checkStmt] at hc
  split at hc
  · cases hc
  · rename_i e hl
    split at hc <;> cases hc
    rename_i hshare
    rcases lookupValid_ok hl with ⟨he, rfl, hv⟩
    rcases inv.typed e he hv with ⟨r, hr, ht⟩
    have hsafe : threadSafe fl r true = true := by
      unfold threadSafe
      by_cases hk : e.kind = .val
      · rw [ht.kind, hk]
      · rcases (threads_sound (sigOK_threads hok) fl e hk).1 (by simpa using hshare) with ⟨hp, hsnd, hsyn⟩
        simp [ht.kind, hp, hsnd, hsyn]
    exact ⟨σ, by simp only [runStmt, hr, (use_sound inv he hv hr).1]; simp [hsafe], (use_sound inv he hv hr).2⟩

end Life
