/-
  Lemmas/FnTry.lean — `tryCur` against the wide-integer specification of the bump arithmetic (C11): `tryCurSpec`, what
  `tryCur` computes, without hints, and `tryCur_eq_of_valid`: for a valid bump request `tryCur` returns exactly that.
  The hypothesis is the validity of the request alone; which states with a real current chunk make requests valid is
  the business of the towers.
  Then what a successful `tryCurSpec` says in terms of the current chunk: `tryCurSpec_alloc` (the block is `Carved` from its
  free side), `tryCurSpec_prepare_eq`, `tryCurSpec_range`; a dummy free range (claimed / unallocated handle) is
  a valid request (`valid_of_dummy`) and serves nothing (`tryCurSpec_dummy`).
-/
import BumpProof.Lemmas.FnShape
import BumpProof.Props.C11

namespace Arena
open Rs

/-- what `tryCur` computes, over wide integers and without hints -/
def tryCurSpec (cfg : Cfg) (k : Kind) (s : State) (L : Layout) : Option ((Nat × Nat) × State) :=
  let r := freeRange cfg s
  match k with
  | .alloc =>
    if cfg.up then (Spec.bumpUp r.1 r.2 L.size L.align s.minAlign).map (fun x => ((x.1, 0), setCurPos s x.2))
    else (Spec.bumpDown r.1 r.2 L.size L.align s.minAlign).map (fun p => ((p, 0), setCurPos s p))
  | .prepare =>
    if cfg.up then (Spec.bumpUp r.1 r.2 L.size L.align s.minAlign).map (fun x => ((x.1, 0), s))
    else (Spec.bumpDown r.1 r.2 L.size L.align s.minAlign).map (fun p => ((p, 0), s))
  | .range =>
    (if cfg.up then Spec.prepareUp r.1 r.2 L.size L.align else Spec.prepareDown r.1 r.2 L.size L.align).map
      (fun x => (x, s))

section
variable {cfg : Cfg} {s : State}
theorem bumpProps_start (L : Layout) (hints : Hints) : (bumpProps cfg s L hints).start = (freeRange cfg s).1 := rfl
theorem bumpProps_end (L : Layout) (hints : Hints) : (bumpProps cfg s L hints).«end» = (freeRange cfg s).2 := rfl
theorem bumpProps_layout (L : Layout) (hints : Hints) : (bumpProps cfg s L hints).layout = L := rfl
theorem bumpProps_min_align (L : Layout) (hints : Hints) : (bumpProps cfg s L hints).min_align = s.minAlign := rfl
end

theorem custom_sma (L : Layout) : Hints.custom.sma = true → L.align ∣ L.size := fun hx => by cases hx

open Fn in
/-- the hints do not occur on the right: a valid request is answered the same whatever they are -/
theorem tryCur_eq_of_valid {cfg : Cfg} {k : Kind} {s : State} {L : Layout} {h : Hints}
    (hv : C11.Valid cfg.up (bumpProps cfg s L h)) : tryCur cfg k s L h = .ok (tryCurSpec cfg k s L) := by
  unfold tryCur tryCurSpec
  cases hup : cfg.up <;> rw [hup] at hv
  · simp only [Bool.false_eq_true, ↓reduceIte, C11.bump_down_eq _ hv, C11.bump_prepare_down_eq _ hv, liftM_ok,
      ok_bind, bumpProps_start, bumpProps_end, bumpProps_min_align, bumpProps_layout]
    cases k
    · generalize Spec.bumpDown _ _ _ _ _ = o; cases o <;> rfl
    · generalize Spec.bumpDown _ _ _ _ _ = o; cases o <;> rfl
    · generalize Spec.prepareDown _ _ _ _ = o; cases o <;> rfl
  · simp only [↓reduceIte, C11.bump_up_eq _ hv, C11.bump_prepare_up_eq _ hv, liftM_ok, ok_bind, bumpProps_start,
      bumpProps_end, bumpProps_min_align, bumpProps_layout]
    cases k
    · generalize Spec.bumpUp _ _ _ _ _ = o; cases o <;> rfl
    · generalize Spec.bumpUp _ _ _ _ _ = o; cases o <;> rfl
    · generalize Spec.prepareUp _ _ _ _ = o; cases o <;> rfl

theorem freeRange_chunk {cfg : Cfg} {s : State} {i : Nat} {c : Chunk}
    (hcur : s.cur = .chunk i) (hc : s.chunks[i]? = some c) :
    freeRange cfg s = if cfg.up then (c.pos, c.contentEnd cfg) else (c.contentStart cfg, c.pos) := by
  unfold freeRange
  rw [hcur]
  simp only [hc]

theorem freeRange_dummy {cfg : Cfg} {s : State}
    (h : ¬ ∃ i c, s.cur = .chunk i ∧ s.chunks[i]? = some c) : freeRange cfg s = (dummyAddr + 16, dummyAddr) := by
  unfold freeRange
  split
  · rename_i i hcur
    split
    · rename_i c hc
      exact absurd ⟨i, c, hcur, hc⟩ h
    · rfl
  · rfl

/-- the free range of a dummy chunk is empty: a request served from the free range was served by a chunk -/
theorem freeRange_nonempty {cfg : Cfg} {s : State} (h : (freeRange cfg s).1 ≤ (freeRange cfg s).2) :
    ∃ i c, s.cur = .chunk i ∧ s.chunks[i]? = some c ∧
      freeRange cfg s = if cfg.up then (c.pos, c.contentEnd cfg) else (c.contentStart cfg, c.pos) := by
  by_cases hex : ∃ i c, s.cur = .chunk i ∧ s.chunks[i]? = some c
  · obtain ⟨i, c, hcur, hc⟩ := hex
    exact ⟨i, c, hcur, hc, freeRange_chunk hcur hc⟩
  · rw [freeRange_dummy hex] at h
    exact absurd h (by decide)

/-! ## a dummy range (of capacity −16) serves nothing: all that is used is start > end -/

namespace Fn
open Lemmas

theorem bumpUp_dummy {e sz al ma : Nat} (hal : 0 < al) : Spec.bumpUp (e + 16) e sz al ma = none := by
  unfold Spec.bumpUp
  have := le_upAlign (e + 16) hal
  simp only
  rw [if_neg (by omega)]

theorem bumpDown_dummy {e sz al ma : Nat} : Spec.bumpDown (e + 16) e sz al ma = none := by
  unfold Spec.bumpDown
  split
  · have := downAlign_le (e - sz) (Nat.max al ma)
    simp only
    rw [if_neg (by omega)]
  · rfl

theorem prepareUp_dummy {e sz al : Nat} (hal : 0 < al) : Spec.prepareUp (e + 16) e sz al = none := by
  unfold Spec.prepareUp
  have := le_upAlign (e + 16) hal
  simp only
  rw [if_neg (by omega)]

theorem prepareDown_dummy {e sz al : Nat} : Spec.prepareDown (e + 16) e sz al = none := by
  unfold Spec.prepareDown
  have := downAlign_le e al
  simp only
  rw [if_neg (by omega)]

theorem tryCurSpec_dummy {cfg : Cfg} {s : State} {L : Layout} (hd : (freeRange cfg s).1 = (freeRange cfg s).2 + 16)
    (hal : 0 < L.align) (k : Kind) : tryCurSpec cfg k s L = none := by
  unfold tryCurSpec
  simp only []
  rw [hd]
  cases cfg.up <;> cases k <;>
    simp only [Bool.false_eq_true, ↓reduceIte, bumpUp_dummy hal, bumpDown_dummy, prepareUp_dummy hal, prepareDown_dummy,
      Option.map_none]

end Fn

theorem dummy_facts : dummyAddr + 16 ≠ 0 ∧ dummyAddr ≠ 0 ∧ dummyAddr + 16 < 2 ^ 64 ∧ dummyAddr < 2 ^ 64 ∧ 16 ∣ dummyAddr := by
  decide

namespace Fn

theorem dummy_of_freeRange {cfg : Cfg} {s : State} (L : Layout) (h : Hints)
    (hd : freeRange cfg s = (dummyAddr + 16, dummyAddr)) : C11.Dummy (bumpProps cfg s L h) := by
  unfold C11.Dummy
  rw [bumpProps_start, bumpProps_end, hd]
  exact ⟨rfl, dummy_facts.2.2.2.2⟩

/-- the dummy range is a valid input of the bump computations -/
theorem valid_of_dummy {cfg : Cfg} {s : State} {L : Layout} {h : Hints} (up : Bool)
    (hd : freeRange cfg s = (dummyAddr + 16, dummyAddr))
    (hm : s.minAlign = 1 ∨ s.minAlign = 2 ∨ s.minAlign = 4 ∨ s.minAlign = 8 ∨ s.minAlign = 16) (hL : L.Valid)
    (ht : h.sma = true → L.align ∣ L.size) : C11.Valid up (bumpProps cfg s L h) := by
  refine ⟨⟨?_, ?_, ?_, ?_, hm, hL, ht⟩, Or.inr (dummy_of_freeRange L h hd)⟩
  all_goals simp only [bumpProps_start, bumpProps_end, hd]
  · exact dummy_facts.1
  · exact dummy_facts.2.1
  · exact dummy_facts.2.2.1
  · exact dummy_facts.2.2.2.1

end Fn

/-! ## what a successful `tryCurSpec` says -/

namespace Mem

/-- the block `[p, p+size)` is carved from the free side of chunk `c`; the bump position moves from
    `c.pos` to `np` -/
def Carved (cfg : Cfg) (c : Chunk) (p size np : Nat) : Prop :=
  if cfg.up then c.pos ≤ p ∧ p + size ≤ np ∧ np ≤ c.contentEnd cfg
  else c.contentStart cfg ≤ p ∧ np = p ∧ p + size ≤ c.pos

end Mem

/-- `alloc`: aligned, carved from the free side of the current chunk, only that chunk's position changes; upwards
    the new position is the end of the block rounded up to the minimum alignment -/
theorem tryCurSpec_alloc {cfg : Cfg} {s s' : State} {L : Layout} {h : Hints} {v : Nat × Nat}
    (hv : C11.Valid cfg.up (bumpProps cfg s L h)) (hs : tryCurSpec cfg .alloc s L = some (v, s')) :
    ∃ i c np, s.cur = .chunk i ∧ s.chunks[i]? = some c ∧ s' = setPos s i np ∧ L.align ∣ v.1 ∧ v.2 = 0 ∧
      s.minAlign ∣ np ∧ Mem.Carved cfg c v.1 L.size np ∧ (cfg.up = true → np < v.1 + L.size + s.minAlign) := by
  have f := Lemmas.Valid.facts hv
  -- first in terms of the free range
  have key : ∃ np, s' = setCurPos s np ∧ L.align ∣ v.1 ∧ v.2 = 0 ∧ s.minAlign ∣ np ∧ (freeRange cfg s).1 ≤ v.1 ∧
      v.1 + L.size ≤ (freeRange cfg s).2 ∧
      if cfg.up then v.1 + L.size ≤ np ∧ np ≤ (freeRange cfg s).2 ∧ np < v.1 + L.size + s.minAlign else np = v.1 := by
    unfold tryCurSpec at hs
    cases hup : cfg.up <;> simp only [hup, Bool.false_eq_true, ↓reduceIte] at hs ⊢ <;>
      obtain ⟨q, hq, e⟩ := Option.map_eq_some_iff.mp hs <;> cases e
    · have := C11.bumpDown_some f.hap f.hmp (Lemmas.P2.dvd_or_dvd f.ha f.hm) hq
      exact ⟨q, rfl, this.1, rfl, this.2.1, this.2.2.1, this.2.2.2.1, rfl⟩
    · have hme : s.minAlign ∣ (freeRange cfg s).2 := f.min_dvd_end
      have := C11.bumpUp_some f.hap f.hmp hme hq
      exact ⟨q.2, rfl, this.1, rfl, this.2.2.2.2.1, this.2.1, by omega, this.2.2.1, this.2.2.2.1, this.2.2.2.2.2.1⟩
  obtain ⟨np, rfl, h1, h0, h2, h3, h4, h5⟩ := key
  obtain ⟨i, c, hcur, hc, hfr⟩ := freeRange_nonempty (Nat.le_trans h3 (Nat.le_trans (Nat.le_add_right _ _) h4))
  refine ⟨i, c, np, hcur, hc, Fn.setCurPos_chunk hcur np, h1, h0, h2, ?_, ?_⟩
  · rw [hfr] at h3 h4 h5
    unfold Mem.Carved
    cases hup : cfg.up <;> simp only [hup, Bool.false_eq_true, ↓reduceIte] at h3 h4 h5 ⊢ <;> omega
  · intro hup; rw [if_pos hup] at h5; exact h5.2.2

theorem tryCurSpec_prepare_eq (cfg : Cfg) (s : State) (L : Layout) :
    tryCurSpec cfg .prepare s L = (tryCurSpec cfg .alloc s L).map fun r => (r.1, s) := by
  unfold tryCurSpec
  cases cfg.up <;> simp only [Bool.false_eq_true, ↓reduceIte, Option.map_map] <;> rfl

theorem tryCurSpec_range_state {cfg : Cfg} {s s' : State} {L : Layout} {v : Nat × Nat}
    (hs : tryCurSpec cfg .range s L = some (v, s')) : s' = s := by
  obtain ⟨_, _, e⟩ := Option.map_eq_some_iff.mp hs
  cases e; rfl

theorem tryCurSpec_range {cfg : Cfg} {s s' : State} {L : Layout} {h : Hints} {v : Nat × Nat}
    (hv : C11.Valid cfg.up (bumpProps cfg s L h)) (hsz : L.align ∣ L.size)
    (hs : tryCurSpec cfg .range s L = some (v, s')) :
    s' = s ∧ ∃ i c, s.cur = .chunk i ∧ s.chunks[i]? = some c ∧ L.align ∣ v.1 ∧ L.align ∣ v.2 ∧ v.1 + L.size ≤ v.2 ∧
      (if cfg.up then c.pos ≤ v.1 ∧ v.2 ≤ c.contentEnd cfg else c.contentStart cfg ≤ v.1 ∧ v.2 ≤ c.pos) := by
  have hal : 0 < L.align := (Lemmas.Valid.facts hv).hap
  obtain ⟨x, hx, e⟩ := Option.map_eq_some_iff.mp hs
  cases e
  -- both directions say the same of the free range
  have key : L.align ∣ v.1 ∧ L.align ∣ v.2 ∧ (freeRange cfg s).1 ≤ v.1 ∧ v.2 ≤ (freeRange cfg s).2 ∧
      v.1 + L.size ≤ v.2 := by
    split at hx
    · have := C11.prepareUp_some hal hsz hx; exact ⟨this.1, this.2.1, this.2.2.1, this.2.2.2.1, this.2.2.2.2.1⟩
    · have := C11.prepareDown_some hal hsz hx; exact ⟨this.1, this.2.1, this.2.2.1, this.2.2.2.1, this.2.2.2.2.1⟩
  obtain ⟨k1, k2, k3, k4, k5⟩ := key
  obtain ⟨i, c, hcur, hc, hfr⟩ := freeRange_nonempty (cfg := cfg) (s := s) (by omega)
  refine ⟨rfl, i, c, hcur, hc, k1, k2, k5, ?_⟩
  rw [hfr] at k3 k4
  cases hup : cfg.up <;> simp only [hup, Bool.false_eq_true, ↓reduceIte] at k3 k4 ⊢ <;> exact ⟨k3, k4⟩

end Arena
