/-
  Lemmas/StrOps.lean — UTF-8 level specification of the operations that become the constructors of `Str.Op`
  (Lemmas/StrRun.lean; `retain`: StrRetain) and
  of `with_capacity`: if the string holds the characters `cs` then the operation returns / panics / fails exactly
  as the `List Char` specification says, and the string afterwards holds the specified characters (also after a panic).
-/
import BumpProof.Lemmas.StrBoundary
import BumpProof.Lemmas.StrBytes

namespace Str

/-- the string `s` is well formed and holds the characters `cs` -/
def Holds (s : State) (cs : List Char) : Prop := WFL s ∧ s.bytes = encode cs

/-- well formed: length within capacity, contents valid UTF-8 -/
def WF (s : State) : Prop := WFL s ∧ Valid s.bytes

theorem wf_iff (s : State) : WF s ↔ ∃ cs, Holds s cs :=
  ⟨fun ⟨h, cs, hc⟩ => ⟨cs, h, hc⟩, fun ⟨cs, h, hc⟩ => ⟨h, cs, hc⟩⟩

theorem Holds.wf {s : State} {cs : List Char} (h : Holds s cs) : WF s := (wf_iff s).2 ⟨cs, h⟩

theorem Holds.len {s : State} {cs : List Char} (h : Holds s cs) : s.len = (encode cs).length := by
  rw [← h.2, bytes_length h.1]

theorem Holds.append_buf {s : State} {cs : List Char} (h : Holds s cs) (ext : Bytes) :
    Holds { s with buf := s.buf ++ ext } cs :=
  ⟨Nat.le_trans h.1 (by simp), (List.take_append_of_le_length h.1).trans h.2⟩

theorem holds_inj {s : State} {a b : List Char} (ha : Holds s a) (hb : Holds s b) : a = b :=
  encode_inj (ha.2.symm.trans hb.2)

theorem holds_ofBytes (cs : List Char) (cap : Nat) : Holds (State.ofBytes (encode cs) cap) cs :=
  ⟨wfl_ofBytes _ _, bytes_ofBytes _ _⟩

theorem boundaryOk_iff {s : State} {cs : List Char} (h : Holds s cs) (i : Nat) :
    boundaryOk s i = true ↔ CharPos cs i := by
  unfold boundaryOk; rw [h.2]; exact isCharBoundary_iff cs i

theorem boundaryOk_false {s : State} {cs : List Char} (h : Holds s cs) {i : Nat} (hn : ¬ CharPos cs i) :
    boundaryOk s i = false :=
  Bool.eq_false_iff.2 fun hb => hn ((boundaryOk_iff h i).1 hb)

/-- UTF-8 level outcome of a growing operation: `GrowsTo` of the encoding (`GrowsTo.text`) -/
def GrowsToText (al : Alloc) (s : State) (need : Nat) (r : Res Unit) (out : List Char) : Prop :=
  if al.isFixed = true ∧ s.cap - s.len < need then r = .err s
  else ∃ s', r = .ok () s' ∧ Holds s' out ∧ CapAfter al s need s'.cap

theorem GrowsTo.text {al : Alloc} {s : State} {need : Nat} {r : Res Unit} {out : Bytes} {cs : List Char}
    (h : GrowsTo al s need r out) (ho : out = encode cs) : GrowsToText al s need r cs := by
  subst ho; exact h

/-- every outcome (ok, allocation error, PANIC) leaves a well-formed string — valid UTF-8 within
    capacity — and the undefined-behaviour fault is not reached -/
def AllWF {α : Type} : Res α → Prop
  | .ok _ s => WF s
  | .err s => WF s
  | .panic s => WF s
  | .fault => False

theorem GrowsToText.allWF {al : Alloc} {s : State} {need : Nat} {r : Res Unit} {out : List Char}
    (h : GrowsToText al s need r out) (hs : WF s) : AllWF r := by
  unfold GrowsToText at h
  split at h
  · rw [h]; exact hs
  · obtain ⟨s', hr, hh, _⟩ := h; rw [hr]; exact hh.wf

theorem GrowsToText.growable {al : Alloc} {s : State} {need : Nat} {r : Res Unit} {out : List Char}
    (h : GrowsToText al s need r out) (hg : al.isFixed = false) :
    ∃ s', r = .ok () s' ∧ Holds s' out ∧ CapAfter al s need s'.cap := by
  unfold GrowsToText at h
  rwa [if_neg (by simp [hg])] at h

theorem encodeChar_of_size_one (ch : Char) (h : ch.utf8Size = 1) : encodeChar ch = [UInt8.ofNat ch.toNat] := by
  have h2 : ch.toNat ≤ 127 := by simpa using UInt32.le_iff_toNat_le.1 (Char.utf8Size_eq_one_iff.1 h)
  have := (utf8_one (v := ch.toNat) (by omega)).1
  rwa [Char.ofNat_toNat] at this

/-- `push` is `push_str` of the one character (the one-byte branch writes the same byte) -/
theorem push_eq_pushStr (al : Alloc) (s : State) (ch : Char) : push al s ch = pushStr al s (encodeChar ch) := by
  unfold push pushStr
  split
  · rename_i h1; rw [encodeChar_of_size_one ch h1]
  · rfl

theorem pushStr_spec (al : Alloc) (s : State) (t cs : List Char) (h : Holds s cs) :
    GrowsToText al s (encode t).length (pushStr al s (encode t)) (cs ++ t) := by
  unfold pushStr
  exact (appendBytes_spec al s (encode t) h.1).text (cs := cs ++ t) (by rw [h.2, encode_append])

theorem push_spec (al : Alloc) (s : State) (ch : Char) (cs : List Char) (h : Holds s cs) :
    GrowsToText al s ch.utf8Size (push al s ch) (cs ++ [ch]) := by
  have := pushStr_spec al s [ch] cs h
  rwa [encode_singleton, encodeChar_length, ← push_eq_pushStr] at this

theorem insertStr_spec (al : Alloc) (s : State) (idx : Nat) (t cs1 cs2 : List Char)
    (h : Holds s (cs1 ++ cs2)) (hi : (encode cs1).length = idx) :
    GrowsToText al s (encode t).length (insertStr al s idx (encode t)) (cs1 ++ t ++ cs2) := by
  subst hi
  unfold insertStr
  rw [(boundaryOk_iff h _).2 ⟨cs1, cs2, rfl, rfl⟩]
  exact (insertBytes_spec al s (encode t) (encode cs1) (encode cs2) h.1 (by rw [h.2, encode_append])).text
    (by rw [encode_append, encode_append])

theorem insertStr_panic (al : Alloc) (s : State) (idx : Nat) (str : Bytes) (cs : List Char)
    (h : Holds s cs) (hi : ¬ CharPos cs idx) : insertStr al s idx str = .panic s := by
  unfold insertStr
  rw [boundaryOk_false h hi]; rfl

theorem insertStr_isPanic (al : Alloc) (s : State) (idx : Nat) (str : Bytes) (cs : List Char) (h : Holds s cs) :
    (insertStr al s idx str).isPanic = true ↔ ¬ CharPos cs idx := by
  by_cases hc : CharPos cs idx
  · obtain ⟨a, b, rfl, rfl⟩ := hc
    have := grows_not_panic (insertBytes_spec al s str (encode a) (encode b) h.1 (by rw [h.2, encode_append]))
    unfold insertStr
    rw [(boundaryOk_iff h _).2 ⟨a, b, rfl, rfl⟩]
    exact ⟨fun hp => absurd (this ▸ hp) (by decide), fun hn => absurd ⟨a, b, rfl, rfl⟩ hn⟩
  · rw [insertStr_panic al s idx str cs h hc]; exact ⟨fun _ => hc, fun _ => rfl⟩

theorem insert_spec (al : Alloc) (s : State) (idx : Nat) (ch : Char) (cs1 cs2 : List Char)
    (h : Holds s (cs1 ++ cs2)) (hi : (encode cs1).length = idx) :
    GrowsToText al s ch.utf8Size (insert al s idx ch) (cs1 ++ [ch] ++ cs2) := by
  have := insertStr_spec al s idx [ch] cs1 cs2 h hi
  simp only [insertStr, encode_singleton, encodeChar_length] at this
  exact this

theorem insert_panic (al : Alloc) (s : State) (idx : Nat) (ch : Char) (cs : List Char)
    (h : Holds s cs) (hi : ¬ CharPos cs idx) : insert al s idx ch = .panic s :=
  insertStr_panic al s idx (encodeChar ch) cs h hi

theorem eq_nil_or_snoc {α : Type} (l : List α) : l = [] ∨ ∃ l' a, l = l' ++ [a] := by
  simpa only [List.concat_eq_append] using List.eq_nil_or_concat l

theorem holds_setLen {s : State} {cs1 cs2 : List Char} {n : Nat} (h : Holds s (cs1 ++ cs2))
    (hn : n = (encode cs1).length) : Holds { s with len := n } cs1 :=
  wfl_bytes_mk (tail := encode cs2 ++ s.buf.drop s.len)
    ((buf_eq s).trans (by rw [h.2, encode_append, List.append_assoc])) hn

theorem pop_nil (s : State) (h : Holds s []) : pop s = .ok none s := by
  unfold pop; rw [h.2]; rfl

theorem pop_snoc (s : State) (cs : List Char) (c : Char) (h : Holds s (cs ++ [c])) :
    ∃ s', pop s = .ok (some c) s' ∧ Holds s' cs := by
  unfold pop
  rw [h.2, lastChar_snoc]
  exact ⟨_, rfl, holds_setLen h (by rw [h.len, encode_append, encode_singleton, List.length_append,
    encodeChar_length, Nat.add_sub_cancel])⟩

theorem truncate_ok (s : State) (n : Nat) (cs1 cs2 : List Char) (h : Holds s (cs1 ++ cs2))
    (hn : (encode cs1).length = n) :
    ∃ s', truncate s n = .ok () s' ∧ Holds s' cs1 := by
  unfold truncate
  rw [if_pos (by rw [h.len, encode_append, List.length_append]; omega), (boundaryOk_iff h n).2 ⟨cs1, cs2, rfl, hn⟩]
  exact ⟨_, rfl, holds_setLen h hn.symm⟩

theorem truncate_panic (s : State) (n : Nat) (cs : List Char) (h : Holds s cs) (hle : n ≤ s.len)
    (hn : ¬ CharPos cs n) : truncate s n = .panic s := by
  unfold truncate
  rw [if_pos hle, boundaryOk_false h hn]; rfl

theorem truncate_beyond (s : State) (n : Nat) (hn : s.len < n) : truncate s n = .ok () s := by
  unfold truncate; rw [if_neg (by omega)]

theorem clear_spec (s : State) : ∃ s', clear s = .ok () s' ∧ Holds s' [] :=
  ⟨_, rfl, by unfold WFL; simp, by simp [State.bytes]⟩

theorem remove_ok (s : State) (idx : Nat) (c : Char) (cs1 cs2 : List Char)
    (h : Holds s (cs1 ++ c :: cs2)) (hi : (encode cs1).length = idx) :
    ∃ s', remove s idx = .ok c s' ∧ Holds s' (cs1 ++ cs2) := by
  subst hi
  have hb : s.bytes = encode cs1 ++ encodeChar c ++ encode cs2 := by
    rw [h.2, encode_append, encode_cons, List.append_assoc]
  have hl := len_eq_of_bytes h.1 hb
  rw [encodeChar_length] at hl
  unfold remove
  rw [(boundaryOk_iff h _).2 ⟨cs1, c :: cs2, rfl, rfl⟩]
  simp only [Bool.not_true, Bool.false_eq_true, ↓reduceIte]
  rw [hb, List.append_assoc, List.drop_left, decodeFirst_encodeChar_append]
  simp only
  obtain ⟨b, hc, hw, hby⟩ := closeGap hb (src := (encode cs1).length + c.utf8Size)
    (n := s.len - ((encode cs1).length + c.utf8Size))
    (m := s.len - ((encode cs1).length + c.utf8Size - (encode cs1).length))
    (by rw [encodeChar_length]) (by omega) (by omega)
  rw [hc]
  exact ⟨_, rfl, hw, hby.trans (encode_append cs1 cs2).symm⟩

theorem remove_panic (s : State) (idx : Nat) (cs : List Char) (h : Holds s cs)
    (hi : ¬ CharPos cs idx ∨ s.len ≤ idx) : remove s idx = .panic s := by
  unfold remove
  cases hbb : boundaryOk s idx with
  | false => rfl
  | true =>
    have hcp := (boundaryOk_iff h idx).1 hbb
    rcases hi with hi | hi
    · exact absurd hcp hi
    · have hle := charPos_le hcp
      rw [← h.len] at hle
      have : s.bytes.drop idx = [] := by
        apply List.drop_of_length_le; rw [bytes_length h.1]; exact hi
      rw [this]
      simp [decodeFirst]

/-- the panic condition shared by the range operations: the range does not resolve (bound
    overflow, start > end, end > len) or one of its ends is not on a character boundary -/
def RangeBad (cs : List Char) (sb eb : Bound) (len : Nat) : Prop :=
  sliceRange sb eb len = none ∨ ∃ a b, sliceRange sb eb len = some (a, b) ∧ (¬ CharPos cs a ∨ ¬ CharPos cs b)

theorem range_split {s : State} {cs1 cs2 cs3 : List Char} (h : Holds s (cs1 ++ cs2 ++ cs3)) {a b : Nat}
    (ha : (encode cs1).length = a) (hb : (encode (cs1 ++ cs2)).length = b) :
    s.bytes = encode cs1 ++ encode cs2 ++ encode cs3 ∧ a = (encode cs1).length ∧
      b = (encode cs1).length + (encode cs2).length ∧ boundaryOk s a = true ∧ boundaryOk s b = true :=
  ⟨by rw [h.2, encode_append, encode_append], ha.symm, by rw [← hb, encode_append, List.length_append],
    (boundaryOk_iff h a).2 ⟨cs1, cs2 ++ cs3, by rw [List.append_assoc], ha⟩,
    (boundaryOk_iff h b).2 ⟨cs1 ++ cs2, cs3, rfl, hb⟩⟩

/-- the head every range operation starts with: `slice::range`, then `assert_char_boundary` at both ends.  `drain`,
    `replaceRange`, `extendFromWithin` are `rangeChecked s sb eb k` for their `k`, by unfolding. -/
def rangeChecked {α : Type} (s : State) (sb eb : Bound) (k : Nat → Nat → Res α) : Res α :=
  match sliceRange sb eb s.len with
  | none => .panic s
  | some (a, b) => if !boundaryOk s a then .panic s else if !boundaryOk s b then .panic s else k a b

theorem rangeChecked_bad {α : Type} {s : State} {cs : List Char} {sb eb : Bound} (h : Holds s cs)
    (hp : RangeBad cs sb eb s.len) (k : Nat → Nat → Res α) : rangeChecked s sb eb k = .panic s := by
  unfold rangeChecked
  rcases hp with hn | ⟨a, b, hr, hab⟩
  · rw [hn]
  · rw [hr]
    by_cases ha : CharPos cs a
    · simp only [(boundaryOk_iff h a).2 ha, boundaryOk_false h (hab.resolve_left (not_not_intro ha))]; rfl
    · simp only [boundaryOk_false h ha]; rfl

theorem drain_ok (s : State) (sb eb : Bound) (k a b : Nat) (cs1 cs2 cs3 : List Char)
    (h : Holds s (cs1 ++ cs2 ++ cs3)) (hr : sliceRange sb eb s.len = some (a, b))
    (ha : (encode cs1).length = a) (hb : (encode (cs1 ++ cs2)).length = b) :
    ∃ s', drain s sb eb k = .ok (cs2.take k) s' ∧ Holds s' (cs1 ++ cs3) := by
  obtain ⟨hbytes, rfl, rfl, hx, hy⟩ := range_split h ha hb
  have hl := len_eq_of_bytes h.1 hbytes
  obtain ⟨s', hd, hw, hby⟩ := vecDrainDrop_spec s _ _ _ h.1 hbytes
  unfold drain
  rw [hr]
  simp only [hx, hy, Bool.not_true, Bool.false_eq_true, ↓reduceIte]
  rw [hbytes, List.append_assoc, List.drop_left, Nat.add_sub_cancel_left, List.take_left, decode_encode]
  simp only
  rw [if_pos ⟨by omega, by omega⟩, hd]
  exact ⟨s', rfl, hw, hby.trans (encode_append cs1 cs3).symm⟩

theorem drain_panic (s : State) (sb eb : Bound) (k : Nat) (cs : List Char) (h : Holds s cs)
    (hp : RangeBad cs sb eb s.len) : drain s sb eb k = .panic s :=
  rangeChecked_bad h hp _

theorem replaceRange_ok (al : Alloc) (s : State) (sb eb : Bound) (t : List Char) (a b : Nat)
    (cs1 cs2 cs3 : List Char) (h : Holds s (cs1 ++ cs2 ++ cs3)) (hr : sliceRange sb eb s.len = some (a, b))
    (ha : (encode cs1).length = a) (hb : (encode (cs1 ++ cs2)).length = b) :
    GrowsToText al s ((encode t).length - (encode cs2).length) (replaceRange al s sb eb (encode t))
      (cs1 ++ t ++ cs3) := by
  obtain ⟨hbytes, rfl, rfl, hx, hy⟩ := range_split h ha hb
  exact (replaceRange_bytes al s sb eb (encode t) _ _ _ h.1 hbytes hr hx hy).text
    (by rw [encode_append, encode_append])

theorem replaceRange_panic (al : Alloc) (s : State) (sb eb : Bound) (str : Bytes) (cs : List Char) (h : Holds s cs)
    (hp : RangeBad cs sb eb s.len) : replaceRange al s sb eb str = .panic s :=
  rangeChecked_bad h hp _

theorem extendFromWithin_ok (al : Alloc) (s : State) (sb eb : Bound) (a b : Nat)
    (cs1 cs2 cs3 : List Char) (h : Holds s (cs1 ++ cs2 ++ cs3)) (hr : sliceRange sb eb s.len = some (a, b))
    (ha : (encode cs1).length = a) (hb : (encode (cs1 ++ cs2)).length = b) :
    GrowsToText al s (encode cs2).length (extendFromWithin al s sb eb) (cs1 ++ cs2 ++ cs3 ++ cs2) := by
  obtain ⟨hbytes, rfl, rfl, hx, hy⟩ := range_split h ha hb
  exact (extendFromWithin_bytes al s sb eb _ _ _ h.1 hbytes hr hx hy).text
    (by rw [encode_append, encode_append, encode_append])

theorem extendFromWithin_panic (al : Alloc) (s : State) (sb eb : Bound) (cs : List Char) (h : Holds s cs)
    (hp : RangeBad cs sb eb s.len) : extendFromWithin al s sb eb = .panic s :=
  rangeChecked_bad h hp _

theorem splitOff_ok (f : Bool) (s : State) (sb eb : Bound) (a b : Nat) (cs1 cs2 cs3 : List Char)
    (h : Holds s (cs1 ++ cs2 ++ cs3)) (hr : sliceRange sb eb s.len = some (a, b))
    (ha : (encode cs1).length = a) (hb : (encode (cs1 ++ cs2)).length = b) :
    ∃ o s', splitOff f s sb eb = .ok o s' ∧ Holds o cs2 ∧ Holds s' (cs1 ++ cs3) ∧ o.cap + s'.cap = s.cap := by
  obtain ⟨hbytes, rfl, rfl, hx, hy⟩ := range_split h ha hb
  obtain ⟨o, s', hs, hwo, hws, hbo, hbs, hcap⟩ := splitOff_bytes f s sb eb _ _ _ h.1 hbytes hr hx hy
  exact ⟨o, s', hs, ⟨hwo, hbo⟩, ⟨hws, hbs.trans (encode_append cs1 cs3).symm⟩, hcap⟩

theorem holds_boundary_zero {s : State} {cs : List Char} (h : Holds s cs) : boundaryOk s 0 = true :=
  (boundaryOk_iff h 0).2 (charPos_zero cs)

theorem holds_boundary_len {s : State} {cs : List Char} (h : Holds s cs) : boundaryOk s s.len = true := by
  rw [boundaryOk_iff h, h.len]; exact charPos_len cs

/-- a bad range panics.  `f = true` is the repaired order (assertions before the `start == end` return);
    the order before the fix (`f = false`) does the same EXCEPT for an empty range strictly inside the string -/
theorem splitOff_panic (f : Bool) {s : State} {sb eb : Bound} {cs : List Char} (h : Holds s cs)
    (hp : RangeBad cs sb eb s.len)
    (hne : f = false → ∀ a, sliceRange sb eb s.len = some (a, a) → a = 0 ∨ a = s.len) :
    splitOff f s sb eb = .panic s := by
  unfold splitOff
  rcases hp with hn | ⟨a, b, hr, hp⟩
  · simp only [hn]
  simp only [hr]
  by_cases h1 : b = s.len
  · have ha : ¬ CharPos cs a := hp.resolve_right (not_not_intro (by rw [h1, h.len]; exact charPos_len cs))
    rw [if_pos h1, boundaryOk_false h ha]; rfl
  · rw [if_neg h1]
    by_cases h2 : a = 0
    · have hb : ¬ CharPos cs b := hp.resolve_left (not_not_intro (by rw [h2]; exact charPos_zero cs))
      rw [if_pos h2, boundaryOk_false h hb]; rfl
    · have h3 : (!f && decide (a = b)) = false := by
        cases f
        · simpa using fun h3 : a = b => by subst h3; exact (hne rfl a hr).elim h2 h1
        · rfl
      rw [if_neg h2, h3]
      by_cases ha : CharPos cs a
      · rw [(boundaryOk_iff h a).2 ha, boundaryOk_false h (hp.resolve_left (not_not_intro ha))]; rfl
      · rw [boundaryOk_false h ha]; rfl

/-- finding C09-a (order before the fix): an empty range strictly inside the string returns the
    empty string and leaves the string alone, whether or not the index is on a character boundary -/
theorem splitOff_unfixed_empty (s : State) (sb eb : Bound) (a : Nat)
    (hr : sliceRange sb eb s.len = some (a, a)) (h0 : a ≠ 0) (hl : a ≠ s.len) :
    splitOff false s sb eb = .ok { buf := [], len := 0 } s := by
  unfold splitOff
  simp only [hr]
  rw [if_neg hl, if_neg h0]
  simp

theorem charPos_split3 {cs : List Char} {a b : Nat} (ha : CharPos cs a) (hb : CharPos cs b) (hab : a ≤ b) :
    ∃ cs1 cs2 cs3, cs = cs1 ++ cs2 ++ cs3 ∧ (encode cs1).length = a ∧ (encode (cs1 ++ cs2)).length = b := by
  obtain ⟨x1, y1, h1, rfl⟩ := ha
  obtain ⟨x2, y2, h2, rfl⟩ := hb
  obtain ⟨m, rfl, rfl⟩ := split_le (h1.symm.trans h2) hab
  exact ⟨x1, m, y2, by rw [h1, List.append_assoc], rfl, rfl⟩

/-- the case split every theorem about a range operation starts from -/
theorem rangeBad_or_split (cs : List Char) (sb eb : Bound) (len : Nat) :
    RangeBad cs sb eb len ∨
    ∃ a b cs1 cs2 cs3, sliceRange sb eb len = some (a, b) ∧ cs = cs1 ++ cs2 ++ cs3 ∧
      (encode cs1).length = a ∧ (encode (cs1 ++ cs2)).length = b := by
  cases hr : sliceRange sb eb len with
  | none => exact Or.inl (Or.inl hr)
  | some p =>
    obtain ⟨a, b⟩ := p
    by_cases ha : CharPos cs a
    · by_cases hb : CharPos cs b
      · obtain ⟨c1, c2, c3, he, h1, h2⟩ := charPos_split3 ha hb (sliceRange_some hr).1
        exact Or.inr ⟨a, b, c1, c2, c3, rfl, he, h1, h2⟩
      · exact Or.inl (Or.inr ⟨a, b, hr, Or.inr hb⟩)
    · exact Or.inl (Or.inr ⟨a, b, hr, Or.inl ha⟩)

theorem not_rangeBad_of_split {cs : List Char} {sb eb : Bound} {len a b : Nat} {cs1 cs2 cs3 : List Char}
    (hr : sliceRange sb eb len = some (a, b)) (he : cs = cs1 ++ cs2 ++ cs3)
    (ha : (encode cs1).length = a) (hb : (encode (cs1 ++ cs2)).length = b) : ¬ RangeBad cs sb eb len := by
  rintro (hn | ⟨a', b', hr', hp⟩)
  · rw [hn] at hr; simp at hr
  · rw [hr] at hr'
    simp only [Option.some.injEq, Prod.mk.injEq] at hr'
    obtain ⟨rfl, rfl⟩ := hr'
    rcases hp with hp | hp
    · exact hp ⟨cs1, cs2 ++ cs3, by rw [he, List.append_assoc], ha⟩
    · exact hp ⟨cs1 ++ cs2, cs3, he, hb⟩

/-- `split_off` in either order of the checks panics exactly on a bad range, except that the order before the
    fix (`f = false`) does not panic on an empty range strictly inside the string -/
theorem splitOff_isPanic (f : Bool) {s : State} {sb eb : Bound} {cs : List Char} (h : Holds s cs) :
    (splitOff f s sb eb).isPanic = true ↔ RangeBad cs sb eb s.len ∧
      (f = false → ∀ a, sliceRange sb eb s.len = some (a, a) → a = 0 ∨ a = s.len) := by
  rcases rangeBad_or_split cs sb eb s.len with hb | ⟨a, b, c1, c2, c3, hr, rfl, h1, h2⟩
  · by_cases hne : f = false → ∀ a, sliceRange sb eb s.len = some (a, a) → a = 0 ∨ a = s.len
    · rw [splitOff_panic f h hb hne]; exact ⟨fun _ => ⟨hb, hne⟩, fun _ => rfl⟩
    · obtain ⟨rfl, hex⟩ := Classical.not_imp.1 hne
      obtain ⟨a, h0⟩ := Classical.not_forall.1 hex
      obtain ⟨hr, hz⟩ := Classical.not_imp.1 h0
      rw [splitOff_unfixed_empty s sb eb a hr (fun e => hz (Or.inl e)) (fun e => hz (Or.inr e))]
      exact ⟨fun hp => (nomatch hp), fun hx => absurd hx.2 hne⟩
  · obtain ⟨o, s', hs, _⟩ := splitOff_ok f s sb eb a b c1 c2 c3 h hr h1 h2
    rw [hs]
    exact ⟨fun hp => (nomatch hp), fun hx => absurd hx.1 (not_rangeBad_of_split hr rfl h1 h2)⟩

/-- how the `_panics_iff` theorems of the range operations are put together: a bad range gives `panic s`,
    a range that splits the characters gives no panic -/
theorem isPanic_iff_rangeBad {α : Type} {r : Res α} {s : State} {cs : List Char} {sb eb : Bound} (h : Holds s cs)
    (hbad : RangeBad cs sb eb s.len → r = .panic s)
    (hok : ∀ a b c1 c2 c3, sliceRange sb eb s.len = some (a, b) → Holds s (c1 ++ c2 ++ c3) → (encode c1).length = a →
      (encode (c1 ++ c2)).length = b → r.isPanic = false) :
    r.isPanic = true ↔ RangeBad cs sb eb s.len := by
  rcases rangeBad_or_split cs sb eb s.len with hb | ⟨a, b, c1, c2, c3, hr, rfl, h1, h2⟩
  · rw [hbad hb]; exact ⟨fun _ => hb, fun _ => rfl⟩
  · rw [hok a b c1 c2 c3 hr h h1 h2]
    exact ⟨fun hf => (nomatch hf), fun hb => absurd hb (not_rangeBad_of_split hr rfl h1 h2)⟩

theorem reserveExact_no_grow (al : Alloc) (s : State) (n : Nat) (h : n ≤ s.cap - s.len) :
    reserveExact al s n = some s := by
  unfold reserveExact; rw [if_pos (by simpa [State.cap] using h)]

theorem reserveOp_spec (al : Alloc) (s : State) (n : Nat) (cs : List Char) (h : Holds s cs) :
    if al.isFixed = true ∧ s.cap - s.len < n then reserveOp al s n = .err s
    else ∃ s', reserveOp al s n = .ok () s' ∧ Holds s' cs ∧ n ≤ s'.cap - s'.len ∧ CapAfter al s n s'.cap := by
  unfold reserveOp
  exact ite_mono (reserve_cases al s n h.1) (fun hc => by rw [hc]) fun ⟨ext, hr, hroom, hcap⟩ => by
    rw [hr]
    exact ⟨_, rfl, h.append_buf ext, Nat.le_sub_of_add_le' hroom, hcap⟩

theorem reserveExactOp_spec (al : Alloc) (s : State) (n : Nat) (cs : List Char) (h : Holds s cs) :
    if al.isFixed = true ∧ s.cap - s.len < n then reserveExactOp al s n = .err s
    else ∃ s', reserveExactOp al s n = .ok () s' ∧ Holds s' cs ∧ n ≤ s'.cap - s'.len ∧
      (n ≤ s.cap - s.len → s' = s) ∧ (s.cap - s.len < n → al = .exact → s'.cap = s.len + n) := by
  unfold reserveExactOp reserveExact
  exact ite_mono (reserveTo_cases al s n (s.len + n) h.1 (Nat.le_refl _)) (fun hc => by rw [hc])
    fun ⟨ext, hr, hroom, h0, hg⟩ => by
      rw [hr]
      exact ⟨_, rfl, h.append_buf ext, Nat.le_sub_of_add_le' hroom, fun hle => by rw [h0 hle, List.append_nil],
        fun hlt he => by subst he; exact hg hlt⟩

theorem withCapacity_spec (al : Alloc) (c : Nat) :
    Holds (withCapacity al c) [] ∧ c ≤ (withCapacity al c).cap ∧
      ((∀ g, al ≠ .atLeast g) → (withCapacity al c).cap = c) := by
  unfold withCapacity
  by_cases h0 : c = 0
  · subst h0; simp [Holds, WFL, State.bytes, State.cap]
  · rw [if_neg h0]
    cases al with
    | fixed => simp [Holds, WFL, State.bytes, State.cap]
    | exact => simp [Holds, WFL, State.bytes, State.cap]
    | atLeast g =>
      refine ⟨⟨by simp [WFL], by simp [State.bytes]⟩, by simp [State.cap]; omega, fun hx => absurd rfl (hx g)⟩

end Str
