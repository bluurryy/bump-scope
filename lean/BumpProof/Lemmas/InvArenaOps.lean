/-
  Lemmas/InvArenaOps.lean — preservation of `Arena.Hist.Inv` by: minimum-alignment regions
  (`aligned`, `scoped_aligned`, `with_settings`), `deallocate`, `drop`, `reset`, `reset_to_start`,
  and the constructors.
-/
import BumpProof.Lemmas.InvAfter
import BumpProof.Props.C18


namespace Arena.Hist
open Rs

variable {cfg : Cfg}

/-- the state after a position-only change `s'` of `g.s`, switched to minimum alignment `n`, with frames
    `fs` / marks `ms` -/
theorem inv_realign {g : GState} (h : Inv cfg g) {n : Nat} {s' : State}
    (hg : GeomInv cfg { s' with minAlign := n }) (hsh : SameShape g.s s') (hcur : s'.cur = g.s.cur)
    (hl : Mem.LiveOK cfg s') (hst : Stable g.s s') (hprep : g.s.prepared = none)
    {fs : List Frame} {ms : List Nat} (hfr : FramesOK cfg g.s n fs ms) (hms : ∀ x ∈ ms, x ≤ g.s.nextId) :
    Inv cfg ⟨{ s' with frames := fs, minAlign := n }, ms⟩ :=
  h.after hg (disj_congr (s := s') rfl (hsh.disjoint h.disj))
    ⟨⟨hst.live, hst.frames, hst.nextId, hst.userCps, hst.prepared, hst.cov⟩, fun hu => ⟨hcur ▸ hu, hsh⟩, Or.inl hcur⟩
    (l := s'.live) (fun _ hb => hb) (liveOK_congr (s := s') rfl rfl rfl hl) hfr hms
    (cps := s'.userCps) (fun x hx => Or.inl (hst.userCps ▸ hx))
    (q' := s'.prepared) (fun q hq => by rw [hst.prepared, hprep] at hq; cases hq)

theorem inv_after_alignTo {g : GState} (h : Inv cfg g) {n : Nat} (hn : MinAlignOK n) {s' : State}
    (ha : alignTo cfg g.s n = .ok s') (hprep : g.s.prepared = none)
    {fs : List Frame} {ms : List Nat} (hfr : FramesOK cfg g.s n fs ms) (hms : ∀ x ∈ ms, x ≤ g.s.nextId) :
    Inv cfg ⟨{ s' with frames := fs, minAlign := n }, ms⟩ := by
  obtain ⟨_, g2, g3, g4, _⟩ := C10.alignTo_inv h.cfgOK h.geom hn ha
  exact inv_realign h g2 g3 g4 (liveOK_alignPos h.live hn (Fn.alignTo_cases ha)) (Stable.of_path (Fn.alignTo_path ha)) hprep hfr hms

/-- the current chunk of a well-formed state is an admissible `start` of a `BumpAlignGuard` -/
theorem startOK_cur {s : State} (h : GeomInv cfg s) : StartOK s s.cur := by
  cases hc : s.cur with
  | chunk i =>
    obtain ⟨c, hi, _⟩ := h.cur i hc
    exact ⟨c, hi⟩
  | unallocated => trivial
  | claimed => trivial

theorem inv_alignedEnter {g g' : GState} {out : Out} {n : Nat} (h : Inv cfg g)
    (hs : stepCore cfg g (.alignedEnter n) = .ok (g', out)) : Inv cfg g' := by
  obtain ⟨hp, hn, _, ⟨hlt, rfl⟩ | ⟨hge, s1, ha, rfl⟩⟩ := ok_alignedEnter hs
  · have hfr : FramesOK cfg g.s n (.alignedLower g.s.minAlign g.s.cur :: g.s.frames) g.marks := by
      simp only [FramesOK]; exact ⟨h.geom.minAlign, startOK_cur h.geom, h.frames⟩
    exact inv_realign (s' := g.s) h (C18.lower_minAlign h.geom hn (Nat.le_of_lt hlt)) (SameShape.refl _) rfl h.live
      (Stable.refl _) hp hfr h.marks
  · have hfr : FramesOK cfg g.s n (.alignedRaise g.s.minAlign :: g.s.frames) g.marks := by
      simp only [FramesOK]; exact ⟨h.geom.minAlign, hge, h.frames⟩
    exact inv_after_alignTo h hn ha hp hfr h.marks

theorem inv_alignedExit {g g' : GState} {out : Out} (h : Inv cfg g)
    (hs : stepCore cfg g .alignedExit = .ok (g', out)) : Inv cfg g' := by
  obtain ⟨hp, _, ⟨outer, start, rest, s1, s2, hfr, h1, h2, rfl⟩ | ⟨outer, rest, hfr, rfl⟩⟩ := ok_alignedExit hs
  · have hf := h.frames
    rw [hfr] at hf
    obtain ⟨g1, g2, g3, g4, _⟩ := C10.alignGuardDrop_inv h.cfgOK h.geom hf.1 h1
    obtain ⟨_, k2, k3, k4, _⟩ := C10.alignChunkAt_inv h.cfgOK g1 hf.1 h2
    exact inv_realign h (k2 g2) (g3.trans k3) (k4.trans g4)
      (liveOK_alignChunkAt (liveOK_alignPos h.live hf.1 (Fn.alignGuardDrop_cases h1)) h2)
      ((Stable.of_path (Fn.alignGuardDrop_path h1)).trans (Stable.of_path (Fn.alignChunkAt_path h2))) hp hf.2.2 h.marks
  · have hf := h.frames
    rw [hfr] at hf
    exact inv_realign (s' := g.s) h (C18.lower_minAlign h.geom hf.1 hf.2.1) (SameShape.refl _) rfl h.live
      (Stable.refl _) hp hf.2.2 h.marks

theorem inv_scopedAlignedEnter {g g' : GState} {out : Out} {n : Nat} (h : Inv cfg g)
    (hs : stepCore cfg g (.scopedAlignedEnter n) = .ok (g', out)) : Inv cfg g' := by
  obtain ⟨hp, hn, s1, ha, rfl, _⟩ := ok_scopedAlignedEnter hs
  have hfr : FramesOK cfg g.s n (.scopedAligned (checkpoint cfg g.s) g.s.minAlign :: g.s.frames)
      (g.s.nextId :: g.marks) := by
    simp only [FramesOK]; exact ⟨h.geom.minAlign, cpOK_checkpoint h, h.frames⟩
  refine inv_after_alignTo h hn ha hp hfr ?_
  intro x hx
  rcases List.mem_cons.mp hx with rfl | hx
  · exact Nat.le_refl _
  · exact h.marks x hx

theorem marks_nil {g : GState} (h : Inv cfg g) (hf : g.s.frames = []) : g.marks = [] := by
  have := h.frames
  rw [hf] at this
  exact this.nil_marks

theorem inv_withSettings {g g' : GState} {out : Out} {n : Nat} {ga cl : Bool} (h : Inv cfg g)
    (hs : stepCore cfg g (.withSettings n ga cl) = .ok (g', out)) : Inv cfg g' := by
  obtain ⟨hf0, hp, hn, ⟨rfl, _⟩ | ⟨s1, ha, rfl, _⟩⟩ := ok_withSettings hs
  · exact h
  · have hfr : FramesOK cfg g.s n [] g.marks := by rw [marks_nil h hf0]; simp only [FramesOK]
    have := inv_after_alignTo h hn ha hp hfr h.marks
    rwa [show ({ s1 with frames := [], minAlign := n } : State) = { s1 with minAlign := n } by
      rw [← (Stable.of_path (Fn.alignTo_path ha)).frames.trans hf0]] at this

theorem inv_deallocate {g g' : GState} {out : Out} {b : Nat} {via : Via} (h : Inv cfg g)
    (hs : stepCore cfg g (.deallocate b via) = .ok (g', out)) : Inv cfg g' := by
  have hlive := C01.stepCore_deallocate h.live h.geom.minAlign hs
  obtain ⟨hp, blk, hblk, s1, h1, rfl, _⟩ := ok_deallocate hs
  by_cases hv : (via == .withoutDealloc) = true
  · rw [if_pos hv] at h1
    cases h1
    exact h.dropBlock b
  · rw [if_neg hv] at h1
    obtain ⟨g1, g2, g3, g4, _⟩ := C10.deallocate_inv h.cfgOK h.geom (h.blockInCur (Mem.findBlock_ok hblk).1) h1
    exact inv_of_stable_drop h b hp g1 (g2.disjoint h.disj) g4 (Stable.of_path (Fn.deallocate_path h1)) (fun hu => ⟨g3 ▸ hu, g2⟩)
      (Or.inl g3) hlive

/-- everything handed out is gone; the arena is as it was, or backed by a chunk, or has given up all its chunks -/
theorem inv_cleared {g : GState} (h : Inv cfg g) {s' : State} (hg : GeomInv cfg s') (hd : ChunksDisjoint s')
    (hcase : (s'.chunks = g.s.chunks ∧ s'.cur = g.s.cur) ∨ (∃ j, s'.cur = .chunk j) ∨
      (s'.chunks = [] ∧ s'.cur = .unallocated))
    (hfr : s'.frames = []) (hp : s'.prepared = none) :
    Inv cfg ⟨{ s' with live := [], userCps := [] }, []⟩ := by
  refine ⟨h.cfgOK, geom_congr (s := s') rfl rfl rfl hg, disj_congr (s := s') rfl hd, liveOK_nil rfl, ?_, ?_, fun _ => rfl,
    (fun b hb => by cases hb), (fun b hb => by cases hb), ?_, (fun m hm => by cases hm), (fun x hx => by cases hx), fun p hp' => ?_⟩
  · rcases hcase with ⟨c1, c2⟩ | ⟨j, hj⟩ | ⟨c1, _⟩
    · exact fun hu => c1.trans (h.unalloc (c2 ▸ hu))
    · intro hu; rw [show s'.cur = _ from hj] at hu; cases hu
    · exact fun _ => c1
  · rcases hcase with ⟨_, c2⟩ | ⟨j, hj⟩ | ⟨_, c2⟩
    · exact fun hu => h.notClaimed (c2 ▸ hu)
    · intro hu; rw [show s'.cur = _ from hj] at hu; cases hu
    · intro hu; rw [show s'.cur = _ from c2] at hu; cases hu
  · show FramesOK cfg _ s'.minAlign s'.frames []
    rw [hfr]; simp only [FramesOK]
  · rw [show ({ s' with live := [], userCps := [] } : State).prepared = s'.prepared from rfl, hp] at hp'
    cases hp'

theorem manuallyDrop_cases (cfg : Cfg) (s : State) :
    (manuallyDrop cfg s).frames = s.frames ∧ (manuallyDrop cfg s).prepared = s.prepared ∧
    (((manuallyDrop cfg s).chunks = s.chunks ∧ (manuallyDrop cfg s).cur = s.cur) ∨
     ((manuallyDrop cfg s).chunks = [] ∧ (manuallyDrop cfg s).cur = .unallocated)) := by
  unfold manuallyDrop
  split
  · exact ⟨rfl, rfl, Or.inr ⟨rfl, rfl⟩⟩
  · exact ⟨rfl, rfl, Or.inl ⟨rfl, rfl⟩⟩

theorem inv_drop {g g' : GState} {out : Out} (h : Inv cfg g)
    (hs : stepCore cfg g .drop = .ok (g', out)) : Inv cfg g' := by
  obtain ⟨hf0, hp, rfl, _⟩ := ok_drop hs
  rw [marks_nil h hf0]
  obtain ⟨e1, e2, e3⟩ := manuallyDrop_cases cfg g.s
  refine inv_cleared h (C10.manuallyDrop_inv h.geom) ?_ (e3.imp id Or.inr) (e1.trans hf0) (e2.trans hp)
  rcases e3 with ⟨c1, _⟩ | ⟨c1, _⟩
  · exact disj_congr c1 h.disj
  · intro i j a b _ ha _; rw [c1] at ha; cases ha

theorem reset_cases (cfg : Cfg) (s : State) :
    (reset cfg s).frames = s.frames ∧ (reset cfg s).prepared = s.prepared ∧
    (((reset cfg s).chunks = s.chunks ∧ (reset cfg s).cur = s.cur) ∨ ∃ j, (reset cfg s).cur = .chunk j) := by
  unfold reset
  split
  · split
    · exact ⟨rfl, rfl, Or.inl ⟨rfl, rfl⟩⟩
    · exact ⟨rfl, rfl, Or.inr ⟨0, rfl⟩⟩
  · exact ⟨rfl, rfl, Or.inl ⟨rfl, rfl⟩⟩

theorem inv_reset {g g' : GState} {out : Out} (h : Inv cfg g)
    (hs : stepCore cfg g .reset = .ok (g', out)) : Inv cfg g' := by
  obtain ⟨hf0, hp, rfl, _⟩ := ok_reset hs
  rw [marks_nil h hf0]
  obtain ⟨e1, e2, e3⟩ := reset_cases cfg g.s
  exact inv_cleared h (C10.reset_inv h.cfgOK h.geom) (C10.reset_disjoint h.disj) (e3.imp id Or.inl)
    (e1.trans hf0) (e2.trans hp)

theorem inv_resetToStart {g g' : GState} {out : Out} (h : Inv cfg g)
    (hs : stepCore cfg g .resetToStart = .ok (g', out)) : Inv cfg g' := by
  obtain ⟨hf0, hp, rfl, _⟩ := ok_resetToStart hs
  rw [marks_nil h hf0]
  have hst := Stable.of_path (Fn.resetToStart_path cfg g.s)
  obtain ⟨g1, g2⟩ := C10.resetToStart_inv (cfg := cfg) h.cfgOK h.geom
  refine inv_cleared h g1 (g2.disjoint h.disj) ?_ (hst.frames.trans hf0) (hst.prepared.trans hp)
  rcases resetToStart_cases cfg g.s with c | ⟨i, c0, rest, _, _, c⟩
  · rw [c]; exact Or.inl ⟨rfl, rfl⟩
  · rw [c]; exact Or.inr (Or.inl ⟨0, rfl⟩)

/-- a successful or refused `newChunk`-like call on a pristine (unallocated, empty) arena -/
theorem inv_after_new {g : GState} (h : Inv cfg g) (hf : RespsFresh g.s) (hcur : g.s.cur = .unallocated)
    {s' : State} {r : Except AErr Nat} (p : NewPost cfg g.s s' r) (hst : Stable g.s s') :
    (∀ e, r = .error e → Inv cfg ⟨s', g.marks⟩) ∧
    (∀ i, r = .ok i → Inv cfg ⟨{ s' with cur := .chunk i }, g.marks⟩) := by
  have hl : s'.live = [] := hst.live.trans (h.liveCur hcur)
  have hd := (p.trace.disjoint h.disj hf).1
  -- a prepared range lies in a chunk
  have hp : g.s.prepared = none := by
    cases hq : g.s.prepared with
    | none => rfl
    | some q =>
      obtain ⟨i, c, hi, _⟩ := (h.prep q hq).range
      rw [hcur] at hi; cases hi
  constructor
  · intro e he
    exact inv_of_stable h hp p.inv hd p.minAlign hst
      (fun hu => ⟨p.cur ▸ hu, congrArg (List.map Chunk.shape) (p.err e he)⟩) (Or.inl p.cur) (liveOK_nil hl)
  · intro i hi
    subst hi
    exact inv_of_stable h hp p.withCur (disj_congr (s := s') rfl hd) p.minAlign (hst.trans (Stable.withCur s' _))
      (fun hu => by cases hu) (Or.inr ⟨i, rfl⟩) (liveOK_nil hl)

/-- needs no bound on `n`: the size computation answers `none` for a hint that does not fit -/
theorem inv_newWithSize {g g' : GState} {out : Out} {n : Nat} (h : Inv cfg g)
    (hr : RespsOK cfg g.s) (hf : RespsFresh g.s)
    (hs : stepCore cfg g (.newWithSize n) = .ok (g', out)) : Inv cfg g' := by
  obtain ⟨_, hcur, o, ho, hrest⟩ := ok_newWithSize hs
  cases o with
  | none =>
    obtain ⟨rfl, _⟩ := hrest
    exact h
  | some size =>
    obtain ⟨s1, r, hx, hrest⟩ := hrest
    rw [Fn.calcSize_eq h.cfgOK.hdr] at ho
    obtain ⟨_, _, hsz, _, _⟩ := C12.calcSize_some h.cfgOK.hdr (Except.ok.inj ho)
    obtain ⟨k1, k2⟩ := inv_after_new h hf hcur (newChunk_post h.cfgOK h.geom hr hsz hx).1
      (Stable.of_path (Fn.newChunk_path hx))
    cases r with
    | error e => obtain ⟨rfl, _⟩ := hrest; exact k1 e rfl
    | ok i => obtain ⟨rfl, _⟩ := hrest; exact k2 i rfl

theorem inv_newWithCapacity {g g' : GState} {out : Out} {L : Layout} (h : Inv cfg g)
    (hr : RespsOK cfg g.s) (hf : RespsFresh g.s)
    (hs : stepCore cfg g (.newWithCapacity L) = .ok (g', out)) : Inv cfg g' := by
  obtain ⟨hL, _, hcur, s1, r, hx, hrest⟩ := ok_newWithCapacity hs
  obtain ⟨k1, k2⟩ := inv_after_new h hf hcur ((newChunkForCapacity_post h.cfgOK h.geom hr hL).1 s1 r hx)
    (Stable.of_path (Fn.newChunkForCapacity_path hx))
  cases r with
  | error e => obtain ⟨rfl, _⟩ := hrest; exact k1 e rfl
  | ok i => obtain ⟨rfl, _⟩ := hrest; exact k2 i rfl

end Arena.Hist
