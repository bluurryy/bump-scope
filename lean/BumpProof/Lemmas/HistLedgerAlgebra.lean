/-
  Lemmas/HistLedgerAlgebra.lean — algebra of the base-allocator ledger: `Matched`; the ledger equation `Led` with its
  composition law, of which `Balanced` is the instance "from nothing owned"; `runLog`.
-/
import BumpProof.Arena.Hist

set_option linter.unusedSimpArgs false
set_option linter.unusedVariables false

namespace Arena.Hist
open Rs

variable {cfg : Cfg}

theorem Matched.append {α β : Type} {R : α → β → Prop} {a c : List α} {b d : List β}
    (h1 : Matched R a b) (h2 : Matched R c d) : Matched R (a ++ c) (b ++ d) := by
  induction h1 with
  | nil => exact h2
  | cons hr _ ih => exact Matched.cons hr ih

theorem Matched.length {α β : Type} {R : α → β → Prop} {as : List α} {bs : List β} (h : Matched R as bs) :
    as.length = bs.length := by
  induction h with
  | nil => rfl
  | cons _ _ ih => simp [ih]

theorem Matched.exists_right {α β : Type} {R : α → β → Prop} {as : List α} {bs : List β} (h : Matched R as bs)
    {a : α} (ha : a ∈ as) : ∃ b ∈ bs, R a b := by
  induction h with
  | nil => cases ha
  | cons hr _ ih =>
    rcases List.mem_cons.mp ha with rfl | ha
    · exact ⟨_, List.mem_cons_self, hr⟩
    · obtain ⟨b, hb, hab⟩ := ih ha
      exact ⟨b, List.mem_cons_of_mem _ hb, hab⟩

theorem balanced_init (cfg : Cfg) : Balanced cfg [] [] (initG cfg).s :=
  ⟨[], Matched.nil, by simp [owned, initG, initState]⟩

/-- The ledger equation between the releases due before (`o`) and after (`o'`): chunks `acq` match the grants `G`, and
    the releases made (`R`) together with those still due are the ones due before plus one per new chunk.
    `Balanced cfg G R s` is `Led cfg G R [] (owned cfg s)`. -/
def Led (cfg : Cfg) (G : List Grant) (R o o' : List BaseReq) : Prop :=
  ∃ acq : List Chunk, Matched (ChunkOfGrant cfg) acq G ∧ (R ++ o').Perm (o ++ acq.map (deallocReq cfg))

theorem Led.comp {G1 G2 : List Grant} {R1 R2 o1 o2 o3 : List BaseReq} (h1 : Led cfg G1 R1 o1 o2)
    (h2 : Led cfg G2 R2 o2 o3) : Led cfg (G1 ++ G2) (R1 ++ R2) o1 o3 := by
  obtain ⟨a1, m1, p1⟩ := h1
  obtain ⟨a2, m2, p2⟩ := h2
  refine ⟨a1 ++ a2, m1.append m2, ?_⟩
  rw [List.map_append, List.append_assoc, ← List.append_assoc o1]
  exact ((List.Perm.append_left R1 p2).trans (List.Perm.of_eq (List.append_assoc _ _ _).symm)).trans
    (List.Perm.append_right _ p1)

theorem Balanced.step {G : List Grant} {R : List BaseReq} {s s' : State} (h : Balanced cfg G R s)
    {gr : List Grant} {rel : List BaseReq} {acq : List Chunk} (hm : Matched (ChunkOfGrant cfg) acq gr)
    (hp : (rel ++ owned cfg s').Perm (owned cfg s ++ acq.map (deallocReq cfg))) :
    Balanced cfg (G ++ gr) (R ++ rel) s' :=
  Led.comp (o1 := []) h ⟨acq, hm, hp⟩

theorem Balanced.released_all {G : List Grant} {R : List BaseReq} {s : State} (h : Balanced cfg G R s)
    (ho : owned cfg s = []) :
    ∃ acq : List Chunk, Matched (ChunkOfGrant cfg) acq G ∧ R.Perm (acq.map (deallocReq cfg)) := by
  obtain ⟨acq, hm, hp⟩ := h
  rw [ho, List.append_nil] at hp
  exact ⟨acq, hm, hp⟩

theorem Balanced.release_matches {G : List Grant} {R : List BaseReq} {s : State} (h : Balanced cfg G R s)
    {q : BaseReq} (hq : q ∈ R) :
    ∃ gr ∈ G, ∃ size, q = .dealloc gr.ptr size gr.align ∧ gr.reqSize ≤ size ∧ size ≤ gr.granted := by
  obtain ⟨acq, hm, hp⟩ := h
  have hq' : q ∈ acq.map (deallocReq cfg) := hp.subset (List.mem_append_left _ hq)
  obtain ⟨c, hc, rfl⟩ := List.mem_map.mp hq'
  obtain ⟨gr, hgr, h1, h2, h3, h4⟩ := hm.exists_right hc
  exact ⟨gr, hgr, c.size, by unfold deallocReq; rw [h1, h2], h3, h4⟩

/-- releases and chunks still owned together are as many as the grants: in particular no more releases than grants (no
    double free) -/
theorem Balanced.releases_le {G : List Grant} {R : List BaseReq} {s : State} (h : Balanced cfg G R s) :
    R.length + (owned cfg s).length = G.length := by
  obtain ⟨acq, hm, hp⟩ := h
  have := hp.length_eq
  rw [List.length_append, List.length_map] at this
  rw [this, hm.length]

theorem runLog_cons {g g'' : GState} {op : Op} {resps : List BaseResp} {rest : List (Op × List BaseResp)}
    {log : List LogEntry} (h : runLog cfg g ((op, resps) :: rest) = .ok (g'', log)) :
    ∃ g' out reqs log', step cfg g op resps = .ok (g', out, reqs) ∧ runLog cfg g' rest = .ok (g'', log') ∧
      log = (reqs, resps) :: log' := by
  unfold runLog at h
  simp only [bind, Except.bind, pure, Except.pure] at h
  split at h
  · cases h
  · rename_i x hx
    obtain ⟨g', out, reqs⟩ := x
    simp only at h
    split at h
    · cases h
    · rename_i y hy
      obtain ⟨g2, log'⟩ := y
      simp only at h
      cases h
      exact ⟨g', out, reqs, log', hx, hy, rfl⟩

/-- The induction along `runLog`: `P g w g' log` is shown for a run of `w` from `g` that ends in `g'` with the log
    `log`. -/
theorem runLog_induct {P : GState → List (Op × List BaseResp) → GState → List LogEntry → Prop} (nil : ∀ g, P g [] g [])
    (cons : ∀ {g op resps rest g1 out reqs g' log}, step cfg g op resps = .ok (g1, out, reqs) →
      runLog cfg g1 rest = .ok (g', log) → P g1 rest g' log → P g ((op, resps) :: rest) g' ((reqs, resps) :: log)) :
    ∀ {w : List (Op × List BaseResp)} {g g' : GState} {log : List LogEntry},
      runLog cfg g w = .ok (g', log) → P g w g' log := by
  intro w
  induction w with
  | nil => intro g g' log h; cases h; exact nil g
  | cons x rest ih =>
    intro g g' log h
    obtain ⟨g1, out, reqs, log', hs, hrest, rfl⟩ := runLog_cons (op := x.1) (resps := x.2) h
    exact cons hs hrest (ih hrest)

theorem runLog_runOps : ∀ (ops : List (Op × List BaseResp)) (g g' : GState) (log : List LogEntry),
    runLog cfg g ops = .ok (g', log) → runOps cfg g ops = .ok g' :=
  fun _ _ _ _ h => runLog_induct (P := fun g w g' _ => runOps cfg g w = .ok g') (fun _ => rfl)
    (fun hs _ ih => by unfold runOps; simp only [bind, Except.bind, hs]; exact ih) h

theorem runOps_runLog : ∀ (ops : List (Op × List BaseResp)) (g g' : GState),
    runOps cfg g ops = .ok g' → ∃ log, runLog cfg g ops = .ok (g', log) := by
  intro ops
  induction ops with
  | nil => intro g g' h; cases h; exact ⟨[], rfl⟩
  | cons x rest ih =>
    intro g g' h
    unfold runOps at h
    simp only [bind, Except.bind] at h
    split at h
    · cases h
    · rename_i y hs
      obtain ⟨log, hl⟩ := ih _ g' h
      refine ⟨(y.2.2, x.2) :: log, ?_⟩
      unfold runLog
      simp only [bind, Except.bind, pure, Except.pure, hs, hl]

end Arena.Hist
