/-
  Lemmas/HistFrameIrrelRun.lean — a claim frame below the regions opened since is invisible to every operation that is
  not addressed to the claimed handle: step-by-step simulation of a run with the frame by a run without it.
-/
import BumpProof.Lemmas.HistFrameIrrelStep
import BumpProof.Lemmas.HistRegionInside

set_option linter.unusedSimpArgs false
set_option linter.unusedVariables false

namespace Arena.Hist
open Rs Ledger

variable {cfg : Cfg}

theorem map_eq_ok {α β : Type} {f : α → β} {x : R α} {y : β} (h : x.map f = .ok y) : ∃ a, x = .ok a ∧ y = f a := by
  cases x with
  | error e => cases h
  | ok a => cases h; exact ⟨a, rfl, rfl⟩

/-- A step that commutes with replacing the region stack (`hX`, and `hself` for the stack `g` has): its result on the
    replaced stack is the lifted result on `g`, and the result on `g` is a fixed point of the lifting -/
theorem lift_inv {g gc gc' : GState} {op : Op} {out : Out} {L L0 : GState × Out → GState × Out}
    (hX : stepCore cfg gc op = (stepCore cfg g op).map L) (hself : stepCore cfg g op = (stepCore cfg g op).map L0)
    (hs : stepCore cfg gc op = .ok (gc', out)) :
    ∃ x, stepCore cfg g op = .ok x ∧ (gc', out) = L x ∧ x = L0 x := by
  rw [hX] at hs
  obtain ⟨x, h0, he⟩ := map_eq_ok hs
  rw [h0] at hself
  exact ⟨x, h0, he, Except.ok.inj hself⟩

theorem gf_eq_frames {fs : List Frame} {g : GState} (h : g = gf fs g) : g.s.frames = fs := by
  rw [h]; rfl

/-- `gc` is `g` with one extra `.claim` region inserted just above the regions `base` -/
def CS (base : List Frame) (g gc : GState) : Prop :=
  ∃ pre, g.s.frames = pre ++ base ∧ gc = gf (pre ++ .claim :: base) g

/-- one `stepCore` with the extra claim frame is one `stepCore` without it -/
theorem cs_stepCore {base : List Frame} {g gc gc' : GState} {op : Op} {out : Out} (hcs : CS base g gc)
    (hnc : ∀ op', op ≠ .onClaimed op') (hs : stepCore cfg gc op = .ok (gc', out))
    (hab : ∃ pre', gc'.s.frames = pre' ++ .claim :: base) :
    ∃ g', stepCore cfg g op = .ok (g', out) ∧ CS base g' gc' := by
  obtain ⟨pre, hf, rfl⟩ := hcs
  have free : op.frameFree = true → ∃ g', stepCore cfg g op = .ok (g', out) ∧ CS base g' gc' := by
    intro hop
    obtain ⟨⟨g', o⟩, h0, e1, e2⟩ := lift_inv (sfo_all hop _ g) (sfo_all hop g.s.frames g) hs
    cases e1
    exact ⟨g', h0, pre, (gf_eq_frames (g := g') (congrArg Prod.fst e2)).trans hf, rfl⟩
  have push : (∀ fs g, stepCore cfg (gf fs g) op = (stepCore cfg g op).map (lgPush fs)) →
      ∃ g', stepCore cfg g op = .ok (g', out) ∧ CS base g' gc' := by
    intro hp
    obtain ⟨⟨g', o⟩, h0, e1, e2⟩ := lift_inv (hp _ g) (hp g.s.frames g) hs
    cases e1
    have hfr : g'.s.frames = g'.s.frames.take 1 ++ g.s.frames := gf_eq_frames (g := g') (congrArg Prod.fst e2)
    refine ⟨g', h0, g'.s.frames.take 1 ++ pre, ?_, ?_⟩
    · rw [List.append_assoc, ← hf]; exact hfr
    · show gf (g'.s.frames.take 1 ++ (pre ++ Frame.claim :: base)) g' = _
      rw [List.append_assoc]
  have pop : (∀ f0 T T' g, g.s.frames = f0 :: T → stepCore cfg (gf (f0 :: T') g) op = (stepCore cfg g op).map (lg T')) →
      (pre = [] → False) → ∃ g', stepCore cfg g op = .ok (g', out) ∧ CS base g' gc' := by
    intro hq hne
    cases pre with
    | nil => exact (hne rfl).elim
    | cons f0 pre0 =>
      have hf' : g.s.frames = f0 :: (pre0 ++ base) := hf
      have hself := hq f0 (pre0 ++ base) (pre0 ++ base) g hf'
      rw [← hf'] at hself
      obtain ⟨⟨g', o⟩, h0, e1, e2⟩ := lift_inv (hq f0 _ (pre0 ++ Frame.claim :: base) g hf') hself hs
      cases e1
      exact ⟨g', h0, pre0, gf_eq_frames (g := g') (congrArg Prod.fst e2), rfl⟩
  -- an exclusive-access constructor cannot run: the stack is not empty
  have hne : (gf (pre ++ Frame.claim :: base) g).s.frames ≠ [] := by
    show pre ++ Frame.claim :: base ≠ []
    simp
  cases op with
  | drop => exact absurd (ok_drop hs).1 hne
  | reset => exact absurd (ok_reset hs).1 hne
  | resetToStart => exact absurd (ok_resetToStart hs).1 hne
  | withSettings n ga cl => exact absurd (ok_withSettings hs).1 hne
  | onClaimed op' => exact absurd rfl (hnc op')
  | scopeEnter | claim | alignedEnter n | scopedAlignedEnter n => exact push (sfp_all rfl)
  | scopeExit =>
    refine pop sfq_scopeExit (fun hp => ?_)
    subst hp
    obtain ⟨_, cp, rest, m, ms, s', xf, _⟩ := ok_scopeExit hs
    have : Frame.claim :: base = Frame.scope cp :: rest := xf
    cases this
  | scopedAlignedExit =>
    refine pop sfq_scopedAlignedExit (fun hp => ?_)
    subst hp
    obtain ⟨_, cp, outer, rest, m, ms, s', xf, _⟩ := ok_scopedAlignedExit hs
    have : Frame.claim :: base = Frame.scopedAligned cp outer :: rest := xf
    cases this
  | alignedExit =>
    refine pop sfq_alignedExit (fun hp => ?_)
    subst hp
    obtain ⟨outer, f, hfk, xf, _⟩ := alignedExit_form hs
    have : Frame.claim :: base = f :: gc'.s.frames := xf
    rcases hfk with ⟨_, rfl⟩ | rfl <;> cases this
  | claimEnd =>
    refine pop sfq_claimEnd (fun hp => ?_)
    subst hp
    obtain ⟨_, rest, xf, e, _⟩ := ok_claimEnd hs
    have hx : Frame.claim :: base = Frame.claim :: rest := xf
    simp only [List.cons.injEq, true_and] at hx
    subst hx
    obtain ⟨pre', hp'⟩ := hab
    rw [e] at hp'
    exact ne_cons_append (post := []) (show base = pre' ++ Frame.claim :: base from hp')
  | _ => exact free rfl

theorem cs_step {base : List Frame} {g gc gc' : GState} {op : Op} {resps : List BaseResp} {out : Out}
    {reqs : List BaseReq} (hcs : CS base g gc) (hnc : ∀ op', op ≠ .onClaimed op')
    (hs : step cfg gc op resps = .ok (gc', out, reqs)) (hab : ∃ pre', gc'.s.frames = pre' ++ .claim :: base) :
    ∃ g', step cfg g op resps = .ok (g', out, reqs) ∧ CS base g' gc' := by
  obtain ⟨h1, h2, h3⟩ := step_ok hs
  have hcs' : CS base (install g resps) (install gc resps) := by
    obtain ⟨pre, hf, rfl⟩ := hcs
    exact ⟨pre, hf, rfl⟩
  obtain ⟨g', hg', hcs2⟩ := cs_stepCore hcs' hnc h1 hab
  obtain ⟨pre2, hf2, e2⟩ := hcs2
  have hr : g'.s.resps = [] := by
    have : gc'.s.resps = g'.s.resps := by rw [e2]; rfl
    rw [← this]; exact h2
  have hq : g'.s.reqs = reqs := by
    have : gc'.s.reqs = g'.s.reqs := by rw [e2]; rfl
    rw [← this]; exact h3.symm
  refine ⟨g', ?_, pre2, hf2, e2⟩
  rw [← hq]
  exact step_of_stepCore hg' hr

theorem cs_runLog {base : List Frame} : ∀ (w : List (Op × List BaseResp)) (g gc gc2 : GState) (log : List LogEntry),
    CS base g gc → (∀ x ∈ w, ∀ op', x.1 ≠ .onClaimed op') → Above cfg (.claim :: base) gc w →
    runLog cfg gc w = .ok (gc2, log) → ∃ g2, runLog cfg g w = .ok (g2, log) ∧ CS base g2 gc2 :=
  fun _ g _ _ _ hcs hw ha hr =>
    runLog_induct (P := fun gc w gc2 log => ∀ g, CS base g gc → (∀ x ∈ w, ∀ op', x.1 ≠ .onClaimed op') →
        Above cfg (.claim :: base) gc w → ∃ g2, runLog cfg g w = .ok (g2, log) ∧ CS base g2 gc2)
      (fun _ g hcs _ _ => ⟨g, rfl, hcs⟩)
      (fun {_ op resps _ gc1 out reqs _ _} hs _ ih g hcs hw ha => by
        have ha1 := ha.2 gc1 out reqs hs
        obtain ⟨g1, hs1, hcs1⟩ := cs_step hcs (hw (op, resps) List.mem_cons_self) hs ha1.head
        obtain ⟨g2, hr2, hcs2⟩ := ih g1 hcs1 (fun y hy => hw y (List.mem_cons_of_mem _ hy)) ha1
        refine ⟨g2, ?_, hcs2⟩
        unfold runLog
        simp only [bind, Except.bind, pure, Except.pure, hs1, hr2]) hr g hcs hw ha

/-- the first step of a run installs its own responses: what the start state held is irrelevant -/
theorem runLog_install (g : GState) (r : List BaseResp) (x : Op × List BaseResp) (rest : List (Op × List BaseResp)) :
    runLog cfg (install g r) (x :: rest) = runLog cfg g (x :: rest) := by
  obtain ⟨op, resps⟩ := x
  unfold runLog
  rfl

/-- CLAIM TRANSPARENCY: `claim`, a history `w` without operations on the claimed handle that never ends the claim
    and is back at its level at the end, `claimEnd` — is `w` alone: same final state (up to the request list of the
    last step, which `claimEnd` leaves empty), same base-allocator traffic (`log`) -/
theorem claim_transparent {g g1 g2c g3 : GState} {w : List (Op × List BaseResp)} {o1 o3 : Out}
    {q1 q3 : List BaseReq} {log : List LogEntry} (hw : ∀ x ∈ w, ∀ op', x.1 ≠ .onClaimed op')
    (h1 : step cfg g .claim [] = .ok (g1, o1, q1))
    (hrun : runLog cfg g1 w = .ok (g2c, log)) (habove : Above cfg g1.s.frames g1 w) (hbal : g2c.s.frames = g1.s.frames)
    (h3 : step cfg g2c .claimEnd [] = .ok (g3, o3, q3)) :
    ∃ g2, runLog cfg g w = .ok (g2, log) ∧ g3 = install g2 [] := by
  obtain ⟨_, _, e1, _⟩ := ok_claim (step_ok h1).1
  have hf1 : g1.s.frames = .claim :: g.s.frames := by rw [e1]; rfl
  have hcs : CS g.s.frames (install g []) g1 := ⟨[], rfl, e1⟩
  rw [hf1] at habove
  obtain ⟨g2, hr2, pre, hfp, e2⟩ := cs_runLog w (install g []) g1 g2c log hcs hw habove hrun
  obtain ⟨_, rest, xf, e3, _⟩ := ok_claimEnd (step_ok h3).1
  -- back at the level of the claim: `pre = []`
  have hpre : pre = [] := by
    have h5 : g2c.s.frames = pre ++ Frame.claim :: g.s.frames := by rw [e2]; rfl
    rw [hbal, hf1] at h5
    have := congrArg List.length h5
    simp only [List.length_cons, List.length_append] at this
    exact List.eq_nil_of_length_eq_zero (by omega)
  subst hpre
  have hrest : rest = g.s.frames := by
    have h5 : (install g2c []).s.frames = Frame.claim :: g.s.frames := by rw [e2]; rfl
    rw [xf] at h5
    simp only [List.cons.injEq, true_and] at h5
    exact h5
  have hfin : g3 = install g2 [] := by
    rw [e3, e2, hrest]
    have : g2.s.frames = g.s.frames := hfp
    show ({ install (gf _ g2) [] with s := { (install (gf _ g2) []).s with frames := g.s.frames } } : GState) = install g2 []
    rw [← this]
    rfl
  cases w with
  | nil =>
    simp only [runLog, pure, Except.pure, Except.ok.injEq, Prod.mk.injEq] at hr2
    obtain ⟨rfl, rfl⟩ := hr2
    exact ⟨g, rfl, hfin⟩
  | cons x rest' =>
    rw [runLog_install] at hr2
    exact ⟨g2, hr2, hfin⟩

end Arena.Hist
