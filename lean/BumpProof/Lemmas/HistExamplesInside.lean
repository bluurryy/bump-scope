/-
  Lemmas/HistExamplesInside.lean — executable checkers for the hypotheses of the theorems of `Props/Hist2.lean`: `Above`
  (`aboveCheck`; the examples use `runAbove` / `regionCheck`), `NoBare`, and a whole region `enter; w; exit` run in one pass (`runAbove`, `runThen`, `regionCheck`:
  the environment of every step, the stack staying above the region's base, the run itself); the history `exInner`
  that the non-vacuity examples run inside a region (`exRegion`), and the state `exGClaim` (`exG3` with a claim guard)
  with its history.
-/
import BumpProof.Lemmas.HistRegionInside

set_option linter.unusedSimpArgs false
set_option linter.unusedVariables false

-- `suffixCheck` compares region stacks by `decide`; the model derives no equality test for `Frame`
deriving instance DecidableEq for Arena.Frame

namespace Arena.Hist
open Rs

variable {cfg : Cfg}

/-- `base` is the outer part of `fs` -/
def suffixCheck (base fs : List Frame) : Bool :=
  decide (fs.drop (fs.length - base.length) = base)

theorem suffixCheck_sound {base fs : List Frame} (h : suffixCheck base fs = true) : ∃ pre, fs = pre ++ base := by
  have := of_decide_eq_true h
  exact ⟨fs.take (fs.length - base.length), by
    have h2 := (List.take_append_drop (fs.length - base.length) fs).symm
    rw [this] at h2; exact h2⟩

def aboveCheck (cfg : Cfg) (base : List Frame) : GState → List (Op × List BaseResp) → Bool
  | g, [] => suffixCheck base g.s.frames
  | g, (op, resps) :: rest =>
    suffixCheck base g.s.frames &&
      (match step cfg g op resps with
       | .ok (g', _, _) => aboveCheck cfg base g' rest
       | .error _ => true)

theorem aboveCheck_sound {base : List Frame} : ∀ (w : List (Op × List BaseResp)) (g : GState),
    aboveCheck cfg base g w = true → Above cfg base g w := by
  intro w
  induction w with
  | nil => intro g h; exact suffixCheck_sound h
  | cons x rest ih =>
    intro g h
    obtain ⟨op, resps⟩ := x
    simp only [aboveCheck, Bool.and_eq_true] at h
    refine ⟨suffixCheck_sound h.1, fun g' out reqs hs => ?_⟩
    have h2 := h.2
    rw [hs] at h2
    exact ih g' h2

/-- one pass over a history: every answer list passes `envCheck`, the stack stays above `base`, every step succeeds;
    the state reached -/
def runAbove (cfg : Cfg) (base : List Frame) : GState → List (Op × List BaseResp) → Option GState
  | g, [] => if suffixCheck base g.s.frames then some g else none
  | g, (op, resps) :: rest =>
    if envCheck cfg g resps && suffixCheck base g.s.frames then
      match step cfg g op resps with
      | .ok (g', _, _) => runAbove cfg base g' rest
      | .error _ => none
    else none

theorem runAbove_sound {base : List Frame} : ∀ (w : List (Op × List BaseResp)) (g g2 : GState),
    runAbove cfg base g w = some g2 → RunEnvOK cfg g w ∧ runOps cfg g w = .ok g2 ∧ Above cfg base g w := by
  intro w
  induction w with
  | nil =>
    intro g g2 h
    simp only [runAbove] at h
    split at h
    · cases h; exact ⟨trivial, rfl, suffixCheck_sound ‹_›⟩
    · cases h
  | cons x rest ih =>
    intro g g2 h
    obtain ⟨op, resps⟩ := x
    simp only [runAbove] at h
    split at h
    · rename_i hc
      rw [Bool.and_eq_true] at hc
      split at h
      · rename_i g' out reqs hs
        obtain ⟨h1, h2, h3⟩ := ih g' g2 h
        refine ⟨⟨envCheck_sound hc.1, fun g1 o1 q1 hs1 => ?_⟩, by rw [runOps_cons_eq rest hs]; exact h2,
          suffixCheck_sound hc.2, fun g1 o1 q1 hs1 => ?_⟩ <;>
        · rw [hs] at hs1; cases hs1; assumption
      · cases h
    · cases h

/-- the history `w` run from `g` by `runAbove`, one more step `exit`, and a last test `extra` of the two states -/
def runThen (cfg : Cfg) (base : List Frame) (g : GState) (w : List (Op × List BaseResp)) (exit : Op)
    (extra : GState → GState → Bool) : Bool :=
  match runAbove cfg base g w with
  | some g2 =>
    match step cfg g2 exit [] with
    | .ok (g3, _, _) => extra g2 g3
    | .error _ => false
  | none => false

theorem runThen_sound {base : List Frame} {g : GState} {w : List (Op × List BaseResp)} {exit : Op}
    {extra : GState → GState → Bool} (h : runThen cfg base g w exit extra = true) :
    ∃ g2 g3 o3 q3, RunEnvOK cfg g w ∧ runOps cfg g w = .ok g2 ∧ Above cfg base g w ∧
      step cfg g2 exit [] = .ok (g3, o3, q3) ∧ extra g2 g3 = true := by
  unfold runThen at h
  split at h
  · rename_i g2 hr
    split at h
    · rename_i g3 o3 q3 h3
      obtain ⟨a, b, c⟩ := runAbove_sound w g g2 hr
      exact ⟨g2, g3, o3, q3, a, b, c, h3, h⟩
    · cases h
  · cases h

/-- a region `enter; w; exit` run from `g` in one pass; the stack stays above `base g1`, `g1` the state after `enter` -/
def regionCheck (cfg : Cfg) (g : GState) (enter exit : Op) (w : List (Op × List BaseResp))
    (base : GState → List Frame) (extra : GState → GState → GState → Bool) : Bool :=
  match step cfg g enter [] with
  | .ok (g1, _, _) => runThen cfg (base g1) g1 w exit (extra g1)
  | .error _ => false

theorem regionCheck_sound {g : GState} {enter exit : Op} {w : List (Op × List BaseResp)} {base : GState → List Frame}
    {extra : GState → GState → GState → Bool} (h : regionCheck cfg g enter exit w base extra = true) :
    ∃ g1 g2 g3 o1 o3 q1 q3, step cfg g enter [] = .ok (g1, o1, q1) ∧ RunEnvOK cfg g1 w ∧ runOps cfg g1 w = .ok g2 ∧
      Above cfg (base g1) g1 w ∧ step cfg g2 exit [] = .ok (g3, o3, q3) ∧ extra g1 g2 g3 = true := by
  unfold regionCheck at h
  split at h
  · rename_i g1 o1 q1 h1
    obtain ⟨g2, g3, o3, q3, r⟩ := runThen_sound h
    exact ⟨g1, g2, g3, o1, o3, q1, q3, h1, r⟩
  · cases h

theorem noBare_of_check {w : List (Op × List BaseResp)} (h : w.all (fun x => !x.1.isBare) = true) : NoBare w := by
  intro x hx
  have := List.all_eq_true.1 h x hx
  simpa using this

/-! ## the example: inside a region entered in `exG3` (a 496-byte chunk with two live blocks) allocate 600 bytes
    (a second chunk of 1008 bytes is acquired), open and close an inner scope with another allocation -/

def exInner : List (Op × List BaseResp) :=
  [(.allocate exL3 false .plain, [.granted 0x20000 1008]), (.scopeEnter, []), (.allocate exL1 false .plain, []),
   (.scopeExit, [])]

theorem exReach3' : Reachable exCfg exG3 := ⟨exOps3, exOps3_covered, exOps3_env, exG3_run⟩

theorem exReach3lit : Reachable exCfg exG3lit := exG3_eq ▸ exReach3'

theorem exInner_covered : AllCovered exInner := coveredCheck_sound (by decide)

/-- the shape shared by the non-vacuity examples of `Props/Hist2.lean`: a region `enter; exInner; exit` entered in `exG3` -/
theorem exRegion (enter exit : Op) (h : regionCheck exCfg exG3lit enter exit exInner (fun g1 => g1.s.frames)
      (fun g1 g2 _ => decide (g2.s.frames = g1.s.frames)) = true) :
    ∃ g1 g2 g3 o1 o3 q1 q3, step exCfg exG3 enter [] = .ok (g1, o1, q1) ∧
      AllCovered exInner ∧ RunEnvOK exCfg g1 exInner ∧ runOps exCfg g1 exInner = .ok g2 ∧
      Above exCfg g1.s.frames g1 exInner ∧ g2.s.frames = g1.s.frames ∧ step exCfg g2 exit [] = .ok (g3, o3, q3) := by
  obtain ⟨g1, g2, g3, o1, o3, q1, q3, h1, he, hr, ha, h3, hx⟩ := regionCheck_sound (g := exG3) (exG3_eq ▸ h)
  exact ⟨g1, g2, g3, o1, o3, q1, q3, h1, exInner_covered, he, hr, ha, of_decide_eq_true hx, h3⟩

/-- the two regions that several examples of `Props/Hist2.lean` enter: each is run once, here -/
theorem exClaim_check : regionCheck exCfg exG3lit .claim .claimEnd exInner (fun g1 => g1.s.frames)
    (fun g1 g2 _ => decide (g2.s.frames = g1.s.frames)) = true := by decide +kernel

theorem exAligned1_check : regionCheck exCfg exG3lit (.alignedEnter 1) .alignedExit exInner (fun g1 => g1.s.frames)
    (fun g1 g2 _ => decide (g2.s.frames = g1.s.frames)) = true := by decide +kernel

def exGClaim : GState := ⟨{ exG3lit.s with frames := [.claim] }, []⟩

/-- the history `exOps3` followed by `claim` (`C14.exClaimOps`) leads to `exGClaim` -/
theorem exClaim_run : AllCovered (exOps3 ++ [(Op.claim, [])]) ∧
    RunEnvOK exCfg (initG exCfg) (exOps3 ++ [(Op.claim, [])]) ∧
    runOps exCfg (initG exCfg) (exOps3 ++ [(Op.claim, [])]) = .ok exGClaim := by
  have hs : step exCfg exG3 .claim [] = .ok (exGClaim, .unit, []) := exG3_eq ▸ rfl
  refine ⟨allCovered_append exOps3_covered (coveredCheck_sound (by decide)),
    runEnvOK_append exOps3 _ _ exOps3_env fun g' hr => ?_, (runOps_append exOps3 _ _ _).2 ⟨exG3, exG3_run, ?_⟩⟩
  · exact ⟨envOK_nil g', fun _ _ _ _ => trivial⟩
  · rw [runOps_cons_eq [] hs]; rfl

end Arena.Hist
