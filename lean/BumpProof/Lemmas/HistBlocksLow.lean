/-
  Lemmas/HistBlocksLow.lean — along every history whose grants end at or below `2^62` (`ReachableLow`), EVERY live
  block, also an EMPTY one, ends at or below `2^62`; hence none passes the `is_last` test of the static dummy
  chunk of a claimed handle (`DummyApart`; the model puts the dummy chunk headers at `dummyAddr = 2^62 + 80`,
  Arena/Model.lean).  `C10.reachable_noFault_claimed_blocks_holds` (Props/Targets.lean) concludes from this that
  `grow / deallocate / shrink` through the claimed handle never end in a bug fault, for zero-sized blocks too.
-/
import BumpProof.Lemmas.HistBlocksBelow
import BumpProof.Lemmas.HistClaimedHandle
import BumpProof.Lemmas.HistReachable

namespace Arena
/-- the ONE contract the model checks for the active handle only: a typed allocation addressed to the CLAIMED handle
    carries a truthful layout hint (`size_is_multiple_of_align` only if the size is a multiple of the alignment —
    in the crate the hint is derived from the type, `SizedLayout` / `ArrayLayout`, and is always truthful) -/
def Op.hintsTruthful : Op → Bool
  | .onClaimed (.allocLayout L h) => !h.sma || L.size % L.align == 0
  | _ => true
end Arena

namespace Arena.Hist
open Rs Ledger Lemmas

variable {cfg : Cfg} {g g' : GState}

theorem reachableLow_init (cfg : Cfg) : ReachableLow cfg (initG cfg) :=
  ⟨[], (fun _ h => by cases h), trivial, (fun _ h => by cases h), rfl⟩

theorem ReachableLow.append (h : ReachableLow cfg g) {w : List (Op × List BaseResp)}
    (hcov : AllCovered w) (henv : RunEnvOK cfg g w) (hlow : LowGrants w) (hr : runOps cfg g w = .ok g') :
    ReachableLow cfg g' := by
  obtain ⟨ops, h1, h2, h3, h4⟩ := h
  refine ⟨ops ++ w, allCovered_append h1 hcov, runEnvOK_append ops w _ h2 (fun g1 hg1 => ?_),
    fun x hx => (List.mem_append.mp hx).elim (h3 x) (hlow x), ?_⟩
  · rw [h4] at hg1; cases hg1; exact henv
  · exact (runOps_append ops w _ _).2 ⟨g, h4, hr⟩

theorem ReachableLow.snoc (h : ReachableLow cfg g) {op : Op} {resps : List BaseResp} {out : Out}
    {reqs : List BaseReq} (hcov : op.Covered) (henv : EnvOK cfg g resps)
    (hlow : ∀ p k, BaseResp.granted p k ∈ resps → p + k ≤ 2 ^ 62)
    (hs : Arena.step cfg g op resps = .ok (g', out, reqs)) : ReachableLow cfg g' := by
  refine h.append (w := [(op, resps)]) ?_ ⟨henv, fun _ _ _ _ => trivial⟩ ?_ ?_
  · intro x hx
    simp only [List.mem_singleton] at hx
    subst hx; exact hcov
  · intro x hx
    simp only [List.mem_singleton] at hx
    subst hx; exact hlow
  · rw [runOps_cons_eq [] hs]; rfl

theorem ReachableLow.blocksLow (hc : CfgOK cfg) (h : ReachableLow cfg g) : BlocksBelow (2 ^ 62) g.s :=
  let ⟨_, h1, h2, h3, h4⟩ := h
  (runOps_preserves (P := fun g => ReachableLow cfg g ∧ BlocksBelow (2 ^ 62) g.s)
    (Q := fun x => ∀ p k, BaseResp.granted p k ∈ x.2 → p + k ≤ 2 ^ 62)
    (fun hc1 hl1 hi he1 ⟨hreach, hbb⟩ hs =>
      have hreach1 := hreach.snoc hc1 he1 hl1 hs
      ⟨hreach1, bb_step hc1 hi he1 hbb (hreach.chunksLow hc) (hreach1.chunksLow hc) hs⟩)
    (inv_init hc) ⟨reachableLow_init cfg, fun _ hb => by cases hb⟩ h1 h3 h2 h4).2.2

/-- the hypothesis of `noFault_onClaimed_block` (`noFault_onClaimed_addressed` needs it for the addressed block only) -/
theorem ReachableLow.dummyApart (hc : CfgOK cfg) (h : ReachableLow cfg g) : DummyApart cfg g.s :=
  fun blk hb => isLast_claimed_low cfg g.s (h.blocksLow hc blk hb)

theorem noFaultCovered_or_claimedBlock {op : Op} (hcov : op.Covered) (htr : op.hintsTruthful = true) :
    op.noFaultCovered = true ∨
    ∃ b op', op = .onClaimed op' ∧
      ((∃ L z via, op' = .grow b L z via) ∨ (∃ via, op' = .deallocate b via) ∨ (∃ L via, op' = .shrink b L via)) := by
  cases op with
  | onClaimed op' =>
    cases op' with
    | grow b L z via => exact .inr ⟨b, _, rfl, .inl ⟨L, z, via, rfl⟩⟩
    | deallocate b via => exact .inr ⟨b, _, rfl, .inr (.inl ⟨via, rfl⟩)⟩
    | shrink b L via => exact .inr ⟨b, _, rfl, .inr (.inr ⟨L, via, rfl⟩)⟩
    | allocLayout L h => exact .inl htr
    | _ => exact .inl rfl
  | newWithSize n => exact .inl hcov
  | prepareSlice a b c d => exact .inl hcov
  | allocTryWith L a b c d e => exact .inl hcov
  | _ => exact .inl rfl

end Arena.Hist
