/-
  Lemmas/CollExtract.lean — `Coll.extractIf` (model of `owned_slice::ExtractIf`) and `Coll.mapInPlace`
  (model of `BumpBox<[T]>::map_in_place`) compute `extractSpec` / `mapSpec` on well-formed vectors.
-/
import BumpProof.Lemmas.CollMapVec

namespace Coll

/-- one `next()` on a gap buffer (`k` = number extracted so far) -/
theorem extractNext_eq (rest : List Id) :
    ∀ (kept : List Id) (k : Nat) (T : List Slot) (n : Nat) (dl esc : List Id) (ol : Nat) (o : List Outcome) (i : Nat),
      i = kept.length + k →
      extractNext rest.length (gap kept k rest T n dl esc) ⟨i, k, ol⟩ o =
        (match scanSpec kept rest o with
         | (kept', rest', some (some x), o') =>
           .ok (gap kept' (k + 1) rest' T n dl (esc ++ [x]), ⟨kept'.length + k + 1, k + 1, ol⟩, some (some x), o')
         | (kept', rest', r, o') => .ok (gap kept' k rest' T n dl esc, ⟨kept'.length + k, k, ol⟩, r, o')) := by
  induction rest with
  | nil => intro kept k T n dl esc ol o i hi; subst hi; rfl
  | cons x rest ih =>
    intro kept k T n dl esc ol o i hi
    simp only [List.length_cons, extractNext, gap_peek hi]
    match o with
    | [] => subst hi; rfl
    | .panic :: o => subst hi; rfl
    | .ret b :: o =>
      simp only [scanSpec]
      split
      · simp only [gap_take hi]; subst hi; rfl
      · have hi' : i + 1 = (kept ++ [x]).length + k := by simp; omega
        split
        · rw [gap_keep_nonoverlapping hi (by omega) ‹_›]
          exact ih (kept ++ [x]) k T n dl esc ol o _ hi'
        · obtain rfl : k = 0 := by omega
          rw [gap_zero_cons]
          exact ih (kept ++ [x]) 0 T n dl esc ol o _ hi'

theorem scanSpec_perm (rest : List Id) : ∀ (kept : List Id) (o : List Outcome),
    ((scanSpec kept rest o).1 ++ (scanSpec kept rest o).2.1 ++
      (match (scanSpec kept rest o).2.2.1 with | some (some x) => [x] | _ => [])).Perm (kept ++ rest) := by
  induction rest with
  | nil => intro kept o; simp [scanSpec]
  | cons x rest ih =>
    intro kept o
    match o with
    | [] => simp [scanSpec]
    | .panic :: o => simp [scanSpec]
    | .ret b :: o =>
      simp only [scanSpec]
      split
      · simp only [List.append_assoc]
        exact List.Perm.append_left _ (List.perm_append_singleton _ _)
      · have := ih (kept ++ [x]) o
        simpa using this

theorem scanSpec_length (rest kept : List Id) (o : List Outcome) :
    (scanSpec kept rest o).1.length + (scanSpec kept rest o).2.1.length +
      (match (scanSpec kept rest o).2.2.1 with | some (some _) => 1 | _ => 0) = kept.length + rest.length := by
  have := (scanSpec_perm rest kept o).length_eq
  generalize scanSpec kept rest o = s at this ⊢
  obtain ⟨kept', rest', _ | _ | x, o'⟩ := s <;> simpa [Nat.add_assoc] using this

theorem extractPulls_eq (calls : Nat) :
    ∀ (kept : List Id) (k : Nat) (rest : List Id) (T : List Slot) (n : Nat) (dl esc : List Id) (o : List Outcome) (acc : List Id)
      (ol : Nat), ol = kept.length + k + rest.length →
      extractPulls calls (gap kept k rest T n dl esc) ⟨kept.length + k, k, ol⟩ o acc =
        .ok (gap (extractRun calls kept rest o).1 (k + (extractRun calls kept rest o).2.2.2.1.length)
                (extractRun calls kept rest o).2.1 T n dl (esc ++ (extractRun calls kept rest o).2.2.2.1),
             ⟨(extractRun calls kept rest o).1.length + k + (extractRun calls kept rest o).2.2.2.1.length,
               k + (extractRun calls kept rest o).2.2.2.1.length, ol⟩,
             (extractRun calls kept rest o).2.2.1, acc ++ (extractRun calls kept rest o).2.2.2.1,
             (extractRun calls kept rest o).2.2.2.2) := by
  induction calls with
  | zero => intro kept k rest T n dl esc o acc ol _; simp [extractPulls, extractRun]
  | succ c ih =>
    intro kept k rest T n dl esc o acc ol hol
    have hlen := scanSpec_length rest kept o
    simp only [extractPulls, show ol - (kept.length + k) = rest.length by omega,
      extractNext_eq rest kept k T n dl esc ol o _ rfl, extractRun]
    rcases hsc : scanSpec kept rest o with ⟨kept', rest', _ | _ | x, o'⟩
    · simp
    · simp
    · rw [hsc] at hlen
      simp only at hlen ⊢
      have := ih kept' (k + 1) rest' T n dl (esc ++ [x]) o' (acc ++ [x]) ol (by omega)
      rw [← Nat.add_assoc] at this
      rw [this]
      simp [Nat.add_assoc, Nat.add_comm 1]

theorem extractRun_perm (calls : Nat) : ∀ (kept rest : List Id) (o : List Outcome),
    ((extractRun calls kept rest o).1 ++ (extractRun calls kept rest o).2.1 ++
      (extractRun calls kept rest o).2.2.2.1).Perm (kept ++ rest) := by
  induction calls with
  | zero => intro kept rest o; simp [extractRun]
  | succ c ih =>
    intro kept rest o
    have hp := scanSpec_perm rest kept o
    simp only [extractRun]
    cases hsc : scanSpec kept rest o with
    | mk kept' r1 =>
      obtain ⟨rest', res, o'⟩ := r1
      rw [hsc] at hp
      cases res with
      | none => simpa using hp
      | some r2 =>
        cases r2 with
        | none => simpa using hp
        | some x =>
          have := ih kept' rest' o'
          simp only at hp ⊢
          refine List.Perm.trans ?_ hp
          -- k ++ r ++ (x :: ys) ~ (k' ++ r') ++ [x]   with  k ++ r ++ ys ~ k' ++ r'
          refine (List.perm_middle).trans ?_
          refine (List.Perm.cons x this).trans ?_
          exact (List.perm_append_singleton _ _).symm

theorem extractRun_length (calls : Nat) (kept rest : List Id) (o : List Outcome) :
    (extractRun calls kept rest o).1.length + (extractRun calls kept rest o).2.1.length +
      (extractRun calls kept rest o).2.2.2.1.length = kept.length + rest.length := by
  simpa [Nat.add_assoc] using (extractRun_perm calls kept rest o).length_eq

theorem extractIf_eq (v : Vec) (xs : List Id) (calls : Nat) (o : List Outcome)
    (h : View.fwd.Shape v xs) :
    extractIf v calls o =
      .ok ⟨v.after (extractSpec calls xs o), (extractSpec calls xs o).exit, (extractSpec calls xs o).rest⟩ := by
  revert v
  refine seg_cases fun k dl esc => ?_
  unfold extractIf extractSpec
  have hp := extractPulls_eq calls [] 0 xs (H k) 0 dl esc o [] xs.length (by simp)
  have hlen := extractRun_length calls [] xs o
  generalize extractRun calls [] xs o = run at hp hlen ⊢
  obtain ⟨kept, rest, panicked, ys, o'⟩ := run
  simp only [gap, I_nil, H_zero, List.nil_append, List.length_nil, Nat.zero_add, Nat.add_zero] at hp hlen ⊢
  simp only [setLen, hp, extractDrop, Nat.add_sub_cancel]
  rw [after_seg (ys.length + k) (by simp <;> omega)]
  by_cases hc : kept.length + ys.length < xs.length ∧ ys.length > 0
  · rw [if_pos hc, copy_back (A := I kept) (k := ys.length) (M := I rest) (T := H k) rfl (by simp) (by simp) (by simp <;> omega)]
    simp [H_add]; omega
  · -- either nothing is left to shift (`rest = []`) or nothing was extracted (`ys = []`)
    rw [if_neg hc]
    rcases Nat.eq_zero_or_pos ys.length with hy | hy
    · obtain rfl := List.eq_nil_of_length_eq_zero hy
      simp; omega
    · obtain rfl : rest = [] := List.eq_nil_of_length_eq_zero (by omega)
      simp [H_add]; omega


theorem mapLoop_eq (bombs : List Id) (rest : List Id) :
    ∀ (done : List Id) (T : List Slot) (dl esc : List Id) (o : List Outcome),
      mapLoop bombs (done.length + rest.length) rest.length ⟨I done ++ I rest ++ T, 0, dl, esc⟩ done.length o =
        .ok ⟨⟨(if (mapSpec done rest o).final.length = done.length + rest.length then I (mapSpec done rest o).final
                else H (done.length + rest.length)) ++ T,
              (mapSpec done rest o).final.length, dl ++ (mapSpec done rest o).dropped, esc ++ (mapSpec done rest o).escaped⟩,
             (mapSpec done rest o).exit, (mapSpec done rest o).rest⟩ := by
  induction rest with
  | nil => intro done T dl esc o; simp [mapLoop, mapSpec, setLen]
  | cons x rest ih =>
    intro done T dl esc o
    simp only [List.length_cons, mapLoop]
    rw [readOut_mid (A := I done) (x := x) (B := I rest ++ T) (by simp) (by simp)]
    -- the guard: drops `rest`, then `done`
    have hguard : mapGuard bombs ⟨I done ++ Slot.hole :: (I rest ++ T), 0, dl, esc ++ [x]⟩ done.length (done.length + (rest.length + 1))
        = .ok ⟨H (done.length + (rest.length + 1)) ++ T, 0, dl ++ (rest ++ done), esc ++ [x]⟩ := by
      unfold mapGuard
      rw [show done.length + (rest.length + 1) - (done.length + 1) = rest.length by omega,
        dropRange_seg bombs rest true _ (I done ++ [Slot.hole]) T _ (by simp) (by simp)]
      simp only
      rw [dropRange_seg bombs done true _ [] ([Slot.hole] ++ H rest.length ++ T) 0 (by simp) rfl]
      simp [H_add]
    match o with
    | [] => simp [hguard, Except.map, mapSpec]
    | .panic :: o => simp [hguard, Except.map, mapSpec]
    | .ret id :: o =>
      simp only [mapSpec]
      rw [write_mid (A := I done) (B := I rest ++ T) rfl (by simp)]
      have := ih (done ++ [id]) T dl (esc ++ [x]) o
      simp only [I_append, I_cons, I_nil, List.append_assoc, List.length_append, List.length_singleton,
        List.cons_append, List.nil_append, Nat.add_right_comm _ 1] at this ⊢
      rw [Nat.add_assoc] at this
      exact this

/-- **refinement** of `map_in_place` (result type of the same size: every slot is reused) -/
theorem mapInPlace_eq (bombs : List Id) (v : Vec) (xs : List Id) (o : List Outcome)
    (h : View.fwd.Shape v xs) :
    mapInPlace bombs v o =
      .ok ⟨v.after (mapSpec [] xs o), (mapSpec [] xs o).exit, (mapSpec [] xs o).rest⟩ := by
  revert v
  refine seg_cases fun k dl esc => ?_
  unfold mapInPlace
  have := mapLoop_eq bombs xs [] (H k) dl esc o
  simp only [I_nil, List.nil_append, List.length_nil, Nat.zero_add] at this
  simp only [setLen, this]
  rcases mapSpec_final_length xs [] o with h | h
  · rw [List.length_nil, Nat.zero_add] at h
    rw [if_pos h, after_seg k (by simp [h])]
  · rw [h, after_seg (xs.length + k) (by simp [h])]
    cases xs <;> simp [h, H_add]

theorem extractSpec_perm (calls : Nat) (xs : List Id) (o : List Outcome) :
    ((extractSpec calls xs o).final ++ (extractSpec calls xs o).dropped ++ (extractSpec calls xs o).escaped).Perm xs := by
  simpa [extractSpec] using extractRun_perm calls [] xs o

theorem mapSpec_len (rest : List Id) (done : List Id) (o : List Outcome) :
    (mapSpec done rest o).final.length ≤ done.length + rest.length := by
  rcases mapSpec_final_length rest done o with h | h
  · omega
  · rw [h]; simp

end Coll
