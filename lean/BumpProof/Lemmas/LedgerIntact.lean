/-
  Lemmas/LedgerIntact.lean — the user-facing reading of the frames of `Lemmas/LedgerAlloc.lean`:
  `geometry` (address ranges and bytes of all chunks), `Intact` (what "the state is intact after a
  failed call" means), what a position-blind function of the chunks sees across `CovC` / `Ext`
  (`CovC.map_prefix`, `Ext.getElem?_map`), and the conversions from `Ext` / `SlowFrame` to `Intact`.
-/
import BumpProof.Lemmas.LedgerAlloc

namespace Ledger
open Arena Rs

/-- address range and bytes of every chunk (not the bump positions, nor what was granted and requested) -/
def geometry (s : State) : List (Nat × Nat × Array UInt8) := s.chunks.map (fun c => (c.base, c.size, c.data))

def ranges (s : State) : List (Nat × Nat) := s.chunks.map (fun c => (c.base, c.size))

theorem Chunk.ext' {c c' : Chunk} (h : SamePlace c c') (hp : c'.pos = c.pos) : c' = c := by
  obtain ⟨h1, h2, h3, h4, h5⟩ := h
  cases c; cases c'
  simp only at h1 h2 h3 h4 h5 hp
  subst h1 h2 h3 h4 h5 hp
  rfl

/-- to a function that does not look at positions, the covered chunk list is a prefix of the covering one -/
theorem CovC.map_prefix {β : Type} {a b : List Chunk} (h : CovC a b) {f : Chunk → β}
    (hf : ∀ c c', SamePlace c c' → f c' = f c) : a.map f = (b.map f).take a.length := by
  refine List.ext_getElem? fun j => ?_
  rw [List.getElem?_take, List.getElem?_map, List.getElem?_map]
  cases hc : a[j]? with
  | none => rw [if_neg fun hj => by rw [List.getElem?_eq_getElem hj] at hc; cases hc]; rfl
  | some c =>
    obtain ⟨c', h1, sp⟩ := h j c hc
    rw [if_pos (List.getElem?_eq_some_iff.1 hc).1, h1]
    exact congrArg some (hf c c' sp).symm

theorem CovC.map_eq {β : Type} {a b : List Chunk} (h : CovC a b) (hlen : b.length = a.length) {f : Chunk → β}
    (hf : ∀ c c', SamePlace c c' → f c' = f c) : b.map f = a.map f := by
  rw [h.map_prefix hf, ← hlen]
  exact (List.take_of_length_le (Nat.le_of_eq (List.length_map f))).symm

theorem SamePlace.geometry {c c' : Chunk} (h : SamePlace c c') :
    (c'.base, c'.size, c'.data) = (c.base, c.size, c.data) := by
  rw [h.1, h.2.1, h.2.2.2.2]

theorem Ext.geometry_eq {n : Nat} {s s' : State} (h : Ext n s s') (hlen : s'.chunks.length = s.chunks.length) :
    geometry s' = geometry s :=
  h.covC.map_eq hlen fun _ _ => SamePlace.geometry

theorem Ext.geometry_prefix {n : Nat} {s s' : State} (h : Ext n s s') :
    geometry s = (geometry s').take s.chunks.length :=
  h.covC.map_prefix fun _ _ => SamePlace.geometry

/-- what a function of a chunk sees at index `j` when no chunk was added, if all it looks at is the
    place of the chunk and, for `j < n`, its position -/
theorem Ext.getElem?_map {β : Type} {n : Nat} {s s' : State} (h : Ext n s s')
    (hlen : s'.chunks.length = s.chunks.length) {j : Nat} {f : Chunk → β}
    (hf : ∀ c c', SamePlace c c' → (j < n → c'.pos = c.pos) → f c' = f c) :
    (s'.chunks[j]?).map f = (s.chunks[j]?).map f := by
  cases hc : s.chunks[j]? with
  | none => rw [List.getElem?_eq_none (hlen ▸ List.getElem?_eq_none_iff.1 hc)]
  | some c =>
    obtain ⟨c', h1, sp, hp⟩ := h.chunk j c hc
    rw [h1]
    exact congrArg some (hf c c' sp hp)

theorem Ext.chunks_eq {s s' : State} (h : ∀ n, Ext n s s') (hlen : s'.chunks.length = s.chunks.length) :
    s'.chunks = s.chunks :=
  List.ext_getElem? fun j => by
    simpa only [Option.map_id_fun, id_eq] using
      (h (j+1)).getElem?_map hlen (f := id) fun _ _ sp hp => Chunk.ext' sp (hp (Nat.lt_succ_self j))

/-- "All state is intact": what a caller can rely on after a call reported an error.
    * the live blocks and the rest of the ghost state are the same;
    * no chunk was added or removed, no address range changed and NO BYTE of any chunk was written;
    * the bump positions of all chunks up to and including the current one are the same (chunks after
      the current one hold no live data; they may have been rewound while looking for room);
    * the current chunk is the same (`sameCur`); the field `cur` (`CurAdv`: the same or a later, existing one)
      follows from it;
    * an arena without current chunk (unallocated / claimed) has exactly the same chunk list. -/
structure Intact (s s' : State) : Prop where
  live : s'.live = s.live
  ghost : s'.minAlign = s.minAlign ∧ s'.frames = s.frames ∧ s'.nextId = s.nextId ∧ s'.userCps = s.userCps ∧
    s'.prepared = s.prepared ∧ s'.dropped = s.dropped
  geometry : geometry s' = geometry s
  pos : ∀ i, s.cur = .chunk i → ∀ j, j ≤ i → (s'.chunks[j]?).map (·.pos) = (s.chunks[j]?).map (·.pos)
  noCur : (∀ i, s.cur ≠ .chunk i) → s'.chunks = s.chunks
  cur : CurAdv s s'
  sameCur : s'.cur = s.cur

theorem Intact.refl (s : State) : Intact s s :=
  ⟨rfl, ⟨rfl, rfl, rfl, rfl, rfl, rfl⟩, rfl, fun _ _ _ _ => rfl, fun _ => rfl, Or.inl rfl, rfl⟩

theorem Intact.of_ext {s s' : State} (h : ∀ n, (∀ i, s.cur = .chunk i → n ≤ i + 1) → Ext n s s')
    (hlen : s'.chunks.length = s.chunks.length) (hcur : s'.cur = s.cur) : Intact s s' := by
  have h0 := h 0 (fun _ _ => Nat.zero_le _)
  refine ⟨h0.live, ⟨h0.minAlign, h0.frames, h0.nextId, h0.userCps, h0.prepared, h0.dropped⟩,
    h0.geometry_eq hlen, fun i hi j hj => ?_, fun hn => ?_, Or.inl hcur, hcur⟩
  · exact (h (i+1) (fun i' hi' => by rw [hi] at hi'; cases hi'; exact Nat.le_refl _)).getElem?_map hlen
      fun _ _ _ hp => hp (Nat.lt_succ_of_le hj)
  · exact Ext.chunks_eq (fun n => h n (fun i hi => absurd hi (hn i))) hlen

theorem Intact.curPos {s s' : State} (cfg : Cfg) (h : Intact s s') : curPos cfg s' = curPos cfg s :=
  Fn.curPos_congr cfg h.sameCur fun i hi => h.pos i hi i (Nat.le_refl i)

theorem SlowFrame.intact {cfg : Cfg} {s s' : State} {α : Type} {r : Except AErr α} {e : AErr}
    (h : SlowFrame cfg s s' r) (he : r = .error e) : Intact s s' :=
  Intact.of_ext h.ext (h.err e he).1 (h.err e he).2.1

end Ledger
