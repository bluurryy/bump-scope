/-
  Lemmas/HistBlockEnds.lean — WHERE THE ADDRESS OF A NEW BLOCK CAN BE, also when the block is EMPTY.

  `Arena.Hist.Inv` places only non-empty live blocks (`LiveOK.placed`).  To show that no live block — not even a
  zero-sized one — can be mistaken for the last allocation of the static dummy chunk of a claimed handle
  (`DummyApart`), we bound the END `addr + size` of every live block by a number `B` that bounds the end of every
  chunk (`ChunksBelow B`).  This file has the function-level facts: the block returned by each allocating /
  reallocating model function ends at or below `B`, provided the chunks of the state it returns do, and (for
  the reallocating functions) the old block did.
-/
import BumpProof.Lemmas.InvReallocPost

namespace Arena.Hist
open Rs Ledger Lemmas

variable {cfg : Cfg}

def ChunksBelow (B : Nat) (s : State) : Prop := ∀ c ∈ s.chunks, c.base + c.size ≤ B

/-- every live block — also an empty one — ends at or below `B` -/
def BlocksBelow (B : Nat) (s : State) : Prop := ∀ b ∈ s.live, b.addr + b.size ≤ B

theorem ChunksBelow.of_cov {B : Nat} {s s' : State} (hc : ChunksCov s s') (h : ChunksBelow B s') : ChunksBelow B s := by
  intro c hcm
  obtain ⟨j, hj⟩ := List.getElem?_of_mem hcm
  obtain ⟨c', hj', e1, e2⟩ := hc j c hj
  rw [← e1, ← e2]
  exact h c' (List.mem_of_getElem? hj')

theorem ChunksBelow.get {B : Nat} {s : State} (h : ChunksBelow B s) {i : Nat} {c : Chunk} (hi : s.chunks[i]? = some c) :
    c.base + c.size ≤ B := h c (List.mem_of_getElem? hi)

theorem placed_below {B : Nat} {s : State} (h : ChunksBelow B s) {p n : Nat} (hp : Mem.Placed cfg s p n) : p + n ≤ B := by
  obtain ⟨i, j, c, _, _, hj, hin, _⟩ := hp
  exact Nat.le_trans (Mem.inContent_in_chunk hin).2 (h.get hj)

theorem AllocPost.below {s s' : State} {L : Layout} {v : Nat × Nat} (p : AllocPost cfg .alloc L s s' (.ok v))
    (hl : Mem.LiveOK cfg s) {B : Nat} (hB : ChunksBelow B s') : v.1 + L.size ≤ B :=
  placed_below hB (p.outcome rfl v rfl hl).placed

theorem allocVia_below (hc : CfgOK cfg) {s : State} (h : GeomInv cfg s) (hr : RespsOK cfg s)
    (hd : ChunksDisjoint s) (hf : RespsFresh s) (hl : Mem.LiveOK cfg s) {L : Layout} (hL : L.Valid)
    {s1 : State} {p : Nat} (ha : AllocVia cfg s L s1 (.ok p)) {B : Nat} (hB : ChunksBelow B s1) : p + L.size ≤ B := by
  obtain ⟨r', hr', post⟩ := allocVia_post hc h hr hd hf hL ha
  cases r' with
  | error e => cases hr'
  | ok v => cases hr'; exact post.below hl hB

theorem alloc_below (hc : CfgOK cfg) {s : State} (h : GeomInv cfg s) (hr : RespsOK cfg s)
    (hd : ChunksDisjoint s) (hf : RespsFresh s) (hl : Mem.LiveOK cfg s) {L : Layout} (hL : L.Valid)
    {s' : State} {p : Nat} (he : alloc cfg s L = .ok (s', .ok p))
    {B : Nat} (hB : ChunksBelow B s') : p + L.size ≤ B :=
  allocVia_below hc h hr hd hf hl hL (.inl he) hB

theorem freeSide_end_le {c : Chunk} (hw : ChunkWF cfg c) {a e : Nat}
    (h : if cfg.up then c.pos ≤ a ∧ e ≤ c.contentEnd cfg else c.contentStart cfg ≤ a ∧ e ≤ c.pos) :
    e ≤ c.base + c.size := by
  by_cases hup : cfg.up = true
  · rw [if_pos hup] at h
    exact Nat.le_trans h.2 hw.end_le
  · rw [if_neg hup] at h
    exact Nat.le_trans h.2 (Nat.le_trans hw.pos_le hw.end_le)

/-- a block that ends inside the old block, or lies in a chunk, ends at or below `B` -/
theorem ReallocAt.below {s' : State} {ptr old np n : Nat} (ha : ReallocAt cfg s' ptr old np n) (hg : GeomInv cfg s')
    {B : Nat} (hB : ChunksBelow B s') (hblk : ptr + old ≤ B) : np + n ≤ B := by
  rcases ha with h | ⟨i, c, hi, -, h2⟩
  · exact Nat.le_trans h hblk
  · exact Nat.le_trans h2 (Nat.le_trans (hg.chunks i c hi).end_le (hB.get hi))

theorem grow_below {g : GState} (h : Inv cfg g) (hr : RespsOK cfg g.s) {blk : Block}
    (hb : blk ∈ g.s.live) {L : Layout} (hL : L.Valid) {s' : State} {np : Nat}
    (he : grow cfg g.s blk.addr blk.size L = .ok (s', .ok np))
    {B : Nat} (hB : ChunksBelow B s') (hblk : blk.addr + blk.size ≤ B) : np + L.size ≤ B :=
  have p := (grow_ok h.cfgOK h.geom hr hL (h.blockInCur hb)).1 _ he
  ReallocAt.below (p.2 np rfl) p.1.inv hB hblk

theorem shrinkWithoutShrink_below {g : GState} (h : Inv cfg g) (hr : RespsOK cfg g.s)
    {blk : Block} {L : Layout} (hL : L.Valid) (hsz : L.size ≤ blk.size)
    {s' : State} {v : Nat × Nat}
    (he : shrinkWithoutShrink cfg g.s blk.addr blk.size L = .ok (s', .ok v))
    {B : Nat} (hB : ChunksBelow B s') (hblk : blk.addr + blk.size ≤ B) : v.1 + v.2 ≤ B :=
  have p := (shrinkWithoutShrink_ok h.cfgOK h.geom hr hL).1 _ he
  ReallocAt.below (p.2 v rfl hsz) p.1.inv hB hblk

theorem shrink_below {g : GState} (h : Inv cfg g) (hr : RespsOK cfg g.s)
    {blk : Block} (hb : blk ∈ g.s.live) {L : Layout} (hL : L.Valid)
    {s' : State} {v : Nat × Nat}
    (he : shrink cfg g.s blk.addr blk.size L = .ok (s', .ok v))
    {B : Nat} (hB : ChunksBelow B s') (hblk : blk.addr + blk.size ≤ B) : v.1 + v.2 ≤ B :=
  have p := (shrink_ok h.cfgOK h.geom hr hL (h.blockInCur hb)).1 _ he
  ReallocAt.below (p.2 v rfl) p.1.inv hB hblk

theorem shrinkSlice_below {g : GState} (h : Inv cfg g) {blk : Block} (hb : blk ∈ g.s.live) {newSize : Nat}
    (hsz : newSize ≤ blk.size) {s' : State} {np : Nat}
    (he : shrinkSlice cfg g.s blk.addr blk.size newSize blk.align = .ok (s', some np))
    {B : Nat} (hblk : blk.addr + blk.size ≤ B) : np + newSize ≤ B :=
  let ⟨k, hk, hk2⟩ := h.aligns blk hb
  Nat.le_trans (((shrinkSlice_ok h.cfgOK h.geom ⟨k, hk2⟩ (hk2 ▸ Nat.pow_lt_pow_right (by decide) hk)
    (h.live.aligned blk hb) hsz (h.blockInCur hb)).1 _ he).2 np rfl) hblk

end Arena.Hist
