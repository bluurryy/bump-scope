/-
  Lemmas/HistFrameIrrelFn.lean — FRAME IRRELEVANCE: no function of the arena model reads the stack of open regions
  (`State.frames`).  For each model function `f` that a step can call while a region is open (all but `reset`,
  `manuallyDrop`, `makeAllocated`, `stats`):  `f cfg (sf fs s) … = (f cfg s …).map (… sf fs …)`, where `sf fs s` is `s`
  with its region stack replaced by `fs`.
-/
import BumpProof.Arena.Step
import BumpProof.Lemmas.HistFrameIrrelAttr
import BumpProof.Lemmas.LedgerAlloc

set_option linter.unusedSimpArgs false
set_option linter.unusedVariables false

namespace Arena.Hist
open Rs Ledger

variable {cfg : Cfg}

def sf (fs : List Frame) (s : State) : State := { s with frames := fs }

def l1 {α : Type} (fs : List Frame) (x : State × α) : State × α := (sf fs x.1, x.2)

@[sf_simp] theorem l1_mk {α : Type} (fs : List Frame) (s : State) (a : α) : l1 fs (s, a) = (sf fs s, a) := rfl
@[sf_simp] theorem l1_eq {α : Type} (fs : List Frame) (x : State × α) : l1 fs x = (sf fs x.1, x.2) := rfl

@[simp, sf_simp] theorem sf_cur (fs : List Frame) (s : State) : (sf fs s).cur = s.cur := rfl
@[simp, sf_simp] theorem sf_chunks (fs : List Frame) (s : State) : (sf fs s).chunks = s.chunks := rfl
@[simp, sf_simp] theorem sf_minAlign (fs : List Frame) (s : State) : (sf fs s).minAlign = s.minAlign := rfl
@[simp, sf_simp] theorem sf_resps (fs : List Frame) (s : State) : (sf fs s).resps = s.resps := rfl
@[simp, sf_simp] theorem sf_reqs (fs : List Frame) (s : State) : (sf fs s).reqs = s.reqs := rfl
@[simp, sf_simp] theorem sf_live (fs : List Frame) (s : State) : (sf fs s).live = s.live := rfl
@[simp, sf_simp] theorem sf_nextId (fs : List Frame) (s : State) : (sf fs s).nextId = s.nextId := rfl
@[simp, sf_simp] theorem sf_userCps (fs : List Frame) (s : State) : (sf fs s).userCps = s.userCps := rfl
@[simp, sf_simp] theorem sf_prepared (fs : List Frame) (s : State) : (sf fs s).prepared = s.prepared := rfl
@[simp, sf_simp] theorem sf_frames (fs : List Frame) (s : State) : (sf fs s).frames = fs := rfl
@[simp, sf_simp] theorem sf_sf (fs fs' : List Frame) (s : State) : sf fs (sf fs' s) = sf fs s := rfl
theorem sf_self (s : State) : sf s.frames s = s := rfl

@[simp, sf_simp] theorem sf_freeRange (fs : List Frame) (s : State) : freeRange cfg (sf fs s) = freeRange cfg s := rfl
@[simp, sf_simp] theorem sf_curPos (fs : List Frame) (s : State) : curPos cfg (sf fs s) = curPos cfg s := rfl
@[simp, sf_simp] theorem sf_bumpProps (fs : List Frame) (s : State) (L : Layout) (h : Hints) :
    bumpProps cfg (sf fs s) L h = bumpProps cfg s L h := rfl
@[simp, sf_simp] theorem sf_isLast (fs : List Frame) (s : State) (p n : Nat) : isLast cfg (sf fs s) p n = isLast cfg s p n := rfl
@[simp, sf_simp] theorem sf_curChunk (fs : List Frame) (s : State) : curChunk? (sf fs s) = curChunk? s := rfl
@[simp, sf_simp] theorem sf_readByte (fs : List Frame) (s : State) (a : Nat) : readByte (sf fs s) a = readByte s a := rfl
@[simp, sf_simp] theorem sf_checkpoint (fs : List Frame) (s : State) : checkpoint cfg (sf fs s) = checkpoint cfg s := rfl
@[simp, sf_simp] theorem sf_findBlock (fs : List Frame) (s : State) (b : Nat) : findBlock (sf fs s) b = findBlock s b := rfl
@[simp, sf_simp] theorem sf_noPrepared (fs : List Frame) (s : State) : noPrepared (sf fs s) = noPrepared s := rfl

@[simp, sf_simp] theorem sf_setPos (fs : List Frame) (s : State) (i p : Nat) : setPos (sf fs s) i p = sf fs (setPos s i p) := rfl

@[simp, sf_simp] theorem sf_setCurPos (fs : List Frame) (s : State) (p : Nat) : setCurPos (sf fs s) p = sf fs (setCurPos s p) := by
  unfold setCurPos; simp only [sf_cur]; split <;> rfl

/-- record updates of fields other than `frames` commute with `sf`.  Not in `sf_simp`: they have to rewrite first (in
    `sf_walkNext`, `sf_freshTry`), because `sf_simp` turns the fields `(sf fs s).chunks`, … of the record into those of `s`,
    and then the left-hand side does not match -/
theorem sf_setCur (fs : List Frame) (s : State) (c : Cur) :
    ({ sf fs s with cur := c } : State) = sf fs { s with cur := c } := rfl

theorem sf_setChunksCur (fs : List Frame) (s : State) (l : List Chunk) (c : Cur) :
    ({ sf fs s with chunks := l, cur := c } : State) = sf fs { s with chunks := l, cur := c } := rfl

/-! ### monad plumbing: with these rules `simp only [sf_simp]` moves every `Except.map` to the leaves of a `do` block,
    so that both sides of `f cfg (sf fs s) … = (f cfg s …).map …` become the same chain of `>>=` up to the
    `match`es on call results, which `bind_congr` and a case split on the result dispose of -/
@[sf_simp] theorem map_ok' {α β : Type} (f : α → β) (a : α) : Except.map f (Except.ok a : R α) = .ok (f a) := rfl
@[sf_simp] theorem map_err' {α β : Type} (f : α → β) (e : Fault) : Except.map f (Except.error e : R α) = .error e := rfl
@[sf_simp] theorem map_pure' {α β : Type} (f : α → β) (a : α) : Except.map f (pure a : R α) = pure (f a) := rfl
@[sf_simp] theorem map_throw' {α β : Type} (f : α → β) (e : Fault) : Except.map f (throw e : R α) = throw e := rfl
@[sf_simp] theorem map_bind' {α β γ : Type} (x : R α) (k : α → R β) (f : β → γ) :
    Except.map f (x >>= k) = x >>= fun a => Except.map f (k a) := by cases x <;> rfl
@[sf_simp] theorem bind_map' {α β γ : Type} (x : R α) (f : α → β) (k : β → R γ) :
    Except.map f x >>= k = x >>= fun a => k (f a) := by cases x <;> rfl
@[sf_simp] theorem map_ite' {α β : Type} (c : Prop) [Decidable c] (x y : R α) (f : α → β) :
    Except.map f (if c then x else y) = if c then Except.map f x else Except.map f y := by split <;> rfl
@[sf_simp] theorem throw_bind' {α β : Type} (e : Fault) (k : α → R β) : (throw e : R α) >>= k = throw e := rfl
attribute [sf_simp] pure_bind

@[sf_simp] theorem sf_writeRange (fs : List Frame) (s : State) (lo hi : Nat) (f : Nat → UInt8) :
    writeRange cfg (sf fs s) lo hi f = (writeRange cfg s lo hi f).map (sf fs) := by
  simp only [writeRange, sf_simp]
  refine ite_congr rfl (fun _ => rfl) fun _ => ?_
  split <;> try simp only [sf_simp]
  split <;> simp only [sf_simp] <;> rfl

@[sf_simp] theorem sf_zeroRange (fs : List Frame) (s : State) (a n : Nat) :
    zeroRange cfg (sf fs s) a n = (zeroRange cfg s a n).map (sf fs) := sf_writeRange fs s _ _ _

@[sf_simp] theorem sf_copyBytes (fs : List Frame) (s : State) (src dst len : Nat) (no : Bool) :
    copyBytes cfg (sf fs s) src dst len no = (copyBytes cfg s src dst len no).map (sf fs) := by
  simp only [copyBytes, sf_simp]
  refine ite_congr rfl (fun _ => rfl) fun _ => ite_congr rfl (fun _ => rfl) fun _ => ?_
  split <;> simp only [sf_simp]

def liftO (fs : List Frame) (o : Option ((Nat × Nat) × State)) : Option ((Nat × Nat) × State) :=
  o.map (fun x => (x.1, sf fs x.2))

@[sf_simp] theorem liftO_none (fs : List Frame) : liftO fs none = none := rfl
@[sf_simp] theorem liftO_some (fs : List Frame) (x : (Nat × Nat) × State) : liftO fs (some x) = some (x.1, sf fs x.2) := rfl

@[sf_simp] theorem sf_tryCur (fs : List Frame) (k : Kind) (s : State) (L : Layout) (h : Hints) :
    tryCur cfg k (sf fs s) L h = (tryCur cfg k s L h).map (liftO fs) := by
  simp only [tryCur, sf_simp]
  cases k <;> simp only [sf_simp]
  · split <;> exact bind_congr fun o => by cases o <;> rfl
  · split <;> exact bind_congr fun o => by cases o <;> rfl
  · exact bind_congr fun o => by cases o <;> rfl

@[sf_simp] theorem sf_newChunk (fs : List Frame) (s : State) (size : Nat) :
    newChunk cfg (sf fs s) size = (newChunk cfg s size).map (l1 fs) := by
  simp only [newChunk, sf_simp]
  refine ite_congr rfl (fun _ => rfl) fun _ => ?_
  split <;> simp only [sf_simp] <;> rfl

@[sf_simp] theorem sf_newChunkForCapacity (fs : List Frame) (s : State) (L : Layout) :
    newChunkForCapacity cfg (sf fs s) L = (newChunkForCapacity cfg s L).map (l1 fs) := by
  simp only [newChunkForCapacity, sf_simp]
  refine bind_congr fun o => ?_
  cases o <;> simp only [sf_simp]
  refine bind_congr fun o => ?_
  cases o <;> simp only [sf_simp]

@[sf_simp] theorem sf_appendFor (fs : List Frame) (s : State) (L : Layout) :
    appendFor cfg (sf fs s) L = (appendFor cfg s L).map (l1 fs) := by
  simp only [appendFor, sf_simp]
  cases s.chunks.getLast? <;> simp only [sf_simp]
  refine bind_congr fun o => ?_
  cases o <;> simp only [sf_simp]
  cases Rs.checked_mul _ 2 <;> simp only [sf_simp]
  refine bind_congr fun o => ?_
  cases o <;> simp only [sf_simp]

def lW (fs : List Frame) (x : Option ((Nat × Nat) × State) × State) : Option ((Nat × Nat) × State) × State :=
  (liftO fs x.1, sf fs x.2)

@[sf_simp] theorem lW_eq (fs : List Frame) (x : Option ((Nat × Nat) × State) × State) :
    lW fs x = (liftO fs x.1, sf fs x.2) := rfl

@[sf_simp] theorem sf_walkNext (fs : List Frame) (k : Kind) (L : Layout) (h : Hints) :
    ∀ (fuel i : Nat) (s : State),
      walkNext cfg k L h fuel i (sf fs s) = (walkNext cfg k L h fuel i s).map (lW fs) := by
  intro fuel
  induction fuel with
  | zero => intro i s; rfl
  | succ fuel ih =>
    intro i s
    unfold walkNext
    simp only [sf_chunks, sf_setChunksCur]
    cases s.chunks[i+1]? <;> simp only [sf_simp]
    refine bind_congr fun o => ?_
    cases o <;> simp only [sf_simp, ih]

@[sf_simp] theorem sf_freshTry (fs : List Frame) (k : Kind) (L : Layout) (h : Hints) (s : State) (r : Except AErr Nat) :
    Fn.freshTry cfg k L h (sf fs s, r) = (Fn.freshTry cfg k L h (s, r)).map (l1 fs) := by
  cases r <;> simp only [Fn.freshTry, sf_setCur] <;> simp only [sf_simp]
  refine bind_congr fun o => ?_
  cases o <;> rfl

@[sf_simp] theorem sf_inAnotherChunk (fs : List Frame) (k : Kind) (s : State) (L : Layout) (h : Hints) :
    inAnotherChunk cfg k (sf fs s) L h = (inAnotherChunk cfg k s L h).map (l1 fs) := by
  -- through the form with the closures named (`freshTry`, `freshTryAt`), whose lifting is a lemma of its own
  rw [Fn.inAnotherChunk_eq, Fn.inAnotherChunk_eq]
  simp only [sf_simp]
  cases s.cur <;> simp only [sf_simp]
  refine bind_congr fun ⟨o, s'⟩ => ?_
  cases o <;> simp only [sf_simp]
  refine bind_congr fun ⟨s2, r⟩ => ?_
  cases r <;> first | rfl | simp only [Fn.freshTryAt, sf_simp]

@[sf_simp] theorem sf_allocGeneric (fs : List Frame) (k : Kind) (s : State) (L : Layout) (h hs : Hints) :
    allocGeneric cfg k (sf fs s) L h hs = (allocGeneric cfg k s L h hs).map (l1 fs) := by
  simp only [allocGeneric, sf_simp]
  refine bind_congr fun o => ?_
  cases o <;> simp only [sf_simp]

@[sf_simp] theorem sf_alloc (fs : List Frame) (s : State) (L : Layout) :
    alloc cfg (sf fs s) L = (alloc cfg s L).map (l1 fs) := by
  simp only [alloc, sf_simp]


@[sf_simp] theorem sf_deallocAssumeLast (fs : List Frame) (s : State) (ptr size : Nat) :
    deallocAssumeLast cfg (sf fs s) ptr size = (deallocAssumeLast cfg s ptr size).map (sf fs) := by
  simp only [deallocAssumeLast, sf_simp]
  cases s.cur <;> simp only [sf_simp]

@[sf_simp] theorem sf_deallocate (fs : List Frame) (s : State) (ptr size : Nat) :
    deallocate cfg (sf fs s) ptr size = (deallocate cfg s ptr size).map (sf fs) := by
  simp only [deallocate, sf_simp]

@[sf_simp] theorem sf_moveTo (fs : List Frame) (ptr n : Nat) (s : State) (r : Except AErr Nat) :
    Ledger.moveTo cfg ptr n (sf fs s, r) = (Ledger.moveTo cfg ptr n (s, r)).map (l1 fs) := by
  cases r <;> simp only [Ledger.moveTo, sf_simp]

@[sf_simp] theorem sf_grow (fs : List Frame) (s : State) (ptr oldSize : Nat) (newL : Layout) :
    grow cfg (sf fs s) ptr oldSize newL = (grow cfg s ptr oldSize newL).map (l1 fs) := by
  -- through the form with the closure `moveTo` named: unfolded, `grow` contains it four times
  rw [Ledger.grow_eq, Ledger.grow_eq]
  simp only [sf_simp]
  refine bind_congr fun _ => ite_congr rfl (fun _ => ite_congr rfl (fun _ => ?_) fun _ => rfl) fun _ =>
    ite_congr rfl (fun _ => ?_) fun _ => rfl
  all_goals cases curChunk? s <;> simp only [sf_simp]

@[sf_simp] theorem sf_shrink (fs : List Frame) (s : State) (ptr oldSize : Nat) (newL : Layout) :
    shrink cfg (sf fs s) ptr oldSize newL = (shrink cfg s ptr oldSize newL).map (l1 fs) := by
  simp only [shrink, sf_simp]
  refine bind_congr fun _ => ite_congr rfl (fun _ => ite_congr rfl (fun _ => ?_) fun _ => ?_) fun _ =>
    ite_congr rfl (fun _ => rfl) fun _ => ite_congr rfl (fun _ => ?_) fun _ => ?_
  · refine bind_congr fun s1 => bind_congr fun o => ?_
    rcases o with _ | ⟨⟨np, _⟩, s2⟩ <;> simp only [sf_simp]
    refine bind_congr fun ⟨s3, r⟩ => ?_
    cases r <;> simp only [sf_simp]
  · refine bind_congr fun ⟨s', r⟩ => ?_
    cases r <;> simp only [sf_simp]
  · refine bind_congr fun _ => bind_congr fun _ => ?_
    split <;> try simp only [sf_simp]
  · refine bind_congr fun _ => bind_congr fun _ => bind_congr fun _ => ?_
    split <;> try simp only [sf_simp]

@[sf_simp] theorem sf_shrinkWithoutShrink (fs : List Frame) (s : State) (ptr oldSize : Nat) (newL : Layout) :
    shrinkWithoutShrink cfg (sf fs s) ptr oldSize newL = (shrinkWithoutShrink cfg s ptr oldSize newL).map (l1 fs) := by
  simp only [shrinkWithoutShrink, sf_simp]
  refine ite_congr rfl (fun _ => rfl) fun _ => bind_congr fun ⟨s', r⟩ => ?_
  cases r <;> simp only [sf_simp]

@[sf_simp] theorem sf_shrinkSlice (fs : List Frame) (s : State) (ptr oldSize newSize ealign : Nat) :
    shrinkSlice cfg (sf fs s) ptr oldSize newSize ealign = (shrinkSlice cfg s ptr oldSize newSize ealign).map (l1 fs) := by
  simp only [shrinkSlice, sf_simp]
  refine ite_congr rfl (fun _ => rfl) fun _ => ite_congr rfl (fun _ => rfl) fun _ => ?_
  cases s.cur <;> simp only [sf_simp]

@[sf_simp] theorem sf_walkReserve (fs : List Frame) (s : State) (fuel i add : Nat) :
    walkReserve cfg (sf fs s).chunks fuel i add = walkReserve cfg s.chunks fuel i add := rfl

@[sf_simp] theorem sf_reserve (fs : List Frame) (s : State) (n : Nat) :
    reserve cfg (sf fs s) n = (reserve cfg s n).map (l1 fs) := by
  simp only [reserve, sf_simp]
  split <;> try simp only [sf_simp]
  · refine ite_congr rfl (fun _ => rfl) fun _ => bind_congr fun ⟨s', r⟩ => ?_
    cases r <;> rfl
  · split <;> try simp only [sf_simp]
    split <;> try simp only [sf_simp]
    split <;> try simp only [sf_simp]
    refine ite_congr rfl (fun _ => rfl) fun _ => ite_congr rfl (fun _ => rfl) fun _ => bind_congr fun ⟨s', r⟩ => ?_
    cases r <;> rfl

@[sf_simp] theorem sf_reserveDyn (fs : List Frame) (s : State) (n : Nat) :
    reserveDyn cfg (sf fs s) n = (reserveDyn cfg s n).map (l1 fs) := by
  simp only [reserveDyn, sf_simp]

@[sf_simp] theorem sf_resetToStart (fs : List Frame) (s : State) :
    resetToStart cfg (sf fs s) = sf fs (resetToStart cfg s) := by
  unfold resetToStart
  simp only [sf_cur, sf_chunks]
  split
  · split <;> rfl
  · rfl

@[sf_simp] theorem sf_resetTo (fs : List Frame) (s : State) (cp : Checkpoint) :
    resetTo cfg (sf fs s) cp = (resetTo cfg s cp).map (sf fs) := by
  simp only [resetTo, sf_simp]
  refine ite_congr rfl (fun _ => rfl) fun _ => ?_
  split <;> try simp only [sf_simp]
  split <;> simp only [sf_simp] <;> rfl

@[sf_simp] theorem sf_alignTo (fs : List Frame) (s : State) (n : Nat) :
    alignTo cfg (sf fs s) n = (alignTo cfg s n).map (sf fs) := by
  simp only [alignTo, sf_simp]
  refine ite_congr rfl (fun _ => ?_) fun _ => rfl
  split <;> try simp only [sf_simp]
  split <;> try simp only [sf_simp]

@[sf_simp] theorem sf_alignGuardDrop (fs : List Frame) (s : State) (n : Nat) :
    alignGuardDrop cfg (sf fs s) n = (alignGuardDrop cfg s n).map (sf fs) := by
  simp only [alignGuardDrop, sf_simp]
  split <;> try simp only [sf_simp]
  split <;> try simp only [sf_simp]

@[sf_simp] theorem sf_alignChunkAt (fs : List Frame) (s : State) (n : Nat) (st : Cur) :
    alignChunkAt cfg (sf fs s) n st = (alignChunkAt cfg s n st).map (sf fs) := by
  simp only [alignChunkAt, sf_simp]
  split <;> try simp only [sf_simp]
  refine ite_congr rfl (fun _ => rfl) fun _ => ?_
  split <;> try simp only [sf_simp]

@[sf_simp] theorem sf_allocatePrepared (fs : List Frame) (s : State) (size rstart rend : Nat) (rev : Bool) :
    allocatePrepared cfg (sf fs s) size rstart rend rev = (allocatePrepared cfg s size rstart rend rev).map (l1 fs) := by
  simp only [allocatePrepared, sf_simp]
  cases s.cur <;> simp only [sf_simp]

@[sf_simp] theorem sf_setPosAlignFrom (fs : List Frame) (s : State) (pos al : Nat) :
    setPosAlignFrom cfg (sf fs s) pos al = (setPosAlignFrom cfg s pos al).map (sf fs) := by
  simp only [setPosAlignFrom, sf_simp]

@[sf_simp] theorem sf_allocatePreparedSlice (fs : List Frame) (s : State) (ptr len cap esize ealign : Nat) (rev : Bool) :
    allocatePreparedSlice cfg (sf fs s) ptr len cap esize ealign rev = (allocatePreparedSlice cfg s ptr len cap esize ealign rev).map (l1 fs) := by
  simp only [allocatePreparedSlice, sf_simp]
  cases s.cur <;> simp only [sf_simp]

end Arena.Hist
