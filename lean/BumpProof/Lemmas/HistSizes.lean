/-
  Lemmas/HistSizes.lean — the clause of C10 that is not part of `Arena.Hist.Inv`: "each later chunk
  is strictly larger than its predecessor" (`Arena.SizesIncreasing`) is preserved by every operation
  of the arena model (`sizes_stepCore`).

  `SizesIncreasing` is a statement about the list of sizes (`sizesIncreasing_iff`: it increases pairwise).
  Position-only functions keep the list of chunk sizes (`SzSame`, structural); the allocation slow
  path appends at most one chunk of at least twice the size of the last one, less 16 bytes (`SlowPost`, from C12);
  `SzInv` is what that argument needs of the state in which an allocating function is called.
-/
import BumpProof.Lemmas.InvPreparedOps
import BumpProof.Lemmas.StepActs
set_option linter.unusedSimpArgs false
set_option linter.unusedVariables false
namespace Arena.Hist
open Rs
variable {cfg : Cfg}

theorem _root_.Arena.SizesIncreasing.congr {s s' : State} (hsz : SizesIncreasing s) (hch : s'.chunks = s.chunks) :
    SizesIncreasing s' := fun i a b ha hb => hsz i a b (hch ▸ ha) (hch ▸ hb)

theorem sizes_of_shape {s s' : State} (hsh : SameShape s s') (hsz : SizesIncreasing s) : SizesIncreasing s' :=
  hsh.sizesIncreasing hsz

theorem pairwise_of_sizesIncreasing {s : State} (h : SizesIncreasing s) :
    s.chunks.Pairwise (fun a b => a.size < b.size) := by
  rw [List.pairwise_iff_getElem]
  intro i j hi hj hij
  obtain ⟨d, rfl⟩ : ∃ d, j = i + 1 + d := ⟨j - (i + 1), by omega⟩
  induction d with
  | zero =>
    exact h i _ _ (List.getElem?_eq_getElem hi) (List.getElem?_eq_getElem hj)
  | succ n ih =>
    have hj' : i + 1 + n < s.chunks.length := by omega
    have h1 := ih hj' (by omega)
    have h2 := h (i + 1 + n) _ _ (List.getElem?_eq_getElem hj') (List.getElem?_eq_getElem (by omega : i + 1 + n + 1 < s.chunks.length))
    have e : s.chunks[i + 1 + (n + 1)] = s.chunks[i + 1 + n + 1] := by congr 1
    rw [e]
    omega

theorem sizesIncreasing_iff {s : State} : SizesIncreasing s ↔ (s.chunks.map (·.size)).Pairwise (· < ·) := by
  rw [List.pairwise_map]
  refine ⟨pairwise_of_sizesIncreasing, fun h i a b ha hb => ?_⟩
  obtain ⟨hi, rfl⟩ := List.getElem?_eq_some_iff.1 ha
  obtain ⟨hj, rfl⟩ := List.getElem?_eq_some_iff.1 hb
  exact List.pairwise_iff_getElem.1 h i (i+1) hi hj (Nat.lt_succ_self i)

theorem sizes_short {s : State} (h : s.chunks.length ≤ 1) : SizesIncreasing s := by
  intro i a b ha hb
  have := (List.getElem?_eq_some_iff.1 hb).1
  omega

def SzSame (s s' : State) : Prop := s'.chunks.map (·.size) = s.chunks.map (·.size)

theorem SzSame.refl (s : State) : SzSame s s := rfl

theorem SzSame.trans {a b c : State} (h1 : SzSame a b) (h2 : SzSame b c) : SzSame a c := Eq.trans h2 h1

theorem SzSame.of_chunks {s s' : State} (h : s'.chunks = s.chunks) : SzSame s s' := by unfold SzSame; rw [h]

-- `Arena.sizes_of_shape` is the lemma of Lemmas/GeomSlow.lean about lists of shapes, not `Arena.Hist.sizes_of_shape` above
theorem SzSame.of_shape {s s' : State} (h : SameShape s s') : SzSame s s' := Arena.sizes_of_shape h

theorem SzSame.sizes {s s' : State} (h : SzSame s s') (hsz : SizesIncreasing s) : SizesIncreasing s' := by
  rw [sizesIncreasing_iff] at hsz ⊢
  exact h ▸ hsz

theorem le_getLast {l : List Nat} (h : l.Pairwise (· < ·)) {last : Nat} (hl : l.getLast? = some last) :
    ∀ a ∈ l, a ≤ last := by
  intro a ha
  have hne : l ≠ [] := List.ne_nil_of_mem ha
  rw [List.getLast?_eq_some_getLast hne] at hl
  cases hl
  rw [← List.dropLast_concat_getLast hne, List.pairwise_append] at h
  rw [← List.dropLast_concat_getLast hne] at ha
  rcases List.mem_append.1 ha with h1 | h1
  · exact Nat.le_of_lt (h.2.2 a h1 _ (List.mem_singleton.2 rfl))
  · rw [List.mem_singleton.1 h1]; exact Nat.le_refl _

theorem sizes_append {s s' : State} {c : Chunk} (hch : s'.chunks = s.chunks ++ [c])
    (hlast : ∀ last, s.chunks.getLast? = some last → last.size < c.size) (hsz : SizesIncreasing s) :
    SizesIncreasing s' := by
  rw [sizesIncreasing_iff] at hsz ⊢
  rw [hch, List.map_append, List.pairwise_append]
  refine ⟨hsz, List.pairwise_singleton _ _, fun a ha b hb => ?_⟩
  cases List.mem_singleton.1 hb
  obtain ⟨x, hx, rfl⟩ := List.mem_map.1 ha
  obtain ⟨last, hl⟩ : ∃ last, s.chunks.getLast? = some last := by
    cases h : s.chunks.getLast? with
    | some l => exact ⟨l, rfl⟩
    | none => rw [List.getLast?_eq_none_iff.1 h] at hx; cases hx
  exact Nat.lt_of_le_of_lt (le_getLast hsz (by rw [List.getLast?_map, hl]; rfl) _ ha) (hlast last hl)

/-! ## paths that do not ask the base allocator, steps that do not -/

theorem writeRange_sz {s s' : State} {lo hi : Nat} {f : Nat → UInt8} (h : writeRange cfg s lo hi f = .ok s') :
    SzSame s s' := (Fn.writeRange_wrote h).map (·.2.1)

theorem SzSame.of_path {s s' : State} (h : Fn.Path cfg false true s s') : SzSame s s' := by
  induction h with
  | refl => exact .refl _
  | pos i p _ ih => exact ih.trans (.of_shape (setPos_shape _ i p))
  | cur k _ ih => exact ih
  | created _ hc => cases hc
  | wrote _ _ hx ih => exact ih.trans (writeRange_sz hx)

theorem SzSame.of_acts {w : Bool} {s s' : State} (h : Acts cfg false w s s') : SzSame s s' :=
  h.rel (R := SzSame) (fun b => .of_chunks b.chunks) SzSame.trans (fun p => .of_path (p.mono id (fun _ => rfl)))

theorem zero_sz {s1 s2 : State} {z : Bool} {p n : Nat}
    (hz : (if z then zeroRange cfg s1 p n else pure s1) = .ok s2) : SzSame s1 s2 :=
  (zeroIf_wrote hz).map (·.2.1)

theorem shrinkSlice_sizes {s s' : State} {ptr oldSize newSize ealign : Nat} {r : Option Nat}
    (h : shrinkSlice cfg s ptr oldSize newSize ealign = .ok (s', r)) (hsz : SizesIncreasing s) : SizesIncreasing s' :=
  (SzSame.of_path (shrinkSlice_path h)).sizes hsz

theorem allocatePrepared_sizes {s s' : State} {size rstart rend addr : Nat} {rev : Bool}
    (h : allocatePrepared cfg s size rstart rend rev = .ok (s', addr)) (hsz : SizesIncreasing s) : SizesIncreasing s' :=
  (SzSame.of_path (allocatePrepared_path h)).sizes hsz

theorem allocatePreparedSlice_sizes {s s' : State} {ptr len cap esize ealign addr : Nat} {rev : Bool}
    (h : allocatePreparedSlice cfg s ptr len cap esize ealign rev = .ok (s', addr)) (hsz : SizesIncreasing s) :
    SizesIncreasing s' :=
  (SzSame.of_path (allocatePreparedSlice_path h)).sizes hsz

theorem stepCore_szSame {g g' : GState} {op : Op} {out : Out} (hc : op.creates = false) (hd : op ≠ .drop)
    (hr : op ≠ .reset) (hs : stepCore cfg g op = .ok (g', out)) : SzSame g.s g'.s := by
  have := stepCore_acts hd hr hs
  rw [hc] at this
  exact .of_acts this

/-! ## the allocation paths -/

structure SzInv (cfg : Cfg) (s : State) : Prop where
  geom : GeomInv cfg s
  resps : RespsOK cfg s
  unalloc : UnallocEmpty s
  sizes : SizesIncreasing s

theorem SzInv.ofSlow {α : Type} (hc : CfgOK cfg) {L : Layout} {s s' : State} {r : Except AErr α}
    (i : SzInv cfg s) (p : SlowPost cfg L s s' r) : SzInv cfg s' :=
  ⟨p.inv, p.resps, p.unallocEmpty i.unalloc, p.sizesIncreasing hc i.geom i.sizes i.unalloc⟩

theorem SzInv.alloc (hc : CfgOK cfg) {s s' : State} (i : SzInv cfg s) {L : Layout} (hL : L.Valid)
    {r : Except AErr Nat} (he : alloc cfg s L = .ok (s', r)) : SzInv cfg s' :=
  i.ofSlow hc (C10.alloc_inv hc i.geom i.resps hL he)

theorem SzInv.allocGeneric (hc : CfgOK cfg) {s s' : State} (i : SzInv cfg s) {k : Kind} {L : Layout}
    {hints hSlow : Hints} (hL : L.Valid) (hh : hints.sma = true → L.align ∣ L.size)
    (hhs : hSlow.sma = true → L.align ∣ L.size) (hk : k = .range → L.align ∣ L.size)
    {r : Except AErr (Nat × Nat)} (he : allocGeneric cfg k s L hints hSlow = .ok (s', r)) : SzInv cfg s' :=
  i.ofSlow hc (C10.allocGeneric_inv hc i.geom i.resps k hL hh hhs hk he)

theorem SzInv.inAnotherChunk (hc : CfgOK cfg) {s s' : State} (i : SzInv cfg s) {k : Kind} {L : Layout}
    {hints : Hints} (hL : L.Valid) (hh : hints.sma = true → L.align ∣ L.size) (hk : k = .range → L.align ∣ L.size)
    {r : Except AErr (Nat × Nat)} (he : inAnotherChunk cfg k s L hints = .ok (s', r)) : SzInv cfg s' :=
  i.ofSlow hc (C10.inAnotherChunk_inv hc i.geom i.resps k hL hh hk he)

theorem Inv.szInv {g : GState} (h : Inv cfg g) (hr : RespsOK cfg g.s) (hsz : SizesIncreasing g.s) : SzInv cfg g.s :=
  ⟨h.geom, hr, h.unalloc, hsz⟩

theorem SzInv.allocVia (hc : CfgOK cfg) {s s1 : State} (i : SzInv cfg s) {L : Layout} (hL : L.Valid)
    {r1 : Except AErr Nat} (h : AllocVia cfg s L s1 r1) : SzInv cfg s1 := by
  rcases h with h | ⟨r0, h, _⟩
  · exact i.alloc hc hL h
  · exact i.inAnotherChunk hc hL (custom_sma L) (fun hk => by cases hk) h

theorem grow_sizes (hc : CfgOK cfg) {s : State} (i : SzInv cfg s) {ptr oldSize : Nat} {newL : Layout} (hL : newL.Valid)
    {s' : State} {r : Except AErr Nat} (he : grow cfg s ptr oldSize newL = .ok (s', r)) : SizesIncreasing s' := by
  rcases grow_paths he with ⟨hq, _⟩ | ⟨s1, ha, hm⟩
  · exact (SzSame.of_path hq.path).sizes i.sizes
  · exact (SzSame.of_path hm.path).sizes (i.allocVia hc hL ha).sizes

theorem shrinkWithoutShrink_sizes (hc : CfgOK cfg) {s : State} (i : SzInv cfg s) {ptr oldSize : Nat} {newL : Layout}
    (hL : newL.Valid) {s' : State} {r : Except AErr (Nat × Nat)}
    (he : shrinkWithoutShrink cfg s ptr oldSize newL = .ok (s', r)) : SizesIncreasing s' := by
  rcases shrinkWithoutShrink_paths he with ⟨_, rfl, _⟩ | ⟨s1, r1, ha, hm, _⟩
  · exact i.sizes
  · exact (SzSame.of_path hm.path).sizes (i.alloc hc hL ha).sizes

theorem shrink_sizes (hc : CfgOK cfg) {s : State} (i : SzInv cfg s) {ptr oldSize : Nat} {newL : Layout} (hL : newL.Valid)
    {s' : State} {r : Except AErr (Nat × Nat)} (he : shrink cfg s ptr oldSize newL = .ok (s', r)) :
    SizesIncreasing s' := by
  rcases shrink_paths he with ⟨hq, _⟩ | ⟨s1, r1, ha, hm, _⟩ |
    ⟨hlast, sd, hd, ⟨v, s2, nov, ht, hcp, _⟩ | ⟨s3, r1, ha, hm, _⟩⟩
  · exact (SzSame.of_path hq.path).sizes i.sizes
  · exact (SzSame.of_path hm.path).sizes (i.allocVia hc hL ha).sizes
  · exact (SzSame.of_path
      (((Fn.deallocAssumeLast_path hd).trans (Fn.tryCur_path ht)).trans (Fn.copyBytes_path hcp))).sizes i.sizes
  · rw [Fn.deallocAssumeLast_restore hd] at ha
    exact (SzSame.of_path hm.path).sizes (i.allocVia hc hL ha).sizes

/-- `append_for`: the new chunk is at least twice the last one (less 16 bytes) -/
theorem appendFor_sizes (hc : CfgOK cfg) {s : State} (i : SzInv cfg s) {L : Layout} (hL : L.Valid)
    {s' : State} {r : Except AErr Nat} (he : appendFor cfg s L = .ok (s', r)) : SizesIncreasing s' := by
  obtain ⟨last, hlast, _⟩ := Fn.appendFor_cases he
  rw [appendFor_eq hc hL hlast] at he
  cases hs : Spec.calcSize cfg.up cfg.hdr
      (Nat.max (Nat.max (Spec.hintFromCapacity cfg.up cfg.hdr L) (2 * last.size)) cfg.minChunk) with
  | none =>
    simp only [hs] at he
    cases he
    exact i.sizes
  | some size =>
    simp only [hs] at he
    obtain ⟨_, hsa, hsz, _, _⟩ := C12.calcSize_some hc.hdr hs
    cases r with
    | error e => exact i.sizes.congr ((newChunk_post hc i.geom i.resps hsz he).1.err e rfl)
    | ok j =>
      obtain ⟨_, c, hch, hle, _⟩ := C10.newChunk_appended hc i.geom i.resps hsz he
      refine sizes_append hch ?_ i.sizes
      intro last' hl'
      rw [hlast] at hl'; cases hl'
      have hw : ChunkWF cfg last := i.geom.mem (List.mem_of_getLast? hlast)
      exact Nat.lt_of_lt_of_le
        (Lemmas.calcSize_gt hc.hdr hs (Nat.le_trans (Nat.le_max_right _ _) (Nat.le_max_left _ _))
          (Nat.lt_of_lt_of_le (by decide) (Nat.le_trans hc.hdr.ge hw.hdr_le))) hle

/-- the first chunk: `newChunk` and `newChunkForCapacity` on an arena without chunks -/
theorem created_sizes {s s' : State} (hch : s.chunks = []) {r : Except AErr Nat} (h : Fn.Created cfg s (s', r)) :
    SizesIncreasing s' := by
  apply sizes_short
  cases h with
  | overflow => rw [hch]; exact Nat.zero_le _
  | refused => show s.chunks.length ≤ 1; rw [hch]; exact Nat.zero_le _
  | granted => show (s.chunks ++ [_]).length ≤ 1; rw [hch]; exact Nat.le_refl _

theorem reserve_sizes (hc : CfgOK cfg) {s : State} (i : SzInv cfg s) {n : Nat}
    {s' : State} {r : Except AErr Unit} (he : reserve cfg s n = .ok (s', r)) : SizesIncreasing s' := by
  rcases reserve_paths he with rfl | ⟨hcur, _, s1, r1, h1, hr⟩ | ⟨_, rest, r1, hl, h1⟩
  · exact i.sizes
  · cases r1 <;> rw [show s' = _ from hr] <;> exact (created_sizes (i.unalloc hcur) (Fn.newChunkForCapacity_created h1)).congr rfl
  · exact appendFor_sizes hc i (bytes_layout_valid hl) h1

theorem reserveDyn_sizes (hc : CfgOK cfg) {s : State} (i : SzInv cfg s) {n : Nat}
    {s' : State} {r : Except AErr Unit} (he : reserveDyn cfg s n = .ok (s', r)) : SizesIncreasing s' := by
  rcases reserveDyn_paths he with rfl | ⟨hl, r1, h1⟩
  · exact i.sizes
  · exact (i.allocGeneric hc (bytes_layout_valid hl) (custom_sma _) (custom_sma _)
      (fun _ => Nat.one_dvd _) h1).sizes

/-- the closure: at most one more allocation -/
theorem tryInner_szInv (hc : CfgOK cfg) {s1 : State} (i1 : SzInv cfg s1) {inner : Option Layout} {m : Bool}
    {s2 : State} {io : Option (Nat × Layout)} (h : tryInner cfg s1 inner m = .ok (s2, io)) : SzInv cfg s2 := by
  rcases tryInner_cases h with ⟨rfl, _⟩ | ⟨_, Li, r, hLi, ha, _⟩
  · exact i1
  · exact i1.alloc hc hLi ha

/-- the end of `alloc_try_with` only moves a position and registers or kills blocks -/
theorem tryTail_szSame {g g' : GState} {out : Out} {s2 : State} {ptr off vsize : Nat} {ok cs : Bool}
    (h : tryTail cfg g s2 ptr off vsize ok cs = .ok (g', out)) : SzSame s2 g'.s :=
  .of_acts (tryTail_acts (w := true) h)

/-- C10, the clause that is not part of `Inv`: every covered operation of the model keeps the chunk sizes
    strictly increasing along the chunk list (all 34 constructors of `Op`).  The operations that never ask the
    base allocator keep the list of sizes (`stepCore_szSame`); an allocating model function appends at most
    one larger chunk (`SzInv.alloc`, …); what the step does to the ghost state does not touch the chunk list. -/
theorem sizes_stepCore {g g' : GState} {op : Op} {out : Out} (hcov : op.Covered) (h : Inv cfg g)
    (hr : RespsOK cfg g.s) (hsz : SizesIncreasing g.s) (hs : stepCore cfg g op = .ok (g', out)) :
    SizesIncreasing g'.s := by
  have hc := h.cfgOK
  have i := h.szInv hr hsz
  cases op with
  | newWithSize n =>
    obtain ⟨hch, _, o, _, ho⟩ := ok_newWithSize hs
    cases o with
    | none => rw [ho.1]; exact hsz
    | some size =>
      obtain ⟨s1, r, h1, hr⟩ := ho
      cases r <;> rw [hr.1] <;> exact (created_sizes hch (Fn.newChunk_created h1)).congr rfl
  | newWithCapacity L =>
    obtain ⟨_, hch, _, s1, r, h1, hr⟩ := ok_newWithCapacity hs
    cases r <;> rw [hr.1] <;> exact (created_sizes hch (Fn.newChunkForCapacity_created h1)).congr rfl
  | drop =>
    rw [(ok_drop hs).2.2.1]
    unfold manuallyDrop
    split
    · exact sizes_short (Nat.zero_le _)
    · exact hsz
  | allocate L z via =>
    obtain ⟨hL, _, s1, r, h1, hr⟩ := ok_allocate hs
    have i1 := (i.alloc hc hL h1).sizes
    cases r with
    | error e => rw [hr.1]; exact i1
    | ok p => obtain ⟨s2, hz, rfl, _⟩ := hr; exact ((zero_sz hz).sizes i1).congr rfl
  | grow b L z via =>
    obtain ⟨hL, _, blk, _, _, s1, r, h1, hr⟩ := ok_grow hs
    have i1 := grow_sizes hc i hL h1
    cases r with
    | error e => rw [hr.1]; exact i1
    | ok np => obtain ⟨s2, hz, rfl, _⟩ := hr; exact ((zero_sz hz).sizes i1).congr rfl
  | shrink b L via =>
    obtain ⟨hL, _, blk, hb, _, s1, r, h1, hr⟩ := ok_shrink hs
    have i1 : SizesIncreasing s1 := by
      split at h1
      · exact shrinkWithoutShrink_sizes hc i hL h1
      · exact shrink_sizes hc i hL h1
    cases r <;> rw [hr.1] <;> exact i1.congr rfl
  | allocLayout L hh =>
    obtain ⟨hL, _, hsma, s1, r, h1, hr⟩ := ok_allocLayout hs
    have i1 := (i.allocGeneric hc hL hsma (custom_sma L) (fun hk => by cases hk) h1).sizes
    cases r <;> rw [hr.1] <;> exact i1.congr rfl
  | prepare L =>
    obtain ⟨hL, _, hdv, s1, r, h1, hr⟩ := ok_prepare hs
    have i1 := (i.allocGeneric hc hL (custom_sma L) (custom_sma L) (fun _ => hdv) h1).sizes
    cases r <;> rw [hr.1] <;> exact i1.congr rfl
  | prepareSlice esize ealign minCap rev =>
    have hp : Rs.is_power_of_two ealign = true := by simpa [Op.Covered, Op.covered] using hcov
    obtain ⟨_, hae, ⟨rfl, _⟩ | ⟨hl, s1, r, h1, hr⟩⟩ := ok_prepareSlice hs
    · exact hsz
    · have hdv : ealign ∣ esize * minCap := Nat.dvd_trans hae (Nat.dvd_mul_right _ _)
      have i1 := (i.allocGeneric (k := .range) hc (layoutOk_valid hp hl) (fun _ => hdv) (fun _ => hdv)
        (fun _ => hdv) h1).sizes
      cases r <;> rw [hr.1] <;> exact i1.congr rfl
  | reserve n dyn =>
    obtain ⟨_, s1, r, h1, rfl, _⟩ := ok_reserve hs
    split at h1
    · exact reserveDyn_sizes hc i h1
    · exact reserve_sizes hc i h1
  | reset => rw [(ok_reset hs).2.2.1]; exact (C10.reset_sizesIncreasing (cfg := cfg) hsz).congr rfl
  | allocTryWith L off vsize ok inner mut_ =>
    have hsma : L.align ∣ L.size := hcov.tryWith
    obtain ⟨hL, _, _, hrun⟩ := tryWith_ok hs
    cases hrun with
    | refused h1 => exact (i.allocGeneric hc hL (fun _ => hsma) (custom_sma L) (tryKind_ne_range mut_) h1).sizes
    | @ran s1 s2 ptr x io _ _ h1 hin ht =>
      have i1 := i.allocGeneric hc hL (fun _ => hsma) (custom_sma L) (tryKind_ne_range mut_) h1
      have h2 : SizesIncreasing (withInner s2 io) := by cases io <;> exact (tryInner_szInv hc i1 hin).sizes
      exact (tryTail_szSame ht).sizes h2
  | _ => exact (stepCore_szSame rfl Op.noConfusion Op.noConfusion hs).sizes hsz

theorem sizes_step {g g' : GState} {op : Op} {resps : List BaseResp} {out : Out} {reqs : List BaseReq}
    (hcov : op.Covered) (h : Inv cfg g) (henv : EnvOK cfg g resps) (hsz : SizesIncreasing g.s)
    (hs : step cfg g op resps = .ok (g', out, reqs)) : SizesIncreasing g'.s :=
  sizes_stepCore hcov (h.install resps) henv.1 (hsz.congr rfl) (step_ok hs).1

/-! ## non-vacuity: the hypotheses of `sizes_stepCore` hold for the creation of an arena in a block of 496 bytes -/

def exSizesG : GState := install (initG exCfg) [.granted 0x10000 496]

example : (Op.newWithSize 512).Covered := by decide

example : Inv exCfg exSizesG := (inv_init exCfg_ok).install _

theorem exSizesG_resps : RespsOK exCfg exSizesG.s := by
  intro r hr
  simp only [exSizesG, install, List.mem_singleton] at hr
  subst hr
  exact ⟨by decide, by decide, by decide⟩

theorem exSizesG_sizes : SizesIncreasing exSizesG.s := (C10.initState_inv exCfg_ok).2.1.congr rfl

theorem exSizesG_step : ∃ g' out, stepCore exCfg exSizesG (.newWithSize 512) = .ok (g', out) := ⟨_, _, rfl⟩

example : ∃ g' out, stepCore exCfg exSizesG (.newWithSize 512) = .ok (g', out) ∧ SizesIncreasing g'.s := by
  obtain ⟨g', out, hs⟩ := exSizesG_step
  exact ⟨g', out, hs, sizes_stepCore (by decide) ((inv_init exCfg_ok).install _) exSizesG_resps exSizesG_sizes hs⟩

end Arena.Hist
