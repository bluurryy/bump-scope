/-
  Lemmas/GeomNoFault.lean — where a copy of a live block may go: the block that the fast or the slow path of an
  allocation returns can receive a copy of a live block (`CopyReady`), under the explicit hypotheses that
  the chunks do not overlap (`ChunksDisjoint`) and that the base allocator hands out fresh blocks (`RespsFresh`).
-/
import BumpProof.Lemmas.GeomSlow

set_option linter.unusedSimpArgs false
set_option linter.unusedVariables false

namespace Arena
open Rs Lemmas

section
variable {cfg : Cfg}

/-- the content ranges of different chunks do not even touch: a header lies between them -/
theorem content_lt (hc : CfgOK cfg) {a b : Chunk} (ha : ChunkWF cfg a) (hb : ChunkWF cfg b) (h : a.base + a.size ≤ b.base) :
    a.contentEnd cfg < b.contentStart cfg := by
  have h32 := hc.hdr.ge
  have := ha.hdr_le
  unfold Chunk.contentStart Chunk.contentEnd
  split <;> omega

/-- the closed content ranges of different chunks do not meet -/
theorem content_apart (hc : CfgOK cfg) {s : State} (hd : ChunksDisjoint s) {i j : Nat} {ci cj : Chunk} (hij : i ≠ j)
    (hi : s.chunks[i]? = some ci) (hj : s.chunks[j]? = some cj) (hwi : ChunkWF cfg ci) (hwj : ChunkWF cfg cj) {x : Nat}
    (h1 : ci.contentStart cfg ≤ x ∧ x ≤ ci.contentEnd cfg) (h2 : cj.contentStart cfg ≤ x ∧ x ≤ cj.contentEnd cfg) :
    False := by
  rcases hd i j ci cj hij hi hj with h | h
  · exact absurd (Nat.lt_of_le_of_lt h1.2 (content_lt hc hwi hwj h)) (Nat.not_lt.2 h2.1)
  · exact absurd (Nat.lt_of_le_of_lt h2.2 (content_lt hc hwj hwi h)) (Nat.not_lt.2 h1.1)

/-- a live block that passes the `is_last` test lies in the current chunk -/
theorem LiveBlock.blockInCur (hc : CfgOK cfg) {s : State} (h : GeomInv cfg s) (hd : ChunksDisjoint s)
    {ptr size : Nat} (hl : LiveBlock cfg s ptr size) (hlast : isLast cfg s ptr size = true) :
    BlockInCur cfg s ptr size := by
  obtain ⟨i, j, c, hcur, hji, hj, h1, h2, h3⟩ := hl
  obtain ⟨ci, hi, hwi, _⟩ := h.curChunk hcur
  by_cases hij : j = i
  · subst hij
    exact ⟨j, c, hcur, hj, h1, h2, h3 rfl⟩
  · -- the position of another chunk is not an end of a block of chunk `j`
    exfalso
    have hwj := h.chunks j c hj
    have hpos := isLast_pos hlast hcur hi
    have hx : ∃ x, c.contentStart cfg ≤ x ∧ x ≤ c.contentEnd cfg ∧ x = ci.pos := by
      split at hpos
      · exact ⟨ptr + size, Nat.le_trans h1 (Nat.le_add_right _ _), h2, hpos⟩
      · exact ⟨ptr, h1, Nat.le_trans (Nat.le_add_right _ _) h2, hpos⟩
    obtain ⟨x, x1, x2, rfl⟩ := hx
    exact content_apart hc hd hij hj hi hwj hwi ⟨x1, x2⟩ ⟨hwi.pos_ge, hwi.pos_le⟩

/-! ## copying the old block into a freshly allocated one -/

/-- the old block lies in the content range of the current or an earlier chunk (`LiveBlock` without the condition on
    the side of the position: what is left of it when the position has moved) -/
def OldBlock (cfg : Cfg) (s : State) (ptr n : Nat) : Prop :=
  ∃ (i j : Nat) (c : Chunk), s.cur = .chunk i ∧ j ≤ i ∧ s.chunks[j]? = some c ∧
    c.contentStart cfg ≤ ptr ∧ ptr + n ≤ c.contentEnd cfg

theorem LiveBlock.old {s : State} {ptr n : Nat} (h : LiveBlock cfg s ptr n) : OldBlock cfg s ptr n := by
  obtain ⟨i, j, c, h1, h2, h3, h4, h5, _⟩ := h
  exact ⟨i, j, c, h1, h2, h3, h4, h5⟩

/-- what a copy of (a prefix of) the old block `[ptr, ptr+n)` into the new block `[np, np+m)` needs -/
structure CopyReady (cfg : Cfg) (s' : State) (ptr n np m : Nat) : Prop where
  disjoint : ChunksDisjoint s'
  src : ∃ (i : Nat) (c : Chunk), s'.chunks[i]? = some c ∧ c.base ≤ ptr ∧ ptr + n ≤ c.base + c.size
  dst : ∃ (i : Nat) (c : Chunk), s'.chunks[i]? = some c ∧ ChunkWF cfg c ∧ c.contentStart cfg ≤ np ∧ np + m ≤ c.contentEnd cfg
  apart : ptr + n ≤ np ∨ np + m ≤ ptr

theorem CopyReady.copyOK {s' : State} {ptr n np m len : Nat} (r : CopyReady cfg s' ptr n np m) (h1 : len ≤ n) (h2 : len ≤ m)
    {no : Bool} : CopyOK cfg s' ptr np len no := by
  obtain ⟨i, c, hi, a1, a2⟩ := r.src
  obtain ⟨j, d, hj, hw, b1, b2⟩ := r.dst
  refine ⟨r.disjoint, ⟨i, c, hi, a1, Nat.le_trans (Nat.add_le_add_left h1 ptr) a2⟩,
    ⟨j, d, hj, hw, b1, Nat.le_trans (Nat.add_le_add_left h2 np) b2⟩, fun _ => ?_⟩
  rcases r.apart with h | h
  · exact Or.inl (Nat.le_trans (Nat.add_le_add_left h1 ptr) h)
  · exact Or.inr (Nat.le_trans (Nat.add_le_add_left h2 np) h)

/-- The block a successful `tryCur` on `sx` returns can receive a copy of a block that lies in chunk `j` of `sx`:
    in another chunk because chunks do not overlap, in the current chunk when it is on the allocated side of the
    position (`hside`). -/
theorem copyReady_of_alloc (hc : CfgOK cfg) {sx : State} (hx : GeomInv cfg sx) (hdx : ChunksDisjoint sx) {L : Layout}
    (hL : L.Valid) {v : Nat × Nat} {s' : State} (ht : tryCurSpec cfg .alloc sx L = some (v, s'))
    {ptr n j : Nat} {cj : Chunk} (hj : sx.chunks[j]? = some cj) (h1 : cj.base ≤ ptr) (h2 : ptr + n ≤ cj.base + cj.size)
    (hside : sx.cur = .chunk j → if cfg.up then ptr + n ≤ cj.pos else cj.pos ≤ ptr) :
    CopyReady cfg s' ptr n v.1 L.size := by
  obtain ⟨jx, cx, hxcur, hxi, d1, d2, d3⟩ := tryCurSpec_alloc_block hc hx hL ht
  obtain ⟨⟨g1, g2, _, _⟩, _⟩ := tryCurSpec_inv hc hx hL ht
  have hwx := hx.chunks jx cx hxi
  obtain ⟨cj', hj', hshj⟩ := g2.getElem?' hj
  obtain ⟨k, ck, hk, hk1, hk2⟩ := AllocFrom.blockIn hc hx hL (.inl ht)
  refine ⟨g2.disjoint hdx, ⟨j, cj', hj', ?_, ?_⟩, ⟨k, ck, hk, g1.chunks k ck hk, hk1, hk2⟩, ?_⟩
  · rw [(shape_base hshj).1]; exact h1
  · rw [(shape_base hshj).1, (shape_base hshj).2]; exact h2
  · by_cases hjj : j = jx
    · subst hjj
      rw [hxi] at hj; cases hj
      have hs := hside hxcur
      split at hs
      · rw [if_pos ‹_›] at d3; exact Or.inl (Nat.le_trans hs d3)
      · rw [if_neg ‹_›] at d3; exact Or.inr (Nat.le_trans d3 hs)
    · rcases hdx j jx cj cx hjj hj hxi with hh | hh
      · exact Or.inl (Nat.le_trans h2 (Nat.le_trans hh (Nat.le_trans hwx.base_le_start d1)))
      · exact Or.inr (Nat.le_trans d2 (Nat.le_trans hwx.end_le (Nat.le_trans hh h1)))

/-- fast path: the new block lies on the free side of the position of the current chunk, the live
    block on the allocated side or in an earlier chunk -/
theorem copyReady_fast (hc : CfgOK cfg) {s : State} (h : GeomInv cfg s) (hd : ChunksDisjoint s) {L : Layout} (hL : L.Valid)
    {ptr n : Nat} (hl : LiveBlock cfg s ptr n) {v : Nat × Nat} {s' : State}
    (ht : tryCurSpec cfg .alloc s L = some (v, s')) : CopyReady cfg s' ptr n v.1 L.size := by
  obtain ⟨i, j, cj, hcur, _, hj, l1, l2, l3⟩ := hl
  have hwj := h.chunks j cj hj
  refine copyReady_of_alloc hc h hd hL ht hj (Nat.le_trans hwj.base_le_start l1) (Nat.le_trans l2 hwj.end_le) ?_
  intro hcj
  rw [hcur] at hcj
  cases hcj
  exact l3 rfl

/-- disjointness of a chunk list extended by a chunk inside a fresh granted block -/
theorem disjoint_append {s sx : State} (hd : ChunksDisjoint s) (hf : RespsFresh s) {p g : Nat} {rest : List BaseResp}
    (hrs : s.resps = .granted p g :: rest) {c : Chunk} (hcb : c.base = p) (hcs : c.size ≤ g)
    (hsh : sx.chunks.map Chunk.shape = s.chunks.map Chunk.shape ++ [Chunk.shape c]) : ChunksDisjoint sx := by
  have hmem : BaseResp.granted p g ∈ s.resps := by rw [hrs]; exact List.mem_cons_self
  have hfresh := hf.2 p g hmem
  intro i j a b hij ha hb
  rcases append_cases hsh i a ha with ⟨hi, a', ha', e1, e2⟩ | ⟨hi, e1, e2⟩
  · rcases append_cases hsh j b hb with ⟨hj, b', hb', f1, f2⟩ | ⟨hj, f1, f2⟩
    · rw [e1, e2, f1, f2]; exact hd i j a' b' hij ha' hb'
    · rw [e1, e2, f1, f2, hcb]
      rcases hfresh i a' ha' with h | h
      · exact Or.inr (Nat.le_trans (Nat.add_le_add_left hcs p) h)
      · exact Or.inl h
  · rcases append_cases hsh j b hb with ⟨hj, b', hb', f1, f2⟩ | ⟨hj, f1, f2⟩
    · rw [e1, e2, f1, f2, hcb]
      rcases hfresh j b' hb' with h | h
      · exact Or.inl (Nat.le_trans (Nat.add_le_add_left hcs p) h)
      · exact Or.inr h
    · exact absurd (hi.trans hj.symm) hij

/-- slow path: the new block lies in a later or in a new chunk -/
theorem copyReady_slow (hc : CfgOK cfg) {s : State} (h : GeomInv cfg s) (hd : ChunksDisjoint s) (hf : RespsFresh s)
    {L : Layout} (hL : L.Valid) {ptr n : Nat} (hl : OldBlock cfg s ptr n) {v : Nat × Nat} {s' : State}
    (hfrom : SlowFrom cfg .alloc L s s' v) : CopyReady cfg s' ptr n v.1 L.size := by
  obtain ⟨sx, hx, _, ht, horigin⟩ := hfrom
  obtain ⟨i, j, cj, hcur, hji, hj, l1, l2⟩ := hl
  have hwj := h.chunks j cj hj
  have hjlt : j < s.chunks.length := (List.getElem?_eq_some_iff.1 hj).1
  -- the old chunk `j` survives in `sx` with the same block, at an index different from the current one
  have hold : ∃ cjx, sx.chunks[j]? = some cjx ∧ cjx.base = cj.base ∧ cjx.size = cj.size ∧ sx.cur ≠ .chunk j ∧
      ChunksDisjoint sx := by
    rcases horigin with ⟨hsh, i', j', hc1, hc2, hlt⟩ | ⟨p, g, rest, c, hrs, hcb, hcs, hsh, hcx⟩
    · rw [hcur] at hc1; cases hc1
      obtain ⟨cjx, e1, e2⟩ := hsh.getElem?' hj
      exact ⟨cjx, e1, (shape_base e2).1, (shape_base e2).2, by rw [hc2]; intro e; cases e; omega, hsh.disjoint hd⟩
    · have hjx : j < sx.chunks.length := by
        have := congrArg List.length hsh
        simp only [List.length_map, List.length_append, List.length_cons, List.length_nil] at this
        omega
      rcases append_cases hsh j _ (List.getElem?_eq_getElem hjx) with ⟨_, a', ha', e1, e2⟩ | ⟨e, _⟩
      · rw [hj] at ha'; cases ha'
        exact ⟨_, List.getElem?_eq_getElem hjx, e1, e2, by rw [hcx]; intro e; cases e; omega,
          disjoint_append hd hf hrs hcb hcs hsh⟩
      · omega
  obtain ⟨cjx, e1, e2, e3, hne, hdx⟩ := hold
  exact copyReady_of_alloc hc hx hdx hL ht e1 (by rw [e2]; exact Nat.le_trans hwj.base_le_start l1)
    (by rw [e2, e3]; exact Nat.le_trans l2 hwj.end_le) (fun e => absurd e hne)

/-! ## transfer along shape-preserving steps -/

/-- freshness with respect to the chunks depends on their shapes only -/
theorem fresh_of_shape {s s' : State} (h : SameShape s s') {l : List BaseResp}
    (hf : ∀ (p g : Nat), BaseResp.granted p g ∈ l → ∀ (i : Nat) (c : Chunk), s.chunks[i]? = some c →
      p + g ≤ c.base ∨ c.base + c.size ≤ p) :
    ∀ (p g : Nat), BaseResp.granted p g ∈ l → ∀ (i : Nat) (c : Chunk), s'.chunks[i]? = some c →
      p + g ≤ c.base ∨ c.base + c.size ≤ p := by
  intro p g hm i c hc
  obtain ⟨c0, hc0, e⟩ := h.symm.getElem?' hc
  rw [← (shape_base e).1, ← (shape_base e).2]
  exact hf p g hm i c0 hc0

theorem SameShape.respsFresh {s s' : State} (h : SameShape s s') (hr : s'.resps = s.resps) (hf : RespsFresh s) :
    RespsFresh s' :=
  ⟨hr ▸ hf.1, hr ▸ fresh_of_shape h hf.2⟩

/-- chunk disjointness and freshness of the pending responses are preserved along a `Trace` -/
theorem Trace.disjoint {s s' : State} (t : Trace s s') (hd : ChunksDisjoint s) (hf : RespsFresh s) :
    ChunksDisjoint s' ∧ RespsFresh s' := by
  rcases t with ⟨t1, t2⟩ | ⟨p, g, c, t1, t2, t3, t4⟩
  · refine ⟨SameShape.disjoint t1 hd, ?_⟩
    rcases t2 with t2 | t2
    · exact SameShape.respsFresh t1 t2 hf
    · have hpc := hf.1
      rw [t2] at hpc
      exact ⟨(List.pairwise_cons.1 hpc).2,
        fresh_of_shape t1 (fun p' g' hm => hf.2 p' g' (by rw [t2]; exact List.mem_cons_of_mem _ hm))⟩
  · refine ⟨disjoint_append hd hf t1 t2 t3 t4, ?_⟩
    have hpc := hf.1
    rw [t1] at hpc
    obtain ⟨hhead, hpw⟩ := List.pairwise_cons.1 hpc
    refine ⟨hpw, ?_⟩
    intro p' g' hm i a ha
    rcases append_cases t4 i a ha with ⟨hi, a', ha', e1, e2⟩ | ⟨hi, e1, e2⟩
    · rw [e1, e2]
      exact hf.2 p' g' (by rw [t1]; exact List.mem_cons_of_mem _ hm) i a' ha'
    · have := hhead _ hm
      simp only at this
      rw [e1, e2, t2]
      rcases this with h | h
      · exact Or.inr (Nat.le_trans (Nat.add_le_add_left t3 p) h)
      · exact Or.inl h

/-- the block returned by `alloc` can receive a copy of a live block -/
theorem alloc_copyReady (hc : CfgOK cfg) {s : State} (h : GeomInv cfg s) (hr : RespsOK cfg s)
    (hd : ChunksDisjoint s) (hf : RespsFresh s) {L : Layout} (hL : L.Valid)
    {ptr n : Nat} (hl : LiveBlock cfg s ptr n) {s' : State} {np : Nat}
    (he : alloc cfg s L = .ok (s', .ok np)) : CopyReady cfg s' ptr n np L.size := by
  obtain ⟨w, ht | hfrom⟩ := ((alloc_ensures hc h hr hL).1 _ he).2 np rfl
  · exact copyReady_fast hc h hd hL hl ht
  · exact copyReady_slow hc h hd hf hL hl.old hfrom

end
end Arena
