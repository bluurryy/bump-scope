/-
  Lemmas/MemSlow.lean — an allocation served by the slow path (`inAnotherChunk`; `SlowTry` of
  `Lemmas/MemAlloc.lean`) keeps `LiveOK`, as does a refused one.
-/
import BumpProof.Lemmas.MemAlloc
import BumpProof.Lemmas.MemLive

set_option linter.unusedSimpArgs false

namespace Arena.Mem
open Rs

theorem MemExt.getElem? {s t : State} (h : MemExt s t) {j : Nat} {c : Chunk} (hc : s.chunks[j]? = some c) :
    ∃ c', t.chunks[j]? = some c' ∧ c'.base = c.base ∧ c'.size = c.size := by
  obtain ⟨e, h⟩ := h
  obtain ⟨c', hc', hg⟩ := getElem?_of_map_append Chunk.memCell h hc
  exact ⟨c', hc', congrArg (·.1) hg, congrArg (·.2.1) hg⟩

theorem SlowTry.isReset {cfg : Cfg} {s t : State} {i' : Nat} {ct : Chunk} (h : SlowTry cfg s t i' ct) :
    ct.pos = if cfg.up then ct.contentStart cfg else ct.contentEnd cfg := by
  rcases h.origin with ⟨c, _, rfl⟩ | ⟨p, g, rest, size, size', _, _, rfl, _⟩
  · rfl
  · exact (Fn.freshChunk_pos cfg p g size size').symm

/-- an allocation served by the slow path establishes `AllocOutcome`: every live block lies in a chunk
    before the one the block is carved from -/
theorem allocOutcome_slow {cfg : Cfg} {s t s' : State} {i' : Nat} {ct : Chunk} {L : Layout} {h : Hints} {p x : Nat}
    (hl : LiveOK cfg s) (hwf : MemWF s) (hfr : HeadFresh s)
    (hst : SlowTry cfg s t i' ct) (hv : C11.Valid cfg.up (bumpProps cfg t L h))
    (hr : tryCur cfg .alloc t L h = .ok (some ((p, x), s'))) :
    AllocOutcome cfg s' p L.size ∧ L.align ∣ p := by
  obtain ⟨i, c, np, hcur, hc, hal, _, hcv, rfl⟩ := tryCur_alloc_carved hv hr
  cases hst.cur.symm.trans hcur
  cases hst.chunk.symm.trans hc
  have hlive : t.live = s.live := hst.ghost.1
  refine ⟨.carve (hst.wf hwf hfr).disj hcur hc (by rw [hst.isReset]; split <;> exact Nat.le_refl _) hcv
    (hlive ▸ hl.aligned) (hlive ▸ hl.disjoint) fun b hb hs => ?_, hal⟩
  obtain ⟨i0, j, cj, h1, h2, h3, h4, _⟩ := hl.placed b (hlive ▸ hb) hs
  have hji : j < i' := hst.after j (List.getElem?_eq_some_iff.mp h3).1 fun i1 hi1 => by cases h1.symm.trans hi1; exact h2
  obtain ⟨c', hc', e1, e2⟩ := hst.ext.getElem? h3
  exact ⟨i', j, c', rfl, Nat.le_of_lt hji, hc', h4.of_same e1 e2, fun e => absurd e (Nat.ne_of_lt hji)⟩

theorem allocGeneric_allocOutcome {cfg : Cfg} {s s1 : State} {L : Layout} {h hSlow : Hints} {p x : Nat}
    (hl : LiveOK cfg s) (hwf : MemWF s) (hfr : HeadFresh s) (hp : CurPosOK cfg s)
    (hv : C11.Valid cfg.up (bumpProps cfg s L h))
    (hvslow : ∀ t i' ct, SlowTry cfg s t i' ct → C11.Valid cfg.up (bumpProps cfg t L hSlow))
    (hr : allocGeneric cfg .alloc s L h hSlow = .ok (s1, .ok (p, x))) : AllocOutcome cfg s1 p L.size ∧ L.align ∣ p := by
  rcases Fn.allocGeneric_cases hr with ⟨v, hv', hf⟩ | ⟨_, hs⟩
  · cases hv'
    exact allocOutcome_tryCur hl hwf.disj hp hv hf
  · obtain ⟨t, i', ct, hst, htry⟩ := inAnotherChunk_inv hs
    exact allocOutcome_slow hl hwf hfr hst (hvslow t i' ct hst) htry

theorem alloc_allocOutcome {cfg : Cfg} {s s1 : State} {L : Layout} {p : Nat}
    (hl : LiveOK cfg s) (hwf : MemWF s) (hfr : HeadFresh s) (hp : CurPosOK cfg s)
    (hv : C11.Valid cfg.up (bumpProps cfg s L Hints.custom))
    (hvslow : ∀ t i' ct, SlowTry cfg s t i' ct → C11.Valid cfg.up (bumpProps cfg t L Hints.custom))
    (h : alloc cfg s L = .ok (s1, .ok p)) : AllocOutcome cfg s1 p L.size ∧ L.align ∣ p :=
  let ⟨_, hg⟩ := alloc_ok h
  allocGeneric_allocOutcome hl hwf hfr hp hv hvslow hg

/-- moving the current chunk forward (or not at all) keeps `LiveOK`, as long as the chunks up to the old current one keep
    their address ranges and, if the current chunk stays, their positions -/
theorem LiveOK.follow {cfg : Cfg} {s s' : State} (hl : LiveOK cfg s) (hlive : s'.live = s.live)
    (hkeep : ∀ i, s.cur = .chunk i → ∀ j c, j ≤ i → s.chunks[j]? = some c →
      ∃ c', s'.chunks[j]? = some c' ∧ c'.base = c.base ∧ c'.size = c.size ∧ (s'.cur = s.cur → c'.pos = c.pos))
    (hcur : s'.cur = s.cur ∨ ∃ j, s'.cur = .chunk j ∧ ∀ i, s.cur = .chunk i → i < j) : LiveOK cfg s' := by
  refine ⟨hlive ▸ hl.aligned, ?_, hlive ▸ hl.disjoint⟩
  intro b hb hs
  rw [hlive] at hb
  obtain ⟨i, j, c, h1, h2, h3, h4, h5⟩ := hl.placed b hb hs
  obtain ⟨c', hc', e1, e2, e3⟩ := hkeep i h1 j c h2 h3
  rcases hcur with hsame | ⟨j0, hj0, hlt⟩
  · refine ⟨i, j, c', hsame.trans h1, h2, hc', h4.of_same e1 e2, fun hji => ?_⟩
    have := h5 hji
    unfold OnAllocatedSide at this ⊢
    rw [e3 hsame]; exact this
  · have hlt := hlt i h1
    exact ⟨j0, j, c', hj0, Nat.le_of_lt (Nat.lt_of_le_of_lt h2 hlt), hc', h4.of_same e1 e2,
      fun hji => absurd (hji ▸ h2) (Nat.not_le_of_lt hlt)⟩

theorem LiveOK.advance {cfg : Cfg} {s s2 : State} (hl : LiveOK cfg s) (hlive : s2.live = s.live)
    (hkeep : ∀ i, s.cur = .chunk i → ∀ j, j ≤ i → s2.chunks[j]? = s.chunks[j]?)
    (hcur : s2.cur = s.cur ∨ ∃ i2, s2.cur = .chunk i2 ∧ ∀ i, s.cur = .chunk i → i < i2) : LiveOK cfg s2 :=
  hl.follow hlive (fun i hi j c hji hc => ⟨c, (hkeep i hi j hji).trans hc, rfl, rfl, fun _ => rfl⟩) hcur

/-- a refused allocation (`AllocError`) keeps `LiveOK`: the original chunk stays current (crate commit c107ca6),
    only positions of later chunks may have been reset -/
theorem allocGeneric_error_liveOK {cfg : Cfg} {k : Kind} {s s1 : State} {L : Layout} {h hSlow : Hints} {e : AErr}
    (hl : LiveOK cfg s) (hr : allocGeneric cfg k s L h hSlow = .ok (s1, .error e)) : LiveOK cfg s1 := by
  rcases Fn.allocGeneric_cases hr with ⟨v, hv', _⟩ | ⟨_, hs⟩
  · cases hv'
  · cases inAnotherChunk_cases hs with
    | refused hs =>
      exact hl.advance hs.ghost.1 hs.keep (.inl hs.cur)

end Arena.Mem
