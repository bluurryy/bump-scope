/-
  Lemmas/LedgerReplay.lean — replaying an allocation in a state that has (at least) the chunks the
  first run ended with, and the same current chunk and position the first run started from, takes
  the same decisions, returns the same address and never consults the base allocator.
-/
import BumpProof.Lemmas.LedgerAlloc

namespace Ledger
open Arena Rs

theorem CovC.symm {a b : List Chunk} (h : CovC a b) (hlen : b.length = a.length) : CovC b a := fun j c' hc' => by
  have hj : j < a.length := hlen ▸ (List.getElem?_eq_some_iff.1 hc').1
  obtain ⟨c'', h1, sp⟩ := h j _ (List.getElem?_eq_getElem hj)
  rw [hc'] at h1; cases h1
  exact ⟨_, List.getElem?_eq_getElem hj, sp.symm⟩

theorem CovC.singleton {a b : Chunk} (h : SamePlace a b) : CovC [a] [b] := fun j c hc => by
  cases j with
  | zero => cases hc; exact ⟨b, rfl, h⟩
  | succ j => cases hc

def Cov (s t : State) : Prop := t.minAlign = s.minAlign ∧ CovC s.chunks t.chunks

theorem Ext.cov {n : Nat} {s s' : State} (h : Ext n s s') : Cov s s' := ⟨h.minAlign, h.covC⟩

/-- `t` covers `s` and has the same current chunk at the same position -/
def Sim (s t : State) : Prop :=
  Cov s t ∧ t.cur = s.cur ∧
  ∀ i c, s.cur = .chunk i → s.chunks[i]? = some c → ∃ c', t.chunks[i]? = some c' ∧ c'.pos = c.pos

theorem Sim.of_cur {s t : State} {j : Nat} {c c' : Chunk} (hcov : Cov s t) (hs : s.cur = .chunk j)
    (ht : t.cur = .chunk j) (hc : s.chunks[j]? = some c) (hc' : t.chunks[j]? = some c') (hp : c'.pos = c.pos) :
    Sim s t :=
  ⟨hcov, ht.trans hs.symm, fun i x hi hx => by
    rw [hs] at hi; cases hi
    rw [hc] at hx; cases hx
    exact ⟨c', hc', hp⟩⟩

theorem Sim.refl (s : State) : Sim s s := ⟨⟨rfl, CovC.refl _⟩, rfl, fun _ c _ hc => ⟨c, hc, rfl⟩⟩

theorem Sim.props_eq {cfg : Cfg} {s t : State} (h : Sim s t) (hok : ∀ i, s.cur = .chunk i → i < s.chunks.length)
    (L : Layout) (hh : Hints) :
    bumpProps cfg s L hh = bumpProps cfg t L hh := by
  obtain ⟨⟨hm, hc⟩, hcur, hpos⟩ := h
  unfold bumpProps freeRange
  rw [hm, hcur]
  cases hcu : s.cur with
  | unallocated => rfl
  | claimed => rfl
  | chunk i =>
    have hi := List.getElem?_eq_getElem (hok i hcu)
    obtain ⟨c', h1, sp⟩ := hc i _ hi
    obtain ⟨_, h2, hp⟩ := hpos i _ hcu hi
    rw [h1] at h2; cases h2
    simp only [hi, h1, hp, Chunk.contentStart_congr cfg sp.1, Chunk.contentEnd_congr cfg sp.1 sp.2.1]

theorem Sim.setCurPos {s t : State} (h : Sim s t) (q : Nat) : Sim (Arena.setCurPos s q) (Arena.setCurPos t q) := by
  obtain ⟨⟨hm, hc⟩, hcur, hpos⟩ := h
  unfold Arena.setCurPos
  rw [hcur]
  cases hcu : s.cur with
  | unallocated => exact ⟨⟨hm, hc⟩, hcur, hpos⟩
  | claimed => exact ⟨⟨hm, hc⟩, hcur, hpos⟩
  | chunk i =>
    refine ⟨⟨hm, ?_⟩, hcur, fun i' x hi' hx => ?_⟩
    · exact ((Ext.setPos s q (Nat.zero_le i)).covC.symm (setPos_length s i q)).trans
        (hc.trans (Ext.setPos t q (Nat.zero_le i)).covC)
    · rw [setPos_cur, hcu] at hi'; cases hi'
      rw [setPos_chunks, List.getElem?_modify_eq] at hx ⊢
      cases hs : s.chunks[i]? with
      | none => rw [hs] at hx; cases hx
      | some c0 =>
        obtain ⟨y, hy, _⟩ := hc i c0 hs
        rw [hs] at hx; cases hx
        exact ⟨{ y with pos := q }, by rw [hy]; rfl, rfl⟩

theorem tryCur_mirror {cfg : Cfg} {k : Kind} {s t : State} {L : Layout} {hh : Hints} (h : Sim s t)
    (hok : ∀ i, s.cur = .chunk i → i < s.chunks.length) :
    (tryCur cfg k s L hh = .ok none → tryCur cfg k t L hh = .ok none) ∧
    (∀ v s', tryCur cfg k s L hh = .ok (some (v, s')) →
      ∃ t', tryCur cfg k t L hh = .ok (some (v, t')) ∧ Sim s' t') := by
  rw [tryCur_eq, tryCur_eq, ← h.props_eq hok L hh]
  refine ⟨fun e => ?_, fun v s' e => ?_⟩
  · obtain ⟨_ | _, e1, e⟩ := bind_eq_ok e <;> cases e
    rw [e1]; rfl
  · obtain ⟨_ | ⟨_, q⟩, e1, e⟩ := bind_eq_ok e <;> cases e
    rw [e1]
    refine ⟨_, rfl, ?_⟩
    cases q with
    | none => exact h
    | some q => exact h.setCurPos q

theorem resetPos_samePlace (cfg : Cfg) {c c' : Chunk} (h : SamePlace c c') :
    SamePlace (c.resetPos cfg) (c'.resetPos cfg) ∧ (c'.resetPos cfg).pos = (c.resetPos cfg).pos := by
  refine ⟨h, ?_⟩
  show (if cfg.up then c'.contentStart cfg else c'.contentEnd cfg) = (if cfg.up then c.contentStart cfg else c.contentEnd cfg)
  rw [Chunk.contentStart_congr cfg h.1, Chunk.contentEnd_congr cfg h.1 h.2.1]

theorem enterChunk_getElem? (cfg : Cfg) {s : State} {j : Nat} {c : Chunk} (hc : s.chunks[j]? = some c) :
    (enterChunk cfg s j c).chunks[j]? = some (c.resetPos cfg) :=
  List.getElem?_set_self (List.getElem?_eq_some_iff.1 hc).1

theorem Sim.enter (cfg : Cfg) {s t : State} {j : Nat} {c c' : Chunk} (h : Cov s t)
    (hc : s.chunks[j]? = some c) (hc' : t.chunks[j]? = some c') (sp : SamePlace c c') :
    Sim (enterChunk cfg s j c) (enterChunk cfg t j c') :=
  .of_cur ⟨h.1, ((Ext.enter cfg s hc).covC.symm List.length_set).trans (h.2.trans (Ext.enter cfg t hc').covC)⟩
    rfl rfl (enterChunk_getElem? cfg hc) (enterChunk_getElem? cfg hc') (resetPos_samePlace cfg sp).2

/-- the chunk `appendFor` links is at its reset position -/
theorem appendFor_ok {cfg : Cfg} {s s' : State} {L : Layout} {idx : Nat} (h : appendFor cfg s L = .ok (s', .ok idx)) :
    ∃ c, s'.chunks = s.chunks ++ [c] ∧ (c.resetPos cfg).pos = c.pos ∧ idx = s.chunks.length ∧
      s'.minAlign = s.minAlign := by
  cases Fn.appendFor_created h with
  | granted => exact ⟨_, rfl, Fn.freshChunk_pos cfg .., rfl, rfl⟩

/-- `t'` is `t` up to bump positions and the current chunk: no base-allocator traffic, no chunk added -/
def Still (t t' : State) : Prop :=
  t'.reqs = t.reqs ∧ t'.resps = t.resps ∧ CovC t.chunks t'.chunks ∧ t'.chunks.length = t.chunks.length

theorem Still.trans {a b c : State} (h1 : Still a b) (h2 : Still b c) : Still a c :=
  ⟨h2.1.trans h1.1, h2.2.1.trans h1.2.1, h1.2.2.1.trans h2.2.2.1, h2.2.2.2.trans h1.2.2.2⟩

theorem Still.enter (cfg : Cfg) {t : State} {j : Nat} {c : Chunk} (hc : t.chunks[j]? = some c) :
    Still t (enterChunk cfg t j c) :=
  ⟨rfl, rfl, (Ext.enter cfg t hc).covC, List.length_set⟩

theorem Still.tryCur {cfg : Cfg} {k : Kind} {t t' : State} {L : Layout} {hh : Hints} {v : Nat × Nat}
    (e : tryCur cfg k t L hh = .ok (some (v, t'))) : Still t t' :=
  have ⟨_, f2, f3, f4, f5⟩ := tryCur_frame e
  ⟨f2, f3, (f5 0 fun _ _ => Nat.zero_le _).covC, f4⟩

theorem Still.refl (t : State) : Still t t := ⟨rfl, rfl, CovC.refl _, rfl⟩

theorem CovC.snoc {a b : List Chunk} {f y : Chunk} (h : CovC a b) (hy : b[a.length]? = some y) (sp : SamePlace f y) :
    CovC (a ++ [f]) b := fun j c hc => by
  by_cases hj : j < a.length
  · exact h j c ((List.getElem?_append_left hj).symm.trans hc)
  · have hlt := (List.getElem?_eq_some_iff.1 hc).1
    rw [List.length_append, List.length_singleton] at hlt
    obtain rfl : j = a.length := by omega
    rw [List.getElem?_append_right (Nat.le_refl _), Nat.sub_self] at hc
    cases hc
    exact ⟨y, hy, sp⟩

/-- The walk of `s` repeated in a state `t` that has the chunks of `s` and possibly more: the same chunks are entered and
    found too small, the same chunk serves the request.  Where the walk of `s` ends for lack of chunks that of `t` need not:
    it goes on as the walk from the last chunk of `s` does. -/
theorem Walk.replay {cfg : Cfg} {k : Kind} {L : Layout} {hh : Hints} {i : Nat} {s sw : State}
    {o : Option ((Nat × Nat) × State)} (hw : Fn.Walk cfg k L hh i s o sw) :
    ∀ {t : State}, Cov s t → i < s.chunks.length → ∃ tw, Cov sw tw ∧ Still t tw ∧
      match o with
      | some (v, _) => Sim sw tw ∧ Fn.Walk cfg k L hh i t (some (v, tw)) tw
      | none => ∀ {o' t'}, Fn.Walk cfg k L hh (sw.chunks.length - 1) tw o' t' → Fn.Walk cfg k L hh i t o' t' := by
  induction hw with
  | @stop i s hc =>
    intro t hcov hi
    obtain rfl : s.chunks.length - 1 = i := by have := List.getElem?_eq_none_iff.1 hc; omega
    exact ⟨t, hcov, .refl t, id⟩
  | @hit i s c v s' hc ht =>
    intro t hcov _
    obtain ⟨c', hc', sp⟩ := hcov.2 _ _ hc
    obtain ⟨_, m2⟩ := tryCur_mirror (cfg := cfg) (k := k) (L := L) (hh := hh) (Sim.enter cfg hcov hc hc' sp)
      fun j hj => by cases hj; exact (Fn.enterChunk_length cfg s (i+1) c).symm ▸ (List.getElem?_eq_some_iff.1 hc).1
    obtain ⟨t', ht', g⟩ := m2 _ _ ht
    exact ⟨t', g.1, (Still.enter cfg hc').trans (.tryCur ht'), g, .hit hc' ht'⟩
  | @miss i s c o s' hc ht _ ih =>
    intro t hcov _
    obtain ⟨c', hc', sp⟩ := hcov.2 _ _ hc
    have hsim := Sim.enter cfg hcov hc hc' sp
    have hlt : i + 1 < (enterChunk cfg s (i+1) c).chunks.length :=
      (Fn.enterChunk_length cfg s (i+1) c).symm ▸ (List.getElem?_eq_some_iff.1 hc).1
    have ht' := (tryCur_mirror (cfg := cfg) (k := k) (L := L) (hh := hh) hsim fun j hj => by cases hj; exact hlt).1 ht
    obtain ⟨tw, h1, h2, h3⟩ := ih hsim.1 hlt
    refine ⟨tw, h1, (Still.enter cfg hc').trans h2, ?_⟩
    cases o with
    | none => exact fun w => .miss hc' ht' (h3 w)
    | some x => exact ⟨h3.1, .miss hc' ht' h3.2⟩

theorem Slow.cur_ok {cfg : Cfg} {k : Kind} {L : Layout} {hh : Hints} {s s1 : State} {v : Nat × Nat}
    (hs : Fn.Slow cfg k L hh s s1 (.ok v)) (hi : ∀ i, s.cur = .chunk i → i < s.chunks.length) :
    ∃ j, s1.cur = .chunk j ∧ j < s1.chunks.length := by
  have fresh : ∀ {sw sa : State} {j : Nat}, CreateFrame cfg sw sa (.ok j) →
      tryCur cfg k { sa with cur := .chunk j } L hh = .ok (some (v, s1)) → ∃ j, s1.cur = .chunk j ∧ j < s1.chunks.length :=
    fun hc ht => ⟨_, (tryCur_frame ht).1, (tryCur_frame ht).2.2.2.1 ▸ (hc.2.2.2.1 _ rfl).2 ▸ Nat.lt_succ_self _⟩
  cases hs with
  | first _ hn ht => exact fresh (newChunkForCapacity_frame hn) ht
  | append _ _ hn ht => exact fresh (appendFor_frame hn) ht
  | @next i _ _ hcur hw =>
    obtain ⟨_, _, w3, _, w5⟩ := Walk.frame hw
    rcases w5 with h5 | ⟨j, _, hj2, hj3⟩
    · exact ⟨i, h5.trans hcur, w3 ▸ hi i hcur⟩
    · exact ⟨j, hj3, w3 ▸ hj2⟩

/-- Replay of the slow path.  `s` is the state of the first run (current chunk `i`), `s1` its result
    (success with value `v`); `t` has the same current chunk and minimum alignment, covers the chunks
    of `s` and of `s1` (all chunks the first run ended with are still there).  Then the slow path in `t`
    succeeds with the same value and never consults the base allocator: where the first run appended a chunk,
    the walk of `t` finds that chunk. -/
theorem inAnotherChunk_replay {cfg : Cfg} {k : Kind} {L : Layout} {hh : Hints} {s t s1 : State} {i : Nat}
    {v : Nat × Nat}
    (hcur : s.cur = .chunk i) (hi : i < s.chunks.length) (hcov : Cov s t) (htcur : t.cur = s.cur)
    (e : inAnotherChunk cfg k s L hh = .ok (s1, .ok v)) (hfin : CovC s1.chunks t.chunks) :
    ∃ t1, inAnotherChunk cfg k t L hh = .ok (t1, .ok v) ∧ Sim s1 t1 ∧ Still t t1 ∧
      ∃ j, s1.cur = .chunk j ∧ j < s1.chunks.length := by
  have hs := Fn.inAnotherChunk_slow e
  have hok := Slow.cur_ok hs fun j hj => by cases hcur.symm.trans hj; exact hi
  cases hs with
  | first h => cases hcur.symm.trans h
  | next h hw =>
    cases hcur.symm.trans h
    obtain ⟨tw, _, hst, g, hwt⟩ := Walk.replay hw hcov hi
    exact ⟨tw, (Fn.Slow.next (htcur.trans hcur) hwt).run, g, hst, hok⟩
  | @append _ _ sw sa _ _ h hw hn ht =>
    cases hcur.symm.trans h
    obtain ⟨tw, hcovw, hst, cont⟩ := Walk.replay hw hcov hi
    obtain ⟨f, hsac, hfpos, rfl, hsam⟩ := appendFor_ok hn
    have hfresh : sa.chunks[sw.chunks.length]? = some f := by
      rw [hsac, List.getElem?_append_right (Nat.le_refl _), Nat.sub_self]; rfl
    -- the chunk that the first run created is in `t`, hence in `tw`, right behind the chunks of `sw`
    obtain ⟨x, hx, spx⟩ := (Still.tryCur ht).2.2.1 _ _ hfresh
    obtain ⟨y, hy, spy⟩ := hfin _ x hx
    obtain ⟨y', hy', spy'⟩ := hst.2.2.1 _ y hy
    have spf : SamePlace f y' := (spx.trans spy).trans spy'
    have hsim : Sim { sa with cur := .chunk sw.chunks.length } (enterChunk cfg tw sw.chunks.length y') :=
      .of_cur ⟨hcovw.1.trans hsam.symm, (hsac ▸ hcovw.2.snoc hy' spf).trans (Ext.enter cfg tw hy').covC⟩ rfl rfl hfresh
        (enterChunk_getElem? cfg hy') ((resetPos_samePlace cfg spf).2.trans hfpos)
    obtain ⟨_, m2⟩ := tryCur_mirror (cfg := cfg) (k := k) (L := L) (hh := hh) hsim
      fun j hj => by cases hj; rw [hsac, List.length_append]; exact Nat.lt_succ_self _
    obtain ⟨t1, ht1, g⟩ := m2 _ _ ht
    have hpos : sw.chunks.length - 1 + 1 = sw.chunks.length :=
      Nat.sub_add_cancel ((Walk.frame hw).2.2.1 ▸ Nat.succ_le_of_lt (Nat.zero_lt_of_lt hi))
    exact ⟨t1, (Fn.Slow.next (htcur.trans hcur) (cont (.hit (hpos.symm ▸ hy') (hpos.symm ▸ ht1)))).run, g,
      hst.trans ((Still.enter cfg hy').trans (.tryCur ht1)), hok⟩

theorem allocGeneric_replay {cfg : Cfg} {k : Kind} {L : Layout} {hh hs : Hints} {s t s1 : State} {i : Nat}
    {v : Nat × Nat}
    (hcur : s.cur = .chunk i) (hi : i < s.chunks.length) (hsim : Sim s t)
    (e : allocGeneric cfg k s L hh hs = .ok (s1, .ok v)) (hfin : CovC s1.chunks t.chunks) :
    ∃ t1, allocGeneric cfg k t L hh hs = .ok (t1, .ok v) ∧ Sim s1 t1 ∧ Still t t1 ∧
      ∃ j, s1.cur = .chunk j ∧ j < s1.chunks.length := by
  obtain ⟨m1, m2⟩ := tryCur_mirror (cfg := cfg) (k := k) (L := L) (hh := hh) hsim
    fun j hj => by rw [hcur] at hj; cases hj; exact hi
  unfold allocGeneric at e ⊢
  obtain ⟨_ | ⟨v', s'⟩, ho, e⟩ := bind_eq_ok e
  · rw [m1 ho]
    exact inAnotherChunk_replay hcur hi hsim.1 hsim.2.1 e hfin
  · cases e
    obtain ⟨t', ht', g⟩ := m2 _ _ ho
    obtain ⟨f1, _, _, f4, _⟩ := tryCur_frame ho
    exact ⟨t', by rw [ht']; rfl, g, Still.tryCur ht', i, f1.trans hcur, f4 ▸ hi⟩

theorem alloc_replay {cfg : Cfg} {L : Layout} {s t s1 : State} {i p : Nat}
    (hcur : s.cur = .chunk i) (hi : i < s.chunks.length) (hsim : Sim s t)
    (e : alloc cfg s L = .ok (s1, .ok p)) (hfin : CovC s1.chunks t.chunks) :
    ∃ t1, alloc cfg t L = .ok (t1, .ok p) ∧ Sim s1 t1 ∧ Still t t1 ∧
      ∃ j, s1.cur = .chunk j ∧ j < s1.chunks.length := by
  obtain ⟨_ | v, h1, he⟩ := Fn.alloc_eq_ok e <;> cases he
  obtain ⟨t1, g0, g⟩ := allocGeneric_replay hcur hi hsim h1 hfin
  exact ⟨t1, by unfold alloc; rw [g0]; rfl, g⟩

/-- a workload: a sequence of allocations that all succeed, with the addresses returned -/
inductive Run (cfg : Cfg) : State → List Layout → State → List Nat → Prop
  | nil (s : State) : Run cfg s [] s []
  | cons {s s1 s' : State} {L : Layout} {Ls : List Layout} {p : Nat} {ps : List Nat} :
      alloc cfg s L = .ok (s1, .ok p) → Run cfg s1 Ls s' ps → Run cfg s (L :: Ls) s' (p :: ps)

theorem Run.ext {cfg : Cfg} {s s' : State} {Ls : List Layout} {ps : List Nat} (h : Run cfg s Ls s' ps) :
    Ext 0 s s' := by
  induction h with
  | nil s => exact Ext.refl 0 s
  | cons ha _ ih => exact ((alloc_frame ha).1 0 (fun _ _ => Nat.zero_le _)).trans ih

/-- replaying a whole workload in a state that has the same current chunk and position as the start
    of the first run and still has all chunks the first run ended with: every allocation succeeds
    at the same address and the base allocator is never consulted -/
theorem Run.replay {cfg : Cfg} {s s' : State} {Ls : List Layout} {ps : List Nat} (h : Run cfg s Ls s' ps) :
    ∀ (t : State), (∃ i, s.cur = .chunk i ∧ i < s.chunks.length) → Sim s t → CovC s'.chunks t.chunks →
    ∃ t', Run cfg t Ls t' ps ∧ t'.reqs = t.reqs ∧ t'.resps = t.resps ∧ Sim s' t' ∧
      t'.chunks.length = t.chunks.length ∧ ∃ j, s'.cur = .chunk j ∧ j < s'.chunks.length := by
  induction h with
  | nil s => intro t hc hsim _; exact ⟨t, Run.nil t, rfl, rfl, hsim, rfl, hc⟩
  | cons ha hr ih =>
    intro t ⟨i, hcur, hi⟩ hsim hfin
    obtain ⟨t1, g0, g1, ⟨g2, g3, g4, g5⟩, g6⟩ := alloc_replay hcur hi hsim ha (hr.ext.covC.trans hfin)
    obtain ⟨t', r0, r1, r2, r3, r4, r5⟩ := ih t1 g6 g1 (hfin.trans g4)
    exact ⟨t', Run.cons g0 r0, r1.trans g2, r2.trans g3, r3, r4.trans g5, r5⟩

end Ledger
