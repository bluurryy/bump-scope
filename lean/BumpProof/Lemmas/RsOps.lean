/-
  Lemmas/RsOps.lean — rewriting lemmas for the `Rs` primitives and for the small
  generated helpers (`down_align`, `up_align_unchecked`, `up_align`,
  `debug_assert_valid`), and `Facts`: what `Valid` says, over plain variables.
-/
import BumpProof.Lemmas.Align
import BumpProof.Spec.BumpValid

namespace Lemmas
open Gen.Bumping Rs C11

theorem sub_ok {a b : Nat} (h : b ≤ a) : Rs.sub a b = .ok (a - b) := by
  unfold Rs.sub; rw [if_pos h]; rfl

theorem rem_ok {a b : Nat} (h : b ≠ 0) : Rs.rem a b = .ok (a % b) := by
  unfold Rs.rem; rw [if_neg h]; rfl

theorem assert_ok {b : Bool} (h : b = true) : Rs.assert b = .ok () := by
  subst h; rfl

theorem assert_decide {P : Prop} [Decidable P] (h : P) : Rs.assert (decide P) = .ok () :=
  assert_ok (decide_eq_true h)

/-- the form in which the generated code computes a mask (`align - 1`) -/
theorem sub_one_ok {a : Nat} (h : 0 < a) : Rs.sub a 1 = .ok (a - 1) := sub_ok h

theorem _root_.Arena.Hist.checked_mul_some {a b v : Nat} (h : Rs.checked_mul a b = some v) : v = a * b := by
  unfold Rs.checked_mul at h
  split at h
  · cases h; rfl
  · cases h

theorem assert_band {a x : Nat} {inst : Decidable (Rs.band x (a - 1) = 0)} (ha : P2 a) (h : a ∣ x) :
    Rs.assert (@decide (Rs.band x (a - 1) = 0) inst) = .ok () :=
  assert_decide (ha.band_mask_eq_zero h)

theorem assert_p2 {a : Nat} (ha : P2 a) : Rs.assert (Rs.is_power_of_two a) = .ok () :=
  assert_ok ha.is_power_of_two

/- NB: deliberately *not* `rfl`-theorems (`id rfl`): `simp` then records an explicit proof step
   instead of leaving a big definitional-equality problem to the kernel, which can be very slow. -/
theorem pure_eq_ok {α : Type} (x : α) : (pure x : Rs.M α) = .ok x := id rfl

theorem min_chunk_align_eq : MIN_CHUNK_ALIGN = 16 := rfl

theorem ok_bind {α β : Type} (a : α) (f : α → Rs.M β) : (Except.ok a >>= f) = f a := id rfl

theorem MAX_eq : Rs.MAX = 18446744073709551615 := by decide
theorem IMAX_eq : Rs.IMAX = 9223372036854775807 := by decide

/-- the bound spelt `< 2 ^ 64`, as `Facts` and `omega` state it, not `≤ Rs.MAX` as `Rs.add` does -/
theorem add_ok' {a b : Nat} (h : a + b < 2 ^ 64) : Rs.add a b = .ok (a + b) := by
  unfold Rs.add; rw [if_pos (by rw [MAX_eq]; omega)]; rfl

theorem as_isize_small {a : Nat} (h : a ≤ Rs.IMAX) : Rs.as_isize a = (a : Int) := by
  unfold Rs.as_isize
  rw [IMAX_eq] at h
  rw [if_pos (by omega)]

theorem wrapping_sub_le {a b : Nat} (hb : b ≤ a) (ha : a < 2 ^ 64) : Rs.wrapping_sub a b = a - b := by
  unfold Rs.wrapping_sub
  rw [Nat.sub_add_comm hb, Nat.add_mod_right, Nat.mod_eq_of_lt (Nat.lt_of_le_of_lt (Nat.sub_le a b) ha)]

/-- The fit test of the fast paths, `size as isize > (end.wrapping_sub(start)) as isize`, decides
    `end < start + size` both on a regular range and on the dummy range, whose remaining capacity
    reads as `-16`. -/
theorem remaining_test {x e sz : Nat} (hsz : sz < 2 ^ 63) (he : e < 2 ^ 64) (hx : x < 2 ^ 64)
    (hr : (x ≤ e ∧ e - x < 2 ^ 63) ∨ x = e + 16) :
    decide (Rs.as_isize sz > Rs.as_isize (Rs.wrapping_sub e x)) = decide (e < x + sz) := by
  rw [as_isize_small (by rw [IMAX_eq]; omega), decide_eq_decide]
  rcases hr with ⟨h1, h2⟩ | rfl
  · rw [wrapping_sub_le h1 he, as_isize_small (by rw [IMAX_eq]; omega)]
    omega
  · have h16 : Rs.as_isize (Rs.wrapping_sub e (e + 16)) = -16 := by
      unfold Rs.wrapping_sub Rs.as_isize
      rw [show e + 2 ^ 64 - (e + 16) = 2 ^ 64 - 16 by omega]
      decide
    rw [h16]
    omega

theorem saturating_add_ok {x y : Nat} (h : x + y < 2 ^ 64) : Rs.saturating_add x y = x + y := by
  unfold Rs.saturating_add; rw [if_pos (by rw [MAX_eq]; omega)]

theorem saturating_add_gt {x y e : Nat} (he : e + 1 < 2 ^ 64) :
    decide (Rs.saturating_add x y > e) = decide (e < x + y) := by
  unfold Rs.saturating_add
  rw [MAX_eq, decide_eq_decide]
  split <;> omega

theorem down_align_eq {x a : Nat} (ha : P2 a) (ha64 : a < 2 ^ 64) (hx : x < 2 ^ 64) :
    down_align x a = .ok (Spec.downAlign x a) := by
  unfold down_align
  rw [assert_ok ha.is_power_of_two, ok_bind, sub_one_ok ha.pos, ok_bind]
  show Except.ok _ = _
  rw [ha.band_bnot ha64 hx]

theorem up_align_unchecked_eq {x a : Nat} (ha : P2 a) (ha64 : a < 2 ^ 64) (hx : x + (a - 1) < 2 ^ 64) :
    up_align_unchecked x a = .ok (Spec.upAlign x a) := by
  unfold up_align_unchecked
  simp only [assert_ok ha.is_power_of_two, ok_bind, sub_one_ok ha.pos, add_ok' hx]
  show Except.ok _ = _
  rw [ha.band_bnot ha64 hx, upAlign_eq_downAlign]

/-- the generic path of `bump_up` aligns `start - 1` down and adds the alignment back -/
theorem band_pred_add {s a : Nat} (ha : P2 a) (ha64 : a < 2 ^ 64) (hs0 : 0 < s) (hs64 : s < 2 ^ 64) :
    Rs.band (s - 1) (Rs.bnot (a - 1)) + a = Spec.upAlign s a := by
  rw [ha.band_bnot ha64 (by omega), downAlign_pred_add hs0 ha.pos]

/-- the checked `up_align` answers `none` exactly when the aligned address leaves the address space: its checked
    addition of `a - 1` overflows exactly then (`P2.upAlign_lt_iff`) -/
theorem up_align_eq {x a : Nat} (ha : P2 a) (ha64 : a < 2 ^ 64) (hx0 : 0 < x) :
    up_align x a = .ok (if Spec.upAlign x a < 2 ^ 64 then some (Spec.upAlign x a) else none) := by
  unfold up_align
  have hle : x + (a - 1) ≤ Rs.MAX ↔ x + (a - 1) < 2 ^ 64 := by rw [MAX_eq]; omega
  by_cases hx : x + (a - 1) < 2 ^ 64
  · rw [if_pos ((ha.upAlign_lt_iff ha64 x).2 hx)]
    simp only [assert_p2 ha, ok_bind, sub_one_ok ha.pos, Rs.checked_add, if_pos (hle.2 hx)]
    show Except.ok (Rs.nonZero _) = _
    rw [ha.band_bnot ha64 hx, ← upAlign_eq_downAlign]
    unfold Rs.nonZero
    rw [if_neg (Nat.pos_iff_ne_zero.1 (Nat.lt_of_lt_of_le hx0 (le_upAlign x ha.pos)))]
  · rw [if_neg (fun h => hx ((ha.upAlign_lt_iff ha64 x).1 h))]
    simp only [assert_p2 ha, ok_bind, sub_one_ok ha.pos, Rs.checked_add, if_neg (mt hle.1 hx)]
    rfl

theorem valid_P2_min {p : BumpProps} (h : ValidCommon p) : P2 p.min_align :=
  (p2_of_min_align h.min_align).1

theorem valid_min_le {p : BumpProps} (h : ValidCommon p) : p.min_align ≤ 16 :=
  (p2_of_min_align h.min_align).2

theorem layout_p2 {L : Layout} (hL : L.Valid) : P2 L.align := by
  obtain ⟨⟨k, _, hk⟩, _⟩ := hL
  exact ⟨k, hk⟩

theorem valid_P2_align {p : BumpProps} (h : ValidCommon p) : P2 p.layout.align :=
  layout_p2 h.layout

theorem _root_.Rs.Layout.Valid.lt64 {L : Layout} (h : L.Valid) : L.align < 2 ^ 64 := by
  obtain ⟨⟨k, hk64, hk⟩, _⟩ := h
  rw [hk]; exact Nat.pow_lt_pow_right (by decide) hk64

theorem valid_align_lt {p : BumpProps} (h : ValidCommon p) : p.layout.align < 2 ^ 64 := h.layout.lt64

theorem debug_assert_valid_eq {up : Bool} {p : BumpProps} (h : Valid up p) :
    debug_assert_valid p up = .ok () := by
  obtain ⟨hc, hr⟩ := h
  have hm := valid_P2_min hc
  unfold debug_assert_valid
  rw [min_chunk_align_eq, assert_decide hc.start_ne, ok_bind, assert_decide hc.end_ne, ok_bind, assert_p2 hm, ok_bind,
    assert_decide (valid_min_le hc), ok_bind]
  extract_lets dummy done range
  -- the checks of the range, shared by both values of `size_is_multiple_of_align`
  have hrange : range () = .ok () := by
    rcases hr with ⟨h1, h2, h3⟩ | ⟨h1, h2⟩
    · simp only [range, dummy, done, decide_eq_false (Nat.not_lt.2 h1), Bool.false_eq_true, ↓reduceIte,
        assert_decide h1, assert_decide h2, ok_bind]
      cases up
      · simp only [Bool.false_eq_true, ↓reduceIte, assert_band P2.sixteen h3.1, assert_band hm h3.2, ok_bind,
          pure_eq_ok]
      · simp only [↓reduceIte, assert_band hm h3.1, assert_band P2.sixteen h3.2, ok_bind, pure_eq_ok]
    · have h3 : 16 ∣ p.start := h1 ▸ (Nat.dvd_add_right h2).2 (Nat.dvd_refl 16)
      have h4 : p.start > p.end := by omega
      have h5 := hc.start_lt
      simp only [range, dummy, done, decide_eq_true h4, ↓reduceIte, add_ok' (show p.end + 16 < 2 ^ 64 by omega),
        assert_decide h1, assert_band P2.sixteen h3, assert_band P2.sixteen h2, ok_bind, pure_eq_ok]
  cases hs : p.size_is_multiple_of_align
  · exact hrange
  · rw [if_pos rfl, rem_ok (Nat.pos_iff_ne_zero.1 (valid_P2_align hc).pos),
      Nat.mod_eq_zero_of_dvd (hc.truthful hs), ok_bind, assert_decide rfl, ok_bind]
    exact hrange

/-- `Valid up p` flattened to hypotheses about the components of `p`, in the order in which the
    equivalence proofs destructure it; `hm16d`, `hap` and `hmp` follow from the others and are there
    for convenience. -/
structure Facts (up : Bool) (s e m sz a : Nat) (smoa : Bool) : Prop where
  hm : P2 m
  hm16 : m ≤ 16
  hm16d : m ∣ 16
  ha : P2 a
  ha64 : a < 2 ^ 64
  hap : 0 < a
  hmp : 0 < m
  hs0 : 0 < s
  he0 : 0 < e
  hs64 : s < 2 ^ 64
  he64 : e < 2 ^ 64
  hsz : sz + (a - 1) < 2 ^ 63
  htr : smoa = true → a ∣ sz
  hr : (s ≤ e ∧ e - s < 2 ^ 63 ∧ (if up then m ∣ s ∧ 16 ∣ e else 16 ∣ s ∧ m ∣ e)) ∨
       (s = e + 16 ∧ 16 ∣ e ∧ 16 ∣ s)

theorem Valid.facts {up : Bool} {p : BumpProps} (h : Valid up p) :
    Facts up p.start p.«end» p.min_align p.layout.size p.layout.align p.size_is_multiple_of_align := by
  obtain ⟨hc, hr⟩ := h
  have hm := valid_P2_min hc
  have ha := valid_P2_align hc
  have hsz := hc.layout.2
  rw [IMAX_eq] at hsz
  refine ⟨hm, valid_min_le hc, hm.dvd_of_le P2.sixteen (valid_min_le hc), ha, valid_align_lt hc, ha.pos, hm.pos,
    Nat.pos_of_ne_zero hc.start_ne, Nat.pos_of_ne_zero hc.end_ne, hc.start_lt, hc.end_lt, by omega,
    hc.truthful, ?_⟩
  rcases hr with ⟨h1, h2, h3⟩ | ⟨h1, h2⟩
  · rw [IMAX_eq] at h2
    exact Or.inl ⟨h1, by omega, h3⟩
  · exact Or.inr ⟨h1, h2, by rw [h1]; exact (Nat.dvd_add_right h2).2 (Nat.dvd_refl 16)⟩

namespace Facts
variable {up : Bool} {s e m sz a : Nat} {smoa : Bool}

/-- the capacity test sees either a regular range or the dummy one -/
theorem range (f : Facts up s e m sz a smoa) : (s ≤ e ∧ e - s < 2 ^ 63) ∨ s = e + 16 :=
  f.hr.elim (fun h => Or.inl ⟨h.1, h.2.1⟩) (fun h => Or.inr h.1)

theorem min_dvd_start (f : Facts up s e m sz a smoa) : m ∣ s := by
  rcases f.hr with ⟨_, _, h⟩ | ⟨_, _, h⟩
  · cases up
    · exact Nat.dvd_trans f.hm16d h.1
    · exact h.1
  · exact Nat.dvd_trans f.hm16d h

theorem min_dvd_end (f : Facts up s e m sz a smoa) : m ∣ e := by
  rcases f.hr with ⟨_, _, h⟩ | ⟨_, h, _⟩
  · cases up
    · exact h.2
    · exact Nat.dvd_trans f.hm16d h.2
  · exact Nat.dvd_trans f.hm16d h

theorem end16 (f : Facts true s e m sz a smoa) : 16 ∣ e :=
  f.hr.elim (fun h => h.2.2.2) (fun h => h.2.1)

/-- seen from the start aligned for `a ∣ 16`, the range of an upward function is again a regular one or the dummy
    one (which is 16-aligned, so aligning does not move it), and the aligned start is 16 below the end of the
    address space -/
theorem range_upAlign (f : Facts true s e m sz a smoa) (ha16 : a ∣ 16) :
    ((Spec.upAlign s a ≤ e ∧ e - Spec.upAlign s a < 2 ^ 63) ∨ Spec.upAlign s a = e + 16) ∧
      Spec.upAlign s a + 16 ≤ 2 ^ 64 := by
  rcases f.hr with ⟨h1, h2, _⟩ | ⟨h1, _, h3⟩
  · have := upAlign_le_of_dvd f.hap (Nat.dvd_trans ha16 f.end16) h1
    exact ⟨Or.inl ⟨this, Nat.lt_of_le_of_lt (Nat.sub_le_sub_left (le_upAlign s f.hap) e) h2⟩,
      Nat.le_trans (Nat.add_le_add_right this 16) (add_sixteen_le f.end16 f.he64)⟩
  · rw [upAlign_eq_self f.hap (Nat.dvd_trans ha16 h3)]
    exact ⟨Or.inr h1, add_sixteen_le h3 f.hs64⟩

theorem start16 (f : Facts false s e m sz a smoa) : 16 ∣ s :=
  f.hr.elim (fun h => h.2.2.1) (fun h => h.2.2)

theorem end_ge (f : Facts false s e m sz a smoa) : 16 ≤ e :=
  f.hr.elim (fun h => Nat.le_trans (Nat.le_of_dvd f.hs0 h.2.2.1) h.1) (fun h => Nat.le_of_dvd f.he0 h.2.1)

theorem size_lt (f : Facts up s e m sz a smoa) : sz < 2 ^ 63 :=
  Nat.lt_of_le_of_lt (Nat.le_add_right _ _) f.hsz

end Facts

end Lemmas
