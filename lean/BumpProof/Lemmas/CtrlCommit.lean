/-
  Lemmas/CtrlCommit.lean — committing a prepared allocation: byte copies keep the shape of the arena
  (`SameShape`: positions, current chunk, ghost state); `set_pos_addr_and_align_from` evaluated
  (`setPosAlignFrom_eq`); where a finalised slice ends up, for the four combinations of bump direction and
  fill direction at once (`slide_pos`).
-/
import BumpProof.Lemmas.CtrlState
import BumpProof.Lemmas.MemWrite


namespace Ctrl
open Arena Rs Lemmas

/-- `cur`, the base / size / position of every chunk and the fields `live`, `minAlign`, `frames`, `nextId`, `userCps`,
    `prepared` are the same; the bytes, `reqs`, `resps`, `dropped` and the `granted` / `reqSize` of the chunks are left
    free.  `writeRange` / `copyBytes` satisfy it; `Mem.OnlyDataChanged` (everything but the bytes equal) is stronger.
    A different relation from `Arena.SameShape` (Lemmas/GeomBasic.lean: the chunk lists agree in everything BUT positions
    and bytes).  Compare, in Lemmas/CtrlPrep.lean, `Appended` (a chunk may have
    been added, nothing else) and `Keeps` (later chunks may have been reset and one of them become current). -/
structure SameShape (s s' : State) : Prop where
  cur : s'.cur = s.cur
  chunks : ∀ j : Nat, (s'.chunks[j]?).map (fun c => (c.base, c.size, c.pos)) =
    (s.chunks[j]?).map (fun c => (c.base, c.size, c.pos))
  live : s'.live = s.live
  minAlign : s'.minAlign = s.minAlign
  frames : s'.frames = s.frames
  nextId : s'.nextId = s.nextId
  userCps : s'.userCps = s.userCps
  prepared : s'.prepared = s.prepared

theorem SameShape.refl (s : State) : SameShape s s := ⟨rfl, fun _ => rfl, rfl, rfl, rfl, rfl, rfl, rfl⟩

theorem SameShape.pos {s s' : State} (h : SameShape s s') (j : Nat) :
    (s'.chunks[j]?).map (·.pos) = (s.chunks[j]?).map (·.pos) := by
  have := congrArg (Option.map fun x : Nat × Nat × Nat => x.2.2) (h.chunks j)
  rw [Option.map_map, Option.map_map] at this
  exact this

theorem SameShape.curChunk {s s' : State} {i : Nat} {c : Chunk} (h : SameShape s s') (hc : CurChunk s i c) :
    ∃ c', CurChunk s' i c' := by
  have := h.chunks i
  rw [hc.get] at this
  cases hg : s'.chunks[i]? with
  | none => rw [hg] at this; cases this
  | some c' => exact ⟨c', h.cur.trans hc.cur, hg⟩

theorem SameShape.of_onlyData {s s' : State} (h : Mem.OnlyDataChanged s s') : SameShape s s' := by
  obtain ⟨e, hg⟩ := h
  refine ⟨by rw [e], fun j => ?_, by rw [e], by rw [e], by rw [e], by rw [e], by rw [e], by rw [e]⟩
  have := congrArg (fun l => (l[j]?).map fun x : Nat × Nat × Nat × Nat × Nat => (x.1, x.2.1, x.2.2.1)) hg
  simp only [List.getElem?_map, Option.map_map] at this
  exact this

theorem writeRange_shape {cfg : Cfg} {s s' : State} {lo hi : Nat} {f : Nat → UInt8}
    (h : writeRange cfg s lo hi f = .ok s') : SameShape s s' :=
  .of_onlyData (Mem.writeRange_onlyData h)

theorem copyBytes_shape {cfg : Cfg} {s s' : State} {src dst len : Nat} {no : Bool}
    (h : copyBytes cfg s src dst len no = .ok s') : SameShape s s' :=
  .of_onlyData (Mem.copyBytes_onlyData h)

theorem setCurPos_after_copy (cfg : Cfg) {s s1 : State} {i : Nat} {c : Chunk} (hs : SameShape s s1)
    (hc : CurChunk s i c) (q : Nat) :
    curPos cfg (setCurPos s1 q) = q ∧ (setCurPos s1 q).cur = s.cur ∧ (setCurPos s1 q).live = s.live ∧
    ∀ j : Nat, j ≠ i → ((setCurPos s1 q).chunks[j]?).map (·.pos) = (s.chunks[j]?).map (·.pos) := by
  obtain ⟨c1, hc1⟩ := hs.curChunk hc
  refine ⟨(hc1.setCurPos q).curPos cfg, (Fn.setCurPos_cur _ _).trans hs.cur,
    (Fn.setCurPos_live _ _).trans hs.live, fun j hj => ?_⟩
  rw [setCurPos_chunk hc1.cur, Fn.setPos_getElem?_ne _ q (Ne.symm hj)]
  exact hs.pos j

/-- the position is only re-aligned when the element alignment is below the minimum alignment; an
    address aligned to a bigger power of two is aligned to the minimum alignment already -/
theorem setPosAlignFrom_eq {cfg : Cfg} {s : State} {pos ea : Nat} (hm : MinAlignOk s.minAlign) (hea : P2 ea)
    (hal : ea ∣ pos) (hb : pos + 16 ≤ 2 ^ 64 ∨ cfg.up = false ∧ pos < 2 ^ 64) :
    setPosAlignFrom cfg s pos ea =
      .ok (setCurPos s (if cfg.up then Spec.upAlign pos s.minAlign else Spec.downAlign pos s.minAlign)) := by
  unfold setPosAlignFrom
  have hle := hm.le
  have hb64 : pos < 2 ^ 64 := by rcases hb with hb | hb <;> omega
  rw [assert_decide (Nat.mod_eq_zero_of_dvd hal)]
  by_cases hlt : ea < s.minAlign
  · cases hup : cfg.up
    · simp only [liftM_ok, R_ok_bind, hlt, ↓reduceIte, lib_align_pos_down hm.p2 hm.lt64 hb64]
      rfl
    · have hb16 : pos + 16 ≤ 2 ^ 64 := hb.resolve_right fun h => Bool.noConfusion (hup.symm.trans h.1)
      simp only [liftM_ok, R_ok_bind, hlt, ↓reduceIte,
        lib_align_pos_up hm.p2 hm.lt64 (show pos + (s.minAlign - 1) < 2 ^ 64 by omega)]
      rfl
  · have hdvd : s.minAlign ∣ pos := Nat.dvd_trans (hm.p2.dvd_of_le hea (by omega)) hal
    simp only [liftM_ok, R_ok_bind, hlt, ↓reduceIte, upAlign_eq_self hm.pos hdvd, downAlign_eq_self hdvd, ite_self]
    rfl

/-- `ha`, `hpos` are what `allocatePreparedSlice_slides` (Lemmas/FnRealloc) says of the address `a` of the slice and of
    the address `pos` that `set_pos_addr_and_align_from` is applied to.  Then `a` is `C15.commitAddr` (written out here),
    and `pos` is aligned and far enough from the end of the address space.  The one place where the four
    combinations of bump direction and `rev` are told apart. -/
theorem slide_pos {cfg : Cfg} {ptr len cap esize ealign a pos : Nat} {rev : Bool}
    (hes : ealign ∣ esize) (hp : ealign ∣ ptr) (hlen : len ≤ cap)
    (hfit : if rev then cap * esize ≤ ptr ∧ ptr + 16 ≤ 2 ^ 64 else ptr + cap * esize + 16 ≤ 2 ^ 64)
    (ha : a = (if cfg.up then (if rev then ptr - cap * esize else ptr)
               else (if rev then ptr else ptr + cap * esize) - len * esize))
    (hpos : pos = (if cfg.up then a + len * esize else a)) :
    a = (if rev then (if cfg.up then ptr - cap * esize else ptr - len * esize)
         else (if cfg.up then ptr else ptr + cap * esize - len * esize)) ∧
      ealign ∣ pos ∧ pos + 16 ≤ 2 ^ 64 := by
  have hle : len * esize ≤ cap * esize := Nat.mul_le_mul_right esize hlen
  have hd1 : ealign ∣ len * esize := Nat.dvd_trans hes (Nat.dvd_mul_left esize len)
  have hd2 : ealign ∣ cap * esize := Nat.dvd_trans hes (Nat.dvd_mul_left esize cap)
  cases rev <;> cases hup : cfg.up <;> simp only [hup, Bool.false_eq_true, ↓reduceIte] at ha hpos hfit ⊢ <;>
    subst hpos <;> subst ha
  · exact ⟨rfl, Nat.dvd_sub ((Nat.dvd_add_right hp).2 hd2) hd1, by omega⟩
  · exact ⟨rfl, (Nat.dvd_add_right hp).2 hd1, by omega⟩
  · exact ⟨rfl, Nat.dvd_sub hp hd1, by omega⟩
  · exact ⟨rfl, (Nat.dvd_add_right (Nat.dvd_sub hp hd2)).2 hd1, by omega⟩

end Ctrl
