/-
  Lemmas/LifeCheck.lean — checker inversions of the region calculus: what `lookupValid`, `declare`, `access`, `checkCall`
  (`Call`), `checkEnter`, `checkVconv` computed when they accepted, and `verdict` / `faultOf` read backwards.  Nothing here
  speaks of the dynamic state or of the invariant.
-/
import BumpProof.Life.Calculus

namespace Life

theorem find_some {Γ : SEnv} {v : Var} {e : Entry} (h : Γ.find v = some e) : e ∈ Γ.ents ∧ e.var = v :=
  ⟨List.mem_of_find?_eq_some h, by simpa using List.find?_some h⟩

theorem lookupValid_ok {Γ : SEnv} {v : Var} {e : Entry} (h : Γ.lookupValid v = .ok e) :
    e ∈ Γ.ents ∧ e.var = v ∧ e.valid = true := by
  unfold SEnv.lookupValid at h
  split at h
  · cases h
  · split at h
    · cases h
    · rename_i e' hf
      split at h <;> cases h
      exact ⟨(find_some hf).1, (find_some hf).2, ‹_›⟩

theorem declare_ok {Γ Γ' : SEnv} {e : Entry} (h : Γ.declare e = .ok Γ') :
    e.var ∉ Γ.used ∧ Γ' = { Γ with ents := e :: Γ.ents, used := e.var :: Γ.used } := by
  unfold SEnv.declare at h
  split at h <;> cases h
  rename_i hc
  exact ⟨by simpa using hc, rfl⟩

theorem access_ok {Γ Γ1 : SEnv} {e : Entry} {r : Recv} (h : Γ.access e r = .ok Γ1) :
    match r with
    | .ref => Γ1 = Γ.useShr e.var
    | .refMut => e.acc ≠ .shrRef ∧ Γ1 = Γ.useMut e.var
    | .value => e.movable = true ∧ e.kind ≠ .claim ∧ e.kind ≠ .poolGuard ∧ Γ1 = Γ.remove e.var := by
  unfold SEnv.access at h
  cases r <;> simp only at h ⊢
  · cases h; rfl
  · split at h <;> cases h
    rename_i hne
    exact ⟨by simpa using hne, rfl⟩
  · split at h <;> cases h
    rename_i hmv
    simp only [Bool.and_eq_true, bne_iff_ne, ne_eq] at hmv
    exact ⟨hmv.1.1, hmv.1.2, hmv.2, rfl⟩

def DeclRes (Γ1 Γ' : SEnv) (res : Option Entry) : Prop :=
  match res with
  | none => Γ' = Γ1
  | some ne => Γ1.declare ne = .ok Γ'

/-- `let x = e.name(…)` with signature `sig` was accepted in `Γ`: the receiver `e` was usable and the method applies
    to it, the use of the receiver led to `Γ1`, the result `res` was declared, giving `Γ'` -/
structure Call (t : Table) (Γ Γ1 Γ' : SEnv) (x : Var) (sig : Sig) (e : Entry) (res : Option Entry) : Prop where
  sig_mem : sig ∈ t.sigs
  mem : e ∈ Γ.ents
  valid : e.valid = true
  app : applicable t sig.ownerK e = true
  acc : Γ.access e (effRecv sig) = .ok Γ1
  res_eq : mkResult x Γ.depth e (effRecv sig).mode sig.ret sig.lts = some res
  decl : DeclRes Γ1 Γ' res

theorem checkCall_ok {t : Table} {Γ Γ' : SEnv} {x h : Var} {op : Op} {owner name : String}
    (hc : checkCall t Γ x h op owner name = .ok Γ') :
    ∃ sig e Γ1 res, Call t Γ Γ1 Γ' x sig e res ∧ e.var = h ∧ sig.op = op ∧ op ≠ .enterScoped ∧ op ≠ .enterAligned := by
  unfold checkCall at hc
  split at hc
  · cases hc
  rename_i sig hl
  split at hc
  · cases hc
  rename_i hcond
  simp only [Bool.or_eq_true, not_or, bne_iff_ne, ne_eq, Decidable.not_not, beq_iff_eq] at hcond
  split at hc
  · cases hc
  rename_i e hle
  split at hc
  · cases hc
  rename_i happ
  split at hc
  · cases hc
  rename_i Γ1 hacc
  rcases lookupValid_ok hle with ⟨he, hvar, hv⟩
  have key : ∀ res, mkResult x Γ.depth e (effRecv sig).mode sig.ret sig.lts = some res → DeclRes Γ1 Γ' res →
      ∃ sig e Γ1 res, Call t Γ Γ1 Γ' x sig e res ∧ e.var = h ∧ sig.op = op ∧ op ≠ .enterScoped ∧ op ≠ .enterAligned :=
    fun res hres hd => ⟨sig, e, Γ1, res, ⟨List.mem_of_find?_eq_some hl, he, hv, by simpa using happ, hacc, hres, hd⟩,
      hvar, hcond.1.1, hcond.1.2, hcond.2⟩
  split at hc
  · cases hc
  · cases hc; exact key none ‹_› rfl
  · exact key (some _) ‹_› hc

theorem checkEnter_ok {t : Table} {Γ Γ' : SEnv} {s g h : Var} {op : Op} {owner name : String}
    (hc : checkEnter t Γ s g h op owner name = .ok Γ') :
    ∃ sig e opens realParam Γ1 Γ2, sig ∈ t.sigs ∧ sig.op = op ∧
      Γ.lookupValid h = .ok e ∧ applicable t sig.ownerK e = true ∧ closureShape op sig.cl = some (opens, realParam) ∧
      Γ.access e sig.recv = .ok Γ1 ∧
      Γ1.declare (if opens then ⟨g, .guard, .own, .borrow e.var sig.recv.mode :: e.self, .borrow e.var sig.recv.mode :: e.self, true, Γ.depth⟩
                  else ⟨g, .scope, .mutRef, .borrow e.var sig.recv.mode :: e.self,
                        if realParam then e.param else .borrow e.var sig.recv.mode :: e.self, true, Γ.depth⟩) = .ok Γ2 ∧
      ({ Γ2 with frames := g :: Γ2.frames } : SEnv).declare
        ⟨s, .scope, .mutRef, .frame g :: .borrow g .mut :: .borrow e.var sig.recv.mode :: e.self,
         if realParam then e.param else .frame g :: .borrow g .mut :: .borrow e.var sig.recv.mode :: e.self, true, Γ.depth + 1⟩ = .ok Γ' := by
  unfold checkEnter at hc
  split at hc
  · cases hc
  rename_i sig hl
  split at hc
  · cases hc
  rename_i hcond
  simp only [Bool.or_eq_true, not_or, bne_iff_ne, ne_eq, Decidable.not_not] at hcond
  cases hle : Γ.lookupValid h with
  | error r => rw [hle] at hc; cases hc
  | ok e =>
    rw [hle] at hc; simp only at hc
    split at hc
    · cases hc
    rename_i happ
    cases hcs : closureShape op sig.cl with
    | none => rw [hcs] at hc; cases hc
    | some pr =>
      rcases pr with ⟨opens, realParam⟩
      rw [hcs] at hc; simp only at hc
      cases hacc : Γ.access e sig.recv with
      | error r => rw [hacc] at hc; cases hc
      | ok Γ1 =>
        rw [hacc] at hc; simp only at hc
        split at hc
        · cases hc
        · rename_i Γ2 hd
          exact ⟨sig, e, opens, realParam, Γ1, Γ2, List.mem_of_find?_eq_some hl, hcond.1, rfl, by simpa using happ, hcs,
            hacc, hd, hc⟩

theorem checkVconv_ok {t : Table} {Γ Γ' : SEnv} {x v : Var} {input name : String}
    (hc : checkVconv t Γ x v input name = .ok Γ') :
    ∃ c e, t.lookupConv input name = some c ∧ e ∈ Γ.ents ∧ e.var = v ∧ e.valid = true ∧ e.kind = .val ∧
      Γ.declare ⟨x, .val, .own, convRegion c e, convRegion c e, true, Γ.depth⟩ = .ok Γ' := by
  unfold checkVconv at hc
  split at hc
  · cases hc
  rename_i c hlc
  split at hc
  · cases hc
  split at hc
  · cases hc
  rename_i e hl
  split at hc
  · cases hc
  rename_i hk
  rcases lookupValid_ok hl with ⟨he, hvar, hv⟩
  exact ⟨c, e, hlc, he, hvar, hv, by simpa using hk, hc⟩

theorem foldl_remove_frames (ls : List Var) (Γ : SEnv) (f : List Var) :
    ls.foldl (fun Γ v => Γ.remove v) { Γ with frames := f } = { ls.foldl (fun Γ v => Γ.remove v) Γ with frames := f } := by
  induction ls generalizing Γ with
  | nil => rfl
  | cons v ls ih => exact ih (Γ.remove v)

theorem verdict_none {t : Table} {fl : Flags} {p : List Stmt} (h : verdict t fl p = none) :
    ∃ Γ', check t fl SEnv.empty p = .ok Γ' := by
  unfold verdict at h
  split at h
  · exact ⟨_, ‹_›⟩
  · cases h

theorem faultOf_some {fl : Flags} {p : List Stmt} {e : Nat × Fault} (h : faultOf fl p = some e) :
    run fl DState.empty p = .error e := by
  unfold faultOf at h
  split at h
  · cases h
  · cases h; assumption

end Life
