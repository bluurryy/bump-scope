/-
  Lemmas/InvAllocOps.lean — preservation of `Arena.Hist.Inv` by the allocating operations:
  `allocate` (all wrappers, zeroed or not), `allocLayout`, `reserve` (typed / dyn), `prepare`; before them two more
  successor states: bytes were written (`Inv.wrote`), a live block is registered (`Inv.withBlock`).
-/
import BumpProof.Lemmas.InvAllocPost
import BumpProof.Lemmas.InvArenaOps


namespace Arena.Hist
open Rs

variable {cfg : Cfg}

theorem inv_of_allocPost {g : GState} (h : Inv cfg g) {k : Kind} {L : Layout} {s' : State}
    {r : Except AErr (Nat × Nat)} (p : AllocPost cfg k L g.s s' r) (hprep : g.s.prepared = none) :
    Inv cfg ⟨s', g.marks⟩ :=
  inv_of_stable h hprep p.inv p.disj p.minAlign p.stable p.unalloc p.curKind (p.live h.live)

theorem Inv.wrote {g : GState} (h : Inv cfg g) {s2 : State} (w : Fn.Wrote g.s s2) : Inv cfg ⟨s2, g.marks⟩ := by
  have ho := w.onlyData
  have sg := w.sameGeom
  have gp := GhostPost.wrote w
  refine h.of_stable (sg.inv h.geom) (sg.shape.disjoint h.disj) sg.minAlign gp.stable gp.unalloc gp.curKind
    (l := s2.live) (fun _ hb => hb) (h.live.of_onlyData ho) (q' := s2.prepared) ?_
  intro q hq
  refine (h.prep q (gp.stable.prepared ▸ hq)).congr sg.cur ?_
  intro i c _ hc
  obtain ⟨c', hc', hgeo⟩ := Mem.getElem?_geom ho.2 hc
  exact ⟨c', hc', congrArg (·.1) hgeo, congrArg (·.2.1) hgeo, congrArg (·.2.2.1) hgeo⟩

theorem Inv.withBlock {g : GState} (h : Inv cfg g) {p size align init : Nat}
    (hl : Mem.LiveOK cfg (Arena.addBlock g.s p size align init).1) (hcur : ∃ j, g.s.cur = .chunk j)
    (hal : ∃ k, k < 64 ∧ align = 2 ^ k) :
    Inv cfg ⟨(Arena.addBlock g.s p size align init).1, g.marks⟩ := by
  have hcov : ChunksCov g.s (Arena.addBlock g.s p size align init).1 := ChunksCov.of_eq rfl
  have hsub : LiveSub g.s (Arena.addBlock g.s p size align init).1 := by
    intro b hb
    rcases List.mem_append.mp hb with hb | hb
    · exact Or.inl ⟨b, hb, rfl, rfl, rfl, rfl⟩
    · simp only [List.mem_singleton] at hb; subst hb; exact Or.inr ⟨Nat.le_refl _, hal⟩
  have hn : g.s.nextId ≤ (Arena.addBlock g.s p size align init).1.nextId := Nat.le_succ _
  refine h.step_to (geom_congr (s := g.s) rfl rfl rfl h.geom) (disj_congr (s := g.s) rfl h.disj) hl h.unalloc
    h.notClaimed ?_ hcov hsub hn ?_ (h.frames.mono' hcov hsub hn) (fun x hx => Nat.le_trans (h.marks x hx) hn)
    (fun x hx => Or.inl hx) ?_
  · intro hu
    obtain ⟨j, hj⟩ := hcur
    rw [show (Arena.addBlock g.s p size align init).1.cur = g.s.cur from rfl, hj] at hu; cases hu
  · intro b hb
    rcases List.mem_append.mp hb with hb | hb
    · exact Nat.lt_succ_of_lt (h.ids b hb)
    · simp only [List.mem_singleton] at hb; subst hb; exact Nat.lt_succ_self _
  · intro q hq
    exact (h.prep q hq).same rfl rfl

theorem zeroIf_wrote {s1 s2 : State} {z : Bool} {p n : Nat}
    (hz : (if z then zeroRange cfg s1 p n else pure s1) = .ok s2) : Fn.Wrote s1 s2 := by
  cases z
  · cases hz; exact .refl _
  · exact Fn.writeRange_wrote (show zeroRange cfg s1 p n = .ok s2 from hz)

/-- a successful allocation of `[v.1, v.1 + L.size)` through any allocation path, optionally zeroed, followed by
    the registration of the new live block -/
theorem inv_alloc_success {g : GState} (h : Inv cfg g) {L : Layout} {s1 s2 : State} {v : Nat × Nat} {z : Bool} {n init : Nat}
    (p : AllocPost cfg .alloc L g.s s1 (.ok v)) (hprep : g.s.prepared = none) (hL : L.Valid)
    (hz : (if z then zeroRange cfg s1 v.1 n else pure s1) = .ok s2) :
    Inv cfg ⟨(addBlock s2 v.1 L.size L.align init).1, g.marks⟩ := by
  have h1 : Inv cfg ⟨s1, g.marks⟩ := inv_of_allocPost h p hprep
  have w := zeroIf_wrote hz
  have h2 : Inv cfg ⟨s2, g.marks⟩ := h1.wrote w
  have hout : Mem.AllocOutcome cfg s2 v.1 L.size := (p.outcome rfl v rfl h.live).of_onlyData w.onlyData
  have hal : L.align ∣ v.1 := p.found v rfl
  obtain ⟨j, hj⟩ := p.cur_ok v rfl
  have hcur2 : s2.cur = s1.cur := by rw [w.rest]
  exact h2.withBlock (hout.addBlock hal init) ⟨j, hcur2.trans hj⟩ hL.1

theorem inv_allocate {g g' : GState} {out : Out} {L : Layout} {z : Bool} {via : Via} (h : Inv cfg g)
    (hr : RespsOK cfg g.s) (hf : RespsFresh g.s)
    (hs : stepCore cfg g (.allocate L z via) = .ok (g', out)) : Inv cfg g' := by
  obtain ⟨hL, hp, s1, r, hx, hrest⟩ := ok_allocate hs
  obtain ⟨r', rfl, p⟩ := alloc_post h.cfgOK h.geom hr h.disj hf hL hx
  cases r' with
  | error e => obtain ⟨rfl, _⟩ := hrest; exact inv_of_allocPost h p hp
  | ok v => obtain ⟨s2, hz, rfl, _⟩ := hrest; exact inv_alloc_success h p hp hL hz

theorem inv_allocLayout {g g' : GState} {out : Out} {L : Layout} {hh : Hints} (h : Inv cfg g)
    (hr : RespsOK cfg g.s) (hf : RespsFresh g.s)
    (hs : stepCore cfg g (.allocLayout L hh) = .ok (g', out)) : Inv cfg g' := by
  obtain ⟨hL, hp, htr, s1, r, hx, hrest⟩ := ok_allocLayout hs
  have p := allocGeneric_post h.cfgOK h.geom hr h.disj hf .alloc hL htr (custom_sma L) (fun hk => by cases hk) hx
  cases r with
  | error e => obtain ⟨rfl, _⟩ := hrest; exact inv_of_allocPost h p hp
  | ok v =>
    obtain ⟨v1, v2⟩ := v
    obtain ⟨rfl, _⟩ := hrest
    exact inv_alloc_success (z := false) (n := 0) h p hp hL rfl

theorem reserve_cur {s s' : State} {n : Nat} {r : Except AErr Unit} (h : reserve cfg s n = .ok (s', r)) :
    s'.cur = s.cur ∨ (s.cur = .unallocated ∧ ∃ j, s'.cur = .chunk j) := by
  rcases reserve_paths h with rfl | ⟨hcur, _, s1, r1, h1, hs'⟩ | ⟨_, _, _, _, h1⟩
  · exact Or.inl rfl
  · cases r1 with
    | error e => cases hs'; exact Or.inl (Ledger.newChunkForCapacity_frame h1).1
    | ok i => cases hs'; exact Or.inr ⟨hcur, i, rfl⟩
  · exact Or.inl (Ledger.appendFor_frame h1).1

theorem inv_reserve {g g' : GState} {out : Out} {n : Nat} {dyn : Bool} (h : Inv cfg g)
    (hr : RespsOK cfg g.s) (hf : RespsFresh g.s)
    (hs : stepCore cfg g (.reserve n dyn) = .ok (g', out)) : Inv cfg g' := by
  obtain ⟨hp, s1, r, hx, rfl, _⟩ := ok_reserve hs
  cases dyn
  · -- typed `reserve`
    rcases reserve_paths hx with rfl | ⟨hcur, hl, s2, r2, h2, hs1⟩ | ⟨⟨i, hcur⟩, rest, r1, _, h1⟩
    · exact h
    · obtain ⟨k1, k2⟩ := inv_after_new h hf hcur
        ((newChunkForCapacity_post h.cfgOK h.geom hr (bytes_layout_valid hl)).1 s2 r2 h2)
        (Stable.of_path (Fn.newChunkForCapacity_path h2))
      cases r2 with
      | error e => cases hs1; exact k1 e rfl
      | ok i => cases hs1; exact k2 i rfl
    · obtain ⟨g1, _, g3⟩ := C10.reserve_inv h.cfgOK h.geom hr hx
      obtain ⟨e1, _, _⟩ := Ledger.reserve_frame hx
      have hc1 : s1.cur = g.s.cur := (Ledger.appendFor_frame h1).1
      have hst : Stable g.s s1 := .of_path (reserve_path hx)
      refine inv_of_stable h hp g1 ((C10.reserve_trace h.cfgOK h.geom hr hx).disjoint h.disj hf).1 g3 hst
        (fun hu => by rw [hc1, hcur] at hu; cases hu) (Or.inl hc1) (h.live.follow hst.live ?_ (Or.inl hc1))
      intro i hi j c hji hcj
      obtain ⟨c', hc', hsp, hpos⟩ := (e1 (j+1)).chunk j c hcj
      exact ⟨c', hc', hsp.1, hsp.2.1, fun _ => hpos (Nat.lt_succ_self _)⟩
  · -- `dyn BumpAllocatorCore::reserve`
    rcases reserveDyn_paths hx with rfl | ⟨hl, r1, h1⟩
    · exact h
    · exact inv_of_allocPost h (allocGeneric_post h.cfgOK h.geom hr h.disj hf .range (bytes_layout_valid hl)
        (custom_sma _) (custom_sma _) (fun _ => Nat.one_dvd _) h1) hp

theorem inv_prepare {g g' : GState} {out : Out} {L : Layout} (h : Inv cfg g)
    (hr : RespsOK cfg g.s) (hf : RespsFresh g.s)
    (hs : stepCore cfg g (.prepare L) = .ok (g', out)) : Inv cfg g' := by
  obtain ⟨hL, hp, hdvd, s1, r, hx, hrest⟩ := ok_prepare hs
  have p := allocGeneric_post h.cfgOK h.geom hr h.disj hf .range hL (custom_sma L) (custom_sma L)
    (fun _ => hdvd) hx
  have h1 := inv_of_allocPost h p hp
  cases r with
  | error e => obtain ⟨rfl, _⟩ := hrest; exact h1
  | ok v =>
    obtain ⟨a, b⟩ := v
    obtain ⟨rfl, _⟩ := hrest
    obtain ⟨f1, f2, f3, i, c, f4, f5, f6⟩ := p.found (a, b) rfl
    refine h1.ghost h1.frames h1.marks (fun x hx => Or.inl hx) ?_
    intro q hq
    cases hq
    exact ⟨⟨i, c, f4, f5, Nat.le_trans (Nat.le_add_right _ _) f3, f6⟩, hL.1, f1, f2, fun ht => by cases ht⟩

end Arena.Hist
