/-
  Lemmas/StepTryWith.lean — `stepCore`'s `.allocTryWith` (`alloc_try_with(_mut)`) cut into three pieces: the
  allocation of the `Result` (`allocGeneric`), the closure (`tryInner`) and the end (`tryTail`).  Every
  step-level theorem about `alloc_try_with` goes through `tryWith_ok` (a successful step as the graph `TryWith`) or
  `tryWith_eq` (the step as an equation) and one lemma per piece; `tryInner_cases` and `tryTail_inv` take the pieces apart.
-/
import BumpProof.Lemmas.StepShape

namespace Arena.Hist
open Rs

variable {cfg : Cfg}

/-- the closure of `alloc_try_with`: it may allocate `inner` through the same arena -/
def tryInner (cfg : Cfg) (s1 : State) (inner : Option Layout) (mut_ : Bool) : R (State × Option (Nat × Layout)) :=
  match inner with
  | some Li => do
    if mut_ then throw (.contract "closure of alloc_try_with_mut cannot use the arena")
    validLayout Li
    match ← alloc cfg s1 Li with
    | (s', .error _) => pure (s', none)
    | (s', .ok p) => pure (s', some (p, Li))
  | none => pure (s1, none)

/-- registering the block the closure allocated -/
def withInner (s2 : State) (innerOut : Option (Nat × Layout)) : State :=
  match innerOut with
  | some (p, Li) => (addBlock s2 p Li.size Li.align 0).1
  | none => s2

theorem withInner_chunks (s2 : State) (io : Option (Nat × Layout)) : (withInner s2 io).chunks = s2.chunks := by
  unfold withInner
  split <;> rfl

/-- what happens after the closure returned -/
def tryTail (cfg : Cfg) (g : GState) (s2 : State) (ptr off vsize : Nat) (ok canShrink : Bool) : R (GState × Out) :=
  if ok then do
    let s3 ← if canShrink then do
        let np ← if cfg.up then liftM (Gen.LibArith.up_align_usize_unchecked (ptr + off + vsize) s2.minAlign)
                 else liftM (Gen.LibArith.down_align_usize (ptr + off) s2.minAlign)
        match s2.cur with
        | .chunk _ => pure (setCurPos s2 np)
        | _ => throw (.ub "as_non_dummy_unchecked on a dummy chunk")
      else pure s2
    let (s4, o) := okOut s3 (ptr + off) vsize 1 0
    pure ({ g with s := s4 }, o)
  else do
    let s3 ← if canShrink then resetTo cfg s2 (checkpoint cfg g.s) else pure s2
    let s3 := if canShrink then killFrom s3 g.s.nextId else s3
    pure ({ g with s := s3 }, .none_)

/-- `stepCore`'s `.allocTryWith` in terms of its three pieces -/
def tryWithSpec (cfg : Cfg) (g : GState) (L : Layout) (off vsize : Nat) (ok : Bool) (inner : Option Layout) (mut_ : Bool) :
    R (GState × Out) := do
  validLayout L; noPrepared g.s
  if off + vsize > L.size then throw (.contract "value outside its Result")
  let r ← allocGeneric cfg (if mut_ then .prepare else .alloc) g.s L Hints.sized Hints.custom
  match r with
  | (s', .error e) => pure ({ g with s := s' }, .err e)
  | (s1, .ok (ptr, _)) => do
    let (s2, io) ← tryInner cfg s1 inner mut_
    tryTail cfg g (withInner s2 io) ptr off vsize ok
      (mut_ || (if cfg.up then curPos cfg s1 else ptr) == curPos cfg s2)

/-- the allocation of the `Result` is never of kind `range` -/
theorem tryKind_ne_range {L : Layout} (mut_ : Bool) :
    (if mut_ then Kind.prepare else Kind.alloc) = Kind.range → L.align ∣ L.size := by
  intro e; cases mut_ <;> cases e

theorem tryWith_eq (g : GState) (L : Layout) (off vsize : Nat) (ok : Bool) (inner : Option Layout) (mut_ : Bool) :
    stepCore cfg g (.allocTryWith L off vsize ok inner mut_) = tryWithSpec cfg g L off vsize ok inner mut_ := by
  -- definitional unless the closure allocates: there `do` has moved the rest of the step into the arms of
  -- the closure's `match`, and the two sides differ by associativity of `bind`
  cases inner with
  | none => rfl
  | some Li =>
    cases mut_ with
    | true => rfl
    | false =>
      refine bind_congr fun _ => bind_congr fun _ => ?_
      by_cases hov : off + vsize > L.size
      · exact (if_pos hov).trans (if_pos hov).symm
      · refine (if_neg hov).trans (Eq.trans ?_ (if_neg hov).symm)
        refine bind_congr fun r => ?_
        obtain ⟨s1, _ | ⟨ptr, _⟩⟩ := r
        · rfl
        · refine Eq.trans ?_ (bind_assoc _ _ _).symm
          refine bind_congr fun _ => ?_
          refine Eq.trans ?_ (bind_assoc _ _ _).symm
          refine bind_congr fun a => ?_
          obtain ⟨s2, _ | p⟩ := a <;> rfl

/-- the two ways a successful `.allocTryWith` step runs: the allocation of the `Result` is refused, or the closure
    (`tryInner`) and the end of the step (`tryTail`) run -/
inductive TryWith (cfg : Cfg) (g : GState) (L : Layout) (off vsize : Nat) (ok : Bool) (inner : Option Layout) (mut_ : Bool) :
    GState → Out → Prop
  | refused {s1 : State} {e : AErr}
      (ha : allocGeneric cfg (if mut_ then .prepare else .alloc) g.s L Hints.sized Hints.custom = .ok (s1, .error e)) :
      TryWith cfg g L off vsize ok inner mut_ ⟨s1, g.marks⟩ (.err e)
  | ran {s1 s2 : State} {ptr x : Nat} {io : Option (Nat × Layout)} {g' : GState} {out : Out}
      (ha : allocGeneric cfg (if mut_ then .prepare else .alloc) g.s L Hints.sized Hints.custom = .ok (s1, .ok (ptr, x)))
      (hin : tryInner cfg s1 inner mut_ = .ok (s2, io))
      (ht : tryTail cfg g (withInner s2 io) ptr off vsize ok
        (mut_ || (if cfg.up then curPos cfg s1 else ptr) == curPos cfg s2) = .ok (g', out)) :
      TryWith cfg g L off vsize ok inner mut_ g' out

theorem tryWith_ok {g g' : GState} {out : Out} {L : Layout} {off vsize : Nat} {ok : Bool} {inner : Option Layout}
    {mut_ : Bool} (hs : stepCore cfg g (.allocTryWith L off vsize ok inner mut_) = .ok (g', out)) :
    L.Valid ∧ g.s.prepared = none ∧ off + vsize ≤ L.size ∧ TryWith cfg g L off vsize ok inner mut_ g' out := by
  rw [tryWith_eq] at hs
  obtain ⟨u, hv, hs⟩ := Fn.bind_eq_ok hs
  obtain ⟨u', hp, hs⟩ := Fn.bind_eq_ok hs
  by_cases hov : off + vsize > L.size
  · rw [if_pos hov] at hs; cases hs
  · rw [if_neg hov] at hs
    refine ⟨validLayout_valid hv, noPrepared_ok hp, Nat.le_of_not_gt hov, ?_⟩
    obtain ⟨⟨s1, r1⟩, ha, hs⟩ := Fn.bind_eq_ok hs
    rcases r1 with e | ⟨ptr, x⟩
    · cases hs; exact .refused ha
    · obtain ⟨⟨s2, io⟩, hin, hs⟩ := Fn.bind_eq_ok hs
      exact .ran ha hin hs

theorem tryTail_ne_err {g g' : GState} {out : Out} {s2 : State} {ptr off vsize : Nat} {ok cs : Bool}
    (h : tryTail cfg g s2 ptr off vsize ok cs = .ok (g', out)) (e : AErr) : out ≠ .err e := by
  unfold tryTail at h
  cases ok <;> cases cs <;>
    simp only [Bool.false_eq_true, ↓reduceIte, bind, Except.bind, pure, Except.pure, okOut] at h <;>
    (repeat' split at h) <;> cases h <;> exact Out.noConfusion

theorem tryInner_cases {s1 s2 : State} {inner : Option Layout} {m : Bool} {io : Option (Nat × Layout)}
    (h : tryInner cfg s1 inner m = .ok (s2, io)) :
    (s2 = s1 ∧ io = none) ∨
    (m = false ∧ ∃ Li r, Li.Valid ∧ alloc cfg s1 Li = .ok (s2, r) ∧ io = r.toOption.map (·, Li)) := by
  unfold tryInner at h
  cases inner with
  | none => cases h; exact .inl ⟨rfl, rfl⟩
  | some Li =>
    obtain ⟨hm, h⟩ := guard_ok h
    obtain ⟨u, hv, h⟩ := Fn.bind_eq_ok h
    obtain ⟨⟨s', r⟩, ha, h⟩ := Fn.bind_eq_ok h
    refine .inr ⟨Bool.eq_false_iff.mpr hm, Li, r, validLayout_valid hv, ?_⟩
    cases r <;> cases h <;> exact ⟨ha, rfl⟩

theorem tryInner_mut {s1 s2 : State} {inner : Option Layout} {io : Option (Nat × Layout)}
    (h : tryInner cfg s1 inner true = .ok (s2, io)) : s2 = s1 ∧ io = none :=
  (tryInner_cases h).elim id fun h => nomatch h.1

/-- the four outcomes of `tryTail`, by what the closure returned (`ok`) and by `cs` (`canShrink`: the `_mut` variant, or
    nothing was allocated behind the block of the `Result`): `Ok`, value shrunk in place | `Ok`, block kept | `Err`,
    rewound to the checkpoint | `Err`, nothing rewound -/
theorem tryTail_inv {g g' : GState} {s2 : State} {ptr off vsize : Nat} {ok cs : Bool} {out : Out}
    (h : tryTail cfg g s2 ptr off vsize ok cs = .ok (g', out)) :
    (ok = true ∧ cs = true ∧ ∃ np i, s2.cur = .chunk i ∧
        (if cfg.up then liftM (Gen.LibArith.up_align_usize_unchecked (ptr + off + vsize) s2.minAlign)
         else liftM (Gen.LibArith.down_align_usize (ptr + off) s2.minAlign)) = .ok np ∧
        g' = ⟨(addBlock (setCurPos s2 np) (ptr + off) vsize 1 0).1, g.marks⟩) ∨
    (ok = true ∧ cs = false ∧ g' = ⟨(addBlock s2 (ptr + off) vsize 1 0).1, g.marks⟩) ∨
    (ok = false ∧ cs = true ∧ ∃ s3, resetTo cfg s2 (checkpoint cfg g.s) = .ok s3 ∧
        g' = ⟨killFrom s3 g.s.nextId, g.marks⟩) ∨
    (ok = false ∧ cs = false ∧ g' = ⟨s2, g.marks⟩) := by
  unfold tryTail at h
  cases ok <;> cases cs <;>
    simp only [bind, Except.bind, pure, Except.pure, Bool.false_eq_true, ↓reduceIte] at h
  · cases h
    exact .inr (.inr (.inr ⟨rfl, rfl, rfl⟩))
  · split at h
    · cases h
    · rename_i s3 hs3
      cases h
      exact .inr (.inr (.inl ⟨rfl, rfl, s3, hs3, rfl⟩))
  · cases h
    exact .inr (.inl ⟨rfl, rfl, rfl⟩)
  · cases hup : cfg.up <;> simp only [hup, Bool.false_eq_true, ↓reduceIte] at h
    all_goals
      split at h
      · cases h
      · rename_i np hnp
        split at h
        · rename_i i hi
          cases h
          exact .inl ⟨rfl, rfl, np, i, hi, by simp only [Bool.false_eq_true, ↓reduceIte]; exact hnp, rfl⟩
        · simp only [throw, throwThe, MonadExceptOf.throw] at h
          cases h

end Arena.Hist
