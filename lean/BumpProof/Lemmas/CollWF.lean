/-
  Lemmas/CollWF.lean — the normal form in which the refinement lemmas are proved: a vector in the standard shape is
  the record `⟨I xs ++ H k, |xs|, dl, esc⟩` (`seg_cases`, in `Lemmas/CollView.lean`), and `v.after r` is such a record
  again (`after_seg`);
  the ids of a segmented buffer; cutting a list at an index or a range; the ledger shuffle `ledger_perm`.
  "Standard shape" has several spellings: `View.fwd.Shape v xs` (`Lemmas/CollView.lean`: the pair
  `v.slots = I xs ++ H (v.cap - v.len)`, `xs.length = v.len`; the hypothesis of the refinement lemmas), `Vec.WF` (shape +
  no duplicate among contents, drops, hand-outs; the hypothesis of the Props theorems), `Grows v v' xs` (the shape after a
  reservation, `CollGrow`), `Holds v xs dl esc` (shape + logs, `CollSplice`), `Part.Holds` (a part with an address,
  `CollSplit`).
-/
import BumpProof.Coll.Spec
import BumpProof.Lemmas.CollPrim

namespace Coll

@[simp] theorem idsOf_append (a b : List Slot) : idsOf (a ++ b) = idsOf a ++ idsOf b := by
  simp [idsOf, List.filterMap_append]

@[simp] theorem idsOf_I (xs : List Id) : idsOf (I xs) = xs := by
  induction xs with
  | nil => rfl
  | cons x xs ih => simp [idsOf, Slot.id?] at ih ⊢; exact ih

@[simp] theorem idsOf_H (k : Nat) : idsOf (H k) = [] := by
  induction k with
  | zero => rfl
  | succ k ih => simp [idsOf, Slot.id?] at ih ⊢; exact ih

theorem take_I_H (xs : List Id) (k : Nat) : (I xs ++ H k).take xs.length = I xs := by
  have : xs.length = (I xs).length := by simp
  rw [this, List.take_left]

theorem WF_of_seg {v : Vec} {xs : List Id} (hs : v.slots = I xs ++ H (v.cap - v.len)) (hl : xs.length = v.len)
    (hn : (xs ++ v.dropLog ++ v.escaped).Nodup) : v.WF := by
  refine ⟨⟨xs, hs, hl⟩, ?_⟩
  simpa [Vec.total, hs] using hn

theorem Vec.eq_of {a b : Vec} (h1 : a.slots = b.slots) (h2 : a.len = b.len) (h3 : a.dropLog = b.dropLog)
    (h4 : a.escaped = b.escaped) : a = b := by
  cases a; cases b; simp_all

theorem Vec.WF.abs_eq {v : Vec} {xs : List Id} (hs : v.slots = I xs ++ H (v.cap - v.len)) (hl : xs.length = v.len) :
    v.abs = xs := by
  simp [Vec.abs, hs, ← hl, take_I_H]

/-- `v.after r` spelled out: the spare capacity `k` is what `r.final` leaves of the buffer -/
theorem after_seg {α} {s : List Slot} {n : Nat} {dl esc : List Id} {r : SpecOut α} (k : Nat)
    (h : r.final.length + k = s.length) :
    (⟨s, n, dl, esc⟩ : Vec).after r = ⟨I r.final ++ H k, r.final.length, dl ++ r.dropped, esc ++ r.escaped⟩ := by
  rw [Vec.after, Vec.cap, ← h, Nat.add_sub_cancel_left]

theorem exists_split_of_lt {α} {xs : List α} {i : Nat} (h : i < xs.length) :
    ∃ A x B, xs = A ++ x :: B ∧ A.length = i :=
  ⟨xs.take i, xs[i], xs.drop (i + 1), by simp, by simp; omega⟩

theorem exists_append_of_le {α} {xs : List α} {n : Nat} (h : n ≤ xs.length) :
    ∃ A B, xs = A ++ B ∧ A.length = n :=
  ⟨xs.take n, xs.drop n, (List.take_append_drop n xs).symm, by rw [List.length_take, Nat.min_eq_left h]⟩

theorem append_eq_append_of_le {α} {a b c d : List α} (h : a ++ b = c ++ d) (hle : c.length ≤ a.length) :
    ∃ m, a = c ++ m ∧ d = m ++ b := by
  refine ⟨a.drop c.length, ?_, ?_⟩
  · have := congrArg (List.take c.length) h
    rw [List.take_left, List.take_append_of_le_length hle] at this
    conv => lhs; rw [← List.take_append_drop c.length a, this]
  · have := congrArg (List.drop c.length) h
    rw [List.drop_left, List.drop_append_of_le_length hle] at this
    exact this.symm

theorem range_split_eq {α} (xs : List α) {start end_ : Nat} (hse : start ≤ end_) :
    xs = xs.take start ++ ((xs.take end_).drop start ++ xs.drop end_) := by
  rw [← List.append_assoc, show xs.take start = (xs.take end_).take start by rw [List.take_take, Nat.min_eq_left hse],
    List.take_append_drop, List.take_append_drop]

theorem exists_range_split {α} {xs : List α} {start end_ : Nat} (hse : start ≤ end_) (hel : end_ ≤ xs.length) :
    ∃ h r t, xs = h ++ (r ++ t) ∧ h.length = start ∧ h.length + r.length = end_ := by
  refine ⟨xs.take start, (xs.take end_).drop start, xs.drop end_, range_split_eq xs hse, ?_, ?_⟩
  · rw [List.length_take, Nat.min_eq_left (Nat.le_trans hse hel)]
  · rw [List.length_take, List.length_drop, List.length_take, Nat.min_eq_left (Nat.le_trans hse hel), Nat.min_eq_left hel,
      Nat.add_sub_cancel' hse]

theorem range_mid {α} (h r t : List α) : ((h ++ (r ++ t)).take (h.length + r.length)).drop h.length = r := by
  rw [← List.append_assoc, List.take_left' (List.length_append ..), List.drop_left]

theorem range_tail {α} (h r t : List α) : (h ++ (r ++ t)).drop (h.length + r.length) = t := by
  rw [← List.append_assoc, List.drop_left' (List.length_append ..)]

/-- values that are dropped without ever having been in the buffer (by-value arguments, what is left of a source)
    only join the ledger -/
theorem total_dropLog_append (v : Vec) (a : List Id) :
    ({ v with dropLog := v.dropLog ++ a } : Vec).total.Perm (v.total ++ a) := by
  simp only [Vec.total]
  rw [List.perm_iff_count]; intro x
  simp only [List.count_append]; omega

/-- the ledger shuffle: what an operation leaves, drops and hands out is added to what the owner had
    left, dropped and handed out before -/
theorem ledger_perm {f rd re dl es xs ins : List Id} (h : (f ++ rd ++ re).Perm (xs ++ ins)) :
    (f ++ (dl ++ rd) ++ (es ++ re)).Perm (xs ++ dl ++ es ++ ins) := by
  have h1 : (f ++ (dl ++ rd) ++ (es ++ re)).Perm ((f ++ rd ++ re) ++ (dl ++ es)) := by
    simp only [List.append_assoc]
    refine List.Perm.append_left _ ((List.perm_append_comm_assoc _ _ _).trans (List.Perm.append_left _ ?_))
    rw [← List.append_assoc]
    exact List.perm_append_comm
  refine (h1.trans (List.Perm.append_right _ h)).trans ?_
  simp only [List.append_assoc]
  refine List.Perm.append_left _ ?_
  rw [← List.append_assoc (as := dl)]
  exact List.perm_append_comm

end Coll
