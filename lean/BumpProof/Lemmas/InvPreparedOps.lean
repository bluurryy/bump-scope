/-
  Lemmas/InvPreparedOps.lean — preservation of `Arena.Hist.Inv` by the ghost block operations
  (`write`, `split`), and by the prepared-allocation operations (`fillPrepared`, `prepareSlice`,
  `commit`, `commitSlice`).  The two commit operations are one case: `Commits` says what either does in a
  history, `inv_commits` is the invariant after it.
-/
import BumpProof.Lemmas.InvReallocPost


namespace Arena.Hist
open Rs

variable {cfg : Cfg}

/-- `f` keeps everything the invariant looks at -/
def KeepsBlock (f : Block → Block) : Prop :=
  ∀ b, (f b).id = b.id ∧ (f b).addr = b.addr ∧ (f b).size = b.size ∧ (f b).align = b.align

theorem liveOK_mapLive {s : State} {f : Block → Block} (hf : KeepsBlock f) (h : Mem.LiveOK cfg s) :
    Mem.LiveOK cfg { s with live := s.live.map f } := by
  refine ⟨?_, ?_, ?_⟩
  · intro b hb
    obtain ⟨b0, hb0, rfl⟩ := List.mem_map.mp hb
    obtain ⟨_, e2, _, e4⟩ := hf b0
    rw [e2, e4]; exact h.aligned b0 hb0
  · intro b hb hs
    obtain ⟨b0, hb0, rfl⟩ := List.mem_map.mp hb
    obtain ⟨_, e2, e3, _⟩ := hf b0
    rw [e2, e3]; rw [e3] at hs
    exact (h.placed b0 hb0 hs).of_geom rfl rfl
  · show (s.live.map f).Pairwise Mem.BlocksDisjoint
    rw [List.pairwise_map]
    refine h.disjoint.imp ?_
    intro a b hab
    obtain ⟨_, a2, a3, _⟩ := hf a
    obtain ⟨_, b2, b3, _⟩ := hf b
    unfold Mem.BlocksDisjoint at hab ⊢
    rw [a2, a3, b2, b3]; exact hab

theorem Inv.mapLive {g : GState} (h : Inv cfg g) {f : Block → Block} (hf : KeepsBlock f) :
    Inv cfg ⟨{ g.s with live := g.s.live.map f }, g.marks⟩ := by
  have hsub : LiveSub g.s { g.s with live := g.s.live.map f } := fun b hb => by
    obtain ⟨b0, hb0, rfl⟩ := List.mem_map.mp hb
    exact Or.inl ⟨b0, hb0, ((hf b0).1).symm, ((hf b0).2.1).symm, ((hf b0).2.2.1).symm, ((hf b0).2.2.2).symm⟩
  refine h.step_to (geom_congr (s := g.s) rfl rfl rfl h.geom) (disj_congr (s := g.s) rfl h.disj) (liveOK_mapLive hf h.live)
    h.unalloc h.notClaimed (fun hu => by show g.s.live.map f = []; rw [h.liveCur hu]; rfl) (ChunksCov.refl _) hsub
    (Nat.le_refl _) ?_ (h.frames.mono' (ChunksCov.refl _) hsub (Nat.le_refl _)) h.marks (fun x hx => Or.inl hx)
    (fun q hq => (h.prep q hq).same rfl rfl)
  intro b hb
  obtain ⟨b0, hb0, rfl⟩ := List.mem_map.mp hb
  rw [(hf b0).1]; exact h.ids b0 hb0

theorem inv_write {g g' : GState} {out : Out} {b seed : Nat} (h : Inv cfg g)
    (hs : stepCore cfg g (.write b seed) = .ok (g', out)) : Inv cfg g' := by
  obtain ⟨blk, _, s1, hw, rfl, _⟩ := ok_write hs
  refine (h.wrote (Fn.writeRange_wrote hw)).mapLive ?_
  intro x
  by_cases hx : (x.id == b) = true
  · simp only [hx, ↓reduceIte, and_self]
  · simp only [hx, Bool.false_eq_true, ↓reduceIte, and_self]

theorem inv_fillPrepared {g g' : GState} {out : Out} {len seed : Nat} (h : Inv cfg g)
    (hs : stepCore cfg g (.fillPrepared len seed) = .ok (g', out)) : Inv cfg g' := by
  obtain ⟨p, _, _, s1, hw, rfl, _⟩ := ok_fillPrepared hs
  exact h.wrote (Fn.writeRange_wrote hw)

theorem inv_split {g g' : GState} {out : Out} {b at_ : Nat} (h : Inv cfg g)
    (hs : stepCore cfg g (.split b at_) = .ok (g', out)) : Inv cfg g' := by
  obtain ⟨blk, hblk, hle, rfl, _⟩ := ok_split hs
  obtain ⟨hmem, rfl⟩ := Mem.findBlock_ok hblk
  have hcur := cur_chunk_of_live h hmem
  have h0 := h.dropBlock blk.id
  have hl1 := liveOK_sub_of_dropped h.live hmem h0.live rfl rfl
    (fun x hx => Or.inl hx) (Nat.le_refl _) (Nat.add_le_add_left hle _) (Nat.one_dvd _) (Nat.min blk.init at_)
  have hl2 := liveOK_sub_of_dropped h.live hmem hl1 rfl rfl (a := blk.addr + at_) (sz := blk.size - at_) (by
      intro x hx
      rcases List.mem_append.mp hx with hx | hx
      · exact Or.inl hx
      · cases List.mem_singleton.mp hx
        exact Or.inr (Or.inr (Or.inr (Or.inl (Nat.le_refl _)))))
    (Nat.le_add_right _ _) (by omega) (Nat.one_dvd _) (blk.init - at_)
  exact ((h0.withBlock hl1 hcur ⟨0, by decide, rfl⟩).withBlock hl2 hcur ⟨0, by decide, rfl⟩)

theorem sameGeom_copy_or_id {s s1 : State} {b : Bool} {src dst len : Nat} {nov : Bool}
    (h : (if b then copyBytes cfg s src dst len nov else pure s) = .ok s1) :
    SameGeom s s1 ∧ Mem.OnlyDataChanged s s1 := by
  cases b
  · simp only [Bool.false_eq_true, ↓reduceIte] at h
    cases h; exact ⟨SameGeom.refl _, ⟨rfl, rfl⟩⟩
  · simp only [↓reduceIte] at h
    exact ⟨copyBytes_geom h, Mem.copyBytes_onlyData h⟩

/-- what the two commit operations start from: the prepared range is given up -/
theorem Inv.unprepare {g : GState} (h : Inv cfg g) {p : Prepared} (hp : g.s.prepared = some p) :
    Inv cfg ⟨{ g.s with prepared := none }, g.marks⟩ ∧ PrepOK cfg ({ g.s with prepared := none } : State) p :=
  ⟨h.clearPrepared, (h.prep p hp).same rfl rfl⟩

/-- a commit (`Commit`, Lemmas/FnRealloc.lean) as the invariant reads it: only bytes changed before the position was
    set, and the position went to the free side of the block -/
theorem Commit.mid {s s' : State} {lo hi size addr : Nat} {rev : Bool} (h : Commit cfg s s' lo hi size rev addr)
    (hm : MinAlignOK s.minAlign) :
    ∃ s1 np, Fn.Wrote s s1 ∧ s' = setCurPos s1 np ∧
      if cfg.up then addr + size ≤ np else np ≤ addr := by
  obtain ⟨s1, np, h1, h2, h3⟩ := h.slid
  refine ⟨s1, np, ?_, h2, ?_⟩
  · rcases h1 with ⟨rfl, _⟩ | hc
    · exact .refl _
    · exact Fn.copyBytes_wrote hc
  · rcases h3 with rfl | h3
    · split <;> exact Nat.le_refl _
    · have := Mem.align_pos_free_side hm h3
      split <;> rename_i hup
      · rw [if_pos hup, if_pos hup] at this; exact this
      · rw [if_neg hup, if_neg hup] at this; exact this

/-- what a successful `.commit` (`size`, `rev` its arguments) or `.commitSlice` (`size = len * p.esize`, `rev = p.rev`)
    does in a history: `size` bytes of the prepared range `p` are committed and registered as a block -/
structure Commits (cfg : Cfg) (g g' : GState) (out : Out) (p : Prepared) (size : Nat) (rev : Bool) : Prop where
  prep : g.s.prepared = some p
  fits : p.rstart + size ≤ p.rend
  al : p.ealign ∣ size
  run : ∃ s1 addr, Commit cfg { g.s with prepared := none } s1 p.rstart p.rend size rev addr ∧
    MovePost cfg { g.s with prepared := none } s1 ∧
    g' = ⟨(addBlock s1 addr size p.ealign size).1, g.marks⟩ ∧ out = .block s1.nextId addr size

theorem Inv.commits_commit {g g' : GState} {out : Out} {size : Nat} {rev : Bool} (h : Inv cfg g)
    (hs : stepCore cfg g (.commit size rev) = .ok (g', out)) : ∃ p, Commits cfg g g' out p size rev := by
  obtain ⟨p, hp, _, hsz, hdv, s1, addr, hx, hg', ho⟩ := ok_commit hs
  obtain ⟨h0, hpo0⟩ := h.unprepare hp
  exact ⟨p, hp, Nat.add_le_of_le_sub' hpo0.le hsz, hdv, s1, addr, allocatePrepared_commit hx,
    (allocatePrepared_ok h.cfgOK h0.geom rev (hpo0.inCur h0.geom) hsz).1 _ hx, hg', ho⟩

theorem Inv.commits_commitSlice {g g' : GState} {out : Out} {len : Nat} (h : Inv cfg g)
    (hs : stepCore cfg g (.commitSlice len) = .ok (g', out)) : ∃ p, Commits cfg g g' out p (len * p.esize) p.rev := by
  obtain ⟨p, hp, hty, hlen, s1, addr, hx, hg', ho⟩ := ok_commitSlice hs
  obtain ⟨h0, hpo0⟩ := h.unprepare hp
  obtain ⟨hlo, hhi, hrev, hae, _⟩ := hpo0.sliceCall hty
  have hcm := allocatePreparedSlice_commit hx
  rw [hlo, hhi] at hcm
  exact ⟨p, hp, Nat.add_le_of_le_sub' hpo0.le (hpo0.cap hty ▸ Nat.mul_le_mul_right _ hlen),
    Nat.dvd_trans hae (Nat.dvd_mul_left _ _), s1, addr, hcm,
    (allocatePreparedSlice_ok h.cfgOK h0.geom p.rev (by rw [hlo, hhi]; exact hpo0.inCur h0.geom) hrev hlen).1 _ hx
      (let ⟨k, _, hk⟩ := hpo0.p2; ⟨k, hk⟩), hg', ho⟩

/-- the invariant after a commit: the block is carved out of the free side of the current chunk, between the old position
    and the new one -/
theorem inv_commits {g g' : GState} {out : Out} {p : Prepared} {size : Nat} {rev : Bool} (h : Inv cfg g)
    (hc : Commits cfg g g' out p size rev) : Inv cfg g' := by
  obtain ⟨s', addr, hcm, hmv, rfl, _⟩ := hc.run
  obtain ⟨h0, hpo⟩ := h.unprepare hc.prep
  obtain ⟨s1, np, w, rfl, hdir⟩ := hcm.mid h0.geom.minAlign
  have hsg := w.sameGeom
  have hod := w.onlyData
  obtain ⟨i, c, hcur, hc0, hlh, hfree⟩ := hpo.range
  obtain ⟨c1, hc1, hcc⟩ := hsg.getElem?' hc0
  have hcur1 : s1.cur = .chunk i := hsg.cur.trans hcur
  have hw := h0.geom.chunks i c hc0
  have e1 := geom_contentStart (cfg := cfg) hcc
  have e2 := geom_contentEnd (cfg := cfg) hcc
  have e3 := geom_pos hcc
  -- the final position lies in the content range
  have hself : (setCurPos s1 np).chunks[i]? = some { c1 with pos := np } := by
    rw [Mem.setCurPos_chunk hcur1]; exact Mem.setPos_getElem?_self hc1 np
  have hwf := hmv.inv.chunks i _ hself
  have hn1 : c.contentStart cfg ≤ np := by have := hwf.pos_ge; rw [← e1]; exact this
  have hn2 : np ≤ c.contentEnd cfg := by have := hwf.pos_le; rw [← e2]; exact this
  have hd1 : ChunksDisjoint s1 := hsg.shape.disjoint h0.disj
  have hfit := hc.fits
  have hout : Mem.AllocOutcome cfg (setPos s1 i np) addr size := by
    apply liveOK_carve2 (h0.live.of_onlyData hod) hd1 (c := c1) ⟨by rw [e1, e3]; exact hw.pos_ge, by rw [e2, e3]; exact hw.pos_le⟩ hcur1 hc1
    rw [e1, e2, e3, hcm.addr_eq]
    rw [hcm.addr_eq] at hdir
    by_cases hup : cfg.up = true
    · simp only [if_pos hup] at hfree hdir ⊢
      exact ⟨hfree.1, hdir, hn2⟩
    · simp only [if_neg hup] at hfree hdir ⊢
      exact ⟨hn1, hdir, by rw [Nat.sub_add_cancel (Nat.le_trans (Nat.le_add_left _ _) hfit)]; exact hfree.2⟩
  have hal : p.ealign ∣ addr := by
    rw [hcm.addr_eq]
    split
    · exact hpo.start_al
    · exact Nat.dvd_sub hpo.end_al hc.al
  rw [← Mem.setCurPos_chunk hcur1] at hout
  have hcur' : (setCurPos s1 np).cur = g.s.cur := (setCurPos_cur s1 np).trans hsg.cur
  have h1 : Inv cfg ⟨setCurPos s1 np, g.marks⟩ :=
    inv_of_stable h0 rfl hmv.inv ((hsg.shape.trans (setCurPos_shape s1 np)).disjoint h0.disj)
      ((setCurPos_minAlign s1 np).trans hsg.minAlign) ((Stable.of_onlyData hod).trans (Stable.setCurPos s1 np))
      (fun hu => by rw [hcur', hcur] at hu; cases hu) (Or.inl hcur') hout.live
  exact h1.withBlock (hout.addBlock hal size) ⟨i, hcur'.trans hcur⟩ hpo.p2

theorem inv_of_allocPost_prep {g : GState} (h : Inv cfg g) {k : Kind} {L : Layout} {s' : State}
    {r : Except AErr (Nat × Nat)} (p : AllocPost cfg k L g.s s' r) (q' : Option Prepared)
    (hq : ∀ q, q' = some q → PrepOK cfg s' q) : Inv cfg ⟨{ s' with prepared := q' }, g.marks⟩ :=
  h.of_stable p.inv p.disj p.minAlign p.stable p.unalloc p.curKind (l := s'.live) (fun _ hb => hb) (p.live h.live) hq

theorem layoutOk_valid {n al : Nat} (hp : Rs.is_power_of_two al = true) (h : layoutOk n al = true) :
    ({ size := n, align := al } : Layout).Valid := by
  refine validLayout_valid (L := ⟨n, al⟩) (u := ()) ?_
  have h0 : al ≠ 0 := by
    unfold Rs.is_power_of_two at hp
    simp only [Bool.and_eq_true, bne_iff_ne, ne_eq] at hp
    exact hp.1
  unfold layoutOk at h
  unfold validLayout
  rw [if_pos (by simp only [Bool.and_eq_true, decide_eq_true_eq]; exact ⟨⟨Nat.pos_of_ne_zero h0, hp⟩, by simpa using h⟩)]
  rfl

/-- the element slots lie inside `[a, b)`, both ends are aligned, and they are whole elements -/
theorem sliceRange_spec {esize ealign a b : Nat} (hab : a ≤ b) (hae : ealign ∣ esize) (ha : ealign ∣ a)
    (hb : ealign ∣ b) :
    a ≤ (sliceRange cfg esize a b).1 ∧ (sliceRange cfg esize a b).1 ≤ (sliceRange cfg esize a b).2 ∧
    (sliceRange cfg esize a b).2 ≤ b ∧ ealign ∣ (sliceRange cfg esize a b).1 ∧ ealign ∣ (sliceRange cfg esize a b).2 ∧
    esize ∣ (sliceRange cfg esize a b).2 - (sliceRange cfg esize a b).1 := by
  have hcapm : (b - a) / esize * esize ≤ b - a := Nat.div_mul_le_self _ _
  have hdvc : ealign ∣ (b - a) / esize * esize := Nat.dvd_trans hae (Nat.dvd_mul_left _ _)
  unfold sliceRange
  cases cfg.up <;> simp only [Bool.false_eq_true, ↓reduceIte]
  · refine ⟨Nat.le_sub_of_add_le (Nat.add_le_of_le_sub' hab hcapm), Nat.sub_le _ _, Nat.le_refl _, Nat.dvd_sub hb hdvc, hb, ?_⟩
    rw [Nat.sub_sub_self (Nat.le_trans hcapm (Nat.sub_le _ _))]; exact Nat.dvd_mul_left _ _
  · refine ⟨Nat.le_refl _, Nat.le_add_right _ _, Nat.add_le_of_le_sub' hab hcapm, ha, Nat.dvd_add ha hdvc, ?_⟩
    rw [Nat.add_sub_cancel_left]; exact Nat.dvd_mul_left _ _

theorem inv_prepareSlice {g g' : GState} {out : Out} {esize ealign minCap : Nat} {rev : Bool}
    (hp2 : Rs.is_power_of_two ealign = true) (h : Inv cfg g)
    (hr : RespsOK cfg g.s) (hf : RespsFresh g.s)
    (hs : stepCore cfg g (.prepareSlice esize ealign minCap rev) = .ok (g', out)) : Inv cfg g' := by
  obtain ⟨hes, hae, ⟨rfl, _⟩ | ⟨hlo, s1, r, hx, hrest⟩⟩ := ok_prepareSlice hs
  · exact h
  have hL := layoutOk_valid hp2 hlo
  have hdv : ealign ∣ esize * minCap := Nat.dvd_trans hae (Nat.dvd_mul_right _ _)
  have p := allocGeneric_post h.cfgOK h.geom hr h.disj hf .range hL (fun _ => hdv) (fun _ => hdv) (fun _ => hdv) hx
  cases r with
  | error e =>
    obtain ⟨rfl, _⟩ := hrest
    obtain ⟨c1, c2⟩ := p.cur_err e rfl
    exact inv_of_allocPost_prep h p s1.prepared (fun q hq => (h.prep q (p.stable.prepared ▸ hq)).congr c1 c2)
  | ok v =>
    obtain ⟨a, b⟩ := v
    obtain ⟨rfl, _⟩ := hrest
    obtain ⟨f1, f2, f3, i, c, f4, f5, f6⟩ := p.found (a, b) rfl
    simp only at f1 f2 f3 f6
    obtain ⟨r1, r2, r3, r4, r5, r6⟩ :=
      sliceRange_spec (cfg := cfg) (esize := esize) (a := a) (b := b) (Nat.le_trans (Nat.le_add_right _ _) f3) hae f1 f2
    refine inv_of_allocPost_prep h p _ ?_
    intro q hq
    cases hq
    refine ⟨⟨i, c, f4, f5, r2, ?_⟩, hL.1, r4, r5, fun _ => ⟨Nat.pos_of_ne_zero hes, hae, r6⟩⟩
    split at f6
    · rename_i hup; rw [if_pos hup]; exact ⟨Nat.le_trans f6.1 r1, Nat.le_trans r3 f6.2⟩
    · rename_i hup; rw [if_neg hup]; exact ⟨Nat.le_trans f6.1 r1, Nat.le_trans r3 f6.2⟩

end Arena.Hist
