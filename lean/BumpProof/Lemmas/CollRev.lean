/-
  Lemmas/CollRev.lean — refinement lemmas for the `MutBumpVecRev` model (`Coll/Rev.lean`): on a
  well-formed reverse vector (`slots = holes ++ I xs`) every operation computes its list-level
  description of `Coll/RevSpec.lean`.  The operations are not mirror images of the forward ones (`truncate`, `clear` and
  `Drop` still drop front to back, `push` sets the length before it writes, `insert` / `remove` have branches of their own
  for index 0), so each has its own proof; the method and the primitive lemmas are those of the forward vector.
-/
import BumpProof.Lemmas.CollDrain
import BumpProof.Lemmas.CollGrow

namespace Coll

/-- what a (re)allocation of a reverse vector preserves -/
structure RGrows (v v' : Vec) (xs : List Id) : Prop where
  slots : v'.slots = H (v'.cap - v'.len) ++ I xs
  len : v'.len = v.len
  dropLog : v'.dropLog = v.dropLog
  escaped : v'.escaped = v.escaped
  cap : v.cap ≤ v'.cap

theorem rreserve_some {env : Env} {v v' : Vec} {xs : List Id} {n : Nat}
    (hx : View.bwd.Shape v xs) (h : rreserve env v n = some v') : RGrows v v' xs ∧ v.len + n ≤ v'.cap := by
  have ⟨hs, hl⟩ := hx
  have hcap := hx.len_le_cap
  unfold rreserve at h
  split at h
  · unfold rgrowAmortized at h
    split at h
    · rename_i hf
      cases h
      have hdrop : v.slots.drop v.rstart = I xs := by
        rw [hs, Vec.rstart]
        exact List.drop_left' (by simp)
      have hc : (rgrowTo v env.capIn).cap = max env.capIn v.cap := by
        show (H (max env.capIn v.cap - v.len) ++ v.slots.drop v.rstart).length = _
        rw [hdrop, List.length_append, length_H, length_I, hl]
        exact Nat.sub_add_cancel (Nat.le_trans hcap (Nat.le_max_right ..))
      refine ⟨⟨?_, rfl, rfl, rfl, hc ▸ Nat.le_max_right ..⟩, hc ▸ Nat.le_trans hf.2 (Nat.le_max_left ..)⟩
      rw [hc]; simp [rgrowTo, hdrop]
    · cases h
  · cases h; exact ⟨⟨hs, rfl, rfl, rfl, Nat.le_refl _⟩, by omega⟩

def rgrown (env : Env) (v : Vec) (n : Nat) : Vec := (rreserve env v n).getD v
def rroom (env : Env) (v : Vec) (n : Nat) : Bool := (rreserve env v n).isSome

theorem rgrown_sub_of_le {env : Env} {v : Vec} {n : Nat} (h : ¬ n > v.len) : rgrown env v (n - v.len) = v := by
  rw [Nat.sub_eq_zero_of_le (Nat.le_of_not_gt h), rgrown, rreserve, if_neg (Nat.not_lt_zero _)]; rfl

theorem rreserve_fits (env : Env) (v : Vec) (n : Nat) (h : v.len + n ≤ v.cap) : rreserve env v n = some v := by
  unfold rreserve; rw [if_neg (by omega)]

theorem rafter_seg {α} {s : List Slot} {n : Nat} {dl esc : List Id} {r : SpecOut α} (k : Nat)
    (h : k + r.final.length = s.length) :
    (⟨s, n, dl, esc⟩ : Vec).rafter r = ⟨H k ++ I r.final, r.final.length, dl ++ r.dropped, esc ++ r.escaped⟩ := by
  rw [Vec.rafter, Vec.cap, ← h, Nat.add_sub_cancel]

theorem rreserve_seg {env : Env} {xs dl esc : List Id} {k n : Nat} {v' : Vec}
    (h : rreserve env ⟨H k ++ I xs, xs.length, dl, esc⟩ n = some v') :
    ∃ k', v' = ⟨H (k' + n) ++ I xs, xs.length, dl, esc⟩ ∧ k ≤ k' + n := by
  obtain ⟨g, hc⟩ := rreserve_some (rseg_shape xs k dl esc) h
  have hlen : v'.len = xs.length := g.len
  have hc' : xs.length + n ≤ v'.cap := hc
  have hcap : k + xs.length ≤ v'.cap := by simpa [Vec.cap] using g.cap
  obtain ⟨j, hj⟩ := Nat.exists_eq_add_of_le' (show n ≤ v'.cap - v'.len by omega)
  exact ⟨j, Vec.eq_of (by rw [g.slots, hj]) g.len g.dropLog g.escaped, by omega⟩

/-- a reservation on a reverse vector in the standard shape: refused, or granted with at least `n` free slots in front -/
@[elab_as_elim] theorem rreserve_cases {env : Env} {xs dl esc : List Id} {k n : Nat}
    {motive : Option Vec → Vec → Bool → Prop}
    (refused : motive none ⟨H k ++ I xs, xs.length, dl, esc⟩ false)
    (granted : ∀ k', k ≤ k' + n →
      motive (some ⟨H (k' + n) ++ I xs, xs.length, dl, esc⟩) ⟨H (k' + n) ++ I xs, xs.length, dl, esc⟩ true) :
    motive (rreserve env ⟨H k ++ I xs, xs.length, dl, esc⟩ n) (rgrown env ⟨H k ++ I xs, xs.length, dl, esc⟩ n)
      (rroom env ⟨H k ++ I xs, xs.length, dl, esc⟩ n) := by
  unfold rgrown rroom
  cases hr : rreserve env ⟨H k ++ I xs, xs.length, dl, esc⟩ n with
  | none => exact refused
  | some v' => obtain ⟨k', rfl, hk⟩ := rreserve_seg hr; exact granted k' hk

/-- `as_ptr()` of a reverse vector in the standard shape: its first element sits behind the free slots -/
theorem rstart_seg (k : Nat) (xs dl esc : List Id) : (⟨H k ++ I xs, xs.length, dl, esc⟩ : Vec).rstart = k := by
  simp [Vec.rstart, Vec.cap]

theorem rpush_eq (env : Env) (v : Vec) (xs : List Id) (id : Id)
    (h : View.bwd.Shape v xs) :
    rpush env v id =
      .ok ⟨(rgrown env v 1).rafter (rpushSpec (rroom env v 1) xs id), (rpushSpec (rroom env v 1) xs id).exit, []⟩ := by
  revert v
  refine rseg_cases fun k dl esc => ?_
  unfold rpush rpushSpec
  refine rreserve_cases ?_ fun k' _ => ?_
  · rw [rafter_seg k (by simp)]
    simp [dropArg]
  · simp only [↓reduceIte, setLen]
    rw [write_mid (A := H k') (B := I xs) (by simp) (by simp [Vec.rstart, Vec.cap] <;> omega), rafter_seg k' (by simp <;> omega)]
    simp

theorem rpop_eq (v : Vec) (xs : List Id)
    (h : View.bwd.Shape v xs) :
    rpop v = .ok ⟨v.rafter (rpopSpec xs), (rpopSpec xs).exit, []⟩ := by
  revert v
  refine rseg_cases fun k dl esc => ?_
  unfold rpop rpopSpec
  cases xs with
  | nil => rw [rafter_seg k (by simp)]; simp
  | cons x rest =>
    simp only [List.length_cons, Nat.add_one_ne_zero, ↓reduceIte]
    rw [readOut_mid (A := H k) (x := x) (B := I rest) (by simp) (by simp [Vec.rstart, Vec.cap]), rafter_seg (k + 1) (by simp <;> omega)]
    simp [setLen]

theorem rdropVec_eq (bombs : List Id) (u : Bool) (v : Vec) (xs : List Id)
    (h : View.bwd.Shape v xs) :
    rdropVec bombs u v =
      .ok ⟨{ v with slots := H v.cap, len := 0, dropLog := v.dropLog ++ xs },
           if (!u && xs.any bombs.contains) then .panic true else .ret (), []⟩ := by
  revert v
  refine rseg_cases fun k dl esc => ?_
  unfold rdropVec
  rw [dropRange_seg bombs xs u _ (H k) [] _ (by simp [setLen]) (by simp [Vec.rstart, Vec.cap])]
  simp [setLen, Vec.cap, H_add]

theorem rclear_eq (bombs : List Id) (v : Vec) (xs : List Id)
    (h : View.bwd.Shape v xs) :
    rclear bombs v = .ok ⟨v.rafter (clearSpec bombs xs), (clearSpec bombs xs).exit, []⟩ := by
  show rdropVec bombs false v = _
  rw [rdropVec_eq bombs false v xs h]
  simp [Vec.rafter, clearSpec, dropExit]

theorem rtruncate_eq (bombs : List Id) (v : Vec) (xs : List Id) (n : Nat)
    (h : View.bwd.Shape v xs) :
    rtruncate bombs v n = .ok ⟨v.rafter (rtruncateSpec bombs xs n), (rtruncateSpec bombs xs n).exit, []⟩ := by
  revert v
  refine rseg_cases fun k dl esc => ?_
  unfold rtruncate rtruncateSpec
  by_cases h : n ≥ xs.length
  · rw [if_pos h, if_pos h, rafter_seg k (by simp)]
    simp
  · obtain ⟨A, B, rfl, hA⟩ := exists_append_of_le (Nat.sub_le xs.length n)
    have hB : B.length = n := by rw [List.length_append] at hA h; omega
    rw [if_neg h, if_neg h, ← hA, List.take_left, List.drop_left, rafter_seg (k + A.length) (by simp <;> omega)]
    simp only [setLen, List.length_append, hB]
    rw [dropRange_seg bombs A false _ (H k) (I B) _ (by simp) (by simp [Vec.rstart, Vec.cap, hB])]
    simp [dropExit, H_add]

theorem rinsert_eq (env : Env) (v : Vec) (xs : List Id) (i : Nat) (id : Id)
    (h : View.bwd.Shape v xs) :
    rinsert env v i id =
      .ok ⟨(if i ≤ v.len then rgrown env v 1 else v).rafter (insertSpec (rroom env v 1) xs i id),
           (insertSpec (rroom env v 1) xs i id).exit, []⟩ := by
  revert v
  refine rseg_cases fun k dl esc => ?_
  unfold rinsert insertSpec
  by_cases hi : i > xs.length
  · rw [if_pos hi, if_neg (Nat.not_le.2 hi), if_neg (fun h => Nat.not_le.2 hi h.1), rafter_seg k (by simp)]
    simp [dropArg]
  · rw [if_neg hi, if_pos (Nat.le_of_not_gt hi)]
    refine rreserve_cases ?_ fun k' _ => ?_
    · rw [if_neg (by simp), rafter_seg k (by simp)]
      simp [dropArg]
    · obtain ⟨A, B, rfl, rfl⟩ := exists_append_of_le (Nat.le_of_not_gt hi)
      simp only [Nat.le_of_not_gt hi, and_self, ↓reduceIte, List.take_left, List.drop_left]
      rw [rafter_seg k' (by simp <;> omega)]
      by_cases h0 : A = []
      · subst h0
        simp only [List.length_nil, ↓reduceIte, setLen]
        rw [write_mid (A := H k') (B := I B) (by simp) (by simp [Vec.rstart, Vec.cap] <;> omega)]
        simp
      · have hA : 0 < A.length := List.length_pos_iff.2 h0
        rw [if_neg (by omega)]
        simp only [rstart_seg, Nat.add_sub_cancel]
        rw [copy_back (A := H k') (k := 1) (M := I A) (T := I B) (by simp) (by simp) (by simp) (by simp)]
        simp only
        rw [write_mid (A := H k' ++ I A) (B := I B) (by simp) (by simp)]
        simp [setLen, Nat.add_assoc]

theorem rremove_eq (v : Vec) (xs : List Id) (i : Nat)
    (h : View.bwd.Shape v xs) :
    rremove v i = .ok ⟨v.rafter (removeSpec xs i), (removeSpec xs i).exit, []⟩ := by
  revert v
  refine rseg_cases fun k dl esc => ?_
  unfold rremove removeSpec
  by_cases h : i ≥ xs.length
  · rw [if_pos h, List.getElem?_eq_none h, rafter_seg k (by simp)]
    simp
  · obtain ⟨A, x, B, rfl, rfl⟩ := exists_split_of_lt (Nat.lt_of_not_ge h)
    rw [if_neg h]
    simp only [rstart_seg]
    rw [readOut_mid (A := H k ++ I A) (x := x) (B := I B) (by simp) (by simp)]
    simp only
    -- the elements in front of the removed one move one slot towards the end
    rw [copy_if (by omega), copy_fwd (A := H k) (M := I A) (k := 1) (T := I B) (by simp) (by simp) (by simp) (by simp)]
    simp only [List.getElem?_append_right (Nat.le_refl _), Nat.sub_self, List.getElem?_cons_zero,
      List.eraseIdx_append_of_length_le (Nat.le_refl _), List.eraseIdx_cons_zero]
    rw [rafter_seg (k + 1) (by simp <;> omega)]
    simp [setLen]

theorem rswapRemove_eq (v : Vec) (xs : List Id) (i : Nat)
    (h : View.bwd.Shape v xs) :
    rswapRemove v i = .ok ⟨v.rafter (rswapRemoveSpec xs i), (rswapRemoveSpec xs i).exit, []⟩ := by
  revert v
  refine rseg_cases fun k dl esc => ?_
  unfold rswapRemove rswapRemoveSpec
  by_cases h : i ≥ xs.length
  · rw [if_pos h, List.getElem?_eq_none h, rafter_seg k (by simp)]
    simp
  · obtain ⟨A, x, B, rfl, rfl⟩ := exists_split_of_lt (Nat.lt_of_not_ge h)
    rw [if_neg h]
    simp only [rstart_seg]
    rw [readOut_mid (A := H k ++ I A) (x := x) (B := I B) (by simp) (by simp)]
    cases A with
    | nil =>
      -- the first element itself: the copy moves a hole onto itself
      simp only [List.length_nil, Nat.add_zero]
      rw [copy_self (by simp [Vec.cap] <;> omega)]
      simp only [List.nil_append, List.getElem?_cons_zero, List.head?_cons, List.set_cons_zero, List.tail_cons]
      rw [rafter_seg (k + 1) (by simp <;> omega)]
      simp [setLen]
    | cons f A =>
      simp only
      rw [copy_one_fwd (A := H k) (x := .init f) (B := I A) (T := I B) (by simp) (by simp) (by simp <;> omega)]
      simp only [List.cons_append, List.head?_cons, List.length_cons, List.getElem?_cons_succ,
        List.getElem?_append_right (Nat.le_refl _), Nat.sub_self, List.getElem?_cons_zero, List.set_cons_succ, List.tail_cons,
        List.set_append_right _ _ (Nat.le_refl _), List.set_cons_zero]
      rw [rafter_seg (k + 1) (by simp <;> omega)]
      simp [setLen]

/-- the reverse vector makes the same clones as the forward one and puts each IN FRONT -/
theorem rextendCloneSpec_closed (n : Nat) : ∀ (xs : List Id) (o : List Outcome),
    rextendCloneSpec xs n o =
      { final := (clonedIds n o).reverse ++ xs, exit := (extendCloneSpec [] n o).exit, rest := (extendCloneSpec [] n o).rest } := by
  induction n with
  | zero => intro xs o; simp [rextendCloneSpec, extendCloneSpec, clonedIds]
  | succ n ih =>
    intro xs o
    match o with
    | [] => simp [rextendCloneSpec, extendCloneSpec, clonedIds]
    | .panic :: o => simp [rextendCloneSpec, extendCloneSpec, clonedIds]
    | .ret id :: o =>
      simp only [rextendCloneSpec, extendCloneSpec, clonedIds]
      rw [ih (id :: xs), extendCloneSpec_closed n ([] ++ [id])]
      simp

theorem rafter_congr {α} {v w : Vec} (r : SpecOut α) (hc : v.cap = w.cap) (hd : v.dropLog = w.dropLog)
    (he : v.escaped = w.escaped) : v.rafter r = w.rafter r := by
  rw [Vec.rafter, Vec.rafter, hc, hd, he]

/-- the clone loop on a buffer with room for all `n` clones -/
theorem rextendCloneLoop_eq (n : Nat) : ∀ (xs dl esc : List Id) (m : Nat) (o : List Outcome),
    rextendCloneLoop n ⟨H (m + n) ++ I xs, xs.length, dl, esc⟩ o =
      .ok ⟨(⟨H (m + n) ++ I xs, xs.length, dl, esc⟩ : Vec).rafter (rextendCloneSpec xs n o),
           (rextendCloneSpec xs n o).exit, (rextendCloneSpec xs n o).rest⟩ := by
  induction n with
  | zero =>
    intro xs dl esc m o
    rw [rextendCloneLoop, rextendCloneSpec, rafter_seg (m + 0) (by simp)]
    simp
  | succ n ih =>
    intro xs dl esc m o
    match o with
    | [] => rw [rextendCloneLoop, rextendCloneSpec, rafter_seg (m + (n + 1)) (by simp)]; simp
    | .panic :: o => rw [rextendCloneLoop, rextendCloneSpec, rafter_seg (m + (n + 1)) (by simp)]; simp
    | .ret id :: o =>
      rw [rextendCloneLoop, rextendCloneSpec]
      simp only [setLen]
      rw [write_mid (A := H (m + n)) (B := I xs) (by simp [← Nat.add_assoc]) (by simp [Vec.rstart, Vec.cap] <;> omega)]
      have := ih (id :: xs) dl esc m o
      rw [I_cons, List.length_cons] at this
      simp only [this]
      exact congrArg _ (congrArg (Out.mk · _ _) (rafter_congr _ (by simp [Vec.cap] <;> omega) rfl rfl))

theorem rextendFromSliceClone_eq (env : Env) (v : Vec) (xs : List Id) (n : Nat) (o : List Outcome)
    (h : View.bwd.Shape v xs) :
    rextendFromSliceClone env v n o =
      .ok ⟨(rgrown env v n).rafter (rextendCloneSpecR (rroom env v n) xs n o),
           (rextendCloneSpecR (rroom env v n) xs n o).exit, (rextendCloneSpecR (rroom env v n) xs n o).rest⟩ := by
  revert v
  refine rseg_cases fun k dl esc => ?_
  unfold rextendFromSliceClone rextendCloneSpecR
  refine rreserve_cases ?_ fun k' _ => ?_
  · rw [rafter_seg k (by simp)]
    simp
  · exact rextendCloneLoop_eq n xs dl esc k' o

/-- the loop of `extend_with` writes what the clone loop writes, walking `ptr` one slot towards the front per clone, and
    leaves the length to its guard -/
theorem rextendWithLoop_eq (n : Nat) : ∀ (xs dl esc : List Id) (m l ll : Nat) (o : List Outcome),
    rextendWithLoop n ⟨H (m + n) ++ I xs, l, dl, esc⟩ (m + n - 1) ll o =
      .ok ({ (⟨H (m + n) ++ I xs, l, dl, esc⟩ : Vec).rafter (rextendCloneSpec xs n o) with len := l },
           m + n - 1 - (clonedIds n o).length, ll + (clonedIds n o).length,
           (match (rextendCloneSpec xs n o).exit with | .ret _ => false | .panic _ => true),
           (rextendCloneSpec xs n o).rest) := by
  induction n with
  | zero =>
    intro xs dl esc m l ll o
    rw [rextendWithLoop, rextendCloneSpec, rafter_seg (m + 0) (by simp)]
    simp [clonedIds]
  | succ n ih =>
    intro xs dl esc m l ll o
    match o with
    | [] => rw [rextendWithLoop, rextendCloneSpec, rafter_seg (m + (n + 1)) (by simp)]; simp [clonedIds]
    | .panic :: o => rw [rextendWithLoop, rextendCloneSpec, rafter_seg (m + (n + 1)) (by simp)]; simp [clonedIds]
    | .ret id :: o =>
      have h := ih (id :: xs) dl esc m l (ll + 1) o
      rw [rextendWithLoop, rextendCloneSpec,
        write_mid (A := H (m + n)) (B := I xs) (by simp [← Nat.add_assoc]) (by simp <;> omega)]
      rw [I_cons] at h
      simp only [show m + (n + 1) - 1 - 1 = m + n - 1 from rfl, h, clonedIds, List.length_cons]
      refine congrArg _ ?_
      rw [show ll + 1 + (clonedIds n o).length = ll + ((clonedIds n o).length + 1) by omega,
        show m + n - 1 - (clonedIds n o).length = m + (n + 1) - 1 - ((clonedIds n o).length + 1) by omega]
      exact congrArg (Prod.mk · _) (congrArg (fun a : Vec => ({ a with len := l } : Vec))
        (rafter_congr _ (by simp [Vec.cap] <;> omega) rfl rfl))

theorem rextendWith_eq (env : Env) (v : Vec) (xs : List Id) (n : Nat) (value : Id) (o : List Outcome)
    (h : View.bwd.Shape v xs) :
    rextendWith env v n value o =
      .ok ⟨(rgrown env v n).rafter (rextendWithSpecR (rroom env v n) env.bombs xs n value o),
           (rextendWithSpecR (rroom env v n) env.bombs xs n value o).exit,
           (rextendWithSpecR (rroom env v n) env.bombs xs n value o).rest⟩ := by
  revert v
  refine rseg_cases fun k dl esc => ?_
  unfold rextendWith rextendWithSpecR
  refine rreserve_cases ?_ fun k' _ => ?_
  · rw [rafter_seg k (by simp)]
    simp [dropArg]
  · simp only [↓reduceIte]
    cases n with
    | zero =>
      simp only [Nat.zero_sub, rextendWithLoop, Nat.lt_irrefl, ↓reduceIte, rextendWithSpec]
      rw [rafter_seg (k' + 0) (by simp)]
      simp [dropArg, setLen]
    | succ n =>
      have hloop := rextendWithLoop_eq n xs dl esc (k' + 1) xs.length xs.length o
      obtain ⟨i, hi⟩ := Nat.exists_eq_add_of_le (clonedIds_length_le n o)
      rw [show k' + 1 + n = k' + (n + 1) by omega,
        show k' + (n + 1) - 1 - (clonedIds n o).length = i + k' by omega] at hloop
      simp only [Nat.add_sub_cancel, rstart_seg, hloop, rextendWithSpec]
      rw [rextendCloneSpec_closed n xs o, rafter_seg (i + k' + 1) (by simp; omega)]
      cases (extendCloneSpec [] n o).exit with
      | ret u =>
        simp only [Nat.zero_lt_succ, ↓reduceIte]
        rw [write_mid (A := H (i + k')) (B := I ((clonedIds n o).reverse ++ xs)) (by simp [H_add]) (by simp),
          rafter_seg (i + k') (by simp; omega)]
        simp [setLen, Nat.add_comm]
      | panic d =>
        simp only
        rw [rafter_seg (i + k' + 1) (by simp; omega)]
        simp [dropArg, setLen, Nat.add_comm]

theorem rtruncateSpec_escaped (bombs : List Id) (xs : List Id) (n : Nat) : (rtruncateSpec bombs xs n).escaped = [] := by
  unfold rtruncateSpec; split <;> rfl

theorem rresize_eq (env : Env) (v : Vec) (xs : List Id) (newLen : Nat) (value : Id) (o : List Outcome)
    (h : View.bwd.Shape v xs) :
    rresize env v newLen value o =
      .ok ⟨(rgrown env v (newLen - v.len)).rafter (rresizeSpec (rroom env v (newLen - v.len)) env.bombs xs newLen value o),
           (rresizeSpec (rroom env v (newLen - v.len)) env.bombs xs newLen value o).exit,
           (rresizeSpec (rroom env v (newLen - v.len)) env.bombs xs newLen value o).rest⟩ := by
  unfold rresize rresizeSpec
  rw [h.2]
  split
  · exact h.2 ▸ rextendWith_eq env v xs (newLen - v.len) value o h
  · rw [rgrown_sub_of_le ‹_›, rtruncate_eq env.bombs v xs newLen h]
    cases he : (rtruncateSpec env.bombs xs newLen).exit <;>
      simp [Vec.rafter, dropArg, rtruncateSpec_escaped, he]

theorem rresizeWith_eq (env : Env) (v : Vec) (xs : List Id) (newLen : Nat) (o : List Outcome)
    (h : View.bwd.Shape v xs) :
    rresizeWith env v newLen o =
      .ok ⟨(rgrown env v (newLen - v.len)).rafter (rresizeWithSpec (rroom env v (newLen - v.len)) env.bombs xs newLen o),
           (rresizeWithSpec (rroom env v (newLen - v.len)) env.bombs xs newLen o).exit,
           (rresizeWithSpec (rroom env v (newLen - v.len)) env.bombs xs newLen o).rest⟩ := by
  revert v
  refine rseg_cases fun k dl esc => ?_
  unfold rresizeWith rresizeWithSpec
  simp only
  split
  · unfold rextendCloneSpecR
    refine rreserve_cases ?_ fun k' _ => ?_
    · rw [rafter_seg k (by simp)]
      simp
    · simp only [↓reduceIte, rstart_seg, rextendWithLoop_eq (newLen - xs.length) xs dl esc k' xs.length xs.length o]
      have hc := rextendCloneSpec_closed (newLen - xs.length) xs o
      rcases extendCloneSpec_exit (newLen - xs.length) [] o with h | h <;> rw [hc, h] <;>
        refine congrArg _ (congrArg (Out.mk · _ _) (Vec.eq_of rfl ?_ rfl rfl)) <;> simp [setLen, Vec.rafter, Nat.add_comm]
  · rw [rgrown_sub_of_le ‹_›, rtruncate_eq env.bombs _ xs newLen (rseg_shape ..)]
    simp only [Vec.rafter]

theorem rpopIf_eq (v : Vec) (xs : List Id) (o : List Outcome)
    (h : View.bwd.Shape v xs) :
    rpopIf v o = .ok ⟨v.rafter (rpopIfSpec xs o), (rpopIfSpec xs o).exit, (rpopIfSpec xs o).rest⟩ := by
  revert v
  refine rseg_cases fun k dl esc => ?_
  unfold rpopIf rpopIfSpec
  cases xs with
  | nil => rw [rafter_seg k (by simp)]; simp
  | cons x rest =>
    rw [if_neg (by simp), peek_mid (A := H k) (x := x) (B := I rest) (by simp) (by simp [Vec.rstart, Vec.cap])]
    match o with
    | [] => simp only []; rw [rafter_seg k (by simp)]; simp
    | .panic :: o => simp only []; rw [rafter_seg k (by simp)]; simp
    | .ret b :: o =>
      simp only []
      split
      · rw [rpop_eq _ (x :: rest) (rseg_shape ..)]
        simp only [rpopSpec, Vec.rafter]
      · rw [rafter_seg k (by simp)]; simp

theorem rappend_eq (env : Env) (v other : Vec) (xs ys : List Id)
    (h : View.bwd.Shape v xs) (ho : View.fwd.Shape other ys) :
    rappend env v other =
      .ok (⟨(rgrown env v other.len).rafter (rappendSpec (rroom env v other.len) xs ys),
            (rappendSpec (rroom env v other.len) xs ys).exit, []⟩,
           appendedOther (rroom env v other.len) other ys) := by
  revert other
  refine seg_cases fun j dlo esco => ?_
  revert v
  refine rseg_cases fun k dl esc => ?_
  unfold rappend rappendSpec appendedOther
  simp only
  refine rreserve_cases ?_ fun k' _ => ?_
  · simp only [Bool.false_eq_true, ↓reduceIte]
    rw [dropRange_seg env.bombs ys true _ [] (H j) 0 (by simp [setLen]) rfl, rafter_seg k (by simp)]
    simp [setLen, Vec.cap, H_add]
  · simp only [↓reduceIte, rstart_seg]
    rw [take_I_H, mapM_init]
    simp only
    rw [if_neg (by omega), List.take_left' (length_H _), H_drop, Nat.add_sub_cancel, Nat.add_sub_cancel_left,
      if_neg (not_not_intro rfl), List.take_append_of_le_length (by simp), H_take, Nat.min_eq_left (Nat.le_add_right ..),
      List.drop_left' (length_H _), List.drop_left' (length_I ys), rafter_seg k' (by simp <;> omega)]
    simp [setLen, Vec.cap, H_add]
    omega

theorem rintoIter_eq (bombs : List Id) (v : Vec) (xs : List Id) (script : List Pull)
    (h : View.bwd.Shape v xs) :
    rintoIter bombs v script =
      .ok ⟨v.rafter (intoIterSpec bombs xs script), (intoIterSpec bombs xs script).exit, []⟩ := by
  revert v
  refine rseg_cases fun k dl esc => ?_
  unfold rintoIter intoIterSpec
  obtain ⟨a', b', hp, hab⟩ := drainPulls_eq script (H k) [] 0 0 xs 0 dl esc ⟨k + xs.length, 0, k, k + xs.length⟩ []
    (by simp) (by simp)
  simp only [setLen, Vec.rstart, Vec.cap, List.length_append, length_H, length_I, Nat.add_sub_cancel]
  rw [show H k ++ I xs = H k ++ H 0 ++ I xs ++ H 0 ++ [] by simp, hp]
  simp only [length_H, Nat.add_sub_cancel_left]
  rw [dropRange_seg bombs _ false _ (H k ++ H a') (H b' ++ []) _ (by simp) (by simp),
    rafter_seg (k + a' + (pullsSpec xs script).2.length + b') (by simp <;> omega)]
  simp [H_add]

end Coll
