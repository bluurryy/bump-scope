/-
  Lemmas/SpecProps.lean — the wide-integer specification `Spec.*` is tight: a request is refused exactly when no
  aligned block of that size exists in the range (`exists_aligned_iff_up/down`: it exists iff the first, or the last,
  aligned address leaves room for it).  That a granted block is aligned, inside the range and the nearest such is
  read off the definitions in `Props/C11` (`C11.*_some`).
-/
import BumpProof.Lemmas.Align

namespace Lemmas

theorem ite_some_eq_none {α : Type} {c : Prop} [Decidable c] {a : α} :
    (if c then some a else none) = none ↔ ¬ c := by
  by_cases h : c
  · rw [if_pos h]; exact ⟨fun h' => (nomatch h'), fun h' => absurd h h'⟩
  · rw [if_neg h]; exact ⟨fun _ => h, fun _ => rfl⟩

theorem exists_aligned_iff_up {a s sz e : Nat} (ha : 0 < a) :
    (∃ q, a ∣ q ∧ s ≤ q ∧ q + sz ≤ e) ↔ Spec.upAlign s a + sz ≤ e :=
  ⟨fun ⟨_, hq, hsq, hqe⟩ => Nat.le_trans (Nat.add_le_add_right (upAlign_le_of_dvd ha hq hsq) sz) hqe,
   fun h => ⟨_, upAlign_dvd s a, le_upAlign s ha, h⟩⟩

theorem exists_aligned_iff_down {a s sz e : Nat} (ha : 0 < a) :
    (∃ q, a ∣ q ∧ s ≤ q ∧ q + sz ≤ e) ↔ sz ≤ e ∧ s ≤ Spec.downAlign (e - sz) a :=
  ⟨fun ⟨q, hq, hsq, hqe⟩ => ⟨Nat.le_trans (Nat.le_add_left sz q) hqe,
      Nat.le_trans hsq (le_downAlign_of_dvd ha hq (Nat.le_sub_of_add_le hqe))⟩,
   fun ⟨hsz, h⟩ => ⟨_, downAlign_dvd _ a, h, Nat.add_le_of_le_sub hsz (downAlign_le _ a)⟩⟩

/-- for a size that is a multiple of the alignment the two ends can be aligned independently -/
theorem upAlign_add_le_iff {a s sz e : Nat} (ha : 0 < a) (hsz : a ∣ sz) :
    Spec.upAlign s a + sz ≤ e ↔ s + sz ≤ Spec.downAlign e a := by
  constructor
  · intro h
    exact Nat.le_trans (Nat.add_le_add_right (le_upAlign s ha) sz)
      (le_downAlign_of_dvd ha ((Nat.dvd_add_right (upAlign_dvd s a)).2 hsz) h)
  · intro h
    have hle : sz ≤ Spec.downAlign e a := Nat.le_trans (Nat.le_add_left sz s) h
    have := upAlign_le_of_dvd ha (Nat.dvd_sub (downAlign_dvd e a) hsz) (Nat.le_sub_of_add_le h)
    exact Nat.le_trans (Nat.add_le_of_le_sub hle this) (downAlign_le e a)

theorem bumpUp_eq_none {s e sz al ma : Nat} :
    Spec.bumpUp s e sz al ma = none ↔ ¬ Spec.upAlign s al + sz ≤ e :=
  ite_some_eq_none

theorem bumpUp_none_iff {s e sz al ma : Nat} (hal : 0 < al) :
    Spec.bumpUp s e sz al ma = none ↔ ¬ ∃ q, al ∣ q ∧ s ≤ q ∧ q + sz ≤ e := by
  rw [exists_aligned_iff_up hal]
  exact bumpUp_eq_none

theorem bumpDown_eq_none {s e sz al ma : Nat} :
    Spec.bumpDown s e sz al ma = none ↔ ¬ (sz ≤ e ∧ s ≤ Spec.downAlign (e - sz) (Nat.max al ma)) := by
  unfold Spec.bumpDown
  by_cases hsz : sz ≤ e
  · rw [if_pos hsz, and_iff_right hsz]
    exact ite_some_eq_none
  · rw [if_neg hsz]
    exact ⟨fun _ h => hsz h.1, fun _ => rfl⟩

theorem bumpDown_none_iff {s e sz al ma : Nat} (hal : 0 < al) (hma : 0 < ma)
    (hdvd : al ∣ ma ∨ ma ∣ al) :
    Spec.bumpDown s e sz al ma = none ↔ ¬ ∃ q, al ∣ q ∧ ma ∣ q ∧ s ≤ q ∧ q + sz ≤ e := by
  obtain ⟨h1, h2, h3, h4⟩ := max_dvd_facts hal hma hdvd
  have hq : (∃ q, al ∣ q ∧ ma ∣ q ∧ s ≤ q ∧ q + sz ≤ e) ↔ ∃ q, Nat.max al ma ∣ q ∧ s ≤ q ∧ q + sz ≤ e :=
    ⟨fun ⟨q, a, b, c⟩ => ⟨q, h4 q a b, c⟩, fun ⟨q, a, c⟩ => ⟨q, Nat.dvd_trans h1 a, Nat.dvd_trans h2 a, c⟩⟩
  rw [hq, exists_aligned_iff_down h3]
  exact bumpDown_eq_none

theorem prepareUp_eq_none {s e sz al : Nat} :
    Spec.prepareUp s e sz al = none ↔ ¬ Spec.upAlign s al + sz ≤ e :=
  ite_some_eq_none

theorem prepareUp_none_iff {s e sz al : Nat} (hal : 0 < al) :
    Spec.prepareUp s e sz al = none ↔ ¬ ∃ q, al ∣ q ∧ s ≤ q ∧ q + sz ≤ e := by
  rw [exists_aligned_iff_up hal]
  exact prepareUp_eq_none

theorem prepareDown_eq_none {s e sz al : Nat} :
    Spec.prepareDown s e sz al = none ↔ ¬ s + sz ≤ Spec.downAlign e al :=
  ite_some_eq_none

theorem prepareDown_none_iff {s e sz al : Nat} (hal : 0 < al) (hsz : al ∣ sz) :
    Spec.prepareDown s e sz al = none ↔ ¬ ∃ q, al ∣ q ∧ s ≤ q ∧ q + sz ≤ e := by
  rw [exists_aligned_iff_up hal, upAlign_add_le_iff hal hsz]
  exact prepareDown_eq_none

end Lemmas
