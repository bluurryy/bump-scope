/-
  Lemmas/HistAllocatedStep.lean — which constructors of `stepCore` can never make `stats().allocated()` smaller
  (`Adv cfg g.s g'.s`), from a state satisfying the invariant.  `stepCore_adv` walks the constructors itself and not
  through `Acts` (Lemmas/StepActs.lean): `Adv` reads `cur`, which the bookkeeping of a step may change, and each call
  needs the invariant of the state it starts from, which a relation between two states cannot ask for.
  `alloc_try_with(_mut)` is left out of `stepCore_adv` (its hypothesis `h2`) because its `Err` path rewinds to a checkpoint,
  which needs `resetTo_restores` (Lemmas/HistRegionInside.lean); it is treated in Lemmas/HistAllocatedTryWith.lean.
-/
import BumpProof.Lemmas.HistAllocatedFn
import BumpProof.Lemmas.InvPreparedOps
import BumpProof.Props.C13

set_option linter.unusedSimpArgs false
set_option linter.unusedVariables false

namespace Arena
/-- the operations that can make `stats().allocated()` smaller: reclaiming the newest allocation (`deallocate`,
    `shrink`, `shrink_slice` — unless addressed through the opt-out wrapper), leaving a scope (`scopeExit`,
    `scopedAlignedExit`, `reset_to`), resetting (`reset`, `reset_to_start`) and `drop` -/
def Op.mayReclaim : Op → Bool
  | .drop => true
  | .deallocate _ via => via != .withoutDealloc
  | .shrink _ _ via => via != .withoutShrink
  | .shrinkSlice _ _ => true
  | .scopeExit => true
  | .scopedAlignedExit => true
  | .resetTo _ => true
  | .reset => true
  | .resetToStart => true
  | _ => false
end Arena

namespace Arena.Hist
open Rs Ledger

variable {cfg : Cfg}

/-- the ghost bookkeeping of a step touches neither the chunk list nor the current chunk: `s'` did not decrease if a
    state `t` with the same two fields did not -/
theorem Adv.ghost {s t s' : State} (h : Adv cfg s t) (h1 : s'.chunks = t.chunks := by rfl) (h2 : s'.cur = t.cur := by rfl) :
    Adv cfg s s' := h.trans (Adv.of_chunks h1 h2)

/-- `alignTo`, `alignGuardDrop` (`Fn.alignTo_cases`, `Fn.alignGuardDrop_cases`): nothing, or the position of the current
    chunk is aligned, which moves it towards the free side -/
theorem adv_aligned {s s' : State} {n : Nat} (hn : MinAlignOK n)
    (h : s' = s ∨ ∃ i c p, s.cur = .chunk i ∧ s.chunks[i]? = some c ∧
      liftM (Gen.LibArith.align_pos cfg.up n c.pos) = .ok p ∧ s' = setPos s i p) : Adv cfg s s' := by
  rcases h with rfl | ⟨i, c, p, hcur, hc, hp, rfl⟩
  · exact Adv.refl _
  · exact adv_setPos hcur hc (Mem.align_pos_free_side hn hp)

/-- re-aligning the chunk a `BumpAlignGuard` started in (not the current one) changes no statistic -/
theorem alignChunkAt_adv {s s' : State} {n : Nat} {st : Cur} (h : alignChunkAt cfg s n st = .ok s') : Adv cfg s s' :=
  Adv.of_eq (congrArg (·.allocated) (stats_alignChunkAt h))

theorem writeRange_adv {s s' : State} {lo hi : Nat} {f : Nat → UInt8} (h : writeRange cfg s lo hi f = .ok s') :
    Adv cfg s s' := adv_onlyData (Mem.writeRange_onlyData h)

theorem copyBytes_adv {s s' : State} {a b n : Nat} {no : Bool} (h : copyBytes cfg s a b n no = .ok s') : Adv cfg s s' :=
  adv_onlyData (Mem.copyBytes_onlyData h)

/-- typed `reserve`: the current chunk and every position stay (a chunk may be appended) -/
theorem reserve_adv {s s' : State} (hg : GeomInv cfg s) {n : Nat} {r : Except AErr Unit}
    (h : reserve cfg s n = .ok (s', r)) : Adv cfg s s' := by
  obtain ⟨hext, _, _⟩ := reserve_frame h
  rcases reserve_cur h with hc | ⟨hc, _⟩
  · cases hcu : s.cur with
    | claimed => exact Adv.of_zero (Or.inl hcu)
    | unallocated => exact Adv.of_zero (Or.inr hcu)
    | chunk i =>
      obtain ⟨c, hci, _⟩ := hg.cur i hcu
      obtain ⟨c', hc', sp, hp⟩ := (hext (i+1)).chunk i c hci
      refine Adv.of_eq (stats_allocated_congr hcu (hc.trans hcu) hci hc' sp.1 sp.2.1 (hp (Nat.lt_succ_self i)) ?_)
      intro j _ x hx
      obtain ⟨x', hx', spx, _⟩ := (hext 0).chunk j x hx
      exact ⟨x', hx', spx.1, spx.2.1⟩
  · exact Adv.of_zero (Or.inr hc)

theorem reserveDyn_adv {s s' : State} (hg : GeomInv cfg s) {n : Nat}
    {r : Except AErr Unit} (h : reserveDyn cfg s n = .ok (s', r)) : Adv cfg s s' := by
  rcases reserveDyn_paths h with rfl | ⟨_, r1, h1⟩
  · exact Adv.refl _
  · exact (allocGeneric_fwd_of_ne (by decide) h1).adv hg

theorem zeroIf_adv {s1 s2 : State} {z : Bool} {p n : Nat}
    (hz : (if z then zeroRange cfg s1 p n else pure s1) = .ok s2) : Adv cfg s1 s2 :=
  adv_onlyData (zeroIf_wrote hz).onlyData

theorem moved_adv {s1 s' : State} {r1 : Except AErr Nat} {ptr len : Nat} (h : Moved cfg s1 r1 ptr len s') :
    Adv cfg s1 s' := by
  cases r1 with
  | error e => cases h; exact Adv.refl _
  | ok np => exact copyBytes_adv h

theorem shrinkWithoutShrink_adv (hc : CfgOK cfg) {s s' : State} (hg : GeomInv cfg s) (hr : RespsOK cfg s)
    {ptr oldSize : Nat} {L : Layout} (hL : L.Valid) {r : Except AErr (Nat × Nat)}
    (h : shrinkWithoutShrink cfg s ptr oldSize L = .ok (s', r)) : Adv cfg s s' := by
  rcases shrinkWithoutShrink_paths h with ⟨_, rfl, _⟩ | ⟨s1, r1, h1, h2, _⟩
  · exact Adv.refl _
  · exact (alloc_adv hc hg hr hL h1).trans (moved_adv h2)

/-- a commit never gives anything back: bytes move, then the position goes beyond the block, which lies on the free
    side of the old position -/
theorem adv_commits {g g' : GState} {out : Out} {p : Prepared} {size : Nat} {rev : Bool} (h : Inv cfg g)
    (hc : Commits cfg g g' out p size rev) : Adv cfg g.s g'.s := by
  obtain ⟨s', addr, hcm, -, rfl, -⟩ := hc.run
  obtain ⟨h0, hpo⟩ := h.unprepare hc.prep
  obtain ⟨s1, np, w, rfl, hdir⟩ := hcm.mid h0.geom.minAlign
  have hsg := w.sameGeom
  obtain ⟨i, c, hcur, hci, hside⟩ := hpo.free
  obtain ⟨c1, hc1, hcc⟩ := hsg.getElem?' hci
  have hfit := hc.fits
  refine (((adv_onlyData w.onlyData).trans (adv_setCurPos (hsg.cur.trans hcur) hc1 ?_)).ghost :
    Adv cfg { g.s with prepared := none } _)
  rw [geom_pos hcc]
  rw [hcm.addr_eq] at hdir
  by_cases hup : cfg.up = true
  · simp only [if_pos hup] at hdir hside ⊢; omega
  · simp only [if_neg hup] at hdir hside ⊢; omega

theorem allocVia_adv (hc : CfgOK cfg) {s s1 : State} (hg : GeomInv cfg s) (hr : RespsOK cfg s) {L : Layout} (hL : L.Valid)
    {r1 : Except AErr Nat} (h : AllocVia cfg s L s1 r1) : Adv cfg s s1 := by
  rcases h with h | ⟨r0, h, _⟩
  · exact alloc_adv hc hg hr hL h
  · exact (inAnotherChunk_fwd hc hg hr hL (custom_sma L) h).adv hg

theorem grow_adv (hc : CfgOK cfg) {s s' : State} (hg : GeomInv cfg s) (hr : RespsOK cfg s) {ptr oldSize : Nat}
    {L : Layout} (hL : L.Valid) {r : Except AErr Nat} (h : grow cfg s ptr oldSize L = .ok (s', r)) : Adv cfg s s' := by
  obtain ⟨hsz, hcase⟩ := grow_cases h
  rcases hcase with ⟨hup, hl, _, c, rem, t, np, hcc, _, _, ht, hnp, rfl, _⟩ |
    ⟨hup, hl, c, add, na, s1, nov, hcc, _, hna, _, hcp, rfl, _⟩ | ⟨s1, hv, hm⟩
  · -- in place, upwards: the block ended at the position; the new end, aligned up, lies beyond it
    obtain ⟨i, hcur, hci⟩ := curChunk?_eq_some hcc
    refine adv_setCurPos hcur hci ?_
    have hl := Fn.isLast_pos hl hcur hci
    simp only [hup, ↓reduceIte] at hl ⊢
    have h1 := (Fn.rs_add_ok ht).1
    have h2 : t ≤ np :=
      ((Fn.lib_up_align_ok_iff hg.minAlign.p2 hg.minAlign.lt64).1 hnp).2 ▸ Lemmas.le_upAlign t hg.minAlign.p2.pos
    omega
  · -- in place, downwards: the block started at the position; its new start lies below
    obtain ⟨i, hcur, hci⟩ := curChunk?_eq_some hcc
    have hod := Mem.copyBytes_onlyData hcp
    have hcur1 : s1.cur = .chunk i := by rw [hod.1]; exact hcur
    obtain ⟨c1, hc1, hgm⟩ := Mem.getElem?_geom hod.2 hci
    have hpos : c1.pos = c.pos := by
      unfold Chunk.memGeom at hgm
      simp only [Prod.mk.injEq] at hgm
      exact hgm.2.2.1
    refine (adv_onlyData hod).trans (adv_setCurPos hcur1 hc1 ?_)
    have hl := Fn.isLast_pos hl hcur hci
    simp only [hup, Bool.false_eq_true, ↓reduceIte] at hl ⊢
    have := Nat.le_trans (Fn.lib_bump_down_le hna) (Nat.sub_le ptr add)
    omega
  · exact (allocVia_adv hc hg hr hL hv).trans (moved_adv hm)

theorem stats_deallocate_optout {g g' : GState} {out : Out} {b : Nat} {via : Via}
    (hopt : via = .withoutDealloc ∨ cfg.deallocates = false)
    (hs : stepCore cfg g (.deallocate b via) = .ok (g', out)) : stats cfg g'.s = stats cfg g.s := by
  obtain ⟨_, blk, _, s1, h1, rfl, _⟩ := ok_deallocate hs
  have : s1 = g.s := by
    split at h1
    · cases h1; rfl
    · rename_i hvia
      rcases hopt with rfl | hdis
      · exact absurd rfl hvia
      · rw [C13.deallocate_optout cfg g.s _ _ hdis] at h1
        cases h1; rfl
  subst this
  rfl

theorem shrink_optout_adv (hc : CfgOK cfg) {s s' : State} (hg : GeomInv cfg s) (hr : RespsOK cfg s)
    (hsh : cfg.shrinks = false) {ptr oldSize : Nat} {L : Layout} (hL : L.Valid) {r : Except AErr (Nat × Nat)}
    (h : shrink cfg s ptr oldSize L = .ok (s', r)) : Adv cfg s s' := by
  unfold shrink at h
  obtain ⟨_, _, h⟩ := bind_eq_ok h
  simp only [hsh, Bool.false_and, Bool.false_eq_true, ↓reduceIte, Bool.not_false, Bool.true_or] at h
  rcases ite_eq_ok h with ⟨_, h⟩ | ⟨_, h⟩
  · obtain ⟨⟨s1, r1⟩, h1, h⟩ := bind_eq_ok h
    refine (alloc_adv hc hg hr hL h1).trans ?_
    cases r1 with
    | error e => cases h; exact Adv.refl _
    | ok np =>
      obtain ⟨s2, hcp, h⟩ := bind_eq_ok h
      cases h
      exact copyBytes_adv hcp
  · cases h
    exact Adv.refl _

variable {g g' : GState} {out : Out}

theorem adv_shrink_optout (hi : Inv cfg g) (hr : RespsOK cfg g.s) {b : Nat} {L : Layout} {via : Via}
    (hopt : via = .withoutShrink ∨ cfg.shrinks = false)
    (hs : stepCore cfg g (.shrink b L via) = .ok (g', out)) : Adv cfg g.s g'.s := by
  obtain ⟨hL, _, blk, _, _, s1, r, h1, h⟩ := ok_shrink hs
  have t : Adv cfg g.s s1 := by
    split at h1
    · exact shrinkWithoutShrink_adv hi.cfgOK hi.geom hr hL h1
    · rename_i hvia
      rcases hopt with rfl | hsh
      · exact absurd rfl hvia
      · exact shrink_optout_adv hi.cfgOK hi.geom hr hsh hL h1
  cases r <;> obtain ⟨rfl, _⟩ := h <;> exact t.ghost

theorem stats_shrinkSlice_optout (hsh : cfg.shrinks = false) {b n : Nat}
    (hs : stepCore cfg g (.shrinkSlice b n) = .ok (g', out)) : stats cfg g'.s = stats cfg g.s := by
  obtain ⟨_, blk, _, _, s1, r, h1, h⟩ := ok_shrinkSlice hs
  rw [C13.shrinkSlice_optout cfg g.s _ _ _ _ hsh] at h1
  cases h1
  rw [h.1]

theorem stepCore_adv {op : Op} (hi : Inv cfg g) (hr : RespsOK cfg g.s)
    (h1 : op.mayReclaim = false) (h2 : ∀ L off vsize ok inner m, op ≠ .allocTryWith L off vsize ok inner m)
    (hs : stepCore cfg g op = .ok (g', out)) : Adv cfg g.s g'.s := by
  have hc := hi.cfgOK
  have hg := hi.geom
  cases op with
  | drop => cases h1
  | reset => cases h1
  | resetToStart => cases h1
  | scopeExit => cases h1
  | scopedAlignedExit => cases h1
  | resetTo k => cases h1
  | shrinkSlice b n => cases h1
  | allocTryWith L off vsize ok inner m => exact absurd rfl (h2 L off vsize ok inner m)
  | deallocate b via =>
    cases via <;> first | (cases h1; done) | skip
    exact Nat.le_of_eq (congrArg StatsOut.allocated (stats_deallocate_optout (Or.inl rfl) hs)).symm
  | shrink b L via =>
    cases via <;> first | (cases h1; done) | skip
    exact adv_shrink_optout hi hr (.inl rfl) hs
  | newWithSize n => exact Adv.of_zero (Or.inr (ok_newWithSize hs).2.1)
  | newWithCapacity L => exact Adv.of_zero (Or.inr (ok_newWithCapacity hs).2.2.1)
  | newUnallocated => obtain ⟨rfl, _⟩ := ok_newUnallocated hs; exact Adv.refl _
  | allocate L z via =>
    obtain ⟨hL, _, s1, r, h1, h⟩ := ok_allocate hs
    have t := alloc_adv hc hg hr hL h1
    cases r with
    | error e => obtain ⟨rfl, _⟩ := h; exact t
    | ok p => obtain ⟨s2, hz, rfl, _⟩ := h; exact (t.trans (zeroIf_adv hz)).ghost
  | grow b L z via =>
    obtain ⟨hL, _, blk, _, _, s1, r, h1, h⟩ := ok_grow hs
    have t := grow_adv hc hg hr hL h1
    cases r with
    | error e => obtain ⟨rfl, _⟩ := h; exact t
    | ok p => obtain ⟨s2, hz, rfl, _⟩ := h; exact (t.trans (zeroIf_adv hz)).ghost
  | allocLayout L hh =>
    obtain ⟨hL, _, hsma, s1, r, h1, h⟩ := ok_allocLayout hs
    have t := (allocGeneric_fwd hc hg hr hL hsma (custom_sma L) h1).adv hg
    cases r <;> obtain ⟨rfl, _⟩ := h <;> exact t.ghost
  | prepare L =>
    obtain ⟨_, _, _, s1, r, h1, h⟩ := ok_prepare hs
    have t := (allocGeneric_fwd_of_ne (by decide) h1).adv hg
    cases r <;> obtain ⟨rfl, _⟩ := h <;> exact t.ghost
  | commit size rev => obtain ⟨_, hcm⟩ := hi.commits_commit hs; exact adv_commits hi hcm
  | prepareSlice esize ealign minCap rev =>
    obtain ⟨_, _, ⟨rfl, _⟩ | ⟨_, s1, r, h1, h⟩⟩ := ok_prepareSlice hs
    · exact Adv.refl _
    · have t := (allocGeneric_fwd_of_ne (by decide) h1).adv hg
      cases r <;> obtain ⟨rfl, _⟩ := h <;> exact t.ghost
  | fillPrepared len seed =>
    obtain ⟨p, _, _, s1, h1, rfl, _⟩ := ok_fillPrepared hs
    exact writeRange_adv h1
  | commitSlice len => obtain ⟨_, hcm⟩ := hi.commits_commitSlice hs; exact adv_commits hi hcm
  | abandonPrepared => obtain ⟨rfl, _⟩ := ok_abandonPrepared hs; exact Adv.of_chunks rfl rfl
  | reserve n dyn =>
    obtain ⟨_, s1, r, h1, rfl, _⟩ := ok_reserve hs
    split at h1
    · exact reserveDyn_adv hg h1
    · exact reserve_adv hg h1
  | scopeEnter => obtain ⟨_, rfl, _⟩ := ok_scopeEnter hs; exact Adv.of_chunks rfl rfl
  | checkpoint k => obtain ⟨_, _, rfl, _⟩ := ok_checkpoint hs; exact Adv.of_chunks rfl rfl
  | claim => obtain ⟨_, _, rfl, _⟩ := ok_claim hs; exact Adv.of_chunks rfl rfl
  | claimEnd => obtain ⟨_, rest, _, rfl, _⟩ := ok_claimEnd hs; exact Adv.of_chunks rfl rfl
  | onClaimed op' =>
    obtain ⟨_, ⟨rfl, _⟩ | ⟨b, via, blk, _, _, rfl, _⟩ | ⟨b, L, via, blk, _, _, _, _, _, rfl, _⟩⟩ := ok_onClaimed hs
    · exact Adv.refl _
    · exact Adv.of_chunks rfl rfl
    · exact Adv.of_chunks rfl rfl
  | alignedEnter n =>
    obtain ⟨_, hn, _, ⟨_, rfl⟩ | ⟨_, s1, ha, rfl⟩⟩ := ok_alignedEnter hs
    · exact Adv.of_chunks rfl rfl
    · exact (adv_aligned hn (Fn.alignTo_cases ha)).ghost
  | alignedExit =>
    obtain ⟨_, _, ⟨outer, start, rest, s1, s2, hf, ha, hb, rfl⟩ | ⟨outer, rest, hf, rfl⟩⟩ := ok_alignedExit hs
    · have hfr := hi.frames
      rw [hf] at hfr
      have ho : MinAlignOK outer := by
        -- `FramesOK` matches on the marks as well as on the frames
        cases hm : g.marks <;> rw [hm] at hfr <;> exact hfr.1
      exact ((adv_aligned ho (Fn.alignGuardDrop_cases ha)).trans (alignChunkAt_adv hb)).ghost
    · exact Adv.of_chunks rfl rfl
  | scopedAlignedEnter n =>
    obtain ⟨_, hn, s1, ha, rfl, _⟩ := ok_scopedAlignedEnter hs
    exact (adv_aligned hn (Fn.alignTo_cases ha)).ghost
  | withSettings n ga cl =>
    obtain ⟨_, _, hn, ⟨rfl, _⟩ | ⟨s1, ha, rfl, _⟩⟩ := ok_withSettings hs
    · exact Adv.refl _
    · exact (adv_aligned hn (Fn.alignTo_cases ha)).ghost
  | write b seed =>
    obtain ⟨blk, _, s1, h1, rfl, _⟩ := ok_write hs
    exact (writeRange_adv h1).ghost
  | split b at_ => obtain ⟨blk, _, _, rfl, _⟩ := ok_split hs; exact Adv.of_chunks rfl rfl

end Arena.Hist
