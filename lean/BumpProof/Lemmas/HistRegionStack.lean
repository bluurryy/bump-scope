/-
  Lemmas/HistRegionStack.lean — the stack of open regions under one step.
  `Trail s s'`: the open regions and the minimum alignment are the same and every chunk of `s` is still present
  in `s'` at the same index with the same address range; it holds of every path of a model function
  (`Trail.of_path`).  `FrameStep` / `stepCore_frameStep`: every constructor either leaves regions, marks and
  minimum alignment alone (`Trail`), pushes one region, pops one region, or needs an empty stack; in all but the
  last case every chunk stays in place.  Last, entering and leaving an `aligned` region summarised from
  `ok_alignedEnter` / `ok_alignedExit` (Lemmas/StepShape.lean): the region pushed or popped, and the lowering
  case in full.  `stepCore_frameStep` walks the constructors itself: what moves the region stack (frames, marks,
  minimum alignment) is the bookkeeping of a step, of which `Acts` (Lemmas/StepActs.lean) by design says nothing.
-/
import BumpProof.Lemmas.InvAllocOps
import BumpProof.Lemmas.StepTryWith

section
set_option linter.unusedSimpArgs false
set_option linter.unusedVariables false

namespace Arena.Hist
open Rs Ledger

variable {cfg : Cfg}

/-- chunk cover on lists (`ChunksCov s s'` is `CovL s.chunks s'.chunks`) -/
def CovL (l l' : List Chunk) : Prop :=
  ∀ (j : Nat) (c : Chunk), l[j]? = some c → ∃ c' : Chunk, l'[j]? = some c' ∧ c'.base = c.base ∧ c'.size = c.size

theorem covL_iff (s s' : State) : CovL s.chunks s'.chunks ↔ ChunksCov s s' := Iff.rfl

/-- `Trail` on the three projections it looks at, so that a state given as a record update (`{ s with live := … }`)
    fits without a lemma about the update -/
def TR (f : List Frame) (m : Nat) (c : List Chunk) (f' : List Frame) (m' : Nat) (c' : List Chunk) : Prop :=
  f' = f ∧ m' = m ∧ CovL c c'

def Trail (s s' : State) : Prop := TR s.frames s.minAlign s.chunks s'.frames s'.minAlign s'.chunks

theorem Trail.refl (s : State) : Trail s s := ⟨rfl, rfl, ChunksCov.refl s⟩
theorem Trail.trans {a b c : State} (h1 : Trail a b) (h2 : Trail b c) : Trail a c :=
  ⟨h2.1.trans h1.1, h2.2.1.trans h1.2.1, ChunksCov.trans h1.2.2 h2.2.2⟩
theorem Trail.frames {s s' : State} (h : Trail s s') : s'.frames = s.frames := h.1
theorem Trail.minAlign {s s' : State} (h : Trail s s') : s'.minAlign = s.minAlign := h.2.1
theorem Trail.cov {s s' : State} (h : Trail s s') : ChunksCov s s' := h.2.2

theorem Trail.setPos (s : State) (i p : Nat) : Trail s (setPos s i p) := ⟨rfl, rfl, ChunksCov.setPos s i p⟩

theorem Trail.setCurPos (s : State) (p : Nat) : Trail s (setCurPos s p) := by
  unfold Arena.setCurPos
  split
  · exact Trail.setPos s _ p
  · exact Trail.refl s

theorem tr_setPos_frames (s : State) (i p : Nat) : (Arena.setPos s i p).frames = s.frames := rfl
theorem tr_setPos_minAlign (s : State) (i p : Nat) : (Arena.setPos s i p).minAlign = s.minAlign := rfl
theorem TR.setPos {f : List Frame} {m : Nat} {c : List Chunk} {f' : List Frame} {m' : Nat} {s : State} {i p : Nat}
    (h : TR f m c f' m' s.chunks) : TR f m c f' m' (Arena.setPos s i p).chunks :=
  ⟨h.1, h.2.1, ChunksCov.trans (a := { s with chunks := c }) h.2.2 (ChunksCov.setPos s i p)⟩

theorem Trail.of_kept {s s' : State} (k : Fn.Kept s s') : Trail s s' := ⟨k.frames, k.minAlign, k.chunk⟩

theorem Trail.of_path {s s' : State} (h : Fn.Path cfg true true s s') : Trail s s' := .of_kept h.kept

end Arena.Hist
end

section
set_option linter.unusedSimpArgs false
set_option linter.unusedVariables false

namespace Arena
/-- regions that carry a mark (they forget their blocks when they end) -/
def Frame.scopeLike : Frame → Bool
  | .scope _ => true
  | .scopedAligned _ _ => true
  | _ => false

/-- the minimum alignment in force just outside a region, given the one in force inside -/
def Frame.below : Frame → Nat → Nat
  | .alignedLower o _, _ => o
  | .alignedRaise o, _ => o
  | .scopedAligned _ o, _ => o
  | _, ma => ma

/-- operations that need exclusive access to the whole arena (`&mut self` / by value): they are rejected while
    any region is open -/
def Op.isBare : Op → Bool
  | .drop => true
  | .reset => true
  | .resetToStart => true
  | .withSettings _ _ _ => true
  | _ => false
end Arena

namespace Arena.Hist
open Rs Ledger

variable {cfg : Cfg}

/-- what one operation does to the region stack (`pop`: `m` is the mark that goes with a scope-like frame; for the
    other frames it is not looked at and callers pass `0`) -/
inductive FrameStep (g g' : GState) : Prop
  | same : Trail g.s g'.s → g'.marks = g.marks → FrameStep g g'
  | push (f : Frame) : g'.s.frames = f :: g.s.frames →
      g'.marks = (if f.scopeLike then g.s.nextId :: g.marks else g.marks) →
      f.below g'.s.minAlign = g.s.minAlign → ChunksCov g.s g'.s → FrameStep g g'
  | pop (f : Frame) (m : Nat) : g.s.frames = f :: g'.s.frames →
      g.marks = (if f.scopeLike then m :: g'.marks else g'.marks) →
      g'.s.minAlign = f.below g.s.minAlign → ChunksCov g.s g'.s → FrameStep g g'

theorem tryInner_trail {s1 s2 : State} {inner : Option Layout} {m : Bool} {io : Option (Nat × Layout)}
    (h : tryInner cfg s1 inner m = .ok (s2, io)) : Trail s1 s2 := by
  rcases tryInner_cases h with ⟨rfl, _⟩ | ⟨_, Li, r, _, ha, _⟩
  · exact Trail.refl _
  · exact Trail.of_path (Fn.alloc_path ha)

theorem withInner_trail (s2 : State) (io : Option (Nat × Layout)) : Trail s2 (withInner s2 io) := by
  cases io <;> exact Trail.refl _

theorem tryTail_trail {g g' : GState} {out : Out} {s2 : State} {ptr off vsize : Nat} {ok cs : Bool}
    (h : tryTail cfg g s2 ptr off vsize ok cs = .ok (g', out)) : Trail s2 g'.s ∧ g'.marks = g.marks := by
  -- the four outcomes of `tryTail_inv`
  rcases tryTail_inv h with ⟨_, _, np, i, _, _, rfl⟩ | ⟨_, _, rfl⟩ | ⟨_, _, s3, hr, rfl⟩ | ⟨_, _, rfl⟩
  · exact ⟨Trail.setCurPos s2 np, rfl⟩
  · exact ⟨Trail.refl _, rfl⟩
  · exact ⟨(Trail.of_path (Fn.resetTo_path hr) :), rfl⟩
  · exact ⟨Trail.refl _, rfl⟩

theorem bare_frames {g g' : GState} {op : Op} {out : Out} (hb : op.isBare = true)
    (hs : stepCore cfg g op = .ok (g', out)) : g.s.frames = [] := by
  cases op <;> cases hb
  · exact (ok_drop hs).1
  · exact (ok_reset hs).1
  · exact (ok_resetToStart hs).1
  · exact (ok_withSettings hs).1

theorem stepCore_frameStep {g g' : GState} {op : Op} {out : Out}
    (hs : stepCore cfg g op = .ok (g', out)) : (g.s.frames = [] ∧ op.isBare = true) ∨ FrameStep g g' := by
  -- After `obtain ⟨rfl, _⟩` the goal's `g'.s` is a record built on the state `s1` the call returned.  `Trail` only looks
  -- at `frames`, `minAlign`, `chunks`, which the ghost bookkeeping leaves alone, so `Trail.of_path … : Trail g.s s1`
  -- fits by unfolding; `(… :)` makes Lean elaborate it before it looks at the expected type (it would unify `s1` with the record).
  cases op with
  | drop => exact .inl ⟨bare_frames rfl hs, rfl⟩
  | reset => exact .inl ⟨bare_frames rfl hs, rfl⟩
  | resetToStart => exact .inl ⟨bare_frames rfl hs, rfl⟩
  | withSettings n ga cl => exact .inl ⟨bare_frames rfl hs, rfl⟩
  | newWithSize n =>
    obtain ⟨_, _, o, _, h⟩ := ok_newWithSize hs
    cases o with
    | none => obtain ⟨rfl, _⟩ := h; exact .inr (.same (Trail.refl _) rfl)
    | some size =>
      obtain ⟨s1, r, h1, h⟩ := h
      cases r <;> obtain ⟨rfl, _⟩ := h <;> exact .inr (.same (Trail.of_path (Fn.newChunk_path h1) :) rfl)
  | newWithCapacity L =>
    obtain ⟨_, _, _, s1, r, h1, h⟩ := ok_newWithCapacity hs
    cases r <;> obtain ⟨rfl, _⟩ := h <;> exact .inr (.same (Trail.of_path (Fn.newChunkForCapacity_path h1) :) rfl)
  | newUnallocated => obtain ⟨rfl, _⟩ := ok_newUnallocated hs; exact .inr (.same (Trail.refl _) rfl)
  | allocate L z via =>
    obtain ⟨_, _, s1, r, h1, h⟩ := ok_allocate hs
    cases r with
    | error e => obtain ⟨rfl, _⟩ := h; exact .inr (.same (Trail.of_path (Fn.alloc_path h1) :) rfl)
    | ok p => obtain ⟨s2, hz, rfl, _⟩ := h; exact .inr (.same ((Trail.of_path (Fn.alloc_path h1)).trans (.of_kept (zeroIf_wrote hz).kept) :) rfl)
  | deallocate b via =>
    obtain ⟨_, blk, _, s1, h1, rfl, _⟩ := ok_deallocate hs
    refine .inr (.same ?_ rfl)
    split at h1
    · cases h1; exact Trail.refl _
    · exact (Trail.of_path (Fn.deallocate_path h1) :)
  | grow b L z via =>
    obtain ⟨_, _, blk, _, _, s1, r, h1, h⟩ := ok_grow hs
    cases r with
    | error e => obtain ⟨rfl, _⟩ := h; exact .inr (.same (Trail.of_path (grow_path h1) :) rfl)
    | ok p => obtain ⟨s2, hz, rfl, _⟩ := h; exact .inr (.same ((Trail.of_path (grow_path h1)).trans (.of_kept (zeroIf_wrote hz).kept) :) rfl)
  | shrink b L via =>
    obtain ⟨_, _, blk, _, _, s1, r, h1, h⟩ := ok_shrink hs
    have t : Trail g.s s1 := by
      split at h1
      · exact Trail.of_path (shrinkWithoutShrink_path h1)
      · exact Trail.of_path (shrink_path h1)
    cases r <;> obtain ⟨rfl, _⟩ := h <;> exact .inr (.same t rfl)
  | allocLayout L hh =>
    obtain ⟨_, _, _, s1, r, h1, h⟩ := ok_allocLayout hs
    cases r <;> obtain ⟨rfl, _⟩ := h <;> exact .inr (.same (Trail.of_path (Fn.allocGeneric_path h1) :) rfl)
  | shrinkSlice b n =>
    obtain ⟨_, blk, _, _, s1, r, h1, h⟩ := ok_shrinkSlice hs
    cases r <;> obtain ⟨rfl, _⟩ := h <;> exact .inr (.same (Trail.of_path (shrinkSlice_path h1) :) rfl)
  | prepare L =>
    obtain ⟨_, _, _, s1, r, h1, h⟩ := ok_prepare hs
    cases r <;> obtain ⟨rfl, _⟩ := h <;> exact .inr (.same (Trail.of_path (Fn.allocGeneric_path h1) :) rfl)
  | commit size rev =>
    obtain ⟨p, _, _, _, _, s1, addr, h1, rfl, _⟩ := ok_commit hs
    exact .inr (.same (Trail.of_path (allocatePrepared_path h1) :) rfl)
  | prepareSlice esize ealign minCap rev =>
    obtain ⟨_, _, ⟨rfl, _⟩ | ⟨_, s1, r, h1, h⟩⟩ := ok_prepareSlice hs
    · exact .inr (.same (Trail.refl _) rfl)
    · cases r <;> obtain ⟨rfl, _⟩ := h <;> exact .inr (.same (Trail.of_path (Fn.allocGeneric_path h1) :) rfl)
  | fillPrepared len seed =>
    obtain ⟨p, _, _, s1, h1, rfl, _⟩ := ok_fillPrepared hs
    exact .inr (.same (Trail.of_path (Fn.writeRange_path h1) :) rfl)
  | commitSlice len =>
    obtain ⟨p, _, _, _, s1, addr, h1, rfl, _⟩ := ok_commitSlice hs
    exact .inr (.same (Trail.of_path (allocatePreparedSlice_path h1) :) rfl)
  | abandonPrepared => obtain ⟨rfl, _⟩ := ok_abandonPrepared hs; exact .inr (.same (Trail.refl _) rfl)
  | reserve n dyn =>
    obtain ⟨_, s1, r, h1, rfl, _⟩ := ok_reserve hs
    refine .inr (.same ?_ rfl)
    split at h1
    · exact Trail.of_path (reserveDyn_path h1)
    · exact Trail.of_path (reserve_path h1)
  | scopeEnter =>
    obtain ⟨_, rfl, _⟩ := ok_scopeEnter hs
    exact .inr (.push (.scope _) rfl rfl rfl (ChunksCov.refl _))
  | scopeExit =>
    obtain ⟨_, cp, rest, m, ms, s1, hf, hm, hr, rfl, _⟩ := ok_scopeExit hs
    exact .inr (.pop (.scope cp) m hf hm (Trail.of_path (Fn.resetTo_path hr)).minAlign (Trail.of_path (Fn.resetTo_path hr)).cov)
  | checkpoint k => obtain ⟨_, _, rfl, _⟩ := ok_checkpoint hs; exact .inr (.same (Trail.refl _) rfl)
  | resetTo k =>
    obtain ⟨_, x, cp, mark, s1, _, _, _, hr, rfl, _⟩ := ok_resetTo hs
    exact .inr (.same (Trail.of_path (Fn.resetTo_path hr) :) rfl)
  | claim => obtain ⟨_, _, rfl, _⟩ := ok_claim hs; exact .inr (.push .claim rfl rfl rfl (ChunksCov.refl _))
  | claimEnd =>
    obtain ⟨_, rest, hf, rfl, _⟩ := ok_claimEnd hs
    exact .inr (.pop .claim 0 hf rfl rfl (ChunksCov.refl _))
  | onClaimed op' =>
    obtain ⟨_, ⟨rfl, _⟩ | ⟨b, via, blk, _, _, rfl, _⟩ | ⟨b, L, via, blk, _, _, _, _, _, rfl, _⟩⟩ := ok_onClaimed hs <;>
      exact .inr (.same (Trail.refl _) rfl)
  | alignedEnter n =>
    obtain ⟨_, _, _, ⟨_, rfl⟩ | ⟨_, s1, ha, rfl⟩⟩ := ok_alignedEnter hs
    · exact .inr (.push (.alignedLower _ _) rfl rfl rfl (ChunksCov.refl _))
    · exact .inr (.push (.alignedRaise _) rfl rfl rfl (Trail.of_path (Fn.alignTo_path ha)).cov)
  | alignedExit =>
    obtain ⟨_, _, ⟨outer, start, rest, s1, s2, hf, h1, h2, rfl⟩ | ⟨outer, rest, hf, rfl⟩⟩ := ok_alignedExit hs
    · exact .inr (.pop (.alignedLower outer start) 0 hf rfl rfl ((Trail.of_path (Fn.alignGuardDrop_path h1)).cov.trans (Trail.of_path (Fn.alignChunkAt_path h2)).cov))
    · exact .inr (.pop (.alignedRaise outer) 0 hf rfl rfl (ChunksCov.refl _))
  | scopedAlignedEnter n =>
    obtain ⟨_, _, s1, ha, rfl, _⟩ := ok_scopedAlignedEnter hs
    exact .inr (.push (.scopedAligned _ _) rfl rfl rfl (Trail.of_path (Fn.alignTo_path ha)).cov)
  | scopedAlignedExit =>
    obtain ⟨_, cp, outer, rest, m, ms, s1, hf, hm, hr, rfl, _⟩ := ok_scopedAlignedExit hs
    exact .inr (.pop (.scopedAligned cp outer) m hf hm (Trail.of_path (Fn.resetTo_path hr)).minAlign (Trail.of_path (Fn.resetTo_path hr)).cov)
  | allocTryWith L off vsize ok inner m =>
    cases (tryWith_ok hs).2.2.2 with
    | refused h1 => exact .inr (.same (Trail.of_path (Fn.allocGeneric_path h1)) rfl)
    | ran h1 hin ht =>
      obtain ⟨h3, hm⟩ := tryTail_trail ht
      exact .inr (.same ((((Trail.of_path (Fn.allocGeneric_path h1)).trans (tryInner_trail hin)).trans
        (withInner_trail _ _)).trans h3) hm)
  | write b seed =>
    obtain ⟨blk, _, s1, h1, rfl, _⟩ := ok_write hs
    exact .inr (.same (Trail.of_path (Fn.writeRange_path h1) :) rfl)
  | split b at_ => obtain ⟨blk, _, _, rfl, _⟩ := ok_split hs; exact .inr (.same (Trail.refl _) rfl)

end Arena.Hist
end

section
set_option linter.unusedSimpArgs false
set_option linter.unusedVariables false

namespace Arena.Hist
open Rs Ledger

variable {cfg : Cfg}

theorem alignedEnter_form {g g' : GState} {out : Out} {n : Nat} (hs : stepCore cfg g (.alignedEnter n) = .ok (g', out)) :
    MinAlignOK n ∧ ∃ f, (f = Frame.alignedLower g.s.minAlign g.s.cur ∨ f = Frame.alignedRaise g.s.minAlign) ∧
      g'.s.frames = f :: g.s.frames ∧ g'.s.minAlign = n ∧ g'.marks = g.marks := by
  obtain ⟨_, hn, _, ⟨_, rfl⟩ | ⟨_, s1, _, rfl⟩⟩ := ok_alignedEnter hs
  · exact ⟨hn, _, Or.inl rfl, rfl, rfl, rfl⟩
  · exact ⟨hn, _, Or.inr rfl, rfl, rfl, rfl⟩

theorem alignedExit_form {g g' : GState} {out : Out} (hs : stepCore cfg g .alignedExit = .ok (g', out)) :
    ∃ outer f, ((∃ start, f = Frame.alignedLower outer start) ∨ f = Frame.alignedRaise outer) ∧
      g.s.frames = f :: g'.s.frames ∧ g'.s.minAlign = outer ∧ g'.marks = g.marks := by
  obtain ⟨_, _, ⟨outer, start, rest, s1, s2, hf, _, _, rfl⟩ | ⟨outer, rest, hf, rfl⟩⟩ := ok_alignedExit hs
  · exact ⟨outer, _, Or.inl ⟨start, rfl⟩, hf, rfl, rfl⟩
  · exact ⟨outer, _, Or.inr rfl, hf, rfl, rfl⟩

end Arena.Hist
end
