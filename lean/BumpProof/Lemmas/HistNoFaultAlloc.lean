/-
  Lemmas/HistNoFaultAlloc.lean — NO-FAULT companion of the preservation of `Arena.Hist.Inv` (calculus `NoBug`,
  Lemmas/HistNoFault.lean): the allocating operations, the constructors, the prepared-allocation commits.
-/
import BumpProof.Lemmas.HistNoFault
import BumpProof.Lemmas.InvPreparedOps
set_option linter.unusedSimpArgs false
set_option linter.unusedVariables false
namespace Arena.Hist
open Rs
variable {cfg : Cfg}

theorem noFault_allocate {g : GState} {L : Layout} {z : Bool} {via : Via} (h : Inv cfg g)
    (hr : RespsOK cfg g.s) (hfr : RespsFresh g.s) (hans : BaseOK cfg g.s L) :
    NoBug (stepCore cfg g (.allocate L z via)) := by
  refine .bind (fun _ => check_err) fun _ hv => .bind (fun _ => check_err) fun _ _ => ?_
  have hL := validLayout_valid hv
  refine .bind (.of_ensures (alloc_ensures h.cfgOK h.geom hr hL) hans) fun x hx => ?_
  obtain ⟨s1, r1⟩ := x
  cases r1 with
  | error e => exact .pure _
  | ok p =>
    cases z
    · exact .pure _
    · obtain ⟨r', hr', post⟩ := alloc_post h.cfgOK h.geom hr h.disj hfr hL hx
      cases r' with
      | error e => cases hr'
      | ok v =>
        cases hr'
        have hout := post.outcome rfl v rfl h.live
        exact .bind (.of_ok (placed_writable post.inv post.disj (fun _ => hout.placed) _)) fun _ _ => .pure _

theorem noFault_allocLayout {g : GState} {L : Layout} {hh : Hints} (h : Inv cfg g)
    (hr : RespsOK cfg g.s) (hans : BaseOK cfg g.s L) : NoBug (stepCore cfg g (.allocLayout L hh)) := by
  refine .bind (fun _ => check_err) fun _ hv => .bind (fun _ => check_err) fun _ _ => .guard fun hchk => ?_
  refine .bind (.of_ensures (allocGeneric_ok h.cfgOK h.geom hr .alloc (validLayout_valid hv) (sma_of_check hchk)
    (custom_sma L) (fun hk => by cases hk)) hans) fun x _ => ?_
  obtain ⟨s1, _ | v⟩ := x <;> exact .pure _

theorem noFault_prepare {g : GState} {L : Layout} (h : Inv cfg g)
    (hr : RespsOK cfg g.s) (hans : BaseOK cfg g.s L) : NoBug (stepCore cfg g (.prepare L)) := by
  refine .bind (fun _ => check_err) fun _ hv => .bind (fun _ => check_err) fun _ _ => .guard fun hchk => ?_
  refine .bind (.of_ensures (allocGeneric_ok h.cfgOK h.geom hr .range (validLayout_valid hv) (custom_sma L)
    (custom_sma L) (fun _ => dvd_of_check hchk)) hans) fun x _ => ?_
  obtain ⟨s1, _ | v⟩ := x <;> exact .pure _

theorem noFault_prepareSlice {g : GState} {esize ealign minCap : Nat} {rev : Bool}
    (hp2 : Rs.is_power_of_two ealign = true) (h : Inv cfg g)
    (hr : RespsOK cfg g.s) (hans : BaseOK cfg g.s { size := esize * minCap, align := ealign }) :
    NoBug (stepCore cfg g (.prepareSlice esize ealign minCap rev)) := by
  refine .guard fun hchk => ?_
  simp only [Bool.or_eq_true, beq_iff_eq, bne_iff_ne, ne_eq, not_or, Decidable.not_not] at hchk
  have hae : ealign ∣ esize := Nat.dvd_of_mod_eq_zero hchk.2
  split
  · exact .pure _
  · rename_i bytes hbytes
    cases checked_mul_some hbytes
    refine .ite (fun _ => .pure _) fun hlo => ?_
    have hdv : ealign ∣ esize * minCap := Nat.dvd_trans hae (Nat.dvd_mul_right _ _)
    refine .bind (.of_ensures (allocGeneric_ok h.cfgOK h.geom hr .range (layoutOk_valid hp2 (Fn.layoutOk_of_not hlo))
      (hints := Hints.array) (hSlow := Hints.array) (fun _ => hdv) (fun _ => hdv) (fun _ => hdv)) hans) fun x _ => ?_
    obtain ⟨s1, _ | v⟩ := x <;> exact .pure _

theorem noFault_reserve {g : GState} {n : Nat} {dyn : Bool} (h : Inv cfg g)
    (hr : RespsOK cfg g.s)
    (hans : if dyn then BaseOK cfg g.s { size := n, align := 1 }
            else ∀ rest, rest ≤ n → BaseOK cfg g.s { size := rest, align := 1 }) :
    NoBug (stepCore cfg g (.reserve n dyn)) := by
  refine .bind (fun _ => check_err) fun _ _ => .bind ?_ fun x _ => ?_
  · cases dyn
    · exact .of_ensures (reserve_ok h.cfgOK h.geom hr n) hans
    · exact .of_ensures (reserveDyn_ok h.cfgOK h.geom hr n) hans
  · obtain ⟨s1, _ | v⟩ := x <;> exact .pure _

theorem noFault_newWithSize {g : GState} {n : Nat} (h : Inv cfg g)
    (hr : RespsOK cfg g.s)
    (hans : ∀ size, Spec.calcSize cfg.up cfg.hdr (Nat.max n cfg.minChunk) = some size → HeadOK cfg g.s size) :
    NoBug (stepCore cfg g (.newWithSize n)) := by
  refine .guard fun _ => ?_
  have e : liftM (Gen.SizeConfig.calc_size_from_hint (sizeCfg cfg) (if n > cfg.minChunk then n else cfg.minChunk)) =
      calcSize cfg n := rfl
  rw [e, Fn.calcSize_eq h.cfgOK.hdr]
  refine .bind (.pure _) fun o ho => ?_
  cases ho
  cases hsize : Spec.calcSize cfg.up cfg.hdr (Nat.max n cfg.minChunk) with
  | none => exact .pure _
  | some size =>
    obtain ⟨_, hsa, hsz, _, _⟩ := C12.calcSize_some h.cfgOK.hdr hsize
    obtain ⟨s', r, e⟩ := C10.newChunk_noFault h.cfgOK hr hsa (hans size hsize)
    refine .bind (.of_ok ⟨_, e⟩) fun x _ => ?_
    obtain ⟨s1, _ | v⟩ := x <;> exact .pure _

theorem noFault_newWithCapacity {g : GState} {L : Layout} (h : Inv cfg g)
    (hr : RespsOK cfg g.s) (hans : BaseOK cfg g.s L) : NoBug (stepCore cfg g (.newWithCapacity L)) := by
  refine .bind (fun _ => check_err) fun _ hv => .guard fun hchk => ?_
  obtain ⟨hch, hcur⟩ := pristine_of_check hchk
  obtain ⟨s', r, e⟩ := C10.newChunkForCapacity_noFault h.cfgOK h.geom hr (validLayout_valid hv) (by
    intro size hsz
    apply hans size
    simp only [requestSize, hcur]
    exact hsz)
  refine .bind (.of_ok ⟨_, e⟩) fun x _ => ?_
  obtain ⟨s1, _ | v⟩ := x <;> exact .pure _

theorem noFault_commit {g : GState} {size : Nat} {rev : Bool} (h : Inv cfg g) :
    NoBug (stepCore cfg g (.commit size rev)) := by
  conv => arg 1; whnf
  split
  · rename_i p hp
    obtain ⟨h0, hpo0⟩ := h.unprepare hp
    refine .guard fun _ => .guard fun hchk => ?_
    simp only [Bool.or_eq_true, decide_eq_true_eq, bne_iff_ne, ne_eq, not_or, Nat.not_lt, Decidable.not_not] at hchk
    exact .bind (.of_ensures (allocatePrepared_ok h.cfgOK h0.geom rev (hpo0.inCur h0.geom) hchk.1) h0.disj)
      fun _ _ => .pure _
  · exact .contract _

theorem noFault_commitSlice {g : GState} {len : Nat} (h : Inv cfg g) :
    NoBug (stepCore cfg g (.commitSlice len)) := by
  conv => arg 1; whnf
  split
  · rename_i p hp
    obtain ⟨h0, hpo0⟩ := h.unprepare hp
    refine .guard fun htyped => .guard fun hchk => ?_
    obtain ⟨hlo, hhi, hrev, hae, hptr⟩ := hpo0.sliceCall (by simpa using htyped)
    exact .bind (.of_ensures (allocatePreparedSlice_ok h.cfgOK h0.geom p.rev (by rw [hlo, hhi]; exact hpo0.inCur h0.geom)
      hrev (Nat.le_of_not_lt hchk)) ⟨h0.disj, hae, hptr⟩) fun _ _ => .pure _
  · exact .contract _

end Arena.Hist
