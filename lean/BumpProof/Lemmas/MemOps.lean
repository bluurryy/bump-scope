/-
  Lemmas/MemOps.lean — the reallocating operations of the model (`grow`, `shrink`,
  `shrinkWithoutShrink`, `shrinkSlice`, `allocatePrepared`, `allocatePreparedSlice`): one inversion
  each (`Slid`, `Relocated`), from which the frame lemmas (`Realloc`) and the preservation of well-formedness follow.
  `WroteIn s s' lo hi` (no chunk byte outside `[lo, hi)` changed) is the half of `Realloc` that asks nothing of the state.
  The paths of the first four are those of `Lemmas/FnRealloc.lean`, read as `Relocated` / `Slid`; the two prepared
  commits are read off their common description `Hist.Commit` (same file).
-/
import BumpProof.Lemmas.FnRealloc
import BumpProof.Lemmas.MemAlloc

set_option linter.unusedSimpArgs false

namespace Arena.Mem
open Rs

/-- effect of a reallocation from `ptr` to `np` on memory: the first `n` bytes were carried over and
    no byte outside the new block `[np, np+total)` that belonged to a chunk of `s` changed -/
structure Realloc (s s' : State) (ptr np n total : Nat) : Prop where
  prefix_eq : ∀ k, k < n → readByte s' (np + k) = readByte s (ptr + k)
  frame : ∀ a, (a < np ∨ np + total ≤ a) → InChunks s a → readByte s' a = readByte s a

def WroteIn (s s' : State) (lo hi : Nat) : Prop :=
  ∀ a, (a < lo ∨ hi ≤ a) → InChunks s a → readByte s' a = readByte s a

theorem MemExt.wroteIn {s s' : State} (h : MemExt s s') (lo hi : Nat) : WroteIn s s' lo hi :=
  fun _ _ hin => h.readByte hin

theorem writeRange_wroteIn {cfg : Cfg} {s s' : State} {lo hi : Nat} {f : Nat → UInt8}
    (h : writeRange cfg s lo hi f = .ok s') : WroteIn s s' lo hi := fun _ ha _ => writeRange_read_out h ha

theorem WroteIn.write {cfg : Cfg} {s s1 s2 : State} {lo hi lo' hi' : Nat} {f : Nat → UInt8} (h : WroteIn s s1 lo hi)
    (hw : writeRange cfg s1 lo' hi' f = .ok s2) (h1 : lo ≤ lo') (h2 : hi' ≤ hi) : WroteIn s s2 lo hi :=
  fun a ha hin => (writeRange_read_out hw (by omega)).trans (h a ha hin)

theorem WroteIn.moved {s s1 s2 : State} {lo hi : Nat} (h : WroteIn s s1 lo hi) (hm : memOf s2 = memOf s1) :
    WroteIn s s2 lo hi :=
  fun a ha hin => (readByte_congr hm a).trans (h a ha hin)

/-- how a reallocating operation gets from `s` to `s'` once the arena has room: in place (the block is the
    last allocation and stays at `ptr`; only the bump position moves), or `n` bytes are copied
    (`ptr::copy` / `copy_nonoverlapping`) from `ptr` to `np` and positions move -/
inductive Slid (cfg : Cfg) (s s' : State) (ptr n : Nat) : Nat → Prop
  | inPlace (hm : Moved s s') : Slid cfg s s' ptr n ptr
  | copied {s2 : State} {np : Nat} {b : Bool} (hc : copyBytes cfg s ptr np n b = .ok s2) (hm : Moved s2 s') :
      Slid cfg s s' ptr n np

theorem Slid.shapeOf {cfg : Cfg} {s s' : State} {ptr n np : Nat} (h : Slid cfg s s' ptr n np) : shapeOf s' = shapeOf s := by
  cases h with
  | inPlace hm => exact shapeOf_of_memOf hm.mem
  | copied hc hm => exact (shapeOf_of_memOf hm.mem).trans (Fn.copyBytes_wrote hc).shapeOf

/-- `s0` is the state before the arena made room (`MemExt s0 s`); nothing is asked of the states -/
theorem Slid.wroteIn {cfg : Cfg} {s0 s s' : State} {ptr n np total : Nat} (h : Slid cfg s s' ptr n np)
    (hext : MemExt s0 s) (hn : n ≤ total) : WroteIn s0 s' np (np + total) := by
  cases h with
  | inPlace hm => exact (hext.wroteIn _ _).moved hm.mem
  | copied hc hm =>
    exact ((hext.wroteIn _ _).write (copyBytes_writeRange hc) (Nat.le_refl _) (Nat.add_le_add_left hn _)).moved hm.mem

theorem Slid.realloc {cfg : Cfg} {s0 s s' : State} {ptr n np total : Nat} (h : Slid cfg s s' ptr n np)
    (hext : MemExt s0 s) (hwf : MemWF s) (hold : ∀ k, k < n → InChunks s0 (ptr + k)) (hn : n ≤ total) :
    Realloc s0 s' ptr np n total := by
  refine ⟨fun k hk => ?_, h.wroteIn hext hn⟩
  cases h with
  | inPlace hm => rw [readByte_congr hm.mem, hext.readByte (hold k hk)]
  | copied hc hm => rw [readByte_congr hm.mem, copyBytes_read_dst hwf hc hk, hext.readByte (hold k hk)]

/-- outcome of `grow` / `shrink`, which may first have to allocate elsewhere: the arena grows to `s1`
    (`alloc`, possibly a new chunk); the request is refused there (`AllocError`), or the block slides to `np`
    (new size `total`) -/
inductive Relocated (cfg : Cfg) (s s' : State) (ptr n : Nat) : Except AErr (Nat × Nat) → Prop
  | refused {e : AErr} (hg : Grown s s') : Relocated cfg s s' ptr n (.error e)
  | moved {s1 : State} {np total : Nat} (hg : Grown s s1) (hs : Slid cfg s1 s' ptr n np) (hn : n ≤ total) :
      Relocated cfg s s' ptr n (.ok (np, total))

theorem Relocated.wfPres {cfg : Cfg} {s s' : State} {ptr n : Nat} {r : Except AErr (Nat × Nat)}
    (h : Relocated cfg s s' ptr n r) : WFPres s s' := by
  cases h with
  | refused hg => exact hg.wf
  | moved hg hs => exact hg.wf.shape_right hs.shapeOf

theorem Relocated.wroteIn {cfg : Cfg} {s s' : State} {ptr n np total : Nat}
    (h : Relocated cfg s s' ptr n (.ok (np, total))) : WroteIn s s' np (np + total) ∧ n ≤ total := by
  cases h with
  | moved hg hs hn => exact ⟨hs.wroteIn hg.ext hn, hn⟩

theorem Relocated.err_memExt {cfg : Cfg} {s s' : State} {ptr n : Nat} {e : AErr}
    (h : Relocated cfg s s' ptr n (.error e)) : MemExt s s' := by
  cases h with
  | refused hg => exact hg.ext

theorem Relocated.realloc {cfg : Cfg} {s s' : State} {ptr n np total : Nat}
    (h : Relocated cfg s s' ptr n (.ok (np, total))) (hwf : MemWF s) (hfr : HeadFresh s)
    (hold : ∀ k, k < n → InChunks s (ptr + k)) : Realloc s s' ptr np n total ∧ n ≤ total := by
  cases h with
  | moved hg hs hn => exact ⟨hs.realloc hg.ext (hg.wf hwf hfr) hold hn, hn⟩

/-- the allocating path of a reallocation (`Hist.AllocVia` from a state `s` the arena reached by moving positions
    only, then `Hist.Moved`): refused, or `n` bytes copied into the new block -/
theorem Relocated.of_allocVia {cfg : Cfg} {s0 s s1 s' : State} {L : Layout} {r1 : Except AErr Nat} {ptr n total : Nat}
    (h0 : Moved s0 s) (hv : Hist.AllocVia cfg s L s1 r1) (hm : Hist.Moved cfg s1 r1 ptr n s') (hn : n ≤ total) :
    Relocated cfg s0 s' ptr n (r1.map (·, total)) := by
  have hg : Grown s0 s1 := by
    rcases hv with ha | ⟨r0, hi, _⟩
    · exact .of_moved h0 (alloc_grown ha)
    · exact .of_moved h0 (inAnotherChunk_grown hi)
  cases r1 with
  | error e => cases hm; exact .refused hg
  | ok np => exact .moved hg (.copied hm (.refl _)) hn

theorem Slid.of_shrunkInPlace {cfg : Cfg} {s s' : State} {ptr old new al np : Nat}
    (h : Hist.ShrunkInPlace cfg s ptr old new al s' np) : Slid cfg s s' ptr new np := by
  rcases h.2.2 with ⟨_, _, _, _, _, rfl, rfl⟩ | ⟨_, _, _, _, _, _, hc, rfl⟩
  · exact .inPlace (.setCurPos _ _)
  · exact .copied hc (.setCurPos _ _)

theorem grow_cases {cfg : Cfg} {s s' : State} {ptr oldSize : Nat} {newL : Layout} {r : Except AErr Nat}
    (h : grow cfg s ptr oldSize newL = .ok (s', r)) : Relocated cfg s s' ptr oldSize (r.map (·, newL.size)) := by
  obtain ⟨hsz, hp⟩ := Hist.grow_cases h
  -- in place upwards; in place downwards, the bytes moving with the block; through an allocation
  rcases hp with ⟨_, _, _, _, _, _, _, _, _, _, _, _, rfl, rfl⟩ | ⟨_, _, _, _, _, _, _, _, _, _, _, hc, rfl, rfl⟩ |
    ⟨s1, hv, hm⟩
  · exact .moved (.refl _) (.inPlace (.setCurPos _ _)) hsz
  · exact .moved (.refl _) (.copied hc (.setCurPos _ _)) hsz
  · exact .of_allocVia (.refl _) hv hm hsz

theorem shrink_cases {cfg : Cfg} {s s' : State} {ptr oldSize : Nat} {newL : Layout} {r : Except AErr (Nat × Nat)}
    (h : shrink cfg s ptr oldSize newL = .ok (s', r)) : Relocated cfg s s' ptr newL.size r := by
  obtain ⟨hsz, hp⟩ := Hist.shrink_cases h
  rcases hp with ⟨_, ⟨rfl, rfl⟩ | ⟨np, hin, rfl⟩⟩ | ⟨s1, r1, hv, hm, rfl⟩ | ⟨_, sd, hd, hre⟩
  · exact .moved (.refl _) (.inPlace (.refl _)) hsz
  · exact .moved (.refl _) (.of_shrunkInPlace hin) (Nat.le_refl _)
  · exact .of_allocVia (.refl _) hv hm (Nat.le_refl _)
  -- `shrink_unfit` on the last block: released first, then served by the current chunk or by the slow path
  · rcases hre with ⟨v, s2, _, ht, hc, rfl⟩ | ⟨s3, r1, hv, hm, rfl⟩
    · exact .moved (Moved.of_path ((Fn.deallocAssumeLast_path hd).trans (Fn.tryCur_path ht))).grown (.copied hc (.refl _)) (Nat.le_refl _)
    · exact .of_allocVia (.of_path ((Fn.deallocAssumeLast_path hd).trans (.setCurPos _ _))) hv hm (Nat.le_refl _)

theorem shrinkWithoutShrink_cases {cfg : Cfg} {s s' : State} {ptr oldSize : Nat} {newL : Layout}
    {r : Except AErr (Nat × Nat)} (h : shrinkWithoutShrink cfg s ptr oldSize newL = .ok (s', r)) :
    Relocated cfg s s' ptr newL.size r ∧ ∀ v, r = .ok v → v.2 = newL.size := by
  rcases Hist.shrinkWithoutShrink_paths h with ⟨_, rfl, rfl⟩ | ⟨s1, r1, ha, hm, rfl⟩
  · exact ⟨.moved (.refl _) (.inPlace (.refl _)) (Nat.le_refl _), fun _ e => by cases e; rfl⟩
  · exact ⟨.of_allocVia (.refl _) (.inl ha) hm (Nat.le_refl _), fun _ e => by cases r1 <;> cases e; rfl⟩

theorem shrinkSlice_cases {cfg : Cfg} {s s' : State} {ptr oldSize newSize ealign : Nat} {r : Option Nat}
    (h : shrinkSlice cfg s ptr oldSize newSize ealign = .ok (s', r)) :
    match r with
    | none => s' = s
    | some np => Slid cfg s s' ptr newSize np := by
  rcases Hist.shrinkSlice_cases h with ⟨rfl, rfl⟩ | ⟨np, hin, rfl⟩
  · rfl
  · exact .of_shrunkInPlace hin

/-! ## the prepared commits (`Hist.Commit`, Lemmas/FnRealloc.lean) -/

theorem _root_.Arena.Hist.Commit.wroteIn {cfg : Cfg} {s s' : State} {lo hi size addr : Nat} {rev : Bool}
    (h : Hist.Commit cfg s s' lo hi size rev addr) : WroteIn s s' addr (addr + size) := by
  obtain ⟨s1, np, h1, rfl, -⟩ := h.slid
  refine WroteIn.moved ?_ (memOf_setCurPos s1 np)
  rcases h1 with ⟨rfl, -⟩ | hc
  · exact (MemExt.refl _).wroteIn _ _
  · exact writeRange_wroteIn (copyBytes_writeRange hc)

theorem _root_.Arena.Hist.Commit.contents {cfg : Cfg} {s s' : State} {lo hi size addr : Nat} {rev : Bool}
    (h : Hist.Commit cfg s s' lo hi size rev addr) (hwf : MemWF s) {k : Nat} (hk : k < size) :
    readByte s' (addr + k) = readByte s ((if rev then hi - size else lo) + k) := by
  obtain ⟨s1, np, h1, rfl, -⟩ := h.slid
  rw [readByte_setCurPos]
  rcases h1 with ⟨rfl, e⟩ | hc
  · rw [e]
  · exact copyBytes_read_dst hwf hc hk

theorem _root_.Arena.Hist.Commit.realloc {cfg : Cfg} {s s' : State} {lo hi size addr : Nat} {rev : Bool}
    (h : Hist.Commit cfg s s' lo hi size rev addr) (hwf : MemWF s) :
    Realloc s s' (if rev then hi - size else lo) addr size size :=
  ⟨fun _ hk => h.contents hwf hk, h.wroteIn⟩

end Arena.Mem
