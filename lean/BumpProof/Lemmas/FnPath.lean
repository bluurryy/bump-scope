/-
  Lemmas/FnPath.lean — `Path cfg create write s s'`: what a function of the model may do to the state, for the
  relations that do not look at the result (`Stable`, `Quiet`, `LedgerStep`, `MemExt`, `Trail`, `SzSame`, …).  Such a relation is reflexive and transitive and holds of each primitive change; it then holds of
  every model function through the function's `_path` lemma, which is read off its graph (`Lemmas/FnShape.lean`).
  The two flags say whether the base allocator may have been called and whether bytes may have been written:
  relations that fail for an appended chunk ask for `create = false`, those that fail for a write for `write = false`.
  `Kept` is what no path changes; its field `chunk` is the cover `ChunksCov` of Lemmas/InvBasic.lean.
-/
import BumpProof.Lemmas.FnShape
import BumpProof.Lemmas.FnWrite

namespace Arena
open Rs

namespace Fn

/-- `s'` arises from `s` by moves of bump positions and by making a chunk current (no function that has a path makes
    the arena unallocated or claimed; `reset` and `manuallyDrop` have none) and, where the flags allow, by calls of the
    base allocator (`create`) and by writes of bytes (`write`) -/
inductive Path (cfg : Cfg) (create write : Bool) : State → State → Prop
  | refl (s : State) : Path cfg create write s s
  | pos {s t : State} (i p : Nat) (h : Path cfg create write s t) : Path cfg create write s (setPos t i p)
  | cur {s t : State} (j : Nat) (h : Path cfg create write s t) : Path cfg create write s { t with cur := .chunk j }
  | created {s t : State} {x : State × Except AErr Nat} (h : Path cfg create write s t) (hc : create = true)
      (hx : Created cfg t x) : Path cfg create write s x.1
  | wrote {s t t' : State} {lo hi : Nat} {f : Nat → UInt8} (h : Path cfg create write s t) (hw : write = true)
      (hx : writeRange cfg t lo hi f = .ok t') : Path cfg create write s t'

namespace Path
variable {cfg : Cfg} {c w : Bool}

theorem trans {s t u : State} (h1 : Path cfg c w s t) (h2 : Path cfg c w t u) : Path cfg c w s u := by
  induction h2 with
  | refl => exact h1
  | pos i p _ ih => exact .pos i p ih
  | cur k _ ih => exact .cur k ih
  | created _ hc hx ih => exact .created ih hc hx
  | wrote _ hw hx ih => exact .wrote ih hw hx

theorem mono {c' w' : Bool} (hc : c = true → c' = true) (hw : w = true → w' = true) {s t : State}
    (h : Path cfg c w s t) : Path cfg c' w' s t := by
  induction h with
  | refl => exact .refl _
  | pos i p _ ih => exact .pos i p ih
  | cur k _ ih => exact .cur k ih
  | created _ h1 hx ih => exact .created ih (hc h1) hx
  | wrote _ h1 hx ih => exact .wrote ih (hw h1) hx

theorem setCurPos (s : State) (p : Nat) : Path cfg c w s (setCurPos s p) := by
  unfold Arena.setCurPos
  split
  · exact .pos _ p (.refl s)
  · exact .refl s

theorem enter {s : State} {j : Nat} {ch : Chunk} (hj : s.chunks[j]? = some ch) :
    Path cfg c w s (enterChunk cfg s j ch) := by
  have : enterChunk cfg s j ch = { setPos s j (ch.resetPos cfg).pos with cur := .chunk j } := by
    unfold enterChunk setPos; rw [List.modify_eq_set, hj]; rfl
  rw [this]
  exact .cur _ (.pos _ _ (.refl s))

end Path

theorem tryCur_path {cfg : Cfg} {c w : Bool} {k : Kind} {s : State} {L : Layout} {h : Hints} {v : Nat × Nat} {s' : State}
    (e : tryCur cfg k s L h = .ok (some (v, s'))) : Path cfg c w s s' := by
  rcases tryCur_some e with rfl | ⟨_, p, rfl⟩
  · exact .refl _
  · exact .setCurPos s p

theorem Walk.path {cfg : Cfg} {c w : Bool} {k : Kind} {L : Layout} {h : Hints} {i : Nat} {s s' : State} {o}
    (hw : Walk cfg k L h i s o s') : Path cfg c w s s' := by
  induction hw with
  | stop => exact .refl _
  | hit hc ht => exact (Path.enter hc).trans (tryCur_path ht)
  | miss hc _ _ ih => exact (Path.enter hc).trans ih

theorem Slow.path {cfg : Cfg} {w : Bool} {k : Kind} {L : Layout} {h : Hints} {s s' : State} {r}
    (hs : Slow cfg k L h s s' r) : Path cfg true w s s' := by
  cases hs with
  | claimed => exact .refl _
  | firstRefused _ hn => exact .created (.refl s) rfl (newChunkForCapacity_created hn)
  | first _ hn ht => exact (Path.cur _ (.created (.refl s) rfl (newChunkForCapacity_created hn))).trans (tryCur_path ht)
  | next _ hw => exact hw.path
  | appendRefused _ hw hn => exact .cur _ (.created hw.path rfl (appendFor_created hn))
  | append _ hw hn ht => exact (Path.cur _ (.created hw.path rfl (appendFor_created hn))).trans (tryCur_path ht)

theorem inAnotherChunk_path {cfg : Cfg} {w : Bool} {k : Kind} {s s' : State} {L : Layout} {h : Hints} {r}
    (e : inAnotherChunk cfg k s L h = .ok (s', r)) : Path cfg true w s s' := (inAnotherChunk_slow e).path

theorem allocGeneric_path {cfg : Cfg} {w : Bool} {k : Kind} {s s' : State} {L : Layout} {h hs : Hints} {r}
    (e : allocGeneric cfg k s L h hs = .ok (s', r)) : Path cfg true w s s' := by
  rcases allocGeneric_cases e with ⟨_, _, ht⟩ | ⟨_, hs⟩
  · exact tryCur_path ht
  · exact inAnotherChunk_path hs

theorem alloc_path {cfg : Cfg} {w : Bool} {s s' : State} {L : Layout} {r}
    (e : alloc cfg s L = .ok (s', r)) : Path cfg true w s s' :=
  let ⟨_, h1, _⟩ := alloc_eq_ok e
  allocGeneric_path h1

theorem copyBytes_path {cfg : Cfg} {c : Bool} {s s' : State} {src dst len : Nat} {b : Bool}
    (e : copyBytes cfg s src dst len b = .ok s') : Path cfg c true s s' :=
  .wrote (.refl s) rfl (copyBytes_writeRange e)

theorem deallocAssumeLast_path {cfg : Cfg} {c w : Bool} {s s' : State} {ptr size : Nat}
    (e : deallocAssumeLast cfg s ptr size = .ok s') : Path cfg c w s s' := by
  rcases deallocAssumeLast_cases e with rfl | ⟨p, rfl⟩
  · exact .refl _
  · exact .setCurPos s p

theorem deallocate_path {cfg : Cfg} {c w : Bool} {s s' : State} {ptr size : Nat}
    (e : deallocate cfg s ptr size = .ok s') : Path cfg c w s s' := by
  rcases deallocate_cases e with rfl | ⟨p, rfl⟩
  · exact .refl _
  · exact .setCurPos s p

theorem newChunk_path {cfg : Cfg} {w : Bool} {s s' : State} {size : Nat} {r : Except AErr Nat}
    (e : newChunk cfg s size = .ok (s', r)) : Path cfg true w s s' := .created (.refl s) rfl (newChunk_created e)

theorem makeAllocated_path {cfg : Cfg} {w : Bool} {s s' : State} {r : Except AErr Unit}
    (h : makeAllocated cfg s = .ok (s', r)) : Path cfg true w s s' := by
  rcases makeAllocated_cases h with rfl | ⟨_, _, s1, r1, h1, hs⟩
  · exact .refl _
  · cases r1 with
    | error e => cases hs.1; exact newChunk_path h1
    | ok i => cases hs.1; exact .cur _ (newChunk_path h1)

theorem newChunkForCapacity_path {cfg : Cfg} {w : Bool} {s s' : State} {L : Layout} {r : Except AErr Nat}
    (e : newChunkForCapacity cfg s L = .ok (s', r)) : Path cfg true w s s' :=
  .created (.refl s) rfl (newChunkForCapacity_created e)

theorem appendFor_path {cfg : Cfg} {w : Bool} {s s' : State} {L : Layout} {r : Except AErr Nat}
    (e : appendFor cfg s L = .ok (s', r)) : Path cfg true w s s' := .created (.refl s) rfl (appendFor_created e)

theorem resetToStart_path (cfg : Cfg) {c w : Bool} (s : State) : Path cfg c w s (resetToStart cfg s) := by
  unfold resetToStart
  split
  · split
    · exact .refl s
    · rename_i ch rest hch
      have : ({ s with chunks := ch.resetPos cfg :: rest, cur := .chunk 0 } : State) = enterChunk cfg s 0 ch := by
        unfold enterChunk; rw [hch]; rfl
      rw [this]
      exact Path.enter (by rw [hch]; rfl)
  · exact .refl s

theorem resetTo_path {cfg : Cfg} {c w : Bool} {s s' : State} {cp : Checkpoint} (e : resetTo cfg s cp = .ok s') :
    Path cfg c w s s' := by
  rcases resetTo_inv e with ⟨_, rfl⟩ | ⟨i, _, p, _, _, _, rfl⟩
  · exact resetToStart_path cfg s
  · exact .cur _ (.pos _ p (.refl s))

theorem alignTo_path {cfg : Cfg} {c w : Bool} {s s' : State} {n : Nat} (e : alignTo cfg s n = .ok s') :
    Path cfg c w s s' := by
  rcases alignTo_cases e with rfl | ⟨i, _, p, _, _, _, rfl⟩
  · exact .refl _
  · exact .pos _ p (.refl s)

theorem alignGuardDrop_path {cfg : Cfg} {c w : Bool} {s s' : State} {n : Nat} (e : alignGuardDrop cfg s n = .ok s') :
    Path cfg c w s s' := by
  rcases alignGuardDrop_cases e with rfl | ⟨i, _, p, _, _, _, rfl⟩
  · exact .refl _
  · exact .pos _ p (.refl s)

theorem alignChunkAt_path {cfg : Cfg} {c w : Bool} {s s' : State} {n : Nat} {st : Cur}
    (e : alignChunkAt cfg s n st = .ok s') : Path cfg c w s s' := by
  rcases alignChunkAt_cases e with rfl | ⟨j, _, p, _, _, _, _, rfl⟩
  · exact .refl _
  · exact .pos _ p (.refl s)

theorem writeRange_path {cfg : Cfg} {c : Bool} {s s' : State} {lo hi : Nat} {f : Nat → UInt8}
    (e : writeRange cfg s lo hi f = .ok s') : Path cfg c true s s' := .wrote (.refl s) rfl e

/-! ## what no path changes -/

/-- The fields no function of the model writes, and every chunk stays where it is (base and size): the common core of
    the frame conditions of the towers. -/
structure Kept (s s' : State) : Prop where
  live : s'.live = s.live
  frames : s'.frames = s.frames
  nextId : s'.nextId = s.nextId
  userCps : s'.userCps = s.userCps
  prepared : s'.prepared = s.prepared
  minAlign : s'.minAlign = s.minAlign
  chunk : ∀ (j : Nat) (c : Chunk), s.chunks[j]? = some c →
    ∃ c' : Chunk, s'.chunks[j]? = some c' ∧ c'.base = c.base ∧ c'.size = c.size

theorem Kept.refl (s : State) : Kept s s := ⟨rfl, rfl, rfl, rfl, rfl, rfl, fun _ c h => ⟨c, h, rfl, rfl⟩⟩

theorem Kept.trans {a b c : State} (h1 : Kept a b) (h2 : Kept b c) : Kept a c :=
  ⟨h2.live.trans h1.live, h2.frames.trans h1.frames, h2.nextId.trans h1.nextId, h2.userCps.trans h1.userCps,
   h2.prepared.trans h1.prepared, h2.minAlign.trans h1.minAlign, fun j x hx => by
    obtain ⟨y, hy, e1, e2⟩ := h1.chunk j x hx
    obtain ⟨z, hz, e3, e4⟩ := h2.chunk j y hy
    exact ⟨z, hz, e3.trans e1, e4.trans e2⟩⟩

theorem kept_modify {l : List Chunk} {i : Nat} {g : Chunk → Chunk} (hb : ∀ c, (g c).base = c.base)
    (hs : ∀ c, (g c).size = c.size) (j : Nat) (c : Chunk) (h : l[j]? = some c) :
    ∃ c' : Chunk, (l.modify i g)[j]? = some c' ∧ c'.base = c.base ∧ c'.size = c.size := by
  rw [List.getElem?_modify, h]
  by_cases hij : i = j
  · exact ⟨g c, by simp [hij], hb c, hs c⟩
  · exact ⟨c, by simp [hij], rfl, rfl⟩

theorem Wrote.kept {s s' : State} (h : Wrote s s') : Kept s s' := by
  have e := h.rest
  refine ⟨by rw [e], by rw [e], by rw [e], by rw [e], by rw [e], by rw [e], fun j c hc => ?_⟩
  obtain ⟨c', hc', e⟩ := getElem?_of_map_eq (h.map fun x => (x.1, x.2.1)) hc
  exact ⟨c', hc', congrArg (·.1) e, congrArg (·.2) e⟩

theorem Path.kept {cfg : Cfg} {c w : Bool} {s s' : State} (h : Path cfg c w s s') : Kept s s' := by
  induction h with
  | refl => exact .refl _
  | pos i p _ ih => exact ih.trans ⟨rfl, rfl, rfl, rfl, rfl, rfl, kept_modify (fun _ => rfl) (fun _ => rfl)⟩
  | cur k _ ih => exact ih.trans ⟨rfl, rfl, rfl, rfl, rfl, rfl, fun _ c h => ⟨c, h, rfl, rfl⟩⟩
  | created _ _ hx ih =>
    refine ih.trans ?_
    cases hx with
    | overflow => exact .refl _
    | refused => exact ⟨rfl, rfl, rfl, rfl, rfl, rfl, fun _ c h => ⟨c, h, rfl, rfl⟩⟩
    | granted =>
      refine ⟨rfl, rfl, rfl, rfl, rfl, rfl, fun j c h => ⟨c, ?_, rfl, rfl⟩⟩
      show (_ ++ _)[j]? = some c
      rw [List.getElem?_append_left (List.getElem?_eq_some_iff.1 h).1]; exact h
  | wrote _ _ hx ih => exact ih.trans (writeRange_wrote hx).kept

end Fn
end Arena
