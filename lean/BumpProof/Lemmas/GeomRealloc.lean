/-
  Lemmas/GeomRealloc.lean — `grow`, `shrink`, `WithoutShrink::shrink`: preservation of the invariant and no fault, on
  what they have in common (the post-condition, moving a block into a newly allocated one) and on `GeomNoFault` (where a
  copy may go); in place, `shrink` is `shrink_slice` (`GeomPos`).
-/
import BumpProof.Lemmas.GeomNoFault

set_option linter.unusedSimpArgs false
set_option linter.unusedVariables false

namespace Arena
open Rs Lemmas

/-- the common post-condition: invariant, admissible pending responses, same minimum alignment, and how the chunk
    list evolved (`Trace`) -/
structure BasicPost (cfg : Cfg) (s s' : State) : Prop where
  inv : GeomInv cfg s'
  resps : RespsOK cfg s'
  minAlign : s'.minAlign = s.minAlign
  trace : Trace s s'

/-- what the "no fault" halves of `grow` / `shrink` assume beyond the invariant: chunks do not overlap and the base
    allocator hands out fresh blocks (the model finds the chunk of a copied range by address), the block is live,
    and the base allocator answers the slow path's request correctly (nothing is asked of an empty block: nothing is
    copied).  (`LiveBlock.old` is the `OldBlock` the slow path needs; from these `alloc_copyReady` / `copyReady_slow`
    give `CopyReady`, hence `CopyOK`, for the new block.) -/
structure ReallocOK (cfg : Cfg) (s : State) (ptr n : Nat) (L : Layout) : Prop where
  disjoint : ChunksDisjoint s
  fresh : RespsFresh s
  live : n = 0 ∨ LiveBlock cfg s ptr n
  base : BaseOK cfg s L

section
variable {cfg : Cfg}

theorem BasicPost.refl {s : State} (h : GeomInv cfg s) (hr : RespsOK cfg s) : BasicPost cfg s s := ⟨h, hr, rfl, Trace.refl _⟩

theorem SlowPost.basic {α : Type} {L : Layout} {s s' : State} {r : Except AErr α} (p : SlowPost cfg L s s' r) :
    BasicPost cfg s s' := ⟨p.inv, p.resps, p.minAlign, p.trace⟩

theorem BasicPost.copy {s s1 s2 : State} (p : BasicPost cfg s s1) {src dst len : Nat} {no : Bool}
    (he : copyBytes cfg s1 src dst len no = .ok s2) : BasicPost cfg s s2 := by
  have hg := copyBytes_geom he
  exact ⟨hg.inv p.inv, hg.respsOK p.resps, hg.minAlign.trans p.minAlign, p.trace.post hg.shape hg.resps⟩

theorem MovePost.basic {s s' : State} (p : MovePost cfg s s') (hr : RespsOK cfg s) : BasicPost cfg s s' :=
  ⟨p.inv, fun x hx => hr x (p.resps ▸ hx), p.minAlign, Trace.of_shape p.shape p.resps⟩

/-- where the block `[np, np+n)` that a reallocation of `[ptr, ptr+oldSize)` returns lies: it ends inside the old block,
    or it lies in the content range of a chunk of the state returned -/
def ReallocAt (cfg : Cfg) (s' : State) (ptr oldSize np n : Nat) : Prop :=
  np + n ≤ ptr + oldSize ∨ BlockInChunk cfg s' np n

theorem SameGeom.blockInChunk {s s' : State} (hg : SameGeom s s') {p n : Nat} (hb : BlockInChunk cfg s p n) :
    BlockInChunk cfg s' p n :=
  let ⟨i, c, hi, h1, h2⟩ := hb
  let ⟨c', hi', e⟩ := hg.getElem?' hi
  ⟨i, c', hi', geom_contentStart e ▸ h1, geom_contentEnd e ▸ h2⟩

/-! ## moving the block into a newly allocated one -/

theorem alloc_move_ok (hc : CfgOK cfg) {s : State} (h : GeomInv cfg s) (hr : RespsOK cfg s) {L : Layout} (hL : L.Valid)
    {ptr n len : Nat} (h2 : len ≤ L.size) {β : Type} (g : Nat → β) (f : β → Nat × Nat) (hf : ∀ np, f (g np) = (np, L.size)) :
    Ensures (alloc cfg s L >>= fun x =>
      (match x with
        | (s', Except.error e) => (pure (s', Except.error e) : R (State × Except AErr β))
        | (s', Except.ok np) => do
          let s'' ← copyBytes cfg s' ptr np len true
          pure (s'', Except.ok (g np)))) (len ≤ n ∧ ReallocOK cfg s ptr n L) fun x =>
      BasicPost cfg s x.1 ∧ ∀ b, x.2 = .ok b → ReallocAt cfg x.1 ptr n (f b).1 (f b).2 := by
  refine ((alloc_ensures hc h hr hL).mono (fun q => q.2.base) (fun _ => id)).bind ?_
  rintro ⟨s1, r1⟩ he ⟨p, hfrom⟩
  cases r1 with
  | error e => exact .ok ⟨p.basic, nofun⟩
  | ok np =>
    obtain ⟨w, hfr⟩ := hfrom np rfl
    refine (copyBytes_ok ptr np len true (fun q => ?_)).bind fun s2 he2 hg => .ok ⟨p.basic.copy he2, fun b hb => ?_⟩
    · exact q.2.live.imp (fun h0 : n = 0 => Nat.le_zero.1 (h0 ▸ q.1))
        fun hl => (alloc_copyReady hc h hr q.2.disjoint q.2.fresh hL hl he).copyOK q.1 h2
    · cases hb; rw [hf]; exact .inr (hg.blockInChunk (hfr.blockIn hc h hL))

/-- the slow path, then move the old block (`k`: the continuation, which returns on failure and copies on success) -/
theorem slow_move_ok (hc : CfgOK cfg) {s : State} (h : GeomInv cfg s) (hr : RespsOK cfg s) {L : Layout} (hL : L.Valid)
    {ptr n len : Nat} (h1 : len ≤ n) (h2 : len ≤ L.size) {β : Type}
    (k : State × Except AErr (Nat × Nat) → R (State × Except AErr β)) (g : Nat → β) (f : β → Nat × Nat)
    (hf : ∀ np, f (g np) = (np, L.size))
    (hk : ∀ s1, (∀ e, k (s1, .error e) = .ok (s1, .error e)) ∧
      ∀ np x, k (s1, .ok (np, x)) = copyBytes cfg s1 ptr np len true >>= fun s2 => pure (s2, .ok (g np))) :
    Ensures (inAnotherChunk cfg Kind.alloc s L Hints.custom >>= k)
      (ChunksDisjoint s ∧ RespsFresh s ∧ (n = 0 ∨ OldBlock cfg s ptr n) ∧ BaseOK cfg s L) fun x =>
      BasicPost cfg s x.1 ∧ ∀ b, x.2 = .ok b → ReallocAt cfg x.1 ptr n (f b).1 (f b).2 := by
  refine ((inAnotherChunk_ok hc h hr .alloc hL (custom_sma L) (fun hx => by cases hx)).mono (fun q => q.2.2.2)
    (fun _ => id)).bind ?_
  rintro ⟨s1, r1⟩ _ ⟨p, hfrom⟩
  cases r1 with
  | error e => rw [(hk s1).1 e]; exact .ok ⟨p.basic, nofun⟩
  | ok v =>
    rw [(hk s1).2 v.1 v.2]
    refine (copyBytes_ok ptr v.1 len true (fun q => ?_)).bind fun s2 he2 hg => .ok ⟨p.basic.copy he2, fun b hb => ?_⟩
    · exact q.2.2.1.imp (fun h0 : n = 0 => Nat.le_zero.1 (h0 ▸ h1))
        fun ho => (copyReady_slow hc h q.1 q.2.1 hL ho (hfrom v rfl)).copyOK h1 h2
    · cases hb; rw [hf]; exact .inr (hg.blockInChunk (AllocFrom.blockIn (v := v) hc h hL (.inr (hfrom v rfl))))

theorem grow_ok (hc : CfgOK cfg) {s : State} (h : GeomInv cfg s) (hr : RespsOK cfg s) {ptr oldSize : Nat}
    {newL : Layout} (hL : newL.Valid) (hb : isLast cfg s ptr oldSize = true → BlockInCur cfg s ptr oldSize) :
    Ensures (grow cfg s ptr oldSize newL) (oldSize ≤ newL.size ∧ ReallocOK cfg s ptr oldSize newL)
      fun x => BasicPost cfg s x.1 ∧ ∀ np, x.2 = .ok np → ReallocAt cfg x.1 ptr oldSize np newL.size := by
  unfold grow
  refine .assert (fun q => q.1) fun hsz => ?_
  have hq : (oldSize ≤ newL.size ∧ ReallocOK cfg s ptr oldSize newL) →
      ChunksDisjoint s ∧ RespsFresh s ∧ (oldSize = 0 ∨ OldBlock cfg s ptr oldSize) ∧ BaseOK cfg s newL :=
    fun q => ⟨q.2.disjoint, q.2.fresh, q.2.live.imp id LiveBlock.old, q.2.base⟩
  have halloc := (alloc_move_ok hc h hr hL (ptr := ptr) hsz id (·, newL.size) fun _ => rfl).mono
    (fun q : oldSize ≤ newL.size ∧ ReallocOK cfg s ptr oldSize newL => ⟨Nat.le_refl oldSize, q.2⟩) (fun _ => id)
  have hm := h.minAlign
  refine .branch (fun hup => .branch (fun hcond => ?_) fun _ => halloc) fun hup => .branch (fun hlast => ?_) fun _ => halloc
  · -- upwards
    simp only [Bool.and_eq_true] at hcond
    obtain ⟨i, c, hcur, hi, hb1, hb2, hb3⟩ := hb hcond.1
    have hw := h.chunks i c hi
    have hpe : ptr ≤ c.contentEnd cfg := Nat.le_trans (Nat.le_add_right _ _) hb2
    rw [curChunk?_of hcur hi]
    refine .lift (sub_ok hpe) (.branch (fun hle => ?_) fun _ =>
      (slow_move_ok hc h hr hL (Nat.le_refl oldSize) hsz _ id (·, newL.size) (fun _ => rfl)
        fun s1 => ⟨fun e => rfl, fun np x => rfl⟩).mono hq fun _ => id)
    have h2 : ptr + newL.size ≤ c.contentEnd cfg := by omega
    obtain ⟨e1, e2, e3, e4⟩ := hw.up_align_val hc hm h2
    exact .lift (add_ok' (Nat.lt_of_le_of_lt h2 hw.end_lt64)) (.lift e1
      (.ok ⟨(h.moveCur hcur hi (Nat.le_trans hb1 (Nat.le_trans (Nat.le_add_right _ _) e2)) e3 e4).basic hr,
        fun np hnp => by cases hnp; exact .inr ⟨i, { c with pos := Spec.upAlign (ptr + newL.size) s.minAlign },
          Fn.setCurPos_chunk hcur _ ▸ setPos_getElem?_self hi _, hb1, h2⟩⟩))
  · -- downwards
    obtain ⟨i, c, hcur, hi, hb1, hb2, hb3⟩ := hb hlast
    have hw := h.chunks i c hi
    have hpos := isLast_pos hlast hcur hi
    simp only [hup, Bool.false_eq_true, ↓reduceIte] at hpos hb3
    have hend := hw.end_lt64
    have hpe : ptr ≤ c.contentEnd cfg := Nat.le_trans (Nat.le_add_right _ _) hb2
    obtain ⟨e1, _, e2, e3, _⟩ := bump_down_val (x := ptr) (sz := newL.size - oldSize) hL.p2 hL.lt64 hm
      (Nat.lt_of_le_of_lt hpe hend)
    rw [curChunk?_of hcur hi]
    refine .lift (sub_ok hsz) (.lift e1 (.branch (fun hge => ?_) fun _ =>
      (slow_move_ok hc h hr hL (Nat.le_refl oldSize) hsz _ id (·, newL.size) (fun _ => rfl)
        fun s1 => ⟨fun e => rfl, fun np x => rfl⟩).mono hq fun _ => id))
    -- the subtraction did not saturate: the new address is not null
    have hk : downTo ptr (newL.size - oldSize) newL.align s.minAlign + newL.size ≤ ptr + oldSize := by
      have := hw.start_pos; omega
    have hke := Nat.le_trans hk hb2
    refine .lift (add_ok' (Nat.lt_of_le_of_lt hke hend)) ?_
    refine (moveInCur_ok h hcur hi _ _ _ _ _ hge (Nat.le_trans (Nat.le_add_right _ _) hke) e2 (fun q =>
      ⟨q.2.disjoint, hb1, hb2, hge, Nat.le_trans (Nat.add_le_add_left hsz _) hke, ?_⟩)).mono id
      (fun _ p => ⟨p.1.basic hr, fun np hnp => by cases p.2.symm.trans hnp; exact .inl hk⟩)
    intro hx
    simp only [decide_eq_true_eq] at hx
    exact Or.inr (Nat.le_trans (Nat.add_le_add_left hsz _) (Nat.le_of_lt hx))

/-! ## the shrink family -/

theorem shrinkSlice_post (hc : CfgOK cfg) {s : State} (h : GeomInv cfg s) (hr : RespsOK cfg s)
    {ptr oldSize newSize ealign : Nat} (hal : P2 ealign) (hal64 : ealign < 2 ^ 64) (hap : ealign ∣ ptr)
    (hsz : newSize ≤ oldSize) (hb : isLast cfg s ptr oldSize = true → BlockInCur cfg s ptr oldSize)
    {s' : State} {r : Option Nat} (he : shrinkSlice cfg s ptr oldSize newSize ealign = .ok (s', r)) :
    BasicPost cfg s s' :=
  ((shrinkSlice_ok hc h hal hal64 hap hsz hb).1 _ he).1.basic hr

/-- when the alignment fits, `shrink` in place is `shrink_slice` for the new layout -/
theorem shrink_fit_eq {s : State} {ptr oldSize : Nat} {newL : Layout} (hsz : newL.size ≤ oldSize)
    (hfit : alignFits ptr newL.align = true) (hsh : cfg.shrinks = true) (hlast : isLast cfg s ptr oldSize = true)
    {i : Nat} (hcur : s.cur = .chunk i) :
    shrink cfg s ptr oldSize newL =
      shrinkSlice cfg s ptr oldSize newL.size newL.align >>= fun x => pure (x.1, .ok (x.2.getD 0, newL.size)) := by
  unfold shrink shrinkSlice
  rw [assert_decide hsz]
  simp only [hfit, hsh, hlast, hcur, liftM_ok, r_ok_bind, Bool.not_true, Bool.false_eq_true, ↓reduceIte, Bool.or_self]
  cases cfg.up <;> simp only [Bool.false_eq_true, ↓reduceIte, bind_assoc, pure_bind] <;> rfl

theorem shrink_ok (hc : CfgOK cfg) {s : State} (h : GeomInv cfg s) (hr : RespsOK cfg s) {ptr oldSize : Nat}
    {newL : Layout} (hL : newL.Valid) (hb : isLast cfg s ptr oldSize = true → BlockInCur cfg s ptr oldSize) :
    Ensures (shrink cfg s ptr oldSize newL) (newL.size ≤ oldSize ∧ ReallocOK cfg s ptr oldSize newL)
      fun x => BasicPost cfg s x.1 ∧ ∀ v, x.2 = .ok v → ReallocAt cfg x.1 ptr oldSize v.1 v.2 := by
  by_cases hinp : alignFits ptr newL.align = true ∧ cfg.shrinks = true ∧ isLast cfg s ptr oldSize = true
  · -- in place: `shrink_slice` for the new layout
    by_cases hsz : newL.size ≤ oldSize
    · obtain ⟨i, c, hcur, _⟩ := hb hinp.2.2
      rw [shrink_fit_eq hsz hinp.1 hinp.2.1 hinp.2.2 hcur]
      refine ((shrinkSlice_ok hc h hL.p2 hL.lt64 (alignFits_dvd hinp.1) hsz hb).mono (fun q => q.2.disjoint)
        (fun _ => id)).bind (fun x _ p => .ok ⟨p.1.basic hr, fun v hv => ?_⟩)
      cases hv
      cases hx : x.2 with
      | none => exact .inl (Nat.le_trans (Nat.zero_add _ ▸ hsz) (Nat.le_add_left _ _))
      | some np => exact .inl (p.2 np hx)
    · unfold shrink
      exact .assert (fun q => q.1) fun hsz' => absurd hsz' hsz
  unfold shrink
  refine .assert (fun q => q.1) fun hsz => .branch (fun hfit => ?_) fun hfit =>
    .branch (fun _ => .ok ⟨.refl h hr, fun v hv => by cases hv; exact .inl (Nat.le_refl _)⟩) fun hcond => ?_
  · -- the alignment does not fit: `shrink_unfit`
    refine .branch (fun hcond => ?_) fun _ => alloc_move_ok hc h hr hL (Nat.le_refl _) (·, newL.size) id fun _ => rfl
    rw [Bool.and_eq_true] at hcond
    have hbc := hb hcond.2
    obtain ⟨s1, d1, ⟨d2, d3, d5, d6⟩, d4⟩ := (deallocAssumeLast_ok hc h hbc).total
    have hr1 : RespsOK cfg s1 := fun x hx => hr x (d6 ▸ hx)
    obtain ⟨i, c, hcur, hi, hb1, hb2, hb3⟩ := hbc
    have hw := h.chunks i c hi
    obtain ⟨c1, hi1, hsh1⟩ := d3.getElem?' hi
    refine .call d1 (.call (tryCur_eq hc d2 .alloc hL (custom_sma _)) ?_)
    cases ht : tryCurSpec cfg .alloc s1 newL with
    | some x =>
      -- the new block lies in the current chunk too: the copy is a move inside it
      obtain ⟨⟨np, snd⟩, s2⟩ := x
      obtain ⟨⟨g1, g2, g4, g5⟩, _⟩ := tryCurSpec_inv hc d2 hL ht
      have p2 : BasicPost cfg s s2 :=
        ⟨g1, fun x hx => hr1 x (g5 ▸ hx), g4.trans d5, Trace.of_shape (d3.trans g2) (g5.trans d6)⟩
      obtain ⟨j, cj, hcur1, hj, dd1, dd2, _⟩ := tryCurSpec_alloc_block hc d2 hL ht
      rw [d4, hcur] at hcur1; cases hcur1
      rw [hi1] at hj; cases hj
      obtain ⟨c2, hi2, hsh2⟩ := g2.getElem?' hi1
      have hs2 : c2.contentStart cfg = c.contentStart cfg := (shape_contentStart hsh2).trans (shape_contentStart hsh1)
      have he2 : c2.contentEnd cfg = c.contentEnd cfg := (shape_contentEnd hsh2).trans (shape_contentEnd hsh1)
      rw [shape_contentStart hsh1] at dd1
      rw [shape_contentEnd hsh1] at dd2
      refine (copyBytes_within hi2 (g1.chunks i c2 hi2) ptr np newL.size _ (fun q =>
        ⟨(d3.trans g2).disjoint q.2.disjoint, hs2 ▸ hb1, he2 ▸ (by omega), hs2 ▸ dd1, he2 ▸ dd2, ?_⟩)).bind
        (fun s3 he3 hg => .ok ⟨p2.copy he3, fun v hv => by
          cases hv; exact .inr (hg.blockInChunk ⟨i, c2, hi2, hs2 ▸ dd1, he2 ▸ dd2⟩)⟩)
      intro hx
      cases hup : cfg.up
      · simp only [hup, Bool.false_eq_true, ↓reduceIte, Bool.not_eq_true', decide_eq_false_iff_not] at hx
        right; omega
      · simp only [hup, ↓reduceIte, Bool.not_eq_true', decide_eq_false_iff_not] at hx
        left; omega
    | none =>
      -- the position is restored, which gives the old state back, and the slow path taken
      rw [Fn.deallocAssumeLast_restore d1]
      refine Ensures.mono (slow_move_ok hc h hr hL hsz (Nat.le_refl _) _ (·, newL.size) id (fun _ => rfl)
        fun s1 => ⟨fun e => rfl, fun np x => rfl⟩)
        (fun q => ⟨q.2.disjoint, q.2.fresh, q.2.live.imp id LiveBlock.old, q.2.base⟩) fun _ => id
  · exfalso
    simp only [Bool.not_eq_true, Bool.or_eq_true, Bool.not_eq_eq_eq_not, Bool.not_true, not_or, Bool.not_eq_false] at hfit hcond
    exact hinp ⟨hfit, hcond.1, hcond.2⟩

theorem shrink_post (hc : CfgOK cfg) {s : State} (h : GeomInv cfg s) (hr : RespsOK cfg s) {ptr oldSize : Nat}
    {newL : Layout} (hL : newL.Valid) (hb : isLast cfg s ptr oldSize = true → BlockInCur cfg s ptr oldSize)
    {s' : State} {r : Except AErr (Nat × Nat)} (he : shrink cfg s ptr oldSize newL = .ok (s', r)) :
    BasicPost cfg s s' :=
  ((shrink_ok hc h hr hL hb).1 _ he).1

theorem shrinkWithoutShrink_ok (hc : CfgOK cfg) {s : State} (h : GeomInv cfg s) (hr : RespsOK cfg s) {ptr oldSize : Nat}
    {newL : Layout} (hL : newL.Valid) :
    Ensures (shrinkWithoutShrink cfg s ptr oldSize newL) (newL.size ≤ oldSize ∧ ReallocOK cfg s ptr oldSize newL)
      fun x => BasicPost cfg s x.1 ∧ ∀ v, x.2 = .ok v → newL.size ≤ oldSize → ReallocAt cfg x.1 ptr oldSize v.1 v.2 := by
  unfold shrinkWithoutShrink
  exact .branch (fun _ => .ok ⟨.refl h hr, fun v hv hsz => by cases hv; exact .inl (Nat.add_le_add_left hsz _)⟩) fun _ =>
    (alloc_move_ok hc h hr hL (Nat.le_refl _) (·, newL.size) id fun _ => rfl).mono id fun x p => ⟨p.1, fun v hv _ => p.2 v hv⟩

theorem shrinkWithoutShrink_post (hc : CfgOK cfg) {s : State} (h : GeomInv cfg s) (hr : RespsOK cfg s) {ptr oldSize : Nat}
    {newL : Layout} (hL : newL.Valid)
    {s' : State} {r : Except AErr (Nat × Nat)} (he : shrinkWithoutShrink cfg s ptr oldSize newL = .ok (s', r)) :
    BasicPost cfg s s' :=
  ((shrinkWithoutShrink_ok hc h hr hL).1 _ he).1

end
end Arena
