/-
  Lemmas/PoolInv.lean — the invariant of the pool model and its preservation (helper lemmas of C19).

  `Inv s`: the idle stack, the arenas inside live guards and the leaked arenas are together a
  PERMUTATION of `0 … created-1`, and live guards have distinct ids.  Exclusivity, "none lost",
  the accounting `idle + live = created` are all corollaries of the permutation.  `Steps` is the case-by-case
  description of an accepted step that the per-step lemmas here and in `Lemmas/PoolHist.lean` go through.
-/
import BumpProof.Pool.Model

namespace Pool

/-- every arena the pool knows about, by where it currently is -/
def State.all (s : State) : List ArenaId := s.idle ++ (s.owned.map (·.2) ++ s.leaked)

/-- number of guards that were handed out and not dropped -/
def State.live (s : State) : Nat := s.owned.length + s.leaked.length

structure Inv (s : State) : Prop where
  perm : s.all.Perm (List.range s.created)
  keys : (s.owned.map (·.1)).Nodup

theorem inv_init : Inv init := ⟨by simp [State.all, init], by simp [init]⟩

theorem arenaOf_mem {g a} : ∀ {l : List (GuardId × ArenaId)}, arenaOf g l = some a → (g, a) ∈ l
  | [], h => by simp [arenaOf] at h
  | (g', b) :: rest, h => by
    unfold arenaOf at h
    split at h
    · rename_i hg; cases h; subst hg; simp
    · exact List.mem_cons_of_mem _ (arenaOf_mem h)

theorem arenaOf_none {g} : ∀ {l : List (GuardId × ArenaId)}, arenaOf g l = none → g ∉ l.map (·.1)
  | [], _ => by simp
  | (g', b) :: rest, h => by
    unfold arenaOf at h
    split at h
    · cases h
    · rename_i hg
      simp only [List.map_cons, List.mem_cons, not_or]
      exact ⟨fun e => hg e.symm, arenaOf_none h⟩

theorem arenaOf_of_mem {g a} : ∀ {l : List (GuardId × ArenaId)}, (l.map (·.1)).Nodup → (g, a) ∈ l → arenaOf g l = some a
  | [], _, h => by cases h
  | (g', b) :: rest, hn, h => by
    simp only [List.map_cons, List.nodup_cons] at hn
    unfold arenaOf
    rcases List.mem_cons.mp h with h | h
    · cases h; simp
    · have hne : g' ≠ g := fun e => hn.1 (List.mem_map.mpr ⟨(g, a), h, e.symm⟩)
      simp only [hne, ↓reduceIte]
      exact arenaOf_of_mem hn.2 h

theorem takeOut_perm {g a} : ∀ {l l' : List (GuardId × ArenaId)}, takeOut g l = some (a, l') → l.Perm ((g, a) :: l')
  | [], _, h => by simp [takeOut] at h
  | (g', b) :: rest, l', h => by
    unfold takeOut at h
    split at h
    · rename_i hg
      cases h; subst hg
      exact List.Perm.refl _
    · split at h <;> cases h
      rename_i hrec
      exact (List.Perm.cons _ (takeOut_perm hrec)).trans (List.Perm.swap _ _ _)

theorem arenaOf_eq_takeOut (g : GuardId) : ∀ l : List (GuardId × ArenaId), arenaOf g l = (takeOut g l).map (·.1)
  | [] => rfl
  | (g', b) :: rest => by
    unfold arenaOf takeOut
    split
    · rfl
    · rw [arenaOf_eq_takeOut g rest]
      cases takeOut g rest <;> rfl

theorem takeOut_arenaOf {g a} {l l' : List (GuardId × ArenaId)} (h : takeOut g l = some (a, l')) : arenaOf g l = some a := by
  rw [arenaOf_eq_takeOut, h]; rfl

theorem takeOut_none {g} : ∀ {l : List (GuardId × ArenaId)}, takeOut g l = none → arenaOf g l = none
  | l, h => by rw [arenaOf_eq_takeOut, h]; rfl

theorem takeOut_mem {g a} : ∀ {l l' : List (GuardId × ArenaId)}, takeOut g l = some (a, l') →
    ∀ p, p ∈ l' → p ∈ l
  | _, _, h => fun _ hp => (takeOut_perm h).symm.subset (List.mem_cons_of_mem _ hp)

theorem update_same (f : ArenaId → Arena) (a v) : update f a v a = v := by simp [update]
theorem update_other (f : ArenaId → Arena) {a x} (v) (h : x ≠ a) : update f a v x = f x := by simp [update, h]

theorem mapOver_not_mem (op : Arena → Arena) : ∀ (l : List ArenaId) (f : ArenaId → Arena) (x : ArenaId),
    x ∉ l → mapOver op l f x = f x
  | [], _, _, _ => rfl
  | a :: rest, f, x, h => by
    simp only [List.mem_cons, not_or] at h
    unfold mapOver
    rw [mapOver_not_mem op rest _ x h.2, update_other _ _ h.1]

theorem mapOver_mem (op : Arena → Arena) : ∀ (l : List ArenaId) (f : ArenaId → Arena) (x : ArenaId),
    l.Nodup → x ∈ l → mapOver op l f x = op (f x)
  | [], _, _, _, h => by cases h
  | a :: rest, f, x, hn, h => by
    simp only [List.nodup_cons] at hn
    unfold mapOver
    rcases List.mem_cons.mp h with h | h
    · subst h
      rw [mapOver_not_mem op rest _ x hn.1, update_same]
    · have hne : x ≠ a := fun e => hn.1 (e ▸ h)
      rw [mapOver_mem op rest _ x hn.2 h, update_other _ _ hne]

/-- what an accepted step does, case by case (the graph of `step` on the steps it accepts) -/
inductive Steps (s : State) : Step → State → Out → Prop
  | getIdle {g c a rest} (hd : s.dropped = false) (hg : arenaOf g s.owned = none) (hi : s.idle = a :: rest) :
      Steps s (.get g c) { s with idle := rest, owned := (g, a) :: s.owned } (.got a false)
  | getFresh {g} (hd : s.dropped = false) (hg : arenaOf g s.owned = none) (hi : s.idle = []) :
      Steps s (.get g .ok) { s with created := s.created + 1, owned := (g, s.created) :: s.owned } (.got s.created true)
  | getFail {g} (hd : s.dropped = false) (hg : arenaOf g s.owned = none) (hi : s.idle = []) : Steps s (.get g .fail) s .failed
  | getPanic {g} (hd : s.dropped = false) (hg : arenaOf g s.owned = none) (hi : s.idle = []) :
      Steps s (.get g .panic) { s with poisoned := true } .panicked
  | put {g a owned'} (hd : s.dropped = false) (ht : takeOut g s.owned = some (a, owned')) :
      Steps s (.put g) { s with idle := a :: s.idle, owned := owned' } .done
  | forget {g a owned'} (hd : s.dropped = false) (ht : takeOut g s.owned = some (a, owned')) :
      Steps s (.forget g) { s with leaked := a :: s.leaked, owned := owned' } .done
  | alloc {g t a} (hd : s.dropped = false) (hg : arenaOf g s.owned = some a) :
      Steps s (.alloc g t) { s with arenas := update s.arenas a ((s.arenas a).alloc t) } .done
  | reset (hd : s.dropped = false) (ho : s.owned = []) :
      Steps s .reset { s with arenas := mapOver Arena.reset s.idle s.arenas } .done
  | resetToStart (hd : s.dropped = false) (ho : s.owned = []) :
      Steps s .resetToStart { s with arenas := mapOver Arena.resetToStart s.idle s.arenas } .done
  | drop (hd : s.dropped = false) (ho : s.owned = []) :
      Steps s .drop { s with arenas := mapOver Arena.drop s.idle s.arenas, dropped := true } .done

theorem forAll_ok {s s' : State} {op : Arena → Arena} {o : Out} (e : forAll s op = .ok (s', o)) :
    s.dropped = false ∧ s.owned = [] ∧ s' = { s with arenas := mapOver op s.idle s.arenas } ∧ o = .done := by
  unfold forAll at e
  split at e
  · cases e
  rename_i hd
  split at e <;> cases e
  rename_i ho
  exact ⟨by simpa using hd, by simpa using ho, rfl, rfl⟩

theorem step_steps {s s' : State} {st : Step} {o : Out} (e : step s st = .ok (s', o)) : Steps s st s' o := by
  cases st with
  | get g c =>
    simp only [step, get] at e
    split at e
    · cases e
    rename_i hd
    split at e
    · cases e
    rename_i hg
    have hd : s.dropped = false := by simpa using hd
    have hg : arenaOf g s.owned = none := by simpa using hg
    split at e
    · cases e; exact .getIdle hd hg ‹_›
    · cases c <;> cases e
      · exact .getFresh hd hg ‹_›
      · exact .getFail hd hg ‹_›
      · exact .getPanic hd hg ‹_›
  | put g | forget g | alloc g t =>
    simp only [step, put, forget, alloc] at e
    split at e
    · cases e
    rename_i hd
    split at e <;> cases e
    constructor
    · simpa using hd
    · assumption
  | reset | resetToStart => obtain ⟨hd, ho, rfl, rfl⟩ := forAll_ok e; constructor <;> assumption
  | drop =>
    simp only [step, dropPool] at e
    split at e <;> cases e
    rename_i h1
    obtain ⟨hd, ho, rfl, rfl⟩ := forAll_ok h1
    exact .drop hd ho

theorem Inv.nodup {s} (h : Inv s) : s.all.Nodup := h.perm.nodup_iff.mpr List.nodup_range

theorem Inv.mem_iff {s} (h : Inv s) (a : ArenaId) : a ∈ s.all ↔ a < s.created :=
  (h.perm.mem_iff).trans List.mem_range

theorem Inv.length {s} (h : Inv s) : s.idle.length + s.live = s.created := by
  have := h.perm.length_eq
  simp only [State.all, List.length_append, List.length_map, List.length_range] at this
  simp only [State.live]; omega

theorem Inv.created_not_mem {s} (h : Inv s) : s.created ∉ s.all :=
  fun hm => Nat.lt_irrefl _ ((h.mem_iff _).mp hm)

/-- the statement of `C19.exclusive` for any state with the invariant (the last conjunct is the field `keys`) -/
theorem Inv.exclusive {s} (hi : Inv s) :
    (s.owned.map (·.2)).Nodup ∧ s.idle.Nodup ∧ s.leaked.Nodup ∧
    (∀ p ∈ s.owned, p.2 ∉ s.idle ∧ p.2 ∉ s.leaked) ∧ (∀ a ∈ s.idle, a ∉ s.leaked) ∧
    (s.owned.map (·.1)).Nodup := by
  have hn := hi.nodup
  simp only [State.all, List.nodup_append] at hn
  obtain ⟨hidle, ⟨hown, hleak, hol⟩, hio⟩ := hn
  refine ⟨hown, hidle, hleak, fun p hp => ?_, fun a ha hc => hio _ ha _ (List.mem_append_right _ hc) rfl, hi.keys⟩
  have hm : p.2 ∈ s.owned.map (·.2) := List.mem_map.mpr ⟨p, hp, rfl⟩
  exact ⟨fun hc => hio _ hc _ (List.mem_append_left _ hm) rfl, fun hc => hol _ hm _ hc rfl⟩

theorem Inv.none_lost {s} (hi : Inv s) (a : ArenaId) :
    a < s.created ↔ (a ∈ s.idle ∨ (∃ g, (g, a) ∈ s.owned) ∨ a ∈ s.leaked) := by
  rw [← hi.mem_iff a]
  simp only [State.all, List.mem_append, List.mem_map]
  constructor
  · rintro (h | ⟨p, hp, rfl⟩ | h)
    · exact Or.inl h
    · exact Or.inr (Or.inl ⟨p.1, hp⟩)
    · exact Or.inr (Or.inr h)
  · rintro (h | ⟨g, hg⟩ | h)
    · exact Or.inl h
    · exact Or.inr (Or.inl ⟨(g, a), hg, rfl⟩)
    · exact Or.inr (Or.inr h)

theorem inv_step {s s' st o} (h : Inv s) (e : step s st = .ok (s', o)) : Inv s' := by
  -- `h.perm` with `State.all` unfolded, so that `s.idle` can be rewritten in it
  have hp : (s.idle ++ (s.owned.map (·.2) ++ s.leaked)).Perm (List.range s.created) := h.perm
  cases step_steps e with
  | getIdle hd hg hi =>
    rw [hi] at hp
    exact ⟨List.perm_middle.trans hp, List.nodup_cons.2 ⟨arenaOf_none hg, h.keys⟩⟩
  | getFresh hd hg hi =>
    rw [hi] at hp
    refine ⟨?_, List.nodup_cons.2 ⟨arenaOf_none hg, h.keys⟩⟩
    show (s.idle ++ (s.created :: (s.owned.map (·.2) ++ s.leaked))).Perm (List.range (s.created + 1))
    rw [hi, List.range_succ]
    exact ((List.perm_append_singleton _ _).trans (List.Perm.cons _ hp.symm)).symm
  | put hd ht =>
    have t := takeOut_perm ht
    refine ⟨?_, (List.nodup_cons.mp (((t.map (·.1)).nodup_iff).mp h.keys)).2⟩
    exact (List.perm_middle.symm.trans
      (List.Perm.append_left s.idle (List.Perm.append_right s.leaked (t.map (·.2)).symm))).trans hp
  | forget hd ht =>
    have t := takeOut_perm ht
    refine ⟨?_, (List.nodup_cons.mp (((t.map (·.1)).nodup_iff).mp h.keys)).2⟩
    exact (List.Perm.append_left s.idle
      (List.perm_middle.trans (List.Perm.append_right s.leaked (t.map (·.2)).symm))).trans hp
  -- the remaining steps touch none of `idle`, `owned`, `leaked`, `created`
  | _ => exact ⟨h.perm, h.keys⟩

theorem run_cons_ok {s s' : State} {st : Step} {rest : List Step} (e : run s (st :: rest) = .ok s') :
    ∃ s1 o, step s st = .ok (s1, o) ∧ run s1 rest = .ok s' := by
  unfold run at e
  split at e
  · exact ⟨_, _, ‹_›, e⟩
  · cases e

theorem inv_run : ∀ {h : List Step} {s s'}, Inv s → run s h = .ok s' → Inv s'
  | [], s, s', hi, e => by cases e; exact hi
  | st :: rest, s, s', hi, e =>
    let ⟨_, _, h1, e'⟩ := run_cons_ok e
    inv_run (inv_step hi h1) e'

theorem run_append : ∀ {h1 h2 : List Step} {s s'}, run s (h1 ++ h2) = .ok s' →
    ∃ m, run s h1 = .ok m ∧ run m h2 = .ok s'
  | [], _, s, s', e => ⟨s, rfl, e⟩
  | st :: rest, h2, s, s', e => by
    obtain ⟨s1, o, hs, e'⟩ := run_cons_ok (List.cons_append ▸ e)
    obtain ⟨m, hm1, hm2⟩ := run_append e'
    exact ⟨m, by simp only [run, hs]; exact hm1, hm2⟩

theorem run_eq_runLog (s : State) : ∀ h : List Step, run s h = (runLog s h).map (·.1)
  | [] => rfl
  | st :: rest => by
    unfold run runLog
    cases step s st with
    | error e => rfl
    | ok r =>
      simp only
      rw [run_eq_runLog r.1 rest]
      cases runLog r.1 rest <;> rfl

theorem run_of_runLog : ∀ {h : List Step} {s s' log}, runLog s h = .ok (s', log) → run s h = .ok s'
  | _, _, _, _, e => by rw [run_eq_runLog, e]; rfl

theorem runLog_of_run : ∀ {h : List Step} {s s'}, run s h = .ok s' → ∃ log, runLog s h = .ok (s', log)
  | h, s, _, e => by
    rw [run_eq_runLog] at e
    cases hl : runLog s h with
    | error x => rw [hl] at e; cases e
    | ok r => rw [hl] at e; cases e; exact ⟨r.2, rfl⟩

end Pool
