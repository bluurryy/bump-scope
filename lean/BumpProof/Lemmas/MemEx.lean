/-
  Lemmas/MemEx.lean — small concrete arena states used by the non-vacuity examples of C01 / C02.
-/
import BumpProof.Lemmas.MemFresh

namespace Arena.Mem.Ex
open Arena Arena.Mem Rs

def cfgUp : Cfg :=
  { up := true, minAlign0 := 1, ga := true, claimable := false, deallocates := true,
    shrinks := true, minChunk := 512, hdr := { size := 32, align := 8 } }
def cfgDown : Cfg := { cfgUp with up := false }

/-- upwards: chunk `[64, 128)`, header `[64, 96)`, one 8-byte block at `96`, position `104` -/
def chunkUp : Chunk :=
  { base := 64, size := 64, pos := 104, granted := 64, reqSize := 64, data := Array.replicate 64 7 }
/-- downwards: chunk `[64, 128)`, header `[96, 128)`, one 8-byte block at `80`, position `80` -/
def chunkDown : Chunk := { chunkUp with pos := 80 }

def blk (addr : Nat) : Block := { id := 0, addr := addr, size := 8, align := 8, depth := 0, init := 0 }

def stUp : State :=
  { chunks := [chunkUp], cur := .chunk 0, minAlign := 1, frames := [], live := [blk 96],
    nextId := 1, userCps := [], prepared := none, resps := [], reqs := [], dropped := false }
def stDown : State := { stUp with chunks := [chunkDown], live := [blk 80] }

theorem stUp_wf : MemWF stUp := ⟨List.pairwise_singleton _ _, List.forall_mem_singleton.2 Array.size_replicate⟩

theorem stDown_wf : MemWF stDown := ⟨List.pairwise_singleton _ _, List.forall_mem_singleton.2 Array.size_replicate⟩

theorem stUp_fresh : HeadFresh stUp := by
  intro p g rest h; simp [stUp] at h

theorem stDown_fresh : HeadFresh stDown := by
  intro p g rest h; simp [stDown, stUp] at h

theorem stUp_in (a : Nat) (h1 : 64 ≤ a) (h2 : a < 128) : InChunks stUp a :=
  ⟨chunkUp, by simp [stUp], by simp [chunkUp]; omega, by simp [chunkUp]; omega⟩

theorem stDown_in (a : Nat) (h1 : 64 ≤ a) (h2 : a < 128) : InChunks stDown a :=
  ⟨chunkDown, by simp [stDown], by simp [chunkDown, chunkUp]; omega, by simp [chunkDown, chunkUp]; omega⟩

/-- `stUp` with a pending base-allocator response that grants `[256, 1280)` -/
def stUpR : State := { stUp with resps := [.granted 256 1024] }

theorem stUpR_wf : MemWF stUpR := stUp_wf

theorem stUpR_fresh : HeadFresh stUpR := by
  intro p g rest h x hx
  simp only [stUpR, stUp, List.cons.injEq, BaseResp.granted.injEq] at h
  obtain ⟨⟨rfl, rfl⟩, _⟩ := h
  simp only [shapeOf, stUpR, stUp, List.map_cons, List.map_nil, List.mem_singleton] at hx
  subst hx
  simp [Chunk.memShape, chunkUp]

end Arena.Mem.Ex
