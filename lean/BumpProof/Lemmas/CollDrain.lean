/-
  Lemmas/CollDrain.lean — `Coll.drain` / `Coll.intoIter` (models of `owned_slice::Drain`, `IntoIter`)
  compute `drainSpec` / `intoIterSpec` on every well-formed vector, for every range, pull script,
  way of letting go (`drop` / `keep_rest` / `mem::forget`, `drainForget_seg`) and set of panicking drops.
  `DrainAt` says where the cursors of a `Drain` point in a segmented buffer; `drainOpen` (`Drain::new` and the pulls)
  establishes it, the lemmas about letting go consume it.  `spliceDrainDrop_at` is `Drain::drop` in the form
  `Splice::drop` needs it (while unwinding or not).
-/
import BumpProof.Coll.Splice
import BumpProof.Lemmas.CollView

namespace Coll

theorem drainPulls_eq (script : List Pull) :
    ∀ (A B : List Slot) (a b : Nat) (u : List Id) (n : Nat) (dl esc : List Id) (d : DrainSt) (acc : List (Option Id)),
      d.ptr = A.length + a → d.end_ = A.length + a + u.length →
      ∃ a' b', drainPulls ⟨A ++ H a ++ I u ++ H b ++ B, n, dl, esc⟩ d script acc =
          .ok (⟨A ++ H a' ++ I (pullsSpec u script).2 ++ H b' ++ B, n, dl, esc ++ yielded (pullsSpec u script).1⟩,
               { d with ptr := A.length + a', end_ := A.length + a' + (pullsSpec u script).2.length },
               acc ++ (pullsSpec u script).1) ∧
        a' + (pullsSpec u script).2.length + b' = a + u.length + b := by
  induction script with
  | nil =>
    intro A B a b u n dl esc d acc hp he
    refine ⟨a, b, ?_, rfl⟩
    rw [drainPulls, pullsSpec, ← he, ← hp]
    simp [yielded]
  | cons p ps ih =>
    intro A B a b u n dl esc d acc hp he
    rw [drainPulls]
    unfold drainPull
    rcases u with _ | ⟨x, u⟩
    · -- nothing left: `ptr == end`
      obtain ⟨a', b', h1, h2⟩ := ih A B a b [] n dl esc d (acc ++ [none]) hp he
      refine ⟨a', b', ?_, by cases p <;> exact h2⟩
      rw [if_pos (by rw [hp, he]; rfl)]
      cases p <;> simp only [pullsSpec, List.getLast?_nil, h1] <;> simp [yielded]
    · rw [if_neg (by rw [hp, he, List.length_cons]; omega)]
      cases p with
      | front =>
        rw [hp, readOut_mid (A := A ++ H a) (x := x) (B := I u ++ H b ++ B) (by simp) (by simp)]
        obtain ⟨a', b', h1, h2⟩ := ih A B (a + 1) b u n dl (esc ++ [x]) { d with ptr := A.length + a + 1 }
          (acc ++ [some x]) (by simp only; omega) (by simp only; rw [he, List.length_cons]; omega)
        refine ⟨a', b', ?_, by rw [pullsSpec, h2, List.length_cons]; omega⟩
        simp only [pullsSpec]
        have e : A ++ H a ++ Slot.hole :: (I u ++ H b ++ B) = A ++ H (a + 1) ++ I u ++ H b ++ B := by simp
        rw [e, h1]
        simp [yielded]
      | back =>
        obtain ⟨u', y, hu⟩ : ∃ u' y, x :: u = u' ++ [y] := by
          rcases List.eq_nil_or_concat (x :: u) with h | ⟨u', y, h⟩
          · cases h
          · exact ⟨u', y, by rw [h, List.concat_eq_append]⟩
        rw [hu, List.length_append, List.length_singleton, ← Nat.add_assoc] at he
        simp only []
        rw [hu, he, Nat.add_sub_cancel,
          readOut_mid (A := A ++ H a ++ I u') (x := y) (B := H b ++ B) (by simp) (by simp; omega)]
        obtain ⟨a', b', h1, h2⟩ := ih A B a (b + 1) u' n dl (esc ++ [y]) { d with end_ := A.length + a + u'.length }
          (acc ++ [some y]) hp rfl
        refine ⟨a', b', ?_, by rw [pullsSpec, List.getLast?_concat, List.dropLast_concat, h2]; simp; omega⟩
        simp only [pullsSpec, List.getLast?_concat, List.dropLast_concat]
        have e : A ++ H a ++ I u' ++ Slot.hole :: (H b ++ B) = A ++ H a ++ I u' ++ H (b + 1) ++ B := by simp
        rw [e, h1]
        simp [yielded]

/-- where the cursors of a `Drain` point in a buffer `I head ++ H a ++ I u ++ H b ++ (I tail ++ T)`: the iterator
    covers `u`, the tail waits behind `b` more holes -/
structure DrainAt (d : DrainSt) (head : List Id) (a : Nat) (u : List Id) (b : Nat) (tail : List Id) : Prop where
  ptr : d.ptr = head.length + a
  end_ : d.end_ = head.length + a + u.length
  tailStart : d.tailStart = head.length + a + u.length + b
  tailLen : d.tailLen = tail.length

/-- `Drain::new` on `head ++ range ++ tail` and the pulls of a script: what was pulled has left `range` at its two ends -/
theorem drainOpen (head range tail dl esc : List Id) (k : Nat) (script : List Pull) :
    ∃ a' b' d', drainPulls ⟨I (head ++ (range ++ tail)) ++ H k, head.length, dl, esc⟩
          ⟨head.length + range.length, (head ++ (range ++ tail)).length - (head.length + range.length), head.length,
            head.length + range.length⟩ script [] =
        .ok (⟨I head ++ H a' ++ I (pullsSpec range script).2 ++ H b' ++ (I tail ++ H k), head.length, dl,
              esc ++ yielded (pullsSpec range script).1⟩, d', (pullsSpec range script).1) ∧
      DrainAt d' head a' (pullsSpec range script).2 b' tail ∧ a' + (pullsSpec range script).2.length + b' = range.length := by
  obtain ⟨a', b', hp, hab⟩ := drainPulls_eq script (I head) (I tail ++ H k) 0 0 range head.length dl esc
    ⟨head.length + range.length, (head ++ (range ++ tail)).length - (head.length + range.length), head.length,
      head.length + range.length⟩ [] (by simp) (by simp)
  rw [Nat.zero_add, Nat.add_zero] at hab
  refine ⟨a', b', ⟨head.length + range.length, tail.length, head.length + a', head.length + a' + (pullsSpec range script).2.length⟩,
    ?_, ⟨rfl, rfl, ?_, rfl⟩, hab⟩
  · rw [show I (head ++ (range ++ tail)) ++ H k = I head ++ H 0 ++ I range ++ H 0 ++ (I tail ++ H k) by simp, hp]
    simp [← Nat.add_assoc]
  · show head.length + range.length = _
    rw [← hab]; simp only [Nat.add_assoc]

/-- `if src != dst { copy }` over a gap of `k` holes (`k = 0`: nothing to do) -/
theorem copy_back_or_skip {v : Vec} {A M T : List Slot} {k src dst n : Nat} (hs : v.slots = A ++ H k ++ M ++ T)
    (hsrc : src = A.length + k) (hdst : dst = A.length) (hn : n = M.length) :
    (if src ≠ dst then copy v src dst n else .ok v) = .ok { v with slots := A ++ M ++ H k ++ T } := by
  by_cases h : src ≠ dst
  · rw [if_pos h]; exact copy_back hs hsrc hdst hn
  · rw [if_neg h]
    have hk : k = 0 := by omega
    subst hk
    congr 1
    exact Vec.eq_of (by simp [hs]) rfl rfl rfl

/-- the `DropGuard` of `Drain::drop`: the tail moves back over the gap, the length is restored -/
theorem drainGuard_seg {head tail dl esc : List Id} {k : Nat} {T : List Slot} {d : DrainSt}
    (hts : 0 < d.tailLen → d.tailStart = head.length + k) (htl : d.tailLen = tail.length) :
    drainGuard ⟨I head ++ H k ++ I tail ++ T, head.length, dl, esc⟩ d =
      .ok ⟨I (head ++ tail) ++ H k ++ T, head.length + tail.length, dl, esc⟩ := by
  unfold drainGuard
  split
  · rename_i h
    simp only
    rw [copy_back_or_skip (A := I head) (k := k) (M := I tail) (T := T) rfl (by simp [hts h]) (by simp) (by simp [htl])]
    simp [setLen, htl]
  · obtain rfl : tail = [] := List.eq_nil_of_length_eq_zero (by omega)
    simp

/-- `impl Drop for Drain` on a segmented buffer (`unw`: while unwinding, for the `Drain` of `splice`) -/
theorem spliceDrainDrop_at (bombs : List Id) (unw : Bool) {head u tail dl esc : List Id} {a b : Nat} {T : List Slot}
    {d : DrainSt} (h : DrainAt d head a u b tail) :
    spliceDrainDrop bombs unw ⟨I head ++ H a ++ I u ++ H b ++ (I tail ++ T), head.length, dl, esc⟩ d =
      .ok (⟨I (head ++ tail) ++ H (a + u.length + b) ++ T, head.length + tail.length, dl ++ u, esc⟩,
           !unw && u.any bombs.contains) := by
  unfold spliceDrainDrop
  rw [h.end_, h.ptr, Nat.add_sub_cancel_left,
    dropRange_seg bombs u unw _ (I head ++ H a) (H b ++ (I tail ++ T)) _ (by simp) (by simp)]
  have e : I head ++ H a ++ H u.length ++ (H b ++ (I tail ++ T)) = I head ++ H (a + u.length + b) ++ I tail ++ T := by
    simp [H_add]
  simp only [e]
  rw [drainGuard_seg (fun _ => by rw [h.tailStart]; omega) h.tailLen]

theorem drainDrop_at (bombs : List Id) {head u tail dl esc : List Id} {a b : Nat} {T : List Slot}
    {d : DrainSt} (h : DrainAt d head a u b tail) :
    drainDrop bombs ⟨I head ++ H a ++ I u ++ H b ++ (I tail ++ T), head.length, dl, esc⟩ d =
      .ok (⟨I (head ++ tail) ++ H (a + u.length + b) ++ T, head.length + tail.length, dl ++ u, esc⟩,
           u.any bombs.contains) :=
  spliceDrainDrop_at bombs false h

theorem drainKeepRest_at {head u tail dl esc : List Id} {a b : Nat} {T : List Slot} {d : DrainSt}
    (h : DrainAt d head a u b tail) :
    drainKeepRest ⟨I head ++ H a ++ I u ++ H b ++ (I tail ++ T), head.length, dl, esc⟩ d =
      .ok ⟨I (head ++ u ++ tail) ++ H (a + b) ++ T, head.length + u.length + tail.length, dl, esc⟩ := by
  unfold drainKeepRest
  simp only
  rw [h.end_, h.ptr, Nat.add_sub_cancel_left,
    copy_back_or_skip (A := I head) (k := a) (M := I u) (T := H b ++ (I tail ++ T)) (by simp) (by simp) (by simp) (by simp)]
  simp only
  rw [copy_back_or_skip (A := I head ++ I u) (k := a + b) (M := I tail) (T := T) (by simp [H_add])
    (by simp [h.tailStart]; omega) (by simp) (by simp [h.tailLen])]
  simp [setLen, h.tailLen]

theorem drain_eq (bombs : List Id) (v : Vec) (xs : List Id) (start end_ : Nat) (script : List Pull) (fin : Fin)
    (h : View.fwd.Shape v xs) :
    drain bombs v start end_ script fin =
      .ok ⟨v.after (drainSpec bombs xs start end_ script fin), (drainSpec bombs xs start end_ script fin).exit, []⟩ := by
  revert v
  refine seg_cases fun k dl esc => ?_
  unfold drain drainSpec
  by_cases hr : start > end_ ∨ end_ > xs.length
  · rw [if_pos hr, if_pos hr, after_seg k (by simp)]
    simp
  · obtain ⟨head, range, tail, rfl, rfl, rfl⟩ := exists_range_split (Nat.le_of_not_gt fun h => hr (.inl h))
      (Nat.le_of_not_gt fun h => hr (.inr h))
    obtain ⟨a', b', d', hp, hd, hab⟩ := drainOpen head range tail dl esc k script
    rw [if_neg hr, if_neg hr]
    simp only [setLen, List.take_left, range_mid, range_tail, hp]
    cases fin with
    | drop =>
      simp only
      rw [drainDrop_at bombs hd, after_seg (range.length + k) (by simp; omega), hab]
      simp [H_add]
    | keepRest =>
      simp only
      rw [drainKeepRest_at hd, after_seg (a' + b' + k) (by simp; omega)]
      simp [Nat.add_assoc, H_add]

theorem intoIter_eq (bombs : List Id) (v : Vec) (xs : List Id) (script : List Pull)
    (h : View.fwd.Shape v xs) :
    intoIter bombs v script =
      .ok ⟨v.after (intoIterSpec bombs xs script), (intoIterSpec bombs xs script).exit, []⟩ := by
  revert v
  refine seg_cases fun k dl esc => ?_
  unfold intoIter intoIterSpec
  obtain ⟨a', b', hp, hab⟩ := drainPulls_eq script [] (H k) 0 0 xs 0 dl esc ⟨xs.length, 0, 0, xs.length⟩ [] rfl (by simp)
  simp only [setLen]
  rw [show I xs ++ H k = [] ++ H 0 ++ I xs ++ H 0 ++ H k by simp, hp]
  simp only [List.nil_append, List.length_nil, Nat.zero_add, Nat.add_sub_cancel_left]
  rw [dropRange_seg bombs _ false _ (H a') (H b' ++ H k) a' (by simp) (by simp),
    after_seg (a' + (pullsSpec xs script).2.length + b' + k) (by simp; omega)]
  simp [H_add]

/-- a leaked `Drain`: the pulls happened, nothing else -/
theorem drainForget_seg (head range tail dl esc : List Id) (k : Nat) (script : List Pull) :
    ∃ a' b', drainForget ⟨I (head ++ (range ++ tail)) ++ H k, (head ++ (range ++ tail)).length, dl, esc⟩ head.length
        (head.length + range.length) script =
      .ok ⟨⟨I head ++ H a' ++ I (pullsSpec range script).2 ++ H b' ++ (I tail ++ H k), head.length, dl,
            esc ++ yielded (pullsSpec range script).1⟩, .ret (pullsSpec range script).1, []⟩ := by
  obtain ⟨a', b', d', hp, -, -⟩ := drainOpen head range tail dl esc k script
  refine ⟨a', b', ?_⟩
  unfold drainForget
  rw [if_neg (by simp <;> omega)]
  simp only [setLen, hp]

theorem pullsSpec_perm (script : List Pull) : ∀ (u : List Id),
    ((pullsSpec u script).2 ++ yielded (pullsSpec u script).1).Perm u := by
  induction script with
  | nil => intro u; simp [pullsSpec, yielded]
  | cons p ps ih =>
    intro u
    cases p with
    | front =>
      cases u with
      | nil => simpa [pullsSpec, yielded] using ih []
      | cons x u' =>
        have := ih u'
        simp only [pullsSpec, yielded, List.filterMap_cons, id] at this ⊢
        exact (List.perm_middle).trans (List.Perm.cons x this)
    | back =>
      by_cases hu : u = []
      · subst hu; simpa [pullsSpec, yielded] using ih []
      · have := ih u.dropLast
        simp only [pullsSpec, List.getLast?_eq_some_getLast hu, yielded, List.filterMap_cons, id] at this ⊢
        refine (List.perm_middle).trans ?_
        refine (List.Perm.cons _ this).trans ?_
        conv => rhs; rw [← List.dropLast_concat_getLast hu]
        exact (List.perm_append_singleton _ _).symm

theorem pullsSpec_length (script : List Pull) : ∀ (u : List Id),
    (pullsSpec u script).2.length + (yielded (pullsSpec u script).1).length = u.length := by
  intro u
  simpa using (pullsSpec_perm script u).length_eq

theorem drainSpec_perm (bombs : List Id) (xs : List Id) (start end_ : Nat) (script : List Pull) (fin : Fin) :
    ((drainSpec bombs xs start end_ script fin).final ++ (drainSpec bombs xs start end_ script fin).dropped ++
      (drainSpec bombs xs start end_ script fin).escaped).Perm xs := by
  unfold drainSpec
  split
  · simp
  · rename_i hr
    have hxs := range_split_eq xs (Nat.le_of_not_gt (not_or.1 hr).1)
    have hp := pullsSpec_perm script ((xs.take end_).drop start)
    cases fin with
    | drop =>
      simp only
      conv => rhs; rw [hxs]
      simp only [List.append_assoc]
      refine List.Perm.append_left _ ?_
      -- tail ++ (u ++ ys) ~ range ++ tail
      refine List.perm_append_comm.trans ?_
      exact List.Perm.append_right _ hp
    | keepRest =>
      simp only [List.append_nil]
      conv => rhs; rw [hxs]
      simp only [List.append_assoc]
      refine List.Perm.append_left _ ?_
      -- u ++ (tail ++ ys) ~ range ++ tail
      refine (List.Perm.append_left _ List.perm_append_comm).trans ?_
      rw [← List.append_assoc]
      exact List.Perm.append_right _ hp

theorem intoIterSpec_perm (bombs : List Id) (xs : List Id) (script : List Pull) :
    ((intoIterSpec bombs xs script).final ++ (intoIterSpec bombs xs script).dropped ++
      (intoIterSpec bombs xs script).escaped).Perm xs := by
  simpa [intoIterSpec] using pullsSpec_perm script xs

end Coll
