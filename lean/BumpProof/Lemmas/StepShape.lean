/-
  Lemmas/StepShape.lean — the shape of a successful step, constructor by constructor: `ok_X` inverts
  `stepCore cfg g (.X ..) = .ok (g', out)` into the guards that passed (in natural form: `L.Valid`,
  `g.s.prepared = none`, …), the equation of every model-function call with its arguments, and `g'` and `out`
  in terms of the results.  The step-level theorems (`inv_X`, `stepCore_no_release`, `sizes_stepCore`,
  `memExt_stepCore`, `bytes_X`, …) start from these instead of taking `stepCore` apart.
  (`.allocTryWith` is in Lemmas/StepTryWith.lean; the paths of the reallocating model functions, `grow_paths`,
  `shrink_paths`, …, are in Lemmas/FnRealloc.lean.)

  Proofs go through the term with `bind_eq_ok`, `guard_ok` and `ite_eq_ok`; `unfold stepCore` followed by
  `split` on an `if … then throw` is slow to check, because `split` abstracts the whole remaining step.
  The guards of the model are inverted at the start (`validLayout_valid`, with `p2_of_is_power_of_two`;
  `noPrepared_ok`, `noFrames_ok`, `pristine_of_check`, …).
-/
import BumpProof.Arena.Inv
import BumpProof.Arena.Step
import BumpProof.Lemmas.LedgerAlloc
set_option linter.unusedSimpArgs false
set_option linter.unusedVariables false
namespace Arena.Hist
open Rs Ledger

variable {cfg : Cfg} {g g' : GState} {out : Out}

/-- a passed guard `if c then throw e` in front of the rest `k` of a step -/
theorem guard_ok {c : Prop} [Decidable c] {e : Fault} {α β : Type} {f : α → R β} {k : R β} {b : β}
    (h : (if c then throw e >>= f else k) = .ok b) : ¬c ∧ k = .ok b := by
  by_cases hc : c
  · rw [if_pos hc] at h; cases h
  · rw [if_neg hc] at h; exact ⟨hc, h⟩

export Arena.Fn (ite_eq_ok)


/-! ## the guards in the form the model tests them -/

/-- the bit test `a ≠ 0 ∧ a &&& (a - 1) = 0` of `is_power_of_two` holds only of powers of two (the converse is
    `Lemmas.P2.is_power_of_two`): halve `a` and the test still holds -/
theorem p2_of_is_power_of_two : ∀ a : Nat, Rs.is_power_of_two a = true → ∃ k, a = 2 ^ k := by
  intro a
  induction a using Nat.strongRecOn with
  | _ a ih =>
    intro h
    unfold Rs.is_power_of_two at h
    simp only [Bool.and_eq_true, bne_iff_ne, ne_eq, beq_iff_eq] at h
    obtain ⟨h0, hand⟩ := h
    by_cases h1 : a = 1
    · exact ⟨0, h1⟩
    · have hshift : (a >>> 1) &&& ((a - 1) >>> 1) = 0 := by
        rw [← Nat.shiftRight_and_distrib, hand]; simp
      simp only [Nat.shiftRight_eq_div_pow, Nat.pow_one] at hshift
      rcases Nat.mod_two_eq_zero_or_one a with hm | hm
      · have e : (a - 1) / 2 = a / 2 - 1 := by omega
        rw [e] at hshift
        have hb : Rs.is_power_of_two (a / 2) = true := by
          unfold Rs.is_power_of_two
          simp only [Bool.and_eq_true, bne_iff_ne, ne_eq, beq_iff_eq]
          exact ⟨by omega, hshift⟩
        obtain ⟨k, hk⟩ := ih (a / 2) (by omega) hb
        exact ⟨k + 1, by rw [Nat.pow_succ]; omega⟩
      · have e : (a - 1) / 2 = a / 2 := by omega
        rw [e, Nat.and_self] at hshift
        omega

theorem validLayout_valid {L : Layout} {u : Unit} (h : validLayout L = .ok u) : L.Valid := by
  unfold validLayout at h
  split at h
  · rename_i hc
    simp only [Bool.and_eq_true, decide_eq_true_eq] at hc
    obtain ⟨⟨_, hp⟩, hs⟩ := hc
    obtain ⟨k, hk⟩ := p2_of_is_power_of_two _ hp
    refine ⟨⟨k, ?_, hk⟩, hs⟩
    have himax : Rs.IMAX < 2 ^ 63 := by decide
    have : 2 ^ k ≤ 2 ^ 63 := by rw [← hk]; omega
    by_cases hlt : k < 64
    · exact hlt
    · exfalso
      have : 2 ^ 64 ≤ 2 ^ k := Nat.pow_le_pow_right (by decide) (by omega)
      have : (2:Nat) ^ 63 < 2 ^ 64 := by decide
      omega
  · cases h

theorem noPrepared_ok {s : State} {u : Unit} (h : noPrepared s = .ok u) : s.prepared = none := by
  unfold noPrepared at h
  split at h
  · rename_i hc; simpa using hc
  · cases h

theorem noFrames_ok {s : State} {u : Unit} (h : noFrames s = .ok u) : s.frames = [] := by
  unfold noFrames at h
  split at h
  · rename_i hc; simpa using hc
  · cases h

/-- the guards `validLayout`, `noPrepared` passed, in front of the rest `k` of a step -/
theorem validLayout_then {L : Layout} {β : Type} {k : Unit → R β} {b : β} (h : (validLayout L >>= k) = .ok b) :
    L.Valid ∧ k () = .ok b :=
  let ⟨_, hv, h⟩ := bind_eq_ok h; ⟨validLayout_valid hv, h⟩

theorem noPrepared_then {s : State} {β : Type} {k : Unit → R β} {b : β} (h : (noPrepared s >>= k) = .ok b) :
    s.prepared = none ∧ k () = .ok b :=
  let ⟨_, hp, h⟩ := bind_eq_ok h; ⟨noPrepared_ok hp, h⟩

theorem minAlignOK_of_check {n : Nat} (h : (n == 1 || n == 2 || n == 4 || n == 8 || n == 16) = true) : MinAlignOK n := by
  simp only [Bool.or_eq_true, beq_iff_eq] at h
  rcases h with (((h | h) | h) | h) | h
  · exact .inl h
  · exact .inr (.inl h)
  · exact .inr (.inr (.inl h))
  · exact .inr (.inr (.inr (.inl h)))
  · exact .inr (.inr (.inr (.inr h)))

theorem pristine_of_check {s : State} (h : ¬ (!s.chunks.isEmpty || s.cur != .unallocated) = true) :
    s.chunks = [] ∧ s.cur = .unallocated := by
  simp only [Bool.or_eq_true, Bool.not_eq_true', bne_iff_ne, ne_eq, not_or, Bool.not_eq_false, Decidable.not_not,
    List.isEmpty_iff] at h
  exact h

theorem minAlignOK_of_not_check {n : Nat}
    (h : ¬ ((!(n == 1 || n == 2 || n == 4 || n == 8 || n == 16)) = true)) : MinAlignOK n :=
  minAlignOK_of_check (Bool.of_not_eq_false fun hf => h (by rw [hf]; rfl))

theorem sma_of_check {hh : Hints} {L : Layout} (hchk : ¬(hh.sma && L.size % L.align != 0) = true) :
    hh.sma = true → L.align ∣ L.size := by
  intro hsma
  simp only [hsma, Bool.true_and, bne_iff_ne, ne_eq, Decidable.not_not] at hchk
  exact Nat.dvd_of_mod_eq_zero hchk

theorem dvd_of_check {a b : Nat} (hchk : ¬(a % b != 0) = true) : b ∣ a := by
  simp only [bne_iff_ne, ne_eq, Decidable.not_not] at hchk
  exact Nat.dvd_of_mod_eq_zero hchk

/-! ## constructors, destructor -/

theorem ok_newWithSize {n : Nat} (hs : stepCore cfg g (.newWithSize n) = .ok (g', out)) :
    g.s.chunks = [] ∧ g.s.cur = .unallocated ∧ ∃ o, calcSize cfg n = .ok o ∧
      match o with
      | none => g' = g ∧ out = .err .capacityOverflow
      | some size => ∃ s1 r, newChunk cfg g.s size = .ok (s1, r) ∧
          match r with
          | .error e => g' = ⟨s1, g.marks⟩ ∧ out = .err e
          | .ok i => g' = ⟨{ s1 with cur := .chunk i }, g.marks⟩ ∧ out = .unit := by
  obtain ⟨hc, hs⟩ := guard_ok hs
  obtain ⟨o, ho, hs⟩ := bind_eq_ok hs
  refine ⟨(pristine_of_check hc).1, (pristine_of_check hc).2, o, ho, ?_⟩
  cases o with
  | none => cases hs; exact ⟨rfl, rfl⟩
  | some size =>
    obtain ⟨⟨s1, r⟩, h1, hs⟩ := bind_eq_ok hs
    refine ⟨s1, r, h1, ?_⟩
    cases r <;> cases hs <;> exact ⟨rfl, rfl⟩

theorem ok_newWithCapacity {L : Layout} (hs : stepCore cfg g (.newWithCapacity L) = .ok (g', out)) :
    L.Valid ∧ g.s.chunks = [] ∧ g.s.cur = .unallocated ∧
    ∃ s1 r, newChunkForCapacity cfg g.s L = .ok (s1, r) ∧
      match r with
      | .error e => g' = ⟨s1, g.marks⟩ ∧ out = .err e
      | .ok i => g' = ⟨{ s1 with cur := .chunk i }, g.marks⟩ ∧ out = .unit := by
  obtain ⟨hv, hs⟩ := validLayout_then hs
  obtain ⟨hc, hs⟩ := guard_ok hs
  obtain ⟨⟨s1, r⟩, h1, hs⟩ := bind_eq_ok hs
  refine ⟨hv, (pristine_of_check hc).1, (pristine_of_check hc).2, s1, r, h1, ?_⟩
  cases r <;> cases hs <;> exact ⟨rfl, rfl⟩

theorem ok_newUnallocated (hs : stepCore cfg g .newUnallocated = .ok (g', out)) : g' = g ∧ out = .unit := by
  rcases ite_eq_ok hs with ⟨_, hs⟩ | ⟨_, hs⟩ <;> cases hs
  exact ⟨rfl, rfl⟩

/-- `drop`, `reset`, `reset_to_start`: exclusive access, then one total function `f` on the whole arena; nothing stays live -/
theorem ok_wholeArena {f : State → State}
    (hs : (do noFrames g.s; noPrepared g.s
              pure ({ g with s := { f g.s with live := [], userCps := [] } }, Out.unit) : R (GState × Out)) = .ok (g', out)) :
    g.s.frames = [] ∧ g.s.prepared = none ∧ g' = ⟨{ f g.s with live := [], userCps := [] }, g.marks⟩ ∧ out = .unit := by
  obtain ⟨_, hf, hs⟩ := bind_eq_ok hs
  obtain ⟨_, hp, hs⟩ := bind_eq_ok hs
  cases hs
  exact ⟨noFrames_ok hf, noPrepared_ok hp, rfl, rfl⟩

theorem ok_drop (hs : stepCore cfg g .drop = .ok (g', out)) :
    g.s.frames = [] ∧ g.s.prepared = none ∧
    g' = ⟨{ manuallyDrop cfg g.s with live := [], userCps := [] }, g.marks⟩ ∧ out = .unit :=
  ok_wholeArena hs

/-! ## the allocator interface -/

theorem ok_allocate {L : Layout} {z : Bool} {via : Via} (hs : stepCore cfg g (.allocate L z via) = .ok (g', out)) :
    L.Valid ∧ g.s.prepared = none ∧ ∃ s1 r, alloc cfg g.s L = .ok (s1, r) ∧
      match r with
      | .error e => g' = ⟨s1, g.marks⟩ ∧ out = .err e
      | .ok p => ∃ s2, (if z then zeroRange cfg s1 p L.size else pure s1) = .ok s2 ∧
          g' = ⟨(addBlock s2 p L.size L.align (if z then L.size else 0)).1, g.marks⟩ ∧
          out = .block s2.nextId p L.size := by
  obtain ⟨hv, hs⟩ := validLayout_then hs
  obtain ⟨hp, hs⟩ := noPrepared_then hs
  obtain ⟨⟨s1, r⟩, h1, hs⟩ := bind_eq_ok hs
  refine ⟨hv, hp, s1, r, h1, ?_⟩
  cases r with
  | error e => cases hs; exact ⟨rfl, rfl⟩
  | ok p =>
    cases z
    · cases hs; exact ⟨s1, rfl, rfl, rfl⟩
    · obtain ⟨s2, hz, hs⟩ := bind_eq_ok hs
      cases hs; exact ⟨s2, hz, rfl, rfl⟩

theorem ok_allocLayout {L : Layout} {h : Hints} (hs : stepCore cfg g (.allocLayout L h) = .ok (g', out)) :
    L.Valid ∧ g.s.prepared = none ∧ (h.sma = true → L.align ∣ L.size) ∧
    ∃ s1 r, allocGeneric cfg .alloc g.s L h Hints.custom = .ok (s1, r) ∧
      match r with
      | .error e => g' = ⟨s1, g.marks⟩ ∧ out = .err e
      | .ok (p, _) => g' = ⟨(addBlock s1 p L.size L.align 0).1, g.marks⟩ ∧ out = .block s1.nextId p L.size := by
  obtain ⟨hv, hs⟩ := validLayout_then hs
  obtain ⟨hp, hs⟩ := noPrepared_then hs
  obtain ⟨hc, hs⟩ := guard_ok hs
  obtain ⟨⟨s1, r⟩, h1, hs⟩ := bind_eq_ok hs
  refine ⟨hv, hp, sma_of_check hc, s1, r, h1, ?_⟩
  cases r <;> cases hs <;> exact ⟨rfl, rfl⟩

theorem ok_deallocate {b : Nat} {via : Via} (hs : stepCore cfg g (.deallocate b via) = .ok (g', out)) :
    g.s.prepared = none ∧ ∃ blk, findBlock g.s b = .ok blk ∧
    ∃ s1, (if via == .withoutDealloc then pure g.s else deallocate cfg g.s blk.addr blk.size) = .ok s1 ∧
      g' = ⟨removeBlock s1 b, g.marks⟩ ∧ out = .unit := by
  obtain ⟨hp, hs⟩ := noPrepared_then hs
  obtain ⟨blk, hb, hs⟩ := bind_eq_ok hs
  refine ⟨hp, blk, hb, ?_⟩
  by_cases hc : (via == .withoutDealloc) = true
  · rw [if_pos hc] at hs ⊢; cases hs; exact ⟨_, rfl, rfl, rfl⟩
  · rw [if_neg hc] at hs ⊢
    obtain ⟨s1, h1, hs⟩ := bind_eq_ok hs
    cases hs; exact ⟨s1, h1, rfl, rfl⟩

theorem ok_grow {b : Nat} {L : Layout} {z : Bool} {via : Via} (hs : stepCore cfg g (.grow b L z via) = .ok (g', out)) :
    L.Valid ∧ g.s.prepared = none ∧ ∃ blk, findBlock g.s b = .ok blk ∧ blk.size ≤ L.size ∧
    ∃ s1 r, grow cfg g.s blk.addr blk.size L = .ok (s1, r) ∧
      match r with
      | .error e => g' = ⟨s1, g.marks⟩ ∧ out = .err e
      | .ok np => ∃ s2, (if z then zeroRange cfg s1 (np + blk.size) (L.size - blk.size) else pure s1) = .ok s2 ∧
          g' = ⟨(addBlock (removeBlock s2 b) np L.size L.align
                  (if z && blk.init == blk.size then L.size else blk.init)).1, g.marks⟩ ∧
          out = .block s2.nextId np L.size := by
  obtain ⟨hv, hs⟩ := validLayout_then hs
  obtain ⟨hp, hs⟩ := noPrepared_then hs
  obtain ⟨blk, hb, hs⟩ := bind_eq_ok hs
  refine ⟨hv, hp, blk, hb, ?_⟩
  obtain ⟨hlt, hs⟩ := guard_ok hs
  obtain ⟨⟨s1, r⟩, h1, hs⟩ := bind_eq_ok hs
  refine ⟨Nat.le_of_not_lt hlt, s1, r, h1, ?_⟩
  cases r with
  | error e => cases hs; exact ⟨rfl, rfl⟩
  | ok np =>
    cases z
    · cases hs; exact ⟨s1, rfl, rfl, rfl⟩
    · obtain ⟨s2, hz, hs⟩ := bind_eq_ok hs
      cases hs; exact ⟨s2, hz, rfl, rfl⟩

theorem ok_shrink {b : Nat} {L : Layout} {via : Via} (hs : stepCore cfg g (.shrink b L via) = .ok (g', out)) :
    L.Valid ∧ g.s.prepared = none ∧ ∃ blk, findBlock g.s b = .ok blk ∧ L.size ≤ blk.size ∧
    ∃ s1 r, (if via == .withoutShrink then shrinkWithoutShrink cfg g.s blk.addr blk.size L
             else shrink cfg g.s blk.addr blk.size L) = .ok (s1, r) ∧
      match r with
      | .error e => g' = ⟨s1, g.marks⟩ ∧ out = .err e
      | .ok (np, nsize) =>
          g' = ⟨(addBlock (removeBlock s1 b) np nsize L.align (Nat.min blk.init L.size)).1, g.marks⟩ ∧
          out = .block s1.nextId np nsize := by
  obtain ⟨hv, hs⟩ := validLayout_then hs
  obtain ⟨hp, hs⟩ := noPrepared_then hs
  obtain ⟨blk, hb, hs⟩ := bind_eq_ok hs
  refine ⟨hv, hp, blk, hb, ?_⟩
  obtain ⟨hgt, hs⟩ := guard_ok hs
  refine ⟨Nat.le_of_not_lt hgt, ?_⟩
  by_cases hw : (via == .withoutShrink) = true
  · rw [if_pos hw] at hs ⊢
    obtain ⟨⟨s1, r⟩, h1, hs⟩ := bind_eq_ok hs
    refine ⟨s1, r, h1, ?_⟩
    cases r <;> cases hs <;> exact ⟨rfl, rfl⟩
  · rw [if_neg hw] at hs ⊢
    obtain ⟨⟨s1, r⟩, h1, hs⟩ := bind_eq_ok hs
    refine ⟨s1, r, h1, ?_⟩
    cases r <;> cases hs <;> exact ⟨rfl, rfl⟩

theorem ok_shrinkSlice {b newSize : Nat} (hs : stepCore cfg g (.shrinkSlice b newSize) = .ok (g', out)) :
    g.s.prepared = none ∧ ∃ blk, findBlock g.s b = .ok blk ∧ newSize ≤ blk.size ∧
    ∃ s1 r, shrinkSlice cfg g.s blk.addr blk.size newSize blk.align = .ok (s1, r) ∧
      match r with
      | none => g' = ⟨s1, g.marks⟩ ∧ out = .none_
      | some np =>
          g' = ⟨(addBlock (removeBlock s1 b) np newSize blk.align (Nat.min blk.init newSize)).1, g.marks⟩ ∧
          out = .block s1.nextId np newSize := by
  obtain ⟨hp, hs⟩ := noPrepared_then hs
  obtain ⟨blk, hb, hs⟩ := bind_eq_ok hs
  refine ⟨hp, blk, hb, ?_⟩
  obtain ⟨hgt, hs⟩ := guard_ok hs
  obtain ⟨⟨s1, r⟩, h1, hs⟩ := bind_eq_ok hs
  refine ⟨Nat.le_of_not_lt hgt, s1, r, h1, ?_⟩
  cases r <;> cases hs <;> exact ⟨rfl, rfl⟩

/-! ## prepared allocations -/

theorem ok_prepare {L : Layout} (hs : stepCore cfg g (.prepare L) = .ok (g', out)) :
    L.Valid ∧ g.s.prepared = none ∧ L.align ∣ L.size ∧
    ∃ s1 r, allocGeneric cfg .range g.s L Hints.custom Hints.custom = .ok (s1, r) ∧
      match r with
      | .error e => g' = ⟨s1, g.marks⟩ ∧ out = .err e
      | .ok (a, b) =>
          g' = ⟨{ s1 with prepared := some { rstart := a, rend := b, esize := 1, ealign := L.align,
                                              typed := false, rev := false } }, g.marks⟩ ∧
          out = .block 0 a (b - a) := by
  obtain ⟨hv, hs⟩ := validLayout_then hs
  obtain ⟨hp, hs⟩ := noPrepared_then hs
  obtain ⟨hc, hs⟩ := guard_ok hs
  obtain ⟨⟨s1, r⟩, h1, hs⟩ := bind_eq_ok hs
  refine ⟨hv, hp, dvd_of_check hc, s1, r, h1, ?_⟩
  cases r <;> cases hs <;> exact ⟨rfl, rfl⟩

theorem ok_commit {size : Nat} {rev : Bool} (hs : stepCore cfg g (.commit size rev) = .ok (g', out)) :
    ∃ p, g.s.prepared = some p ∧ p.typed = false ∧ size ≤ p.rend - p.rstart ∧ p.ealign ∣ size ∧
    ∃ s1 addr, allocatePrepared cfg { g.s with prepared := none } size p.rstart p.rend rev = .ok (s1, addr) ∧
      g' = ⟨(addBlock s1 addr size p.ealign size).1, g.marks⟩ ∧ out = .block s1.nextId addr size := by
  conv at hs => lhs; whnf
  split at hs
  · rename_i p hp
    refine ⟨p, hp, ?_⟩
    obtain ⟨ht, hs⟩ := guard_ok hs
    obtain ⟨hc, hs⟩ := guard_ok hs
    obtain ⟨⟨s1, addr⟩, h1, hs⟩ := bind_eq_ok hs
    cases hs
    simp only [Bool.or_eq_true, decide_eq_true_eq, bne_iff_ne, ne_eq, not_or, Nat.not_lt,
      Decidable.not_not] at hc
    exact ⟨by simpa using ht, hc.1, Nat.dvd_of_mod_eq_zero hc.2, s1, addr, h1, rfl, rfl⟩
  · cases hs

/-- the element slots of a typed prepared allocation inside the range `[a, b)` the allocator handed out:
    as many whole elements as fit, starting at the allocated end -/
def sliceRange (cfg : Cfg) (esize a b : Nat) : Nat × Nat :=
  if cfg.up then (a, a + (b - a) / esize * esize) else (b - (b - a) / esize * esize, b)

theorem ok_prepareSlice {esize ealign minCap : Nat} {rev : Bool}
    (hs : stepCore cfg g (.prepareSlice esize ealign minCap rev) = .ok (g', out)) :
    esize ≠ 0 ∧ ealign ∣ esize ∧
    (g' = g ∧ out = .err .capacityOverflow ∨
     layoutOk (esize * minCap) ealign = true ∧
     ∃ s1 r, allocGeneric cfg .range g.s ⟨esize * minCap, ealign⟩ Hints.array Hints.array = .ok (s1, r) ∧
      match r with
      | .error e => g' = ⟨s1, g.marks⟩ ∧ out = .err e
      | .ok (a, b) =>
          g' = ⟨{ s1 with prepared := some { rstart := (sliceRange cfg esize a b).1, rend := (sliceRange cfg esize a b).2,
                                              esize := esize, ealign := ealign, typed := true, rev := rev } }, g.marks⟩ ∧
          out = .block (if rev then 1 else 0)
            (if rev then (sliceRange cfg esize a b).2 else (sliceRange cfg esize a b).1) ((b - a) / esize)) := by
  obtain ⟨hc, hs⟩ := guard_ok hs
  simp only [Bool.or_eq_true, beq_iff_eq, bne_iff_ne, ne_eq, not_or, Decidable.not_not] at hc
  refine ⟨hc.1, Nat.dvd_of_mod_eq_zero hc.2, ?_⟩
  unfold Rs.checked_mul at hs
  split at hs
  · cases hs; exact .inl ⟨rfl, rfl⟩
  · rename_i bytes hb
    split at hb
    · cases hb
      by_cases hl : (!layoutOk (esize * minCap) ealign) = true
      · rw [if_pos hl] at hs; cases hs; exact .inl ⟨rfl, rfl⟩
      · rw [if_neg hl] at hs
        obtain ⟨⟨s1, r⟩, h1, hs⟩ := bind_eq_ok hs
        refine .inr ⟨Fn.layoutOk_of_not hl, s1, r, h1, ?_⟩
        cases r with
        | error e => cases hs; exact ⟨rfl, rfl⟩
        | ok v =>
          obtain ⟨a, b⟩ := v
          cases rev <;> cases hs <;> exact ⟨rfl, rfl⟩
    · cases hb

theorem ok_fillPrepared {len seed : Nat} (hs : stepCore cfg g (.fillPrepared len seed) = .ok (g', out)) :
    ∃ p, g.s.prepared = some p ∧ len * p.esize ≤ p.rend - p.rstart ∧
    ∃ s1, writeRange cfg g.s (if seed % 2 == 0 then p.rstart else p.rend - len * p.esize)
        ((if seed % 2 == 0 then p.rstart else p.rend - len * p.esize) + len * p.esize)
        (fun a => pattern seed (a - (if seed % 2 == 0 then p.rstart else p.rend - len * p.esize))) = .ok s1 ∧
      g' = ⟨s1, g.marks⟩ ∧ out = .unit := by
  conv at hs => lhs; whnf
  split at hs
  · rename_i p hp
    obtain ⟨hc, hs⟩ := guard_ok hs
    obtain ⟨s1, h1, hs⟩ := bind_eq_ok hs
    cases hs
    exact ⟨p, hp, Nat.le_of_not_lt hc, s1, h1, rfl, rfl⟩
  · cases hs

theorem ok_commitSlice {len : Nat} (hs : stepCore cfg g (.commitSlice len) = .ok (g', out)) :
    ∃ p, g.s.prepared = some p ∧ p.typed = true ∧ len ≤ (p.rend - p.rstart) / p.esize ∧
    ∃ s1 addr, allocatePreparedSlice cfg { g.s with prepared := none } (if p.rev then p.rend else p.rstart) len
        ((p.rend - p.rstart) / p.esize) p.esize p.ealign p.rev = .ok (s1, addr) ∧
      g' = ⟨(addBlock s1 addr (len * p.esize) p.ealign (len * p.esize)).1, g.marks⟩ ∧
      out = .block s1.nextId addr (len * p.esize) := by
  conv at hs => lhs; whnf
  split at hs
  · rename_i p hp
    obtain ⟨ht, hs⟩ := guard_ok hs
    obtain ⟨hc, hs⟩ := guard_ok hs
    obtain ⟨⟨s1, addr⟩, h1, hs⟩ := bind_eq_ok hs
    cases hs
    exact ⟨p, hp, by simpa using ht, Nat.le_of_not_lt hc, s1, addr, h1, rfl, rfl⟩
  · cases hs

theorem ok_abandonPrepared (hs : stepCore cfg g .abandonPrepared = .ok (g', out)) :
    g' = ⟨{ g.s with prepared := none }, g.marks⟩ ∧ out = .unit := by
  conv at hs => lhs; whnf
  split at hs <;> cases hs
  exact ⟨rfl, rfl⟩

theorem ok_reserve {n : Nat} {dyn : Bool} (hs : stepCore cfg g (.reserve n dyn) = .ok (g', out)) :
    g.s.prepared = none ∧
    ∃ s1 r, (if dyn then reserveDyn cfg g.s n else reserve cfg g.s n) = .ok (s1, r) ∧ g' = ⟨s1, g.marks⟩ ∧
      out = match r with | .error e => .err e | .ok _ => .unit := by
  obtain ⟨hp, hs⟩ := noPrepared_then hs
  obtain ⟨⟨s1, r⟩, h1, hs⟩ := bind_eq_ok hs
  refine ⟨hp, s1, r, h1, ?_⟩
  cases r <;> cases hs <;> exact ⟨rfl, rfl⟩

/-! ## scopes, checkpoints, resets -/

theorem ok_scopeEnter (hs : stepCore cfg g .scopeEnter = .ok (g', out)) :
    g.s.prepared = none ∧
    g' = ⟨{ g.s with frames := .scope (checkpoint cfg g.s) :: g.s.frames }, g.s.nextId :: g.marks⟩ ∧ out = .unit := by
  obtain ⟨hp, hs⟩ := noPrepared_then hs
  cases hs
  exact ⟨hp, rfl, rfl⟩

theorem ok_scopeExit (hs : stepCore cfg g .scopeExit = .ok (g', out)) :
    g.s.prepared = none ∧ ∃ cp rest m ms s1, g.s.frames = .scope cp :: rest ∧ g.marks = m :: ms ∧
      resetTo cfg g.s cp = .ok s1 ∧ g' = ⟨killFrom { s1 with frames := rest } m, ms⟩ ∧ out = .unit := by
  obtain ⟨hp, hs⟩ := noPrepared_then hs
  refine ⟨hp, ?_⟩
  split at hs
  · rename_i cp rest m ms hf hm
    obtain ⟨s1, h1, hs⟩ := bind_eq_ok hs
    cases hs
    exact ⟨cp, rest, m, ms, s1, hf, hm, h1, rfl, rfl⟩
  · cases hs

theorem ok_checkpoint {k : Nat} (hs : stepCore cfg g (.checkpoint k) = .ok (g', out)) :
    g.s.prepared = none ∧ g.s.cur ≠ .claimed ∧
    g' = ⟨{ g.s with userCps := (k, checkpoint cfg g.s, g.s.nextId) :: g.s.userCps.filter (·.1 != k) }, g.marks⟩ ∧
    out = .unit := by
  obtain ⟨hp, hs⟩ := noPrepared_then hs
  obtain ⟨hc, hs⟩ := guard_ok hs
  cases hs
  exact ⟨hp, by simpa using hc, rfl, rfl⟩

theorem ok_resetTo {k : Nat} (hs : stepCore cfg g (.resetTo k) = .ok (g', out)) :
    g.s.prepared = none ∧ ∃ x cp mark s1, g.s.userCps.find? (·.1 == k) = some (x, cp, mark) ∧
      g.marks.any (fun m => m > mark) = false ∧ g.s.cur ≠ .claimed ∧ resetTo cfg g.s cp = .ok s1 ∧
      g' = ⟨killFrom s1 mark, g.marks⟩ ∧ out = .unit := by
  obtain ⟨hp, hs⟩ := noPrepared_then hs
  refine ⟨hp, ?_⟩
  split at hs
  · cases hs
  · rename_i x cp mark hfind
    obtain ⟨hm, hs⟩ := guard_ok hs
    obtain ⟨hc, hs⟩ := guard_ok hs
    obtain ⟨s1, h1, hs⟩ := bind_eq_ok hs
    cases hs
    exact ⟨x, cp, mark, s1, hfind, by simpa using hm, by simpa using hc, h1, rfl, rfl⟩

theorem ok_reset (hs : stepCore cfg g .reset = .ok (g', out)) :
    g.s.frames = [] ∧ g.s.prepared = none ∧
    g' = ⟨{ reset cfg g.s with live := [], userCps := [] }, g.marks⟩ ∧ out = .unit :=
  ok_wholeArena hs

theorem ok_resetToStart (hs : stepCore cfg g .resetToStart = .ok (g', out)) :
    g.s.frames = [] ∧ g.s.prepared = none ∧
    g' = ⟨{ resetToStart cfg g.s with live := [], userCps := [] }, g.marks⟩ ∧ out = .unit :=
  ok_wholeArena hs

/-! ## claims -/

theorem ok_claim (hs : stepCore cfg g .claim = .ok (g', out)) :
    g.s.prepared = none ∧ cfg.claimable = true ∧
    g' = ⟨{ g.s with frames := .claim :: g.s.frames }, g.marks⟩ ∧ out = .unit := by
  obtain ⟨hp, hs⟩ := noPrepared_then hs
  obtain ⟨hc, hs⟩ := guard_ok hs
  cases hs
  exact ⟨hp, by simpa using hc, rfl, rfl⟩

theorem ok_claimEnd (hs : stepCore cfg g .claimEnd = .ok (g', out)) :
    g.s.prepared = none ∧ ∃ rest, g.s.frames = .claim :: rest ∧
      g' = ⟨{ g.s with frames := rest }, g.marks⟩ ∧ out = .unit := by
  obtain ⟨hp, hs⟩ := noPrepared_then hs
  refine ⟨hp, ?_⟩
  split at hs
  · rename_i rest hf
    cases hs
    exact ⟨rest, hf, rfl, rfl⟩
  · cases hs

theorem deallocate_claimed_eq {s s' : State} {ptr size : Nat} (hc : s.cur = .claimed)
    (h : deallocate cfg s ptr size = .ok s') : s' = s := by
  rcases Fn.deallocate_inv h with rfl | ⟨_, _, hcur, _⟩
  · rfl
  · rw [hc] at hcur; cases hcur

theorem shrink_claimed_eq {s s' : State} {ptr oldSize : Nat} {newL : Layout} {r : Except AErr (Nat × Nat)}
    (hc : s.cur = .claimed) (hfit : alignFits ptr newL.align = true)
    (h : shrink cfg s ptr oldSize newL = .ok (s', r)) : s' = s ∧ r = .ok (ptr, oldSize) := by
  obtain ⟨_, _, h⟩ := bind_eq_ok h
  rw [if_neg (by rw [hfit]; exact Bool.false_ne_true)] at h
  rcases ite_eq_ok h with ⟨_, h⟩ | ⟨_, h⟩
  · cases h; exact ⟨rfl, rfl⟩
  · -- an in-place shrink ends in `as_non_dummy_unchecked` on the dummy chunk
    rcases ite_eq_ok h with ⟨_, h⟩ | ⟨_, h⟩
    · obtain ⟨_, _, h⟩ := bind_eq_ok h
      obtain ⟨_, _, h⟩ := bind_eq_ok h
      rw [hc] at h; cases h
    · obtain ⟨_, _, h⟩ := bind_eq_ok h
      obtain ⟨_, _, h⟩ := bind_eq_ok h
      obtain ⟨_, _, h⟩ := bind_eq_ok h
      rw [hc] at h; cases h

theorem claimed_err_alloc {s s' : State} {L : Layout} {e : AErr} (hc : s.cur = .claimed)
    (h : alloc cfg s L = .ok (s', .error e)) : e = .claimed :=
  ((((alloc_frame h).2.2.2 e rfl).2.err e rfl).2.2.2).2 hc

theorem claimed_err_allocGeneric {k : Kind} {s s' : State} {L : Layout} {h1 h2 : Hints} {e : AErr}
    (hc : s.cur = .claimed) (h : allocGeneric cfg k s L h1 h2 = .ok (s', .error e)) : e = .claimed :=
  ((((allocGeneric_frame h).2.2.2 e rfl).2.err e rfl).2.2.2).2 hc

theorem claimed_err_grow {s s' : State} {p o : Nat} {L : Layout} {e : AErr} (hc : s.cur = .claimed)
    (h : grow cfg s p o L = .ok (s', .error e)) : e = .claimed :=
  (grow_error h).elim (fun h1 => (((inAnotherChunk_frame h1).err e rfl).2.2.2).2 hc) (claimed_err_alloc hc)

theorem claimed_err_reserve {s s' : State} {n : Nat} {e : AErr} (hc : s.cur = .claimed)
    (h : reserve cfg s n = .ok (s', .error e)) : e = .claimed :=
  ((((reserve_frame h).2.1).err e rfl).2.2.2).2 hc

theorem claimed_err_reserveDyn {s s' : State} {n : Nat} {e : AErr} (hc : s.cur = .claimed)
    (h : reserveDyn cfg s n = .ok (s', .error e)) : e = .claimed ∨ (e = .capacityOverflow ∧ ¬ n ≤ Rs.IMAX) := by
  rcases reserveDyn_cases h with ⟨-, hr, hl⟩ | ⟨-, r1, h1, hr⟩
  · cases hr
    exact .inr ⟨rfl, by simpa [layoutOk] using hl⟩
  · cases r1 with
    | ok v => cases hr
    | error e1 => cases hr; exact .inl (claimed_err_allocGeneric hc h1)

/-- an operation addressed to the claimed handle: the handle refuses with `claimed` (a second `claim` panics; a
    `dyn` reserve above `isize::MAX` reports `capacityOverflow`) and nothing changes, or it is
    a `deallocate` (a no-op on the arena; the block is dead afterwards) or an alignment-keeping `shrink` (the
    arena is untouched, the block is registered again with the new alignment) -/
theorem ok_onClaimed {op : Op} (hs : stepCore cfg g (.onClaimed op) = .ok (g', out)) :
    .claim ∈ g.s.frames ∧
    (g' = g ∧ (op = .claim ∧ out = .panic "bump allocator is already claimed" ∨
       ∃ e, out = .err e ∧ (e = .claimed ∨ e = .capacityOverflow ∧ ∃ n, op = .reserve n true ∧ ¬ n ≤ Rs.IMAX)) ∨
     (∃ b via blk, op = .deallocate b via ∧ findBlock g.s b = .ok blk ∧
        g' = ⟨removeBlock g.s b, g.marks⟩ ∧ out = .unit) ∨
     ∃ b L via blk, op = .shrink b L via ∧ L.Valid ∧ findBlock g.s b = .ok blk ∧
        L.size ≤ blk.size ∧ alignFits blk.addr L.align = true ∧
        g' = ⟨(addBlock (removeBlock g.s b) blk.addr blk.size L.align (Nat.min blk.init blk.size)).1, g.marks⟩ ∧
        out = .block g.s.nextId blk.addr blk.size) := by
  obtain ⟨hc, hs⟩ := guard_ok hs
  refine ⟨?_, ?_⟩
  · obtain ⟨f, hf, hm⟩ := List.any_eq_true.mp (by simpa using hc)
    cases f with
    | claim => exact hf
    | _ => cases hm
  split at hs
  · cases hs; exact .inl ⟨rfl, .inl ⟨rfl, rfl⟩⟩
  · obtain ⟨_, _, hs⟩ := bind_eq_ok hs
    obtain ⟨⟨_, r⟩, ha, hs⟩ := bind_eq_ok hs
    cases r <;> cases hs
    exact .inl ⟨rfl, .inr ⟨_, rfl, .inl (claimed_err_alloc rfl ha)⟩⟩
  · obtain ⟨_, _, hs⟩ := bind_eq_ok hs
    obtain ⟨⟨_, r⟩, ha, hs⟩ := bind_eq_ok hs
    cases r <;> cases hs
    exact .inl ⟨rfl, .inr ⟨_, rfl, .inl (claimed_err_allocGeneric rfl ha)⟩⟩
  · rename_i n dyn _
    obtain ⟨⟨_, r⟩, ha, hs⟩ := bind_eq_ok hs
    cases r <;> cases hs
    refine .inl ⟨rfl, .inr ⟨_, rfl, ?_⟩⟩
    cases dyn
    · exact .inl (claimed_err_reserve rfl (by simpa using ha))
    · exact (claimed_err_reserveDyn rfl (by simpa using ha)).imp id fun h => ⟨h.1, n, rfl, h.2⟩
  · obtain ⟨_, _, hs⟩ := bind_eq_ok hs
    obtain ⟨blk, _, hs⟩ := bind_eq_ok hs
    obtain ⟨_, hs⟩ := guard_ok hs
    obtain ⟨⟨_, r⟩, ha, hs⟩ := bind_eq_ok hs
    cases r <;> cases hs
    exact .inl ⟨rfl, .inr ⟨_, rfl, .inl (claimed_err_grow rfl ha)⟩⟩
  · rename_i b via _
    obtain ⟨blk, hb, hs⟩ := bind_eq_ok hs
    obtain ⟨s1, h1, hs⟩ := bind_eq_ok hs
    cases deallocate_claimed_eq rfl h1
    cases hs
    exact .inr (.inl ⟨b, via, blk, rfl, hb, rfl, rfl⟩)
  · rename_i b L via _
    obtain ⟨hv, hs⟩ := validLayout_then hs
    obtain ⟨blk, hb, hs⟩ := bind_eq_ok hs
    obtain ⟨hgt, hs⟩ := guard_ok hs
    obtain ⟨hfit, hs⟩ := guard_ok hs
    obtain ⟨⟨s1, r⟩, h1, hs⟩ := bind_eq_ok hs
    obtain ⟨e1, e2⟩ := shrink_claimed_eq rfl (alignFits_of_not hfit) h1
    cases e1; cases e2; cases hs
    exact .inr (.inr ⟨b, L, via, blk, rfl, hv, hb, Nat.le_of_not_lt hgt, alignFits_of_not hfit, rfl, rfl⟩)
  · cases hs

/-! ## minimum alignment -/

theorem ok_alignedEnter {n : Nat} (hs : stepCore cfg g (.alignedEnter n) = .ok (g', out)) :
    g.s.prepared = none ∧ MinAlignOK n ∧ out = .unit ∧
    (n < g.s.minAlign ∧
      g' = ⟨{ g.s with frames := .alignedLower g.s.minAlign g.s.cur :: g.s.frames, minAlign := n }, g.marks⟩ ∨
     g.s.minAlign ≤ n ∧ ∃ s1, alignTo cfg g.s n = .ok s1 ∧
      g' = ⟨{ s1 with frames := .alignedRaise g.s.minAlign :: g.s.frames, minAlign := n }, g.marks⟩) := by
  obtain ⟨hp, hs⟩ := noPrepared_then hs
  obtain ⟨hc, hs⟩ := guard_ok hs
  by_cases hlt : n < g.s.minAlign
  · rw [if_pos hlt] at hs; cases hs
    exact ⟨hp, minAlignOK_of_not_check hc, rfl, .inl ⟨hlt, rfl⟩⟩
  · rw [if_neg hlt] at hs
    obtain ⟨s1, h1, hs⟩ := bind_eq_ok hs
    cases hs
    exact ⟨hp, minAlignOK_of_not_check hc, rfl, .inr ⟨Nat.le_of_not_lt hlt, s1, h1, rfl⟩⟩

theorem ok_alignedExit (hs : stepCore cfg g .alignedExit = .ok (g', out)) :
    g.s.prepared = none ∧ out = .unit ∧
    ((∃ outer start rest s1 s2, g.s.frames = .alignedLower outer start :: rest ∧
        alignGuardDrop cfg g.s outer = .ok s1 ∧ alignChunkAt cfg s1 outer start = .ok s2 ∧
        g' = ⟨{ s2 with frames := rest, minAlign := outer }, g.marks⟩) ∨
     ∃ outer rest, g.s.frames = .alignedRaise outer :: rest ∧
        g' = ⟨{ g.s with frames := rest, minAlign := outer }, g.marks⟩) := by
  obtain ⟨hp, hs⟩ := noPrepared_then hs
  refine ⟨hp, ?_⟩
  split at hs
  · rename_i outer start rest hf
    obtain ⟨s1, h1, hs⟩ := bind_eq_ok hs
    obtain ⟨s2, h2, hs⟩ := bind_eq_ok hs
    cases hs
    exact ⟨rfl, .inl ⟨outer, start, rest, s1, s2, hf, h1, h2, rfl⟩⟩
  · rename_i outer rest hf
    cases hs
    exact ⟨rfl, .inr ⟨outer, rest, hf, rfl⟩⟩
  · cases hs

theorem ok_scopedAlignedEnter {n : Nat} (hs : stepCore cfg g (.scopedAlignedEnter n) = .ok (g', out)) :
    g.s.prepared = none ∧ MinAlignOK n ∧ ∃ s1, alignTo cfg g.s n = .ok s1 ∧
      g' = ⟨{ s1 with frames := .scopedAligned (checkpoint cfg g.s) g.s.minAlign :: g.s.frames, minAlign := n },
            g.s.nextId :: g.marks⟩ ∧ out = .unit := by
  obtain ⟨hp, hs⟩ := noPrepared_then hs
  obtain ⟨hc, hs⟩ := guard_ok hs
  obtain ⟨s1, h1, hs⟩ := bind_eq_ok hs
  cases hs
  exact ⟨hp, minAlignOK_of_not_check hc, s1, h1, rfl, rfl⟩

theorem ok_scopedAlignedExit (hs : stepCore cfg g .scopedAlignedExit = .ok (g', out)) :
    g.s.prepared = none ∧ ∃ cp outer rest m ms s1, g.s.frames = .scopedAligned cp outer :: rest ∧
      g.marks = m :: ms ∧ resetTo cfg { g.s with minAlign := outer } cp = .ok s1 ∧
      g' = ⟨killFrom { s1 with frames := rest } m, ms⟩ ∧ out = .unit := by
  obtain ⟨hp, hs⟩ := noPrepared_then hs
  refine ⟨hp, ?_⟩
  split at hs
  · rename_i cp outer rest m ms hf hm
    obtain ⟨s1, h1, hs⟩ := bind_eq_ok hs
    cases hs
    exact ⟨cp, outer, rest, m, ms, s1, hf, hm, h1, rfl, rfl⟩
  · cases hs

theorem ok_withSettings {n : Nat} {ga cl : Bool} (hs : stepCore cfg g (.withSettings n ga cl) = .ok (g', out)) :
    g.s.frames = [] ∧ g.s.prepared = none ∧ MinAlignOK n ∧
    (g' = g ∧ (∃ m, out = .panic m) ∨
     ∃ s1, alignTo cfg g.s n = .ok s1 ∧ g' = ⟨{ s1 with minAlign := n }, g.marks⟩ ∧ out = .unit) := by
  obtain ⟨_, hf, hs⟩ := bind_eq_ok hs
  replace hf := noFrames_ok hf
  obtain ⟨hp, hs⟩ := noPrepared_then hs
  obtain ⟨hc, hs⟩ := guard_ok hs
  refine ⟨hf, hp, minAlignOK_of_not_check hc, ?_⟩
  by_cases h1 : (!cl && g.s.cur == .claimed) = true
  · rw [if_pos h1] at hs; cases hs; exact .inl ⟨rfl, _, rfl⟩
  · rw [if_neg h1] at hs
    by_cases h2 : (ga && g.s.cur == .unallocated) = true
    · rw [if_pos h2] at hs; cases hs; exact .inl ⟨rfl, _, rfl⟩
    · rw [if_neg h2] at hs
      obtain ⟨s1, h3, hs⟩ := bind_eq_ok hs
      cases hs
      exact .inr ⟨s1, h3, rfl, rfl⟩

/-! ## ghost operations on blocks -/

theorem ok_write {b seed : Nat} (hs : stepCore cfg g (.write b seed) = .ok (g', out)) :
    ∃ blk, findBlock g.s b = .ok blk ∧
    ∃ s1, writeRange cfg g.s blk.addr (blk.addr + blk.size) (fun a => pattern seed (a - blk.addr)) = .ok s1 ∧
      g' = ⟨{ s1 with live := s1.live.map (fun x => if x.id == b then { x with init := x.size } else x) }, g.marks⟩ ∧
      out = .unit := by
  obtain ⟨blk, hb, hs⟩ := bind_eq_ok hs
  obtain ⟨s1, h1, hs⟩ := bind_eq_ok hs
  cases hs
  exact ⟨blk, hb, s1, h1, rfl, rfl⟩

theorem ok_split {b at_ : Nat} (hs : stepCore cfg g (.split b at_) = .ok (g', out)) :
    ∃ blk, findBlock g.s b = .ok blk ∧ at_ ≤ blk.size ∧
      g' = ⟨(addBlock (addBlock (removeBlock g.s b) blk.addr at_ 1 (Nat.min blk.init at_)).1
              (blk.addr + at_) (blk.size - at_) 1 (blk.init - at_)).1, g.marks⟩ ∧
      out = .block g.s.nextId blk.addr at_ := by
  obtain ⟨blk, hb, hs⟩ := bind_eq_ok hs
  obtain ⟨hc, hs⟩ := guard_ok hs
  cases hs
  exact ⟨blk, hb, Nat.le_of_not_lt hc, rfl, rfl⟩


end Arena.Hist
