/-
  Lemmas/CollRetain.lean — `Coll.retain` (cursor/guard model of `BumpBox<[T]>::retain`) computes
  `Coll.retainSpec` on every well-formed vector, for every oracle and every set of panicking drops.
-/
import BumpProof.Lemmas.CollView

namespace Coll

theorem sieve_escaped (keep : Nat → Bool) (bombs : List Id) (rest : List Id) :
    ∀ kept o, (sieve keep bombs kept rest o).escaped = [] := by
  induction rest with
  | nil => intro kept o; rfl
  | cons x rest ih =>
    intro kept o
    match o with
    | [] => rfl
    | .panic :: o => rfl
    | .ret b :: o =>
      simp only [sieve]
      split
      · exact ih _ o
      · split
        · rfl
        · exact ih kept o

theorem sieve_perm (keep : Nat → Bool) (bombs : List Id) (rest : List Id) :
    ∀ kept o, ((sieve keep bombs kept rest o).final ++ (sieve keep bombs kept rest o).dropped).Perm (kept ++ rest) := by
  induction rest with
  | nil => intro kept o; simp [sieve]
  | cons x rest ih =>
    intro kept o
    match o with
    | [] => simp [sieve]
    | .panic :: o => simp [sieve]
    | .ret b :: o =>
      simp only [sieve]
      split
      · have := ih (kept ++ [x]) o
        simpa using this
      · split
        · simp only [List.append_assoc]
          exact List.Perm.append_left kept (List.perm_append_singleton x rest)
        · have := ih kept o
          simp only
          refine List.Perm.trans ?_ (List.Perm.trans (List.Perm.cons x this) ?_)
          · exact List.perm_middle
          · exact List.perm_middle.symm

theorem sieve_length_le (keep : Nat → Bool) (bombs : List Id) (kept rest : List Id) (o : List Outcome) :
    (sieve keep bombs kept rest o).final.length ≤ kept.length + rest.length := by
  have := (sieve_perm keep bombs rest kept o).length_eq
  simp at this
  omega

/-- what a finished (or unwound) scan described by `r` leaves of `gap kept k rest T …`: the dropped values have left
    further vacated slots -/
def gapDone {α} (r : SpecOut α) (k : Nat) (T : List Slot) (dl esc : List Id) : Out α :=
  ⟨⟨I r.final ++ H (k + r.dropped.length) ++ T, r.final.length, dl ++ r.dropped, esc⟩, r.exit, r.rest⟩

theorem gapDone_cons {α} (r : SpecOut α) (x : Id) (k : Nat) (T : List Slot) (dl esc : List Id) :
    gapDone r (k + 1) T (dl ++ [x]) esc = gapDone { r with dropped := x :: r.dropped } k T dl esc := by
  simp [gapDone, Nat.add_assoc, Nat.add_comm 1]

theorem retainGuard_gap {kept rest dl esc : List Id} {k n r w ol : Nat} {T : List Slot}
    (hr : r = kept.length + k) (hw : w = kept.length) (hol : ol = r + rest.length) :
    retainGuard (gap kept k rest T n dl esc) r w ol = .ok ⟨I (kept ++ rest) ++ H k ++ T, kept.length + rest.length, dl, esc⟩ := by
  subst hol hw
  simp only [retainGuard, Nat.add_sub_cancel_left, gap_close hr rfl rfl, setLen]

/-- second loop of `retain` = `sieve`, started with at least one vacated slot between the cursors (`copy_nonoverlapping`) -/
theorem retainLoop_eq (bombs : List Id) (rest : List Id) :
    ∀ (kept : List Id) (k : Nat) (T : List Slot) (n : Nat) (dl esc : List Id) (o : List Outcome) (r w ol : Nat),
      r = kept.length + k → w = kept.length → ol = r + rest.length → 0 < k →
      retainLoop bombs ol rest.length (gap kept k rest T n dl esc) r w o =
        .ok (gapDone (sieve (· != 0) bombs kept rest o) k T dl esc) := by
  induction rest with
  | nil => intro kept k T n dl esc o r w ol hr hw _ _; subst hw; simp [retainLoop, sieve, setLen, gap, gapDone]
  | cons x rest ih =>
    intro kept k T n dl esc o r w ol hr hw hol hk
    have hl := List.length_cons (a := x) (as := rest)
    simp only [List.length_cons, retainLoop, gap_peek hr]
    match o with
    | [] => simp only [sieve, retainGuard_gap hr hw hol, Except.map]; simp [gapDone]
    | .panic :: o => simp only [sieve, retainGuard_gap hr hw hol, Except.map]; simp [gapDone]
    | .ret b :: o =>
      simp only [sieve]
      by_cases hb : b = 0
      · simp only [hb, ↓reduceIte, bne_self_eq_false, Bool.false_eq_true, gap_drop hr, Bool.not_false, Bool.true_and]
        cases hbomb : bombs.contains x with
        | true =>
          simp only [↓reduceIte, Except.map,
            retainGuard_gap (kept := kept) (rest := rest) (k := k + 1) (r := r + 1) (ol := ol) (by omega) hw (by omega)]
          simp [gapDone]
        | false =>
          simp only [Bool.false_eq_true, ↓reduceIte,
            ih kept (k + 1) T n (dl ++ [x]) esc o (r + 1) w ol (by omega) hw (by omega) (by omega), gapDone_cons]
      · simp only [hb, ↓reduceIte, show (b != 0) = true by simp [hb], gap_keep_nonoverlapping hr hw hk]
        exact ih (kept ++ [x]) k T n dl esc o (r + 1) (w + 1) ol (by simp; omega) (by simp [hw]) (by omega) hk

/-- first loop (nothing removed yet, no vacated slot) followed by the rest of `retain` = `sieve` from the start -/
theorem retainScan_eq (bombs : List Id) (rest : List Id) :
    ∀ (pre : List Id) (T : List Slot) (dl esc : List Id) (o : List Outcome) (r ol : Nat), rest ≠ [] →
      r = pre.length → ol = r + rest.length →
      (retainScan (gap pre 0 rest T ol dl esc) rest.length r o).bind (retainAfterScan bombs (gap pre 0 rest T ol dl esc) ol) =
        .ok (gapDone (sieve (· != 0) bombs pre rest o) 0 T dl esc) := by
  induction rest with
  | nil => intro pre T dl esc o r ol h; exact absurd rfl h
  | cons x rest ih =>
    intro pre T dl esc o r ol _ hr hol
    have hl := List.length_cons (a := x) (as := rest)
    have hr0 : r = pre.length + 0 := hr
    simp only [List.length_cons, retainScan, gap_peek hr0]
    match o with
    | [] => simp [Except.bind, retainAfterScan, sieve, gap, gapDone, hol, hr]
    | .panic :: o => simp [Except.bind, retainAfterScan, sieve, gap, gapDone, hol, hr]
    | .ret b :: o =>
      simp only [sieve]
      by_cases hb : b = 0
      · simp only [hb, ↓reduceIte, Except.bind, retainAfterScan, bne_self_eq_false, Bool.false_eq_true, gap_drop hr0,
          Bool.not_false, Bool.true_and, show ol - (r + 1) = rest.length by omega]
        cases hbomb : bombs.contains x with
        | true =>
          simp only [↓reduceIte, Except.map,
            retainGuard_gap (kept := pre) (rest := rest) (k := 0 + 1) (r := r + 1) (w := r) (ol := ol) (by omega) hr (by omega)]
          simp [gapDone]
        | false =>
          simp only [Bool.false_eq_true, ↓reduceIte,
            retainLoop_eq bombs rest pre (0 + 1) T ol (dl ++ [x]) esc o (r + 1) r ol (by omega) hr (by omega) (by omega),
            gapDone_cons]
      · simp only [hb, ↓reduceIte, show (b != 0) = true by simp [hb]]
        by_cases hrest : rest = []
        · subst hrest
          simp [Except.bind, retainAfterScan, sieve, gap, gapDone, hol, hr]
        · rw [if_neg (by simpa using hrest), gap_zero_cons]
          exact ih (pre ++ [x]) T dl esc o (r + 1) ol hrest (by simp [hr]) (by omega)

theorem retain_eq (bombs : List Id) (v : Vec) (xs : List Id) (o : List Outcome)
    (h : View.fwd.Shape v xs) :
    retain bombs v o =
      .ok ⟨v.after (retainSpec bombs xs o), (retainSpec bombs xs o).exit, (retainSpec bombs xs o).rest⟩ := by
  revert v
  refine seg_cases fun k dl esc => ?_
  unfold retain retainSpec
  simp only
  cases xs with
  | nil => rw [if_pos List.length_nil, after_seg k (by simp [sieve])]; simp [sieve]
  | cons x xs =>
    rw [if_neg (by simp)]
    have := retainScan_eq bombs (x :: xs) [] (H k) dl esc o 0 (x :: xs).length (by simp) rfl (Nat.zero_add _).symm
    simp only [gap, I_nil, H_zero, List.nil_append, List.append_nil] at this
    have hlen := (sieve_perm (· != 0) bombs (x :: xs) [] o).length_eq
    rw [List.length_append, List.nil_append, List.length_cons] at hlen
    rw [this, after_seg ((sieve (· != 0) bombs [] (x :: xs) o).dropped.length + k) (by simp <;> omega), sieve_escaped]
    simp [gapDone, H_add]

end Coll
