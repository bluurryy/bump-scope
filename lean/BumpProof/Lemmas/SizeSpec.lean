/-
  Lemmas/SizeSpec.lean — facts about the wide-integer specification `Spec/Size.lean`:
  `nextPow2`, the header constants, `calcSizeRaw` and `calcSize`.
-/
import BumpProof.Lemmas.SizeAux
import BumpProof.Spec.Size

namespace Lemmas.Size
open Rs Spec

theorem npotFrom_spec (h : Nat) : ∀ fuel k, h ≤ 2 ^ (k + fuel) →
    ∃ i, k ≤ i ∧ Rs.npotFrom h fuel (2 ^ k) = 2 ^ i ∧ h ≤ 2 ^ i ∧ (i = k ∨ 2 ^ (i - 1) < h) := by
  intro fuel
  induction fuel with
  | zero => intro k hk; exact ⟨k, Nat.le_refl k, rfl, hk, Or.inl rfl⟩
  | succ n ih =>
    intro k hk
    unfold Rs.npotFrom
    by_cases hle : h ≤ 2 ^ k
    · rw [if_pos hle]; exact ⟨k, Nat.le_refl k, rfl, hle, Or.inl rfl⟩
    · rw [if_neg hle]
      have h2 : 2 * 2 ^ k = 2 ^ (k + 1) := by rw [Nat.pow_succ, Nat.mul_comm]
      rw [h2]
      obtain ⟨i, hki, he, hhi, hor⟩ := ih (k + 1) (by rw [show k + 1 + n = k + (n + 1) by omega]; exact hk)
      refine ⟨i, by omega, he, hhi, Or.inr ?_⟩
      rcases hor with rfl | h3
      · rw [Nat.add_sub_cancel]; omega
      · exact h3

theorem nextPow2_spec {h : Nat} (hh : h ≤ 2 ^ 64) :
    ∃ i, nextPow2 h = 2 ^ i ∧ h ≤ 2 ^ i ∧ ∀ m, h ≤ 2 ^ m → i ≤ m := by
  obtain ⟨i, _, he, hhi, hor⟩ := npotFrom_spec h 64 0 (by simpa using hh)
  refine ⟨i, he, hhi, ?_⟩
  intro m hm
  rcases hor with rfl | h3
  · omega
  · have : 2 ^ (i - 1) < 2 ^ m := Nat.lt_of_lt_of_le h3 hm
    have : i - 1 < m := (Nat.pow_lt_pow_iff_right (by decide)).1 this
    omega

/-- the size step: one assumed page, or the header alignment if that is larger -/
def stepOf (H : Layout) : Nat := Nat.max 4096 H.align
/-- the size asked for: the hint, or `minSize H` if that is larger -/
def hOf (H : Layout) (hint : Nat) : Nat := Nat.max hint (minSize H)

theorem calcSizeRaw_def (H : Layout) (hint : Nat) :
    calcSizeRaw H hint =
      if hOf H hint < stepOf H then nextPow2 (hOf H hint) else upAlign (hOf H hint) (stepOf H) := rfl

theorem hdr_p2 {H : Layout} (hH : HeaderOK H) : Lemmas.P2 H.align := by
  obtain ⟨j, _, _, hj⟩ := hH.pow; exact ⟨j, hj⟩

theorem hdr_ge {H : Layout} (hH : HeaderOK H) : 16 ≤ H.align := by
  obtain ⟨j, hj4, _, hj⟩ := hH.pow
  rw [hj]; show 2 ^ 4 ≤ 2 ^ j; exact Nat.pow_le_pow_right (by decide) hj4

theorem hdr_le {H : Layout} (hH : HeaderOK H) : H.align ≤ 65536 := by
  obtain ⟨j, _, hj16, hj⟩ := hH.pow
  rw [hj]; show 2 ^ j ≤ 2 ^ 16; exact Nat.pow_le_pow_right (by decide) hj16

theorem hdr_lt64 {H : Layout} (hH : HeaderOK H) : H.align < 2 ^ 64 :=
  Nat.lt_of_le_of_lt (hdr_le hH) (by decide)

theorem hdr_16_dvd {H : Layout} (hH : HeaderOK H) : 16 ∣ H.align :=
  Lemmas.P2.dvd_of_le ⟨4, rfl⟩ (hdr_p2 hH) (hdr_ge hH)

theorem upAlign_16 {H : Layout} (hH : HeaderOK H) : upAlign 16 H.align = H.align := by
  have hpos := (hdr_p2 hH).pos
  apply Nat.le_antisymm
  · exact upAlign_le_of_dvd hpos (Nat.dvd_refl _) (hdr_ge hH)
  · apply Nat.le_of_dvd
    · have := le_upAlign 16 hpos; omega
    · exact upAlign_dvd 16 H.align

theorem minSize_eq {H : Layout} (hH : HeaderOK H) : minSize H = H.align + H.size := by
  unfold minSize; rw [upAlign_16 hH]

theorem minSize_lt {H : Layout} (hH : HeaderOK H) : minSize H < 2 ^ 64 := by
  rw [minSize_eq hH, two_pow_64]
  have := hdr_le hH
  have := hH.le
  omega

theorem step_p2 {H : Layout} (hH : HeaderOK H) : Lemmas.P2 (stepOf H) :=
  Lemmas.P2.max ⟨12, rfl⟩ (hdr_p2 hH)

theorem step_le {H : Layout} (hH : HeaderOK H) : stepOf H ≤ 65536 :=
  Nat.max_le.2 ⟨by decide, hdr_le hH⟩

theorem step_lt64 {H : Layout} (hH : HeaderOK H) : stepOf H < 2 ^ 64 :=
  Nat.lt_of_le_of_lt (step_le hH) (by decide)

theorem align_dvd_step {H : Layout} (hH : HeaderOK H) : H.align ∣ stepOf H :=
  Lemmas.P2.dvd_of_le (hdr_p2 hH) (step_p2 hH) (Nat.le_max_right _ _)

theorem hOf_ge (H : Layout) (hint : Nat) : hint ≤ hOf H hint ∧ minSize H ≤ hOf H hint :=
  ⟨Nat.le_max_left _ _, Nat.le_max_right _ _⟩

theorem hOf_mono (H : Layout) {h1 h2 : Nat} (h : h1 ≤ h2) : hOf H h1 ≤ hOf H h2 :=
  Nat.max_le.2 ⟨Nat.le_trans h (Nat.le_max_left _ _), Nat.le_max_right _ _⟩

theorem hOf_lt {H : Layout} (hH : HeaderOK H) {hint : Nat} (hh : hint < 2 ^ 64) : hOf H hint < 2 ^ 64 :=
  Nat.max_lt.2 ⟨hh, minSize_lt hH⟩

theorem raw_cases {H : Layout} (hH : HeaderOK H) (hint : Nat) :
    (hOf H hint < stepOf H ∧ ∃ i, calcSizeRaw H hint = 2 ^ i ∧ hOf H hint ≤ 2 ^ i ∧
        ∀ m, hOf H hint ≤ 2 ^ m → i ≤ m) ∨
    (stepOf H ≤ hOf H hint ∧ calcSizeRaw H hint = upAlign (hOf H hint) (stepOf H)) := by
  rw [calcSizeRaw_def]
  by_cases hlt : hOf H hint < stepOf H
  · rw [if_pos hlt]
    have := step_le hH
    exact Or.inl ⟨hlt, nextPow2_spec (by rw [two_pow_64]; omega)⟩
  · rw [if_neg hlt]
    exact Or.inr ⟨by omega, rfl⟩

theorem raw_le_step {H : Layout} (hH : HeaderOK H) {hint : Nat} (hlt : hOf H hint < stepOf H) :
    calcSizeRaw H hint ≤ stepOf H := by
  rcases raw_cases hH hint with ⟨_, i, he, _, hmin⟩ | ⟨hge, _⟩
  · obtain ⟨m, hm⟩ := step_p2 hH
    rw [he, hm]
    exact Nat.pow_le_pow_right (by decide) (hmin m (by omega))
  · omega

theorem raw_ge_h {H : Layout} (hH : HeaderOK H) (hint : Nat) : hOf H hint ≤ calcSizeRaw H hint := by
  rcases raw_cases hH hint with ⟨_, i, he, hle, _⟩ | ⟨_, he⟩
  · omega
  · rw [he]; exact le_upAlign _ (step_p2 hH).pos

theorem raw_ge {H : Layout} (hH : HeaderOK H) (hint : Nat) :
    hint ≤ calcSizeRaw H hint ∧ minSize H ≤ calcSizeRaw H hint :=
  ⟨Nat.le_trans (hOf_ge H hint).1 (raw_ge_h hH hint), Nat.le_trans (hOf_ge H hint).2 (raw_ge_h hH hint)⟩

/-- the raw size has room for the header and the 16 bytes of assumed overhead -/
theorem raw_ge_hdr {H : Layout} (hH : HeaderOK H) (hint : Nat) : H.size + 16 ≤ calcSizeRaw H hint := by
  have := (raw_ge hH hint).2
  rw [minSize_eq hH] at this
  have := hdr_ge hH
  omega

theorem raw_lt_step {H : Layout} (hH : HeaderOK H) {hint : Nat}
    (hlt : calcSizeRaw H hint < stepOf H) : Lemmas.P2 (calcSizeRaw H hint) := by
  rcases raw_cases hH hint with ⟨_, i, he, _, _⟩ | ⟨hge, _⟩
  · exact ⟨i, he⟩
  · have := raw_ge_h hH hint; omega

theorem raw_ge_step {H : Layout} (hH : HeaderOK H) {hint : Nat}
    (hge : stepOf H ≤ calcSizeRaw H hint) : stepOf H ∣ calcSizeRaw H hint := by
  rcases raw_cases hH hint with ⟨hlt, _⟩ | ⟨_, he⟩
  · have := raw_le_step hH hlt
    have : calcSizeRaw H hint = stepOf H := by omega
    rw [this]; exact Nat.dvd_refl _
  · rw [he]; exact upAlign_dvd _ _

theorem raw_dvd {H : Layout} (hH : HeaderOK H) (hint : Nat) : H.align ∣ calcSizeRaw H hint := by
  by_cases hlt : calcSizeRaw H hint < stepOf H
  · apply Lemmas.P2.dvd_of_le (hdr_p2 hH) (raw_lt_step hH hlt)
    have := (raw_ge hH hint).2
    rw [minSize_eq hH] at this
    omega
  · exact Nat.dvd_trans (align_dvd_step hH) (raw_ge_step hH (by omega))

theorem raw_16_dvd {H : Layout} (hH : HeaderOK H) (hint : Nat) : 16 ∣ calcSizeRaw H hint :=
  Nat.dvd_trans (hdr_16_dvd hH) (raw_dvd hH hint)

theorem raw_mono {H : Layout} (hH : HeaderOK H) {h1 h2 : Nat} (hle : h1 ≤ h2) :
    calcSizeRaw H h1 ≤ calcSizeRaw H h2 := by
  have hm := hOf_mono H hle
  rcases raw_cases hH h1 with ⟨hlt1, i1, he1, hle1, hmin1⟩ | ⟨hge1, he1⟩
  · rcases raw_cases hH h2 with ⟨hlt2, i2, he2, hle2, hmin2⟩ | ⟨hge2, he2⟩
    · rw [he1, he2]
      exact Nat.pow_le_pow_right (by decide) (hmin1 i2 (by omega))
    · have := raw_le_step hH hlt1
      have := raw_ge_h hH h2
      omega
  · rcases raw_cases hH h2 with ⟨hlt2, _⟩ | ⟨hge2, he2⟩
    · omega
    · rw [he1, he2]; exact upAlign_mono _ hm

theorem sizeAlign_cases {H : Layout} (hH : HeaderOK H) (up : Bool) :
    (up = true ∨ H.align ≤ 16) ∧ sizeAlign up H = 16 ∨
    ¬ (up = true ∨ H.align ≤ 16) ∧ sizeAlign up H = H.align := by
  have := hdr_ge hH
  unfold sizeAlign
  cases up
  · by_cases h : H.align ≤ 16
    · refine Or.inl ⟨Or.inr h, ?_⟩
      simp only [Bool.false_eq_true, ↓reduceIte, natmax]; omega
    · refine Or.inr ⟨fun hc => hc.elim nofun h, ?_⟩
      simp only [Bool.false_eq_true, ↓reduceIte, natmax]; omega
  · exact Or.inl ⟨Or.inl rfl, rfl⟩

theorem sizeAlign_pos {H : Layout} (hH : HeaderOK H) (up : Bool) : 0 < sizeAlign up H := by
  have := hdr_ge hH
  rcases sizeAlign_cases hH up with ⟨_, h⟩ | ⟨_, h⟩ <;> omega

theorem sizeAlign_16_dvd {H : Layout} (hH : HeaderOK H) (up : Bool) : 16 ∣ sizeAlign up H := by
  rcases sizeAlign_cases hH up with ⟨_, h⟩ | ⟨_, h⟩
  · rw [h]; exact Nat.dvd_refl 16
  · rw [h]; exact hdr_16_dvd hH

theorem calcSize_cases {H : Layout} (hH : HeaderOK H) (up : Bool) (hint : Nat) :
    (2 ^ 64 ≤ calcSizeRaw H hint ∧ calcSize up H hint = none) ∨
    (calcSizeRaw H hint < 2 ^ 64 ∧ (up = true ∨ H.align ≤ 16) ∧ sizeAlign up H = 16 ∧
      calcSize up H hint = some (calcSizeRaw H hint - 16)) ∨
    (calcSizeRaw H hint < 2 ^ 64 ∧ ¬ (up = true ∨ H.align ≤ 16) ∧ sizeAlign up H = H.align ∧
      calcSize up H hint = some (calcSizeRaw H hint)) := by
  by_cases hr : 2 ^ 64 ≤ calcSizeRaw H hint
  · left; refine ⟨hr, ?_⟩
    unfold calcSize; simp only [ge_iff_le, hr, ↓reduceIte]
  · right
    rcases sizeAlign_cases hH up with ⟨hc, hs⟩ | ⟨hc, hs⟩
    · left; refine ⟨by omega, hc, hs, ?_⟩
      unfold calcSize
      simp only [ge_iff_le, hr, ↓reduceIte, hc, hs]
      have : 16 ∣ calcSizeRaw H hint - 16 := Nat.dvd_sub (raw_16_dvd hH hint) (Nat.dvd_refl 16)
      rw [downAlign_eq_self this]
    · right; refine ⟨by omega, hc, hs, ?_⟩
      unfold calcSize
      simp only [ge_iff_le, hr, ↓reduceIte, hc]

open Gen.SizeConfig

theorem oal_overhead : offset_add_layout 0 { size := 16, align := 8 } = .ok (some 16) := by
  rw [offset_add_layout_eq ⟨3, rfl⟩ (by decide)]
  rfl

theorem oal_header {H : Layout} (hH : HeaderOK H) : offset_add_layout 16 H = .ok (some (minSize H)) := by
  rw [offset_add_layout_eq (hdr_p2 hH) (hdr_lt64 hH)]
  have : upAlign 16 H.align + H.size = minSize H := rfl
  rw [this, if_pos (minSize_lt hH)]

end Lemmas.Size
