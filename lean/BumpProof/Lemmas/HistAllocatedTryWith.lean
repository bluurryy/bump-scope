/-
  Lemmas/HistAllocatedTryWith.lean — `alloc_try_with(_mut)` never makes `stats().allocated()` smaller
  (`adv_allocTryWith`; with it every operation outside `Op.mayReclaim`: `stepCore_adv_full`).  The bump pointer does not
  move back up to the return of the closure (`Fwd`), and the shrink to fit at the end puts it behind the value, which
  lies on the free side of the position the step started from.  The end of the step is read with the invariant `Mid` of
  Lemmas/InvTryWith.lean and with `TryMid`, the relations to the start of the step that `Mid` does not give.
  `tryWith_err_restores`: `Err` from a closure that did not allocate resets to the checkpoint taken before the allocation.
-/
import BumpProof.Lemmas.HistAllocatedStep
import BumpProof.Lemmas.HistRegionInside

set_option linter.unusedSimpArgs false
set_option linter.unusedVariables false

namespace Arena.Hist
open Rs Ledger

variable {cfg : Cfg}

theorem withInner_cur (s2 : State) (io : Option (Nat × Layout)) : (withInner s2 io).cur = s2.cur := by
  cases io with
  | none => rfl
  | some x => rfl

/-- the allocation of the `Result` does not move the bump pointer back: `alloc_try_with` allocates, `alloc_try_with_mut`
    only prepares -/
theorem tryAlloc_fwd (hc : CfgOK cfg) {s : State} (h : GeomInv cfg s) (hr : RespsOK cfg s) {L : Layout} (hL : L.Valid)
    (hsz : L.align ∣ L.size) {mut_ : Bool} {s1 : State} {r : Except AErr (Nat × Nat)}
    (h1 : allocGeneric cfg (if mut_ then .prepare else .alloc) s L Hints.sized Hints.custom = .ok (s1, r)) :
    Fwd cfg s s1 := by
  cases mut_
  · exact allocGeneric_fwd hc h hr hL (fun _ => hsz) (custom_sma L) h1
  · exact allocGeneric_fwd_of_ne (by decide) h1

/-- what this argument needs of the state `s` in which the end of `alloc_try_with` runs, beyond its invariant `Mid`
    (Lemmas/InvTryWith.lean): relations to the state `g` the step started from.  None of them follows from `Mid`: the
    `Result` block is no live block, so the checkpoint clause of `Mid` says nothing about where it lies. -/
structure TryMid (cfg : Cfg) (g : GState) (s : State) (ptr : Nat) (L : Layout) : Prop where
  fwd : Fwd cfg g.s s
  trail : Trail g.s s
  /-- if the current chunk is still the one of `g`, the block of the `Result` lies on the free side of the position `g` had -/
  block : ∀ i c, g.s.cur = .chunk i → g.s.chunks[i]? = some c → s.cur = .chunk i →
    if cfg.up then c.pos ≤ ptr else ptr + L.size ≤ c.pos

theorem tryMid_of {g : GState} (hi : Inv cfg g) (hr : RespsOK cfg g.s) (hf : RespsFresh g.s)
    {L : Layout} (hL : L.Valid) (hsz : L.align ∣ L.size) {mut_ : Bool} {s1 : State} {ptr x : Nat}
    (h1 : allocGeneric cfg (if mut_ then .prepare else .alloc) g.s L Hints.sized Hints.custom = .ok (s1, .ok (ptr, x)))
    {inner : Option Layout} {s2 : State} {io : Option (Nat × Layout)} (hin : tryInner cfg s1 inner mut_ = .ok (s2, io)) :
    TryMid cfg g (withInner s2 io) ptr L := by
  have hc := hi.cfgOK
  have hh : Hints.sized.sma = true → L.align ∣ L.size := fun _ => hsz
  have p1 := allocGeneric_post hc hi.geom hr hi.disj hf _ hL hh (custom_sma L) (tryKind_ne_range mut_) h1
  have a1 : Fwd cfg g.s s1 := tryAlloc_fwd hc hi.geom hr hL hsz h1
  have t : Trail g.s (withInner s2 io) :=
    ((Trail.of_path (Fn.allocGeneric_path h1)).trans (tryInner_trail hin)).trans (withInner_trail s2 io)
  cases mut_ with
  | true =>
    obtain ⟨rfl, rfl⟩ := tryInner_mut hin
    refine ⟨a1, t, fun i c hcur hc hcur2 => ?_⟩
    -- the prepared block lies on the free side of the position of `s2`, which is on the free side of that of `g`
    have hfound := p1.found (ptr, x) rfl
    simp only [↓reduceIte, FoundAt] at hfound
    obtain ⟨_, i2, c2, k1, k2, k3⟩ := hfound
    obtain ⟨_, j, c', hj, hc', _, hd⟩ := a1 i c hcur hc
    rw [k1] at hj; cases hj
    cases k1.symm.trans hcur2
    rw [k2] at hc'; cases hc'
    have := hd rfl
    unfold Chunk.FreeSide at this
    cases hup : cfg.up <;> simp only [hup, Bool.false_eq_true, ↓reduceIte] at k3 this ⊢ <;> omega
  | false =>
    simp only [Bool.false_eq_true, ↓reduceIte] at h1
    -- the block lies in the current chunk of `s1`: the one of `g` with the block on the free side of its position, or a later one
    have first : ∀ i c, g.s.cur = .chunk i → g.s.chunks[i]? = some c → s1.cur = .chunk i →
        if cfg.up then c.pos ≤ ptr else ptr + L.size ≤ c.pos := fun i c hcur hci hcur1 => by
      obtain ⟨i1, c1, k1, _, _, _, hcase⟩ := allocWhere hc hi.geom hr hL hh (custom_sma L) h1
      cases hcur1.symm.trans k1
      rcases hcase with ⟨c0, _, k2, _, _, k5⟩ | hlater
      · cases hci.symm.trans k2
        cases hup : cfg.up <;> simp only [hup, Bool.false_eq_true, ↓reduceIte] at k5 ⊢ <;> exact k5.1
      · exact absurd (hlater i hcur) (Nat.lt_irrefl _)
    rcases tryInner_cases hin with ⟨rfl, rfl⟩ | ⟨_, Li, r, hLi, hal, rfl⟩
    · exact ⟨a1, t, first⟩
    · have a2 := alloc_fwd hc p1.inv p1.resps hLi hal
      have hcu := withInner_cur s2 (r.toOption.map (·, Li))
      refine ⟨(a1.trans a2).ghost (withInner_chunks s2 _) hcu, t, fun i c hcur hc hcur2 => first i c hcur hc ?_⟩
      -- the current chunk only moves forward: back at `i` in `s2`, it was `i` in `s1`
      obtain ⟨_, i1, c1, hi1, hc1, hle1, _⟩ := a1 i c hcur hc
      obtain ⟨_, j2, _, hj2, _, hle2, _⟩ := a2 i1 c1 hi1 hc1
      rw [hcu, hj2] at hcur2; cases hcur2
      rw [hi1, show i1 = i by omega]

theorem tryTail_adv {g g' : GState} (hi : Inv cfg g) {s : State} {ptr off vsize : Nat}
    {L : Layout} {ok cs : Bool} {out : Out} (m : Mid cfg g ptr L.size s) (t : TryMid cfg g s ptr L)
    (hov : off + vsize ≤ L.size) (ht : tryTail cfg g s ptr off vsize ok cs = .ok (g', out)) : Adv cfg g.s g'.s := by
  have hmid : Adv cfg g.s s := t.fwd.adv hi.geom
  -- the four outcomes of `tryTail_inv`
  rcases tryTail_inv ht with ⟨_, _, np, j2, hj2, hnp, rfl⟩ | ⟨_, _, rfl⟩ | ⟨_, _, s3, hr3, rfl⟩ | ⟨_, _, rfl⟩
  · have hnpdir : if cfg.up then ptr + off + vsize ≤ np else np ≤ ptr + off := by
      cases hup : cfg.up <;> simp only [hup, Bool.false_eq_true, ↓reduceIte] at hnp ⊢
      · exact Fn.lib_down_align_le (Fn.liftM_eq_ok hnp)
      · have hm := m.inv.geom.minAlign
        exact ((Fn.lib_up_align_ok_iff hm.p2 hm.lt64).1 (Fn.liftM_eq_ok hnp)).2 ▸ Lemmas.le_upAlign _ hm.p2.pos
    refine Adv.ghost (t := setCurPos s np) ?_
    refine (Fwd.setCurPos t.fwd fun i c hcur hc hcur2 => ?_).adv hi.geom
    have := t.block i c hcur hc hcur2
    cases hup : cfg.up <;> simp only [hup, Bool.false_eq_true, ↓reduceIte] at this hnpdir ⊢ <;> omega
  · exact hmid.ghost
  · exact (Adv.of_eq (resetTo_restores_same hi.cfgOK hi m.inv.geom t.trail.cov t.trail.minAlign hr3).1).ghost
  · exact hmid

theorem adv_allocTryWith {g g' : GState} {out : Out} (hi : Inv cfg g) (hr : RespsOK cfg g.s) (hf : RespsFresh g.s)
    {L : Layout} {off vsize : Nat} {ok : Bool} {inner : Option Layout} {mut_ : Bool} (hsz : L.align ∣ L.size)
    (hs : stepCore cfg g (.allocTryWith L off vsize ok inner mut_) = .ok (g', out)) : Adv cfg g.s g'.s := by
  obtain ⟨hL, hp, hov, hrun⟩ := tryWith_ok hs
  cases hrun with
  | refused h1 =>
    exact (tryAlloc_fwd hi.cfgOK hi.geom hr hL hsz h1).adv hi.geom
  | ran h1 hin htail =>
    obtain ⟨m1, room1, hR1⟩ := Mid.start hi hr hf hp hL hsz h1
    exact tryTail_adv hi (m1.closure hi.cfgOK room1 hR1 hin).1 (tryMid_of hi hr hf hL hsz h1 hin) hov htail

/-- `alloc_try_with(_mut)` whose closure does not allocate and returns `Err`: the checkpoint taken before the
    allocation is restored, whatever path (fast, later chunk, new chunk) the allocation took -/
theorem tryWith_err_restores {g g' : GState} (hi : Inv cfg g) (hr : RespsOK cfg g.s) (hf : RespsFresh g.s)
    {L : Layout} {off vsize : Nat} {mut_ : Bool} (hsz : L.align ∣ L.size)
    (hs : stepCore cfg g (.allocTryWith L off vsize false none mut_) = .ok (g', .none_)) :
    (stats cfg g'.s).allocated = (stats cfg g.s).allocated ∧
    (∀ i, g.s.cur = .chunk i → g'.s.cur = .chunk i ∧ curPos cfg g'.s = curPos cfg g.s) ∧
    ChunksCov g.s g'.s ∧ g'.s.live = g.s.live ∧ g'.s.nextId = g.s.nextId ∧
    (g'.s.frames = g.s.frames ∧ g'.marks = g.marks ∧ g'.s.minAlign = g.s.minAlign) := by
  obtain ⟨hL, hp, hov, hrun⟩ := tryWith_ok hs
  have hc := hi.cfgOK
  -- a refused allocation would have reported `.err`
  cases hrun with
  | @ran s2 _ ptr x _ _ _ h1 hin htail =>
    -- the closure does not allocate: `tryInner … none` returns its state
    cases (hin : Except.ok (s2, none) = _)
    obtain ⟨m1, _, hR1⟩ := Mid.start hi hr hf hp hL hsz h1
    have t1 : Trail g.s s2 := Trail.of_path (Fn.allocGeneric_path h1)
    have st1 : Stable g.s s2 := Stable.of_path (Fn.allocGeneric_path h1)
    -- the position test succeeds: the `Result` block is the last thing carved
    have hcs : (mut_ || (if cfg.up then curPos cfg s2 else ptr) == curPos cfg s2) = true := by
      cases mut_ with
      | true => rfl
      | false => obtain ⟨i, c, hR⟩ := hR1 rfl; exact hR.canShrink
    rw [hcs] at htail
    -- of the four outcomes of `tryTail` only the third (`Err`, rewound to the checkpoint) has `ok = false`, `cs = true`
    rcases tryTail_inv htail with ⟨h, _⟩ | ⟨h, _⟩ | ⟨_, _, s3, hr3, rfl⟩ | ⟨_, h, _⟩ <;> first | (cases h; done) | skip
    · have hr3 : resetTo cfg s2 (checkpoint cfg g.s) = .ok s3 := hr3
      obtain ⟨r1, r2, r3, r6⟩ := resetTo_restores_same hc hi m1.inv.geom t1.cov t1.minAlign hr3
      have hst3 := Stable.of_path (Fn.resetTo_path hr3)
      have hl3 : s3.live = g.s.live := hst3.live.trans st1.live
      refine ⟨r1, r2, r3, ?_, hst3.nextId.trans st1.nextId,
        ⟨(Trail.of_path (Fn.resetTo_path hr3)).frames.trans t1.frames, rfl, r6⟩⟩
      · show s3.live.filter (·.id < g.s.nextId) = g.s.live
        rw [hl3]
        apply List.filter_eq_self.2
        intro b hb
        simpa using hi.ids b hb

/-- every constructor that is not in `Op.mayReclaim` never makes `stats().allocated()` smaller -/
theorem stepCore_adv_full {g g' : GState} {out : Out} {op : Op} (hcov : op.Covered) (hi : Inv cfg g)
    (hr : RespsOK cfg g.s) (hf : RespsFresh g.s) (h1 : op.mayReclaim = false)
    (hs : stepCore cfg g op = .ok (g', out)) : Adv cfg g.s g'.s := by
  cases op with
  | allocTryWith L off vsize ok inner m => exact adv_allocTryWith hi hr hf hcov.tryWith hs
  | _ => exact stepCore_adv hi hr h1 (fun _ _ _ _ _ _ => Op.noConfusion) hs

end Arena.Hist
