/-
  Lemmas/MemFresh.lean — the relations between a state and its successor in which the effect of the
  allocation paths is stated: `ShapeSame`, `SameGhost`, `WFPres`, and the two that package them,
  `Moved` (no chunk obtained or released, no byte written, no response consumed) and `Grown` (chunks granted by the base
  allocator may have been appended).  A granted chunk keeps the chunk list well-formed (`MemWF`)
  provided the response does not overlap an existing chunk (`HeadFresh`).
-/
import BumpProof.Lemmas.MemWrite
import BumpProof.Lemmas.FnPath

set_option linter.unusedSimpArgs false

namespace Arena.Mem
open Rs

theorem align_size_le {c : Gen.SizeConfig.ChunkSizeConfig} {g r : Nat}
    (h : Gen.SizeConfig.align_size c g = .ok r) : r ≤ g := by
  unfold Gen.SizeConfig.align_size at h
  simp only [bind, Except.bind] at h
  -- `down_align` of `size_config.rs` has the body of `down_align_usize` of `lib.rs`
  split at h
  · exact Fn.lib_down_align_le h
  · split at h
    · cases h
    · exact Fn.lib_down_align_le h

def HeadFresh (s : State) : Prop :=
  ∀ p g rest, s.resps = .granted p g :: rest → ∀ x ∈ shapeOf s, p + g ≤ x.1 ∨ x.1 + x.2.1 ≤ p

def ShapeSame (s s' : State) : Prop := shapeOf s' = shapeOf s ∧ s'.resps = s.resps

def WFPres (s s' : State) : Prop := MemWF s → HeadFresh s → MemWF s'

/-- the two fields an allocation path never touches: the ghost list `live` and `minAlign` -/
def SameGhost (s s' : State) : Prop := s'.live = s.live ∧ s'.minAlign = s.minAlign

theorem ShapeSame.wfPres {s s' : State} (h : ShapeSame s s') : WFPres s s' :=
  fun hw _ => MemWF.of_shape h.1 hw
theorem WFPres.same_left {s t u : State} (h1 : ShapeSame s t) (h2 : WFPres t u) : WFPres s u := by
  intro hw hf
  refine h2 (MemWF.of_shape h1.1 hw) ?_
  intro p g rest hr x hx
  rw [h1.2] at hr
  rw [h1.1] at hx
  exact hf p g rest hr x hx
theorem WFPres.shape_right {s t u : State} (h1 : WFPres s t) (h2 : shapeOf u = shapeOf t) : WFPres s u :=
  fun hw hf => MemWF.of_shape h2 (h1 hw hf)

theorem SameGhost.refl (s : State) : SameGhost s s := ⟨rfl, rfl⟩
theorem SameGhost.trans {s t u : State} (h1 : SameGhost s t) (h2 : SameGhost t u) : SameGhost s u :=
  ⟨h2.1.trans h1.1, h2.2.trans h1.2⟩

/-- between `s` and `s'` no chunk was obtained or released, no byte written, no response consumed, `live` and
    `minAlign` are the same (what `RawChunk::alloc`, `reset_to`, `deallocate`, `align_to` do); positions, `cur`, `reqs`
    and the remaining ghost fields are not constrained -/
structure Moved (s s' : State) : Prop where
  mem : memOf s' = memOf s
  resps : s'.resps = s.resps
  ghost : SameGhost s s'

theorem Moved.refl (s : State) : Moved s s := ⟨rfl, rfl, .refl s⟩
theorem Moved.trans {s t u : State} (h1 : Moved s t) (h2 : Moved t u) : Moved s u :=
  ⟨h2.mem.trans h1.mem, h2.resps.trans h1.resps, h1.ghost.trans h2.ghost⟩
theorem Moved.shapeSame {s s' : State} (h : Moved s s') : ShapeSame s s' := ⟨shapeOf_of_memOf h.mem, h.resps⟩
theorem Moved.memExt {s s' : State} (h : Moved s s') : MemExt s s' := .of_eq h.mem

theorem shapeSame_with_cur (s : State) (c : Cur) : ShapeSame s { s with cur := c } := ⟨rfl, rfl⟩

theorem MemExt.of_path {cfg : Cfg} {s s' : State} (h : Fn.Path cfg true false s s') : MemExt s s' := by
  induction h with
  | refl => exact .refl _
  | pos i p _ ih => exact ih.trans (.of_eq (memOf_setPos _ i p))
  | cur k _ ih => exact ih.trans (.of_eq rfl)
  | created _ _ hx ih =>
    refine ih.trans ?_
    cases hx with
    | overflow => exact .refl _
    | refused => exact .of_eq rfl
    | granted => exact ⟨[_], by unfold memOf; rw [List.map_append]; rfl⟩
  | wrote _ hw => cases hw

theorem memOf_of_path {cfg : Cfg} {s s' : State} (h : Fn.Path cfg false false s s') : memOf s' = memOf s := by
  induction h with
  | refl => rfl
  | pos i p _ ih => exact (memOf_setPos _ i p).trans ih
  | cur _ _ ih => exact ih
  | created _ hc => cases hc
  | wrote _ hw => cases hw

theorem resps_of_path {cfg : Cfg} {w : Bool} {s s' : State} (h : Fn.Path cfg false w s s') : s'.resps = s.resps := by
  induction h with
  | refl => rfl
  | pos _ _ _ ih => exact ih
  | cur _ _ ih => exact ih
  | created _ hc => cases hc
  | wrote _ _ hx ih => rw [(Fn.writeRange_wrote hx).rest]; exact ih

theorem Moved.of_path {cfg : Cfg} {s s' : State} (h : Fn.Path cfg false false s s') : Moved s s' :=
  ⟨memOf_of_path h, resps_of_path h, h.kept.live, h.kept.minAlign⟩

theorem Moved.setCurPos (s : State) (p : Nat) : Moved s (setCurPos s p) :=
  .of_path (cfg := default) (.setCurPos s p)

/-- `s'` arises from `s` on an allocation path (`RawBump::alloc`, `in_another_chunk`): chunks
    granted by the base allocator may have been appended, existing chunks keep their bytes, and the chunk list
    stays well-formed if the grant is fresh -/
structure Grown (s s' : State) : Prop where
  ext : MemExt s s'
  wf : WFPres s s'
  ghost : SameGhost s s'

theorem Moved.grown {s s' : State} (h : Moved s s') : Grown s s' := ⟨h.memExt, h.shapeSame.wfPres, h.ghost⟩
theorem Grown.refl (s : State) : Grown s s := (Moved.refl s).grown
theorem Grown.of_moved {s t u : State} (h1 : Moved s t) (h2 : Grown t u) : Grown s u :=
  ⟨h1.memExt.trans h2.ext, .same_left h1.shapeSame h2.wf, h1.ghost.trans h2.ghost⟩
theorem Grown.moved {s t u : State} (h1 : Grown s t) (h2 : Moved t u) : Grown s u :=
  ⟨h1.ext.trans h2.memExt, h1.wf.shape_right h2.shapeSame.1, h1.ghost.trans h2.ghost⟩

theorem Grown.append_fresh {cfg : Cfg} {s s' : State} {p g size size' : Nat} {rest : List BaseResp}
    (hresp : s.resps = .granted p g :: rest) (hle : size' ≤ g)
    (hc : s'.chunks = s.chunks ++ [freshChunk cfg p g size size']) (hg : SameGhost s s') : Grown s s' := by
  refine ⟨⟨[(freshChunk cfg p g size size').memCell], by unfold memOf; rw [hc, List.map_append]; rfl⟩, ?_, hg⟩
  intro hw hf
  unfold MemWF ChunksDisjoint DataOK at hw ⊢
  rw [hc]
  constructor
  · rw [List.pairwise_append]
    refine ⟨hw.1, List.pairwise_singleton _ _, ?_⟩
    intro c hcm d hd
    rw [List.mem_singleton.mp hd]
    have := hf p g rest hresp c.memShape (List.mem_map_of_mem hcm)
    simp only [freshChunk, Chunk.memShape] at this ⊢
    omega
  · intro c hcm
    rcases List.mem_append.mp hcm with h1 | h1
    · exact hw.2 c h1
    · rw [List.mem_singleton.mp h1]
      exact Array.size_replicate

/-- what a sane base allocator answers: non-null 16-aligned blocks that do not wrap, do not overlap
    a chunk of the arena or each other -/
def RespsSane (cfg : Cfg) (s : State) (resps : List BaseResp) : Prop :=
  (∀ p g, BaseResp.granted p g ∈ resps → p ≠ 0 ∧ 16 ∣ p ∧ cfg.hdr.align ∣ p ∧ p + g < 2 ^ 64 ∧
      ∀ c ∈ s.chunks, p + g ≤ c.base ∨ c.base + c.size ≤ p) ∧
  resps.Pairwise (fun a b => match a, b with
    | .granted p g, .granted q k => p + g ≤ q ∨ q + k ≤ p
    | _, _ => True)

end Arena.Mem
