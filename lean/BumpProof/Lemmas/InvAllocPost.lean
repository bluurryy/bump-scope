/-
  Lemmas/InvAllocPost.lean — the allocation paths (`tryCur`, `inAnotherChunk`, `allocGeneric`, `alloc`)
  seen from all three worlds at once: geometry (`SlowPost`), ghost state (`Stable`) and live blocks
  (`LiveOK`), as one post-condition `AllocPost`.
-/
import BumpProof.Lemmas.InvStable


namespace Arena.Hist
open Rs

variable {cfg : Cfg}

/-- plain allocation from the free part of the current chunk -/
theorem liveOK_carve2 {s : State} {i : Nat} {c : Chunk} {p size np : Nat}
    (hl : Mem.LiveOK cfg s) (hd : ChunksDisjoint s) (hpos : c.contentStart cfg ≤ c.pos ∧ c.pos ≤ c.contentEnd cfg)
    (hcur : s.cur = .chunk i) (hc : s.chunks[i]? = some c)
    (hgeo : if cfg.up then c.pos ≤ p ∧ p + size ≤ np ∧ np ≤ c.contentEnd cfg
            else c.contentStart cfg ≤ np ∧ np ≤ p ∧ p + size ≤ c.pos) :
    Mem.AllocOutcome cfg (setPos s i np) p size :=
  (hl.behind hcur hc _).carve hl.aligned hl.disjoint hd rfl hc (Mem.Between.of_chain (by
    split at hgeo
    · rename_i hup; rw [if_pos hup]; exact ⟨hpos.1, hgeo.1, hgeo.2.1, hgeo.2.2⟩
    · rename_i hup; rw [if_neg hup]; exact ⟨hgeo.1, hgeo.2.1, hgeo.2.2, hpos.2⟩)) hcur rfl (Mem.filter_all _)

/-- where a successful `tryCur`-like call found its block, relative to the FINAL state `s'` -/
def FoundAt (cfg : Cfg) (k : Kind) (L : Layout) (s' : State) (v : Nat × Nat) : Prop :=
  match k with
  | .alloc => L.align ∣ v.1
  | .prepare => L.align ∣ v.1 ∧ ∃ i c, s'.cur = .chunk i ∧ s'.chunks[i]? = some c ∧
      (if cfg.up then c.pos ≤ v.1 ∧ v.1 + L.size ≤ c.contentEnd cfg
       else c.contentStart cfg ≤ v.1 ∧ v.1 + L.size ≤ c.pos)
  | .range => L.align ∣ v.1 ∧ L.align ∣ v.2 ∧ v.1 + L.size ≤ v.2 ∧ ∃ i c, s'.cur = .chunk i ∧ s'.chunks[i]? = some c ∧
      (if cfg.up then c.pos ≤ v.1 ∧ v.2 ≤ c.contentEnd cfg else c.contentStart cfg ≤ v.1 ∧ v.2 ≤ c.pos)

structure AllocPost (cfg : Cfg) (k : Kind) (L : Layout) (s s' : State) (r : Except AErr (Nat × Nat)) : Prop where
  inv : GeomInv cfg s'
  resps : RespsOK cfg s'
  minAlign : s'.minAlign = s.minAlign
  disj : ChunksDisjoint s'
  fresh : RespsFresh s'
  stable : Stable s s'
  unalloc : s'.cur = .unallocated → s.cur = .unallocated ∧ SameShape s s'
  curKind : s'.cur = s.cur ∨ ∃ j, s'.cur = .chunk j
  cur_ok : ∀ v, r = .ok v → ∃ j, s'.cur = .chunk j
  /-- a refused request leaves the chunk it started in current, with its position (`in_another_chunk` goes back to it; crate commit c107ca6) -/
  cur_err : ∀ e, r = .error e → s'.cur = s.cur ∧ ∀ i c, s.cur = .chunk i → s.chunks[i]? = some c →
    ∃ c', s'.chunks[i]? = some c' ∧ c'.base = c.base ∧ c'.size = c.size ∧ c'.pos = c.pos
  live : Mem.LiveOK cfg s → Mem.LiveOK cfg s'
  outcome : k = .alloc → ∀ v, r = .ok v → Mem.LiveOK cfg s → Mem.AllocOutcome cfg s' v.1 L.size
  found : ∀ v, r = .ok v → FoundAt cfg k L s' v

theorem foundAt_of_spec (hc : CfgOK cfg) {sx s' : State} (h : GeomInv cfg sx) {k : Kind} {L : Layout} (hL : L.Valid)
    (hk : k = .range → L.align ∣ L.size) {v : Nat × Nat} (hspec : tryCurSpec cfg k sx L = some (v, s')) :
    FoundAt cfg k L s' v := by
  unfold FoundAt
  cases k with
  | alloc =>
    obtain ⟨i, c, np, hcur, hi, hs', h1, h2, h3, h4, h5, h6⟩ := tryCurSpec_alloc_some hc h hL hspec
    exact h4
  | prepare =>
    obtain ⟨rfl, i, c, hcur, hi, h4, _, h6⟩ := tryCurSpec_prepare_some hc h hL hspec
    exact ⟨h4, i, c, hcur, hi, h6⟩
  | range =>
    obtain ⟨rfl, i, c, hcur, hi, h4, h5, h6, h7⟩ := tryCurSpec_range_some hc h hL (hk rfl) hspec
    exact ⟨h4, h5, h6, i, c, hcur, hi, h7⟩

theorem tryCur_post (hc : CfgOK cfg) {s : State} (h : GeomInv cfg s) (hr : RespsOK cfg s)
    (hd : ChunksDisjoint s) (hf : RespsFresh s) (k : Kind) {L : Layout} {hints : Hints} (hL : L.Valid)
    (hh : hints.sma = true → L.align ∣ L.size) (hk : k = .range → L.align ∣ L.size)
    {v : Nat × Nat} {s' : State} (he : tryCur cfg k s L hints = .ok (some (v, s'))) :
    AllocPost cfg k L s s' (.ok v) := by
  have hspec : tryCurSpec cfg k s L = some (v, s') := by
    rw [tryCur_eq hc h k hL hh] at he; injection he
  obtain ⟨⟨g1, g2, g4, g5⟩, g3, _⟩ := tryCurSpec_inv hc h hL hspec
  obtain ⟨j, hj⟩ := tryCurSpec_isChunk hL hspec
  have hst : Stable s s' := .of_path (Fn.tryCur_path he)
  have hlive : Mem.LiveOK cfg s → Mem.AllocOutcome cfg s' v.1 L.size ∨ (k ≠ .alloc ∧ s' = s) := by
    intro hl
    cases k with
    | alloc =>
      exact .inl (Mem.allocOutcome_tryCur hl hd (curPosOK_of h) (bumpProps_valid hc h hL hh) he).1
    | prepare => exact Or.inr ⟨by simp, (tryCurSpec_prepare_some hc h hL hspec).1⟩
    | range => exact Or.inr ⟨by simp, tryCurSpec_range_state hspec⟩
  refine ⟨g1, fun x hx => hr x (g5 ▸ hx), g4, g2.disjoint hd, g2.respsFresh g5 hf, hst,
    fun hx => (by rw [g3, hj] at hx; cases hx), Or.inl g3, fun _ _ => ⟨j, g3.trans hj⟩,
    fun e he => (by cases he), ?_, ?_, ?_⟩
  · intro hl
    rcases hlive hl with ho | ⟨_, rfl⟩
    · exact ho.live
    · exact hl
  · intro hk' v' hv' hl
    cases hv'
    rcases hlive hl with ho | ⟨hne, _⟩
    · exact ho
    · exact absurd hk' hne
  · intro v' hv'
    cases hv'
    exact foundAt_of_spec hc h hL hk hspec

/-- where a successful `alloc` from the current chunk of `sx` leaves the block: that chunk, `c0`, stays current with a
    new position `np`; the block lies in its content range next to `np`, on the free side of the old position -/
theorem tryCurSpec_alloc_where (hc : CfgOK cfg) {sx s' : State} (hx : GeomInv cfg sx) {L : Layout} (hL : L.Valid)
    {v : Nat × Nat} (hspec : tryCurSpec cfg .alloc sx L = some (v, s')) :
    ∃ i c0 np, sx.cur = .chunk i ∧ sx.chunks[i]? = some c0 ∧ s'.cur = .chunk i ∧
      s'.chunks[i]? = some { c0 with pos := np } ∧ Mem.InContent cfg c0 v.1 L.size ∧
      (if cfg.up then v.1 + L.size ≤ np else np = v.1) ∧
      (if cfg.up then c0.pos ≤ v.1 ∧ c0.pos ≤ np else v.1 + L.size ≤ c0.pos ∧ np ≤ c0.pos) := by
  obtain ⟨i, c0, np, hcur, hi, hs', h1, h2, h3, h4, h5, h6⟩ := tryCurSpec_alloc_some hc hx hL hspec
  have hw := hx.chunks i c0 hi
  have a1 := hw.pos_ge; have a2 := hw.pos_le
  refine ⟨i, c0, np, hcur, hi, by rw [hs', setCurPos_cur]; exact hcur, ?_, ?_, ?_, ?_⟩
  · rw [hs', Mem.setCurPos_chunk hcur]; exact Mem.setPos_getElem?_self hi np
  · unfold Mem.InContent
    split at h6 <;> omega
  · split at h6
    · rename_i hup; rw [if_pos hup]; omega
    · rename_i hup; rw [if_neg hup]; omega
  · split at h6
    · rename_i hup; rw [if_pos hup]; omega
    · rename_i hup; rw [if_neg hup]; omega

theorem inAnotherChunk_post (hc : CfgOK cfg) {s : State} (h : GeomInv cfg s) (hr : RespsOK cfg s)
    (hd : ChunksDisjoint s) (hf : RespsFresh s) (k : Kind) {L : Layout} {hints : Hints} (hL : L.Valid)
    (hh : hints.sma = true → L.align ∣ L.size) (hk : k = .range → L.align ∣ L.size)
    {s' : State} {r : Except AErr (Nat × Nat)} (he : inAnotherChunk cfg k s L hints = .ok (s', r)) :
    AllocPost cfg k L s s' r := by
  obtain ⟨sp, sfrom⟩ := (inAnotherChunk_ok hc h hr k hL hh hk).1 _ he
  have lf := Ledger.inAnotherChunk_frame he
  obtain ⟨d1, d2⟩ := sp.trace.disjoint hd hf
  have hst : Stable s s' := .of_path (Fn.inAnotherChunk_path he)
  -- the situation after a success
  have hsucc : ∀ v, r = .ok v → ∃ sx, GeomInv cfg sx ∧ tryCurSpec cfg k sx L = some (v, s') ∧
      (∀ i, s.cur = .chunk i → ∃ j, sx.cur = .chunk j ∧ i < j) := by
    intro v hv
    obtain ⟨sx, x1, x2, x3, x4⟩ := sfrom v hv
    refine ⟨sx, x1, x3, ?_⟩
    intro i hi
    rcases x4 with ⟨_, i0, j, hi0, hj, hlt⟩ | ⟨p, g, rest, c, _, _, _, _, hcx⟩
    · rw [hi] at hi0; cases hi0
      exact ⟨j, hj, hlt⟩
    · exact ⟨_, hcx, h.lt_length hi⟩
  have hcurKind : s'.cur = s.cur ∨ ∃ j, s'.cur = .chunk j := by
    cases r with
    | ok v => exact Or.inr (sp.cur_ok v rfl)
    | error e => exact Or.inl (lf.err e rfl).2.1
  have hkeep : ∀ i, s.cur = .chunk i → ∀ j c, j ≤ i → s.chunks[j]? = some c →
      ∃ c', s'.chunks[j]? = some c' ∧ c'.base = c.base ∧ c'.size = c.size ∧ (s'.cur = s.cur → c'.pos = c.pos) := by
    intro i hi j c hji hcj
    obtain ⟨c', hc', hsp, hpos⟩ := (lf.ext (i+1) (fun i' hi' => by rw [hi] at hi'; cases hi'; exact Nat.le_refl _)).chunk j c hcj
    exact ⟨c', hc', hsp.1, hsp.2.1, fun _ => hpos (by omega)⟩
  have hlive : Mem.LiveOK cfg s → Mem.LiveOK cfg s' := by
    intro hl
    refine hl.follow hst.live hkeep ?_
    cases r with
    | error e => exact Or.inl (lf.err e rfl).2.1
    | ok v =>
      obtain ⟨sx, x1, x2, x3⟩ := hsucc v rfl
      obtain ⟨_, g3, _⟩ := tryCurSpec_inv hc x1 hL x2
      obtain ⟨j, hj⟩ := tryCurSpec_isChunk hL x2
      refine Or.inr ⟨j, g3.trans hj, fun i hi => ?_⟩
      obtain ⟨j', hj', hlt⟩ := x3 i hi
      cases hj.symm.trans hj'
      exact hlt
  have herr : ∀ e, r = .error e → s'.cur = s.cur ∧ ∀ i c, s.cur = .chunk i → s.chunks[i]? = some c →
      ∃ c', s'.chunks[i]? = some c' ∧ c'.base = c.base ∧ c'.size = c.size ∧ c'.pos = c.pos := by
    intro e he
    refine ⟨(lf.err e he).2.1, fun i c hi hci => ?_⟩
    obtain ⟨c', hc', e1, e2, e3⟩ := hkeep i hi i c (Nat.le_refl _) hci
    exact ⟨c', hc', e1, e2, e3 (lf.err e he).2.1⟩
  refine ⟨sp.inv, sp.resps, sp.minAlign, d1, d2, hst, sp.unalloc, hcurKind, sp.cur_ok, herr, hlive, ?_, ?_⟩
  · intro hk' v hv hl
    subst hk'
    obtain ⟨sx, x1, x2, x3⟩ := hsucc v hv
    obtain ⟨j, c, np, hcur, hi, hcur', hself, hnew, h6, _⟩ := tryCurSpec_alloc_where hc x1 hL x2
    refine ⟨hlive hl, ⟨j, j, _, hcur', Nat.le_refl _, hself, hnew, fun _ => ?_⟩, ?_⟩
    · show if cfg.up then v.1 + L.size ≤ np else np ≤ v.1
      split at h6
      · rename_i hup; rw [if_pos hup]; exact h6
      · rename_i hup; rw [if_neg hup]; exact Nat.le_of_eq h6
    · intro b hb
      rw [hst.live] at hb
      by_cases hs : 0 < b.size
      · obtain ⟨i, j', cj, g1, g2, g3, g4, _⟩ := hl.placed b hb hs
        obtain ⟨j2, hj2, hlt⟩ := x3 i g1
        have : j2 = j := by rw [hcur] at hj2; cases hj2; rfl
        subst this
        obtain ⟨c', hc', e1, e2⟩ := hst.cov j' cj g3
        exact Mem.inContent_disjoint_chunks d1 hself hc' (by omega)
          (Mem.InContent.of_same e1 e2 g4) hnew
      · left; omega
  · intro v hv
    obtain ⟨sx, x1, x2, _⟩ := hsucc v hv
    exact foundAt_of_spec hc x1 hL hk x2

theorem allocGeneric_post (hc : CfgOK cfg) {s : State} (h : GeomInv cfg s) (hr : RespsOK cfg s)
    (hd : ChunksDisjoint s) (hf : RespsFresh s) (k : Kind) {L : Layout} {hints hSlow : Hints} (hL : L.Valid)
    (hh : hints.sma = true → L.align ∣ L.size) (hhs : hSlow.sma = true → L.align ∣ L.size)
    (hk : k = .range → L.align ∣ L.size)
    {s' : State} {r : Except AErr (Nat × Nat)} (he : allocGeneric cfg k s L hints hSlow = .ok (s', r)) :
    AllocPost cfg k L s s' r := by
  rcases Fn.allocGeneric_cases he with ⟨v, rfl, ht⟩ | ⟨_, hs⟩
  · exact tryCur_post hc h hr hd hf k hL hh hk ht
  · exact inAnotherChunk_post hc h hr hd hf k hL hhs hk hs

theorem alloc_split {s s' : State} {L : Layout} {r : Except AErr Nat} (h : alloc cfg s L = .ok (s', r)) :
    ∃ r', allocGeneric cfg .alloc s L Hints.custom Hints.custom = .ok (s', r') ∧ r = r'.map (·.1) :=
  Fn.alloc_eq_ok h

theorem alloc_post (hc : CfgOK cfg) {s : State} (h : GeomInv cfg s) (hr : RespsOK cfg s)
    (hd : ChunksDisjoint s) (hf : RespsFresh s) {L : Layout} (hL : L.Valid)
    {s' : State} {r : Except AErr Nat} (he : alloc cfg s L = .ok (s', r)) :
    ∃ r', r = r'.map (·.1) ∧ AllocPost cfg .alloc L s s' r' := by
  obtain ⟨r', h1, h2⟩ := Mem.alloc_eq_ok he
  exact ⟨r', h2, allocGeneric_post hc h hr hd hf .alloc hL (custom_sma L) (custom_sma L)
    (fun hx => by cases hx) h1⟩

/-- the allocation attempt inside a reallocation -/
theorem allocVia_post (hc : CfgOK cfg) {s : State} (h : GeomInv cfg s) (hr : RespsOK cfg s)
    (hd : ChunksDisjoint s) (hf : RespsFresh s) {L : Layout} (hL : L.Valid)
    {s1 : State} {r1 : Except AErr Nat} (hvia : AllocVia cfg s L s1 r1) :
    ∃ r', r1 = r'.map (·.1) ∧ AllocPost cfg .alloc L s s1 r' := by
  rcases hvia with ha | ⟨r0, h1, rfl⟩
  · exact alloc_post hc h hr hd hf hL ha
  · exact ⟨r0, rfl, inAnotherChunk_post hc h hr hd hf .alloc hL (custom_sma L) (fun hx => by cases hx) h1⟩

end Arena.Hist
