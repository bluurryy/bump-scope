/-
  Lemmas/CollFail.lean — what `Props/C07Coll.lean` (the refused-reservation branch of every growing operation of
  `Coll/Vecs.lean`, `Coll/Rev.lean`) needs besides the model: a refused reservation was needed, a capacity without
  a layout does not fit, and the by-value arguments of an operation of the histories.
-/
import BumpProof.Coll.Rev
import BumpProof.Coll.Run

namespace Coll

theorem fits_false {env : Env} {m c : Nat} (hm : env.maxCap = some m) (h : c > m) : env.fits c = false := by
  simp [Env.fits, hm]; omega

theorem reserve_none_gt {env : Env} {v : Vec} {n : Nat} (h : reserve env v n = none) : n > v.cap - v.len := by
  unfold reserve at h
  by_cases hh : n > v.cap - v.len
  · exact hh
  · simp [hh] at h

theorem rreserve_none_gt {env : Env} {v : Vec} {n : Nat} (h : rreserve env v n = none) : n > v.cap - v.len := by
  unfold rreserve at h
  by_cases hh : n > v.cap - v.len
  · exact hh
  · simp [hh] at h

/-- the by-value arguments of an operation -/
def argsOf : Op → List Id
  | .push id => [id]
  | .insert _ id => [id]
  | .resize _ value _ => [value]
  | _ => []

end Coll
