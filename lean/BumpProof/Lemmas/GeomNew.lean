/-
  Lemmas/GeomNew.lean — chunk creation: `newChunk` as a wide-integer specification (`newChunkForCapacity`,
  `appendFor` reduce to it by the equations of `Lemmas/FnCreate`), and the invariant of the states they produce.
-/
import BumpProof.Lemmas.GeomPos
import BumpProof.Lemmas.FnCreate

set_option linter.unusedSimpArgs false
set_option linter.unusedVariables false

namespace Arena
open Rs Lemmas

section
variable {cfg : Cfg} {s : State}

/-- the chunk `NonDummyChunk::new` builds in the block `[p, p+g)` -/
def freshChunk (cfg : Cfg) (p g size : Nat) : Chunk :=
  { base := p, size := Spec.downAlign g (Spec.sizeAlign cfg.up cfg.hdr),
    pos := if cfg.up then p + cfg.hdr.size else p + Spec.downAlign g (Spec.sizeAlign cfg.up cfg.hdr) - cfg.hdr.size,
    granted := g, reqSize := size, data := Array.replicate (Spec.downAlign g (Spec.sizeAlign cfg.up cfg.hdr)) 0xAA }

theorem freshChunk_wf (hc : CfgOK cfg) {p g size : Nat} (hg : RespGeomOK cfg (.granted p g))
    (hsz : cfg.hdr.size ≤ size) (hle : size ≤ Spec.downAlign g (Spec.sizeAlign cfg.up cfg.hdr)) :
    ChunkWF cfg (freshChunk cfg p g size) ∧ 16 ∣ (freshChunk cfg p g size).pos ∧
      (freshChunk cfg p g size).pos = ((freshChunk cfg p g size).resetPos cfg).pos := by
  obtain ⟨hg1, hg2, hg3⟩ := hg
  rw [show (2:Nat) ^ 63 = 9223372036854775808 by decide] at hg3
  have hpos : (freshChunk cfg p g size).pos = ((freshChunk cfg p g size).resetPos cfg).pos :=
    (Fn.freshChunk_pos cfg p g size _).symm
  obtain ⟨h16, hleg, hal, -⟩ := Lemmas.alignedSize_props hc.hdr cfg.up g
  have hend : p + Spec.downAlign g (Spec.sizeAlign cfg.up cfg.hdr) < 2 ^ 64 ∧
      Spec.downAlign g (Spec.sizeAlign cfg.up cfg.hdr) ≤ Rs.IMAX := by
    rw [two_pow_64, IMAX_eq]; omega
  have hhs : cfg.hdr.size ≤ Spec.downAlign g (Spec.sizeAlign cfg.up cfg.hdr) := Nat.le_trans hsz hle
  -- the position of a fresh chunk is its reset position: all that is needed is `contentStart ≤ contentEnd`
  have hse : (freshChunk cfg p g size).contentStart cfg ≤ (freshChunk cfg p g size).contentEnd cfg := by
    show (if cfg.up then p + cfg.hdr.size else p) ≤ (if cfg.up then p + Spec.downAlign g _ else p + Spec.downAlign g _ - cfg.hdr.size)
    split
    · exact Nat.add_le_add_left hhs p
    · exact Nat.le_sub_of_add_le (Nat.add_le_add_left hhs p)
  have hw : ChunkWF cfg (freshChunk cfg p g size) := by
    refine ⟨h16, hhs, hg1, hg2, hend.1, hend.2, ?_, ?_, Array.size_replicate .., hal, hle, hleg⟩
    · rw [hpos]; unfold Chunk.resetPos; show _ ≤ (if cfg.up then _ else _); split
      · exact Nat.le_refl _
      · exact hse
    · rw [hpos]; unfold Chunk.resetPos; show (if cfg.up then _ else _) ≤ _; split
      · exact hse
      · exact Nat.le_refl _
  exact ⟨hw, hpos ▸ resetPos_pos16 hc hw, hpos⟩

theorem RespsOK.tail {rest : List BaseResp} {r : BaseResp} (hr : RespsOK cfg s) (hrs : s.resps = r :: rest)
    {s' : State} (hs' : s'.resps = rest) : RespsOK cfg s' := by
  intro x hx
  rw [hs'] at hx
  exact hr x (by rw [hrs]; exact List.mem_cons_of_mem _ hx)

/-! ## How the chunk list and the pending responses evolve -/

/-- nothing new (up to positions and bytes; possibly a refusal was consumed), or exactly one new chunk
    inside the block the base allocator just granted (that response was consumed) -/
def Trace (s s' : State) : Prop :=
  (SameShape s s' ∧ (s'.resps = s.resps ∨ s.resps = .fail :: s'.resps)) ∨
  (∃ p g c, s.resps = .granted p g :: s'.resps ∧ c.base = p ∧ c.size ≤ g ∧
     s'.chunks.map Chunk.shape = s.chunks.map Chunk.shape ++ [Chunk.shape c])

theorem Trace.refl (s : State) : Trace s s := Or.inl ⟨SameShape.refl s, Or.inl rfl⟩

theorem Trace.of_shape {s s' : State} (h : SameShape s s') (hr : s'.resps = s.resps) : Trace s s' :=
  Or.inl ⟨h, Or.inl hr⟩

theorem Trace.pre {a b c : State} (h : SameShape a b) (hr : b.resps = a.resps) (t : Trace b c) : Trace a c := by
  have hb : b.chunks.map Chunk.shape = a.chunks.map Chunk.shape := h
  unfold Trace SameShape at *
  rw [hr, hb] at t
  exact t

theorem Trace.post {a b c : State} (t : Trace a b) (h : SameShape b c) (hr : c.resps = b.resps) : Trace a c := by
  have hc : c.chunks.map Chunk.shape = b.chunks.map Chunk.shape := h
  unfold Trace SameShape at *
  rw [hr, hc]
  exact t

theorem GeomInv.append (h : GeomInv cfg s) {c : Chunk} (hw : ChunkWF cfg c) {s' : State}
    (hch : s'.chunks = s.chunks ++ [c]) (hcur : s'.cur = s.cur) (hma : s'.minAlign = s.minAlign) : GeomInv cfg s' := by
  refine ⟨?_, hma ▸ h.minAlign, ?_⟩
  · intro j d hj
    have hm := List.mem_of_getElem? hj
    rw [hch, List.mem_append, List.mem_singleton] at hm
    rcases hm with hm | rfl
    · exact h.mem hm
    · exact hw
  · intro j hj
    rw [hcur] at hj
    obtain ⟨d, hd, hdiv⟩ := h.cur j hj
    refine ⟨d, ?_, hma ▸ hdiv⟩
    rw [hch, List.getElem?_append, if_pos (List.getElem?_eq_some_iff.1 hd).1]
    exact hd

/-- what `newChunk` / `newChunkForCapacity` / `appendFor` leave behind -/
structure NewPost (cfg : Cfg) (s s' : State) (r : Except AErr Nat) : Prop where
  inv : GeomInv cfg s'
  resps : RespsOK cfg s'
  cur : s'.cur = s.cur
  minAlign : s'.minAlign = s.minAlign
  err : ∀ e, r = .error e → s'.chunks = s.chunks
  /-- success: exactly one chunk was appended, `r` is its index, its position is the reset position -/
  ok : ∀ i, r = .ok i → i = s.chunks.length ∧
    ∃ c, s'.chunks = s.chunks ++ [c] ∧ 16 ∣ c.pos ∧ c.pos = (c.resetPos cfg).pos
  trace : Trace s s'

theorem NewPost.refl (h : GeomInv cfg s) (hr : RespsOK cfg s) (e : AErr) : NewPost cfg s s (.error e) :=
  ⟨h, hr, rfl, rfl, fun _ _ => rfl, fun i hi => (by cases hi), Trace.refl _⟩

/-- `NonDummyChunk::new`.  The only faults are a missing response and a granted block that is smaller than
    requested; with a pending correct response there is none, provided the requested size is a multiple of
    `sizeAlign`: the grant is rounded DOWN to such a multiple, and only then is `size ≤` the rounded grant.  On success
    the new chunk is `freshChunk` in the granted block. -/
theorem newChunk_ok (hc : CfgOK cfg) (hr : RespsOK cfg s) (size : Nat) :
    Ensures (newChunk cfg s size) (Spec.sizeAlign cfg.up cfg.hdr ∣ size ∧ HeadOK cfg s size) fun x =>
      GeomInv cfg s → cfg.hdr.size ≤ size →
      NewPost cfg s x.1 x.2 ∧ ∀ i, x.2 = .ok i → ∃ p g rest, s.resps = .granted p g :: rest ∧
        size ≤ Spec.downAlign g (Spec.sizeAlign cfg.up cfg.hdr) ∧ x.1.chunks = s.chunks ++ [freshChunk cfg p g size] := by
  unfold newChunk
  refine .branch (fun _ => .ok fun h _ => ⟨NewPost.refl h hr _, fun i hi => by cases hi⟩) fun _ => ?_
  cases hrs : s.resps with
  | nil => exact .error (fun ⟨_, r, rest, hx, _⟩ => by rw [hrs] at hx; cases hx)
  | cons r rest =>
    cases r with
    | fail =>
      exact .ok fun h _ => ⟨⟨⟨h.chunks, h.minAlign, h.cur⟩, hr.tail hrs rfl, rfl, rfl, fun _ _ => rfl,
        fun i hi => (by cases hi), Or.inl ⟨SameShape.refl _, Or.inr hrs⟩⟩, fun i hi => by cases hi⟩
    | granted p g =>
      have hg : RespGeomOK cfg (.granted p g) := hr _ (by rw [hrs]; exact List.mem_cons_self)
      have hg64 : g < 2 ^ 64 := Nat.lt_of_le_of_lt (Nat.le_add_left g p) (Nat.lt_trans hg.2.2 (by decide))
      obtain ⟨h16, hleg, -, hfits⟩ := Lemmas.alignedSize_props hc.hdr cfg.up g
      refine .lift (C12.align_size_eq cfg.up cfg.hdr hc.hdr g hg64) (.assert (fun ⟨hd, r0, rest0, hx, hok⟩ => ?_) fun hle =>
        .assert (fun _ => Nat.mod_eq_zero_of_dvd h16) fun _ => .ok fun h hsz => ?_)
      · rw [hrs] at hx; cases hx
        exact hfits size hd hok.1
      · have hw := freshChunk_wf hc hg hsz hle
        exact ⟨⟨h.append hw.1 rfl rfl rfl, hr.tail hrs rfl, rfl, rfl, fun e he => (by cases he),
          fun i hi => (by cases hi; exact ⟨rfl, _, rfl, hw.2.1, hw.2.2⟩),
          Or.inr ⟨p, g, freshChunk cfg p g size, hrs, rfl, hleg, List.map_append⟩⟩,
          fun i hi => ⟨p, g, rest, rfl, hle, rfl⟩⟩

theorem newChunk_post (hc : CfgOK cfg) (h : GeomInv cfg s) (hr : RespsOK cfg s) {size : Nat}
    (hsz : cfg.hdr.size ≤ size) {s' : State} {r : Except AErr Nat} (he : newChunk cfg s size = .ok (s', r)) :
    NewPost cfg s s' r ∧ (∀ i, r = .ok i → ∃ c, s'.chunks[i]? = some c ∧ size ≤ c.size) := by
  obtain ⟨np, hd⟩ := (newChunk_ok hc hr size).1 _ he h hsz
  refine ⟨np, fun i hi => ?_⟩
  obtain ⟨p, g, rest, _, hle, hch⟩ := hd i hi
  refine ⟨freshChunk cfg p g size, ?_, hle⟩
  rw [hch, (np.ok i hi).1]
  exact List.getElem?_concat_length

theorem newChunk_noFault (hc : CfgOK cfg) (hr : RespsOK cfg s) {size : Nat}
    (hd : Spec.sizeAlign cfg.up cfg.hdr ∣ size) (hh : HeadOK cfg s size) :
    ∃ s' r, newChunk cfg s size = .ok (s', r) :=
  (newChunk_ok hc hr size).noFault ⟨hd, hh⟩

theorem NewPost.withCur {s s' : State} {i : Nat} (p : NewPost cfg s s' (.ok i)) :
    GeomInv cfg { s' with cur := .chunk i } := by
  obtain ⟨e1, c, hch, h16, _⟩ := p.ok i rfl
  have hget : s'.chunks[i]? = some c := by rw [hch, e1]; exact List.getElem?_concat_length
  exact p.inv.withCur hget (p.inv.minAlign.dvd_of_16 h16)

/-! ## Size computations of the slow path -/

/-- `Fn.newChunkForCapacity_eq` with `CfgOK` for `HeaderOK` -/
theorem newChunkForCapacity_eq (hc : CfgOK cfg) {L : Layout} (hL : L.Valid) :
    newChunkForCapacity cfg s L =
      match Spec.calcSize cfg.up cfg.hdr (Nat.max (Spec.hintFromCapacity cfg.up cfg.hdr L) cfg.minChunk) with
      | none => .ok (s, .error .capacityOverflow)
      | some size => newChunk cfg s size :=
  Fn.newChunkForCapacity_eq hc.hdr hL

/-- `Fn.appendFor_eq` with `CfgOK` for `HeaderOK` -/
theorem appendFor_eq (hc : CfgOK cfg) {L : Layout} (hL : L.Valid) {last : Chunk} (hlast : s.chunks.getLast? = some last) :
    appendFor cfg s L =
      match Spec.calcSize cfg.up cfg.hdr
          (Nat.max (Nat.max (Spec.hintFromCapacity cfg.up cfg.hdr L) (2 * last.size)) cfg.minChunk) with
      | none => .ok (s, .error .capacityOverflow)
      | some size => newChunk cfg s size :=
  Fn.appendFor_eq hc.hdr hL hlast

/-- a granted request: the head response became `freshChunk` of the size computed from `hint` -/
def Granted (cfg : Cfg) (hint : Nat) (s s' : State) : Prop :=
  ∃ size p g rest, Spec.calcSize cfg.up cfg.hdr hint = some size ∧ s.resps = .granted p g :: rest ∧
    size ≤ Spec.downAlign g (Spec.sizeAlign cfg.up cfg.hdr) ∧ s'.chunks = s.chunks ++ [freshChunk cfg p g size]

/-- the common end of `newChunkForCapacity` and `appendFor`: the size is computed from the hint, then the chunk
    is requested -/
theorem newSized_ok (hc : CfgOK cfg) (h : GeomInv cfg s) (hr : RespsOK cfg s) (hint : Nat) :
    Ensures (match Spec.calcSize cfg.up cfg.hdr hint with
        | none => .ok (s, .error .capacityOverflow)
        | some size => newChunk cfg s size)
      (∀ size, Spec.calcSize cfg.up cfg.hdr hint = some size → HeadOK cfg s size)
      fun x => NewPost cfg s x.1 x.2 ∧ ∀ i, x.2 = .ok i → Granted cfg hint s x.1 := by
  cases hs : Spec.calcSize cfg.up cfg.hdr hint with
  | none => exact .ok ⟨NewPost.refl h hr _, fun i hi => by cases hi⟩
  | some size =>
    obtain ⟨_, hsa, hsz, _, _⟩ := C12.calcSize_some hc.hdr hs
    refine (newChunk_ok hc hr size).mono (fun hb => ⟨hsa, hb size rfl⟩) fun x hp => ⟨(hp h hsz).1, fun i hi => ?_⟩
    obtain ⟨p, g, rest, e1, e2, e3⟩ := (hp h hsz).2 i hi
    exact ⟨size, p, g, rest, hs, e1, e2, e3⟩

theorem newChunkForCapacity_ok (hc : CfgOK cfg) (h : GeomInv cfg s) (hr : RespsOK cfg s) {L : Layout} (hL : L.Valid) :
    Ensures (newChunkForCapacity cfg s L)
      (∀ size, Spec.calcSize cfg.up cfg.hdr (Nat.max (Spec.hintFromCapacity cfg.up cfg.hdr L) cfg.minChunk) = some size →
        HeadOK cfg s size) fun x => NewPost cfg s x.1 x.2 := by
  rw [newChunkForCapacity_eq hc hL]
  exact (newSized_ok hc h hr _).mono id fun _ p => p.1

theorem newChunkForCapacity_post (hc : CfgOK cfg) (h : GeomInv cfg s) (hr : RespsOK cfg s) {L : Layout} (hL : L.Valid) :
    (∀ s' r, newChunkForCapacity cfg s L = .ok (s', r) → NewPost cfg s s' r) ∧
    ((∀ size, Spec.calcSize cfg.up cfg.hdr (Nat.max (Spec.hintFromCapacity cfg.up cfg.hdr L) cfg.minChunk) = some size →
        HeadOK cfg s size) → ∃ s' r, newChunkForCapacity cfg s L = .ok (s', r)) :=
  (newChunkForCapacity_ok hc h hr hL).pair

theorem appendFor_ok (hc : CfgOK cfg) (h : GeomInv cfg s) (hr : RespsOK cfg s) {L : Layout} (hL : L.Valid)
    {last : Chunk} (hlast : s.chunks.getLast? = some last) :
    Ensures (appendFor cfg s L)
      (∀ size, Spec.calcSize cfg.up cfg.hdr
        (Nat.max (Nat.max (Spec.hintFromCapacity cfg.up cfg.hdr L) (2 * last.size)) cfg.minChunk) = some size →
        HeadOK cfg s size) fun x => NewPost cfg s x.1 x.2 := by
  rw [appendFor_eq hc hL hlast]
  exact (newSized_ok hc h hr _).mono id fun _ p => p.1

/-! ## The size the slow path asks for (`requestSize`) -/

theorem requestSize_unallocated (hcur : s.cur = .unallocated) (L : Layout) :
    requestSize cfg s L =
      Spec.calcSize cfg.up cfg.hdr (Nat.max (Spec.hintFromCapacity cfg.up cfg.hdr L) cfg.minChunk) := by
  unfold requestSize; simp only [hcur]

theorem requestSize_chunk {i : Nat} (hcur : s.cur = .chunk i) {last : Chunk} (hlast : s.chunks.getLast? = some last)
    (L : Layout) :
    requestSize cfg s L = Spec.calcSize cfg.up cfg.hdr
      (Nat.max (Nat.max (Spec.hintFromCapacity cfg.up cfg.hdr L) (2 * last.size)) cfg.minChunk) := by
  unfold requestSize; simp only [hcur, hlast]

end
end Arena
