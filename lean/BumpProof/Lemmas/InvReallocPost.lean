/-
  Lemmas/InvReallocPost.lean — for the reallocating operations (grow, shrink, shrink_slice, commit,
  alloc_try_with, split, …): one live block is replaced by another.  What is needed to register a new block;
  the last block of the current chunk reallocated inside that chunk (`realloc_last`); the post-condition of a
  reallocating model function in the live-block world (`ReallocPost`) and its assembly into `Inv`.
-/
import BumpProof.Lemmas.InvAllocOps


namespace Arena.Hist
open Rs Lemmas

variable {cfg : Cfg}

theorem placed_sub {s : State} {a sz a' sz' : Nat} (h : Mem.Placed cfg s a sz) (h1 : a ≤ a') (h2 : a' + sz' ≤ a + sz) :
    Mem.Placed cfg s a' sz' := by
  obtain ⟨i, j, c, e1, e2, e3, e4, e5⟩ := h
  refine ⟨i, j, c, e1, e2, e3, ⟨Nat.le_trans e4.1 h1, Nat.le_trans h2 e4.2⟩, fun hji => ?_⟩
  have := e5 hji
  unfold Mem.OnAllocatedSide at this ⊢
  split
  · rename_i hup; rw [if_pos hup] at this; exact Nat.le_trans h2 this
  · rename_i hup; rw [if_neg hup] at this; exact Nat.le_trans this h1

theorem others_disjoint {s : State} (hl : Mem.LiveOK cfg s) {blk : Block} (hb : blk ∈ s.live) {x : Block}
    (hx : x ∈ (removeBlock s blk.id).live) : Mem.BlocksDisjoint x blk := by
  obtain ⟨hx1, hx2⟩ := List.mem_filter.mp hx
  have hne : x ≠ blk := fun e => by simp [e] at hx2
  exact Mem.pairwise_of_mem_ne (fun _ _ => Mem.BlocksDisjoint.symm) hl.disjoint hx1 hb hne

theorem cur_chunk_of_live {g : GState} (h : Inv cfg g) {b : Block} (hb : b ∈ g.s.live) : ∃ j, g.s.cur = .chunk j := by
  cases hcur : g.s.cur with
  | chunk j => exact ⟨j, rfl⟩
  | claimed => exact absurd hcur h.notClaimed
  | unallocated =>
    have := h.liveCur hcur
    rw [this] at hb; cases hb

/-- `[a, a+sz)`, a part of the live block `blk` of `s`, can be registered in a state `s1` (same arena) whose live
    blocks are live blocks of `s` other than `blk`, or apart from `[a, a+sz)` -/
theorem liveOK_sub_of_dropped {s : State} (hl : Mem.LiveOK cfg s) {blk : Block} (hb : blk ∈ s.live)
    {s1 : State} (hl1 : Mem.LiveOK cfg s1) (hch : s1.chunks = s.chunks) (hcur : s1.cur = s.cur) {a sz al : Nat}
    (hsub : ∀ x ∈ s1.live, x ∈ (removeBlock s blk.id).live ∨ Mem.RangesDisjoint x.addr x.size a sz)
    (h1 : blk.addr ≤ a) (h2 : a + sz ≤ blk.addr + blk.size) (hal : al ∣ a) (init : Nat) :
    Mem.LiveOK cfg (Arena.addBlock s1 a sz al init).1 := by
  refine hl1.addBlock init hal (fun hs => (placed_sub (hl.placed blk hb (by omega)) h1 h2).of_geom (by rw [hch]) hcur) ?_
  intro x hx
  rcases hsub x hx with hx | hx
  · rcases others_disjoint hl hb hx with h | h | h | h
    · exact .inl h
    · exact .inr (.inl (by omega))
    · exact .inr (.inr (.inl (Nat.le_trans h h1)))
    · exact .inr (.inr (.inr (Nat.le_trans h2 h)))
  · exact hx

/-! ## reallocating the last block of the current chunk inside that chunk -/

/-- the last block `blk` of the current chunk is given up and `[p, p+size)` is carved between the far end of `blk`
    and the new position `np` -/
theorem realloc_last {s : State} (hl : Mem.LiveOK cfg s) (hd : ChunksDisjoint s) {blk : Block}
    (hb : blk ∈ s.live) {i : Nat} {c : Chunk} (hcur : s.cur = .chunk i) (hc : s.chunks[i]? = some c)
    (hpos : if cfg.up then blk.addr + blk.size = c.pos else blk.addr = c.pos) {p size np : Nat}
    (hgeo : if cfg.up then c.contentStart cfg ≤ blk.addr ∧ blk.addr ≤ p ∧ p + size ≤ np ∧ np ≤ c.contentEnd cfg
            else c.contentStart cfg ≤ np ∧ np ≤ p ∧ p + size ≤ blk.addr + blk.size ∧ blk.addr + blk.size ≤ c.contentEnd cfg) :
    Mem.AllocOutcome cfg (removeBlock (setPos s i np) blk.id) p size :=
  (Mem.Behind.retreat hl hcur hb fun c' hc' => by cases hc.symm.trans hc'; exact hpos).carve hl.aligned hl.disjoint hd rfl hc
    (Mem.Between.of_chain (by
      cases hup : cfg.up
      · simp only [hup, Bool.false_eq_true, ↓reduceIte] at hgeo ⊢; exact hgeo
      · simp only [hup, ↓reduceIte] at hgeo ⊢; exact hgeo)) hcur rfl rfl

/-- upwards, in place: the last block `blk` keeps its address, the position moves to `np` past its new end -/
theorem realloc_last_up {s : State} (hl : Mem.LiveOK cfg s) (hd : ChunksDisjoint s) {blk : Block} (hb : blk ∈ s.live)
    (hup : cfg.up = true) {i : Nat} {c : Chunk} (hcur : s.cur = .chunk i) (hc : s.chunks[i]? = some c)
    (hpos : if cfg.up then blk.addr + blk.size = c.pos else blk.addr = c.pos) (hstart : c.contentStart cfg ≤ blk.addr)
    {size np : Nat} (h1 : blk.addr + size ≤ np) (h2 : np ≤ c.contentEnd cfg) :
    Mem.AllocOutcome cfg (removeBlock (setPos s i np) blk.id) blk.addr size := by
  apply realloc_last hl hd hb hcur hc hpos
  rw [if_pos hup]
  exact ⟨hstart, Nat.le_refl _, h1, h2⟩

/-- downwards, in place: bytes are copied, then the position is set to `na`, the start of the new block, which ends
    where `blk` ended or before -/
theorem realloc_last_down {s : State} (hl : Mem.LiveOK cfg s) (hd : ChunksDisjoint s) {blk : Block} (hb : blk ∈ s.live)
    (hup : cfg.up = false) {i : Nat} {c : Chunk} (hcur : s.cur = .chunk i) (hc : s.chunks[i]? = some c)
    (hpos : if cfg.up then blk.addr + blk.size = c.pos else blk.addr = c.pos)
    (hend : blk.addr + blk.size ≤ c.contentEnd cfg) {na size : Nat} (h1 : c.contentStart cfg ≤ na)
    (h2 : na + size ≤ blk.addr + blk.size) {s1 : State} {src len : Nat} {nov : Bool}
    (hcp : copyBytes cfg s src na len nov = .ok s1) :
    s1.cur = .chunk i ∧ Mem.AllocOutcome cfg (removeBlock (setPos s1 i na) blk.id) na size := by
  have hg := copyBytes_geom hcp
  have ho := Mem.copyBytes_onlyData hcp
  have hcur1 : s1.cur = .chunk i := hg.cur.trans hcur
  obtain ⟨c1, hi1, hcc⟩ := hg.getElem?' hc
  refine ⟨hcur1, ?_⟩
  apply realloc_last (hl.of_onlyData ho) (hg.shape.disjoint hd)
    (show blk ∈ s1.live by rw [(Stable.of_onlyData ho).live]; exact hb) hcur1 hi1 (by rw [geom_pos hcc]; exact hpos)
  rw [if_neg (by rw [hup]; simp), geom_contentStart hcc, geom_contentEnd hcc]
  exact ⟨h1, Nat.le_refl _, h2, hend⟩

/-- the new position of an upwards in-place reallocation to `[ptr, ptr+size)` -/
theorem up_np_bounds (hc : CfgOK cfg) {s : State} (h : GeomInv cfg s) {i : Nat} {c : Chunk}
    (hi : s.chunks[i]? = some c) {ptr size : Nat} (h2 : ptr + size ≤ c.contentEnd cfg) {e np : Nat}
    (he : Rs.add ptr size = .ok e) (hnp : Gen.LibArith.up_align_usize_unchecked e s.minAlign = .ok np) :
    ptr + size ≤ np ∧ np ≤ c.contentEnd cfg := by
  cases (Fn.rs_add_ok he).1
  obtain ⟨e1, e2, e3, _⟩ := (h.chunks i c hi).up_align_val hc h.minAlign h2
  cases e1.symm.trans hnp
  exact ⟨e2, e3⟩

theorem GhostPost.ofAlloc {k : Kind} {L : Layout} {s s' : State} {r : Except AErr (Nat × Nat)}
    (p : AllocPost cfg k L s s' r) : GhostPost s s' := ⟨p.stable, p.unalloc, p.curKind⟩

theorem onlyData_removeBlock {s s' : State} (ho : Mem.OnlyDataChanged s s') (id : Nat) :
    Mem.OnlyDataChanged (removeBlock s id) (removeBlock s' id) := by
  obtain ⟨h1, h2⟩ := ho
  refine ⟨?_, h2⟩
  show removeBlock s' id = { removeBlock s id with chunks := s'.chunks }
  have : removeBlock s' id = removeBlock { s with chunks := s'.chunks } id := by rw [← h1]
  rw [this]
  rfl

theorem allocOutcome_removeBlock {s : State} {p size : Nat} (h : Mem.AllocOutcome cfg s p size) (id : Nat) :
    Mem.AllocOutcome cfg (removeBlock s id) p size :=
  ⟨h.live.removeBlock id, h.placed.of_geom rfl rfl, fun x hx => h.disj x (mem_filter_sub hx)⟩

/-! ## the post-condition of a reallocating model function in the live-block world -/

/-- `res = none`: nothing was reallocated (refusal / `None`), the old block stays live.
    `res = some (np, nsize)`: block `id` is replaced by `[np, np+nsize)` with recorded alignment `al`. -/
structure ReallocPost (cfg : Cfg) (s s' : State) (id al : Nat) (res : Option (Nat × Nat)) : Prop where
  ghost : GhostPost s s'
  kept : res = none → Mem.LiveOK cfg s'
  moved : ∀ v, res = some v → (∃ j, s'.cur = .chunk j) ∧ Mem.LiveOK cfg (removeBlock s' id) ∧
    ∀ init, Mem.LiveOK cfg (Arena.addBlock (removeBlock s' id) v.1 v.2 al init).1

theorem ReallocPost.ofOutcome {s s' : State} {id al np nsize : Nat} (hg : GhostPost s s') (hcur : ∃ j, s'.cur = .chunk j)
    (ho : Mem.AllocOutcome cfg (removeBlock s' id) np nsize) (hal : al ∣ np) :
    ReallocPost cfg s s' id al (some (np, nsize)) :=
  ⟨hg, fun hx => (by cases hx), fun v hv => (by cases hv; exact ⟨hcur, ho.live, fun init => ho.addBlock hal init⟩)⟩

theorem ReallocPost.ofNone {s s' : State} {id al : Nat} (hg : GhostPost s s') (hl : Mem.LiveOK cfg s') :
    ReallocPost cfg s s' id al none :=
  ⟨hg, fun _ => hl, fun v hv => (by cases hv)⟩

theorem ReallocPost.wrote {s s1 s2 : State} {id al : Nat} {res : Option (Nat × Nat)}
    (p : ReallocPost cfg s s1 id al res) (w : Fn.Wrote s1 s2) : ReallocPost cfg s s2 id al res := by
  have ho := w.onlyData
  have hcur := w.sameGeom.cur
  refine ⟨p.ghost.trans (.wrote w),
    fun hn => (p.kept hn).of_onlyData ho, fun v hv => ?_⟩
  obtain ⟨⟨j, hj⟩, a2, a3⟩ := p.moved v hv
  have ho' := onlyData_removeBlock ho id
  exact ⟨⟨j, hcur.trans hj⟩, a2.of_onlyData ho', fun init =>
    Mem.LiveOK.of_geom (s := (Arena.addBlock (removeBlock s1 id) v.1 v.2 al init).1) ho.2 hcur
      (by rw [show (removeBlock s2 id) = { removeBlock s1 id with chunks := s2.chunks } from ho'.1]; rfl) (a3 init)⟩

theorem inv_of_reallocPost {g : GState} (h : Inv cfg g) (hp : g.s.prepared = none) {s' : State}
    (hg : GeomInv cfg s') (hd : ChunksDisjoint s') (hma : s'.minAlign = g.s.minAlign) {id al : Nat}
    {res : Option (Nat × Nat)} (p : ReallocPost cfg g.s s' id al res) (hal : ∃ k, k < 64 ∧ al = 2 ^ k) :
    (res = none → Inv cfg ⟨s', g.marks⟩) ∧
    (∀ v, res = some v → ∀ init, Inv cfg ⟨(Arena.addBlock (removeBlock s' id) v.1 v.2 al init).1, g.marks⟩) := by
  refine ⟨fun hn => ?_, fun v hv init => ?_⟩
  · exact inv_of_stable h hp hg hd hma p.ghost.stable p.ghost.unalloc p.ghost.curKind (p.kept hn)
  · obtain ⟨hcur, hl, hadd⟩ := p.moved v hv
    have h1 : Inv cfg ⟨removeBlock s' id, g.marks⟩ :=
      inv_of_stable_drop h id hp hg hd hma p.ghost.stable p.ghost.unalloc p.ghost.curKind hl
    exact h1.withBlock (hadd init) hcur hal

end Arena.Hist
