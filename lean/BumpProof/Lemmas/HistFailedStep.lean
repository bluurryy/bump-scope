/-
  Lemmas/HistFailedStep.lean — what a `stepCore` that REPORTS AN ERROR (`Out.err e`) leaves behind, for every
  constructor of `Op`: the state is `Ledger.Intact`, the marks are the same, at most one base-allocator
  request was made and none unless the error is a refusal of the base allocator.  Used by `C07` in
  `Props/Hist2.lean`.  The case list `stepCore_err_keeps` starts from the `ok_X` and not from `stepCore_acts`
  (Lemmas/StepActs.lean): `Acts` forgets the output of the step, on which the statement is conditional, and its
  bookkeeping steps (`Book`) may change the live blocks, the regions and `cur`, which `Intact` keeps.
-/
import BumpProof.Lemmas.HistReachable
import BumpProof.Props.C07

set_option linter.unusedSimpArgs false
set_option linter.unusedVariables false

namespace Arena.Hist
open Rs Ledger

variable {cfg : Cfg}

/-- `FK` ("failure keeps"), the state part of "a failed call keeps everything": intact, at most one `alloc` request
    with the header alignment, no base-allocator traffic at all unless the error is `.alloc`.  Besides `Intact` these are
    the first and third conjunct of `C07.FailLedger`; the other two (responses consumed, `claimed` iff the handle is
    claimed) are not needed by C07 and are left out, so that the constructors that create a chunk directly fit too
    (`fk_create`). -/
def FK (cfg : Cfg) (s s' : State) (e : AErr) : Prop :=
  Intact s s' ∧ (s'.reqs = s.reqs ∨ ∃ size, s'.reqs = s.reqs ++ [BaseReq.alloc size cfg.hdr.align]) ∧
  (e ≠ .alloc → s'.reqs = s.reqs ∧ s'.resps = s.resps)

theorem FK.refl (cfg : Cfg) (s : State) (e : AErr) : FK cfg s s e :=
  ⟨Intact.refl s, Or.inl rfl, fun _ => ⟨rfl, rfl⟩⟩

theorem FK.of_ledger {s s' : State} {e : AErr} (h : Intact s s' ∧ C07.FailLedger cfg s s' e) : FK cfg s s' e :=
  ⟨h.1, h.2.1, h.2.2.2.1⟩

theorem fk_alloc {s s' : State} {L : Layout} {e : AErr} (h : alloc cfg s L = .ok (s', .error e)) : FK cfg s s' e :=
  FK.of_ledger (C07.alloc_error_intact h)

theorem fk_allocGeneric {k : Kind} {s s' : State} {L : Layout} {h1 h2 : Hints} {e : AErr}
    (h : allocGeneric cfg k s L h1 h2 = .ok (s', .error e)) : FK cfg s s' e :=
  FK.of_ledger (C07.allocGeneric_error_intact h)

theorem fk_reserve {s s' : State} {n : Nat} {e : AErr} (h : reserve cfg s n = .ok (s', .error e)) : FK cfg s s' e :=
  let ⟨a, b, _⟩ := C07.reserve_error_intact h
  FK.of_ledger ⟨a, b⟩

theorem fk_reserveDyn {s s' : State} {n : Nat} {e : AErr} (h : reserveDyn cfg s n = .ok (s', .error e)) :
    FK cfg s s' e := by
  rcases reserveDyn_cases h with ⟨rfl, -, -⟩ | ⟨-, r1, h1, hr⟩
  · exact FK.refl _ _ _
  · cases r1 with
    | ok v => cases hr
    | error e1 => cases hr; exact fk_allocGeneric h1

theorem fk_shrinkWithoutShrink {s s' : State} {p o : Nat} {L : Layout} {e : AErr}
    (h : shrinkWithoutShrink cfg s p o L = .ok (s', .error e)) : FK cfg s s' e := by
  rcases shrinkWithoutShrink_paths h with ⟨_, _, hr⟩ | ⟨s1, r1, h1, h2, hr⟩
  · cases hr
  · cases r1 <;> cases hr
    cases h2
    exact fk_alloc h1

theorem fk_create {s s' : State} {r : Except AErr Nat} {e : AErr} (h : CreateFrame cfg s s' r) (he : r = .error e) :
    FK cfg s s' e := by
  obtain ⟨c1, c2, c3, c4, c5, c6, c7⟩ := h
  obtain ⟨d1, d2⟩ := c3 e he
  refine ⟨Intact.of_ext (fun n _ => c2 n) (by rw [d1]) c1, c6, fun hne => ?_⟩
  rcases d2 with rfl | rfl
  · exact absurd rfl hne
  · rw [c5 he]; exact ⟨rfl, rfl⟩

/-- every constructor: a `stepCore` that reports an error leaves the state intact.  Read off the shape of the
    successful step (`ok_X`): either its output is not `Out.err`, or the error is the one of its allocating call. -/
theorem stepCore_err_keeps {g g' : GState} {op : Op} {out : Out}
    (hs : stepCore cfg g op = .ok (g', out)) : ∀ e, out = .err e → FK cfg g.s g'.s e ∧ g'.marks = g.marks := by
  intro e he
  subst he
  cases op with
  | drop => exact nomatch (ok_drop hs).2.2.2
  | reset => exact nomatch (ok_reset hs).2.2.2
  | newWithSize n =>
    obtain ⟨_, _, o, _, h⟩ := ok_newWithSize hs
    cases o with
    | none => obtain ⟨rfl, _⟩ := h; exact ⟨FK.refl _ _ _, rfl⟩
    | some size =>
      obtain ⟨s1, r, h1, h⟩ := h
      cases r with
      | error e1 => obtain ⟨rfl, he⟩ := h; cases he; exact ⟨fk_create (newChunk_frame h1) rfl, rfl⟩
      | ok i => exact nomatch h.2
  | newWithCapacity L =>
    obtain ⟨_, _, _, s1, r, h1, h⟩ := ok_newWithCapacity hs
    cases r with
    | error e1 => obtain ⟨rfl, he⟩ := h; cases he; exact ⟨fk_create (newChunkForCapacity_frame h1) rfl, rfl⟩
    | ok i => exact nomatch h.2
  | newUnallocated => exact nomatch (ok_newUnallocated hs).2
  | allocate L z via =>
    obtain ⟨_, _, s1, r, h1, h⟩ := ok_allocate hs
    cases r with
    | error e1 => obtain ⟨rfl, he⟩ := h; cases he; exact ⟨fk_alloc h1, rfl⟩
    | ok p => obtain ⟨_, _, _, he⟩ := h; cases he
  | deallocate b via => obtain ⟨_, _, _, _, _, _, he⟩ := ok_deallocate hs; cases he
  | grow b L z via =>
    obtain ⟨_, _, blk, _, _, s1, r, h1, h⟩ := ok_grow hs
    cases r with
    | error e1 => obtain ⟨rfl, he⟩ := h; cases he; exact ⟨.of_ledger (C07.grow_error_intact h1), rfl⟩
    | ok p => obtain ⟨_, _, _, he⟩ := h; cases he
  | shrink b L via =>
    obtain ⟨_, _, blk, _, _, s1, r, h1, h⟩ := ok_shrink hs
    cases r with
    | error e1 =>
      obtain ⟨rfl, he⟩ := h
      cases he
      split at h1
      · exact ⟨fk_shrinkWithoutShrink h1, rfl⟩
      · exact ⟨.of_ledger (C07.shrink_error_intact h1), rfl⟩
    | ok p => exact nomatch h.2
  | allocLayout L hh =>
    obtain ⟨_, _, _, s1, r, h1, h⟩ := ok_allocLayout hs
    cases r with
    | error e1 => obtain ⟨rfl, he⟩ := h; cases he; exact ⟨fk_allocGeneric h1, rfl⟩
    | ok p => exact nomatch h.2
  | shrinkSlice b n =>
    obtain ⟨_, blk, _, _, s1, r, _, h⟩ := ok_shrinkSlice hs
    cases r <;> exact nomatch h.2
  | prepare L =>
    obtain ⟨_, _, _, s1, r, h1, h⟩ := ok_prepare hs
    cases r with
    | error e1 => obtain ⟨rfl, he⟩ := h; cases he; exact ⟨fk_allocGeneric h1, rfl⟩
    | ok p => exact nomatch h.2
  | commit size rev => obtain ⟨_, _, _, _, _, _, _, _, _, he⟩ := ok_commit hs; cases he
  | prepareSlice esize ealign minCap rev =>
    obtain ⟨_, _, ⟨rfl, _⟩ | ⟨_, s1, r, h1, h⟩⟩ := ok_prepareSlice hs
    · exact ⟨FK.refl _ _ _, rfl⟩
    · cases r with
      | error e1 => obtain ⟨rfl, he⟩ := h; cases he; exact ⟨fk_allocGeneric h1, rfl⟩
      | ok p => exact nomatch h.2
  | fillPrepared len seed => obtain ⟨_, _, _, _, _, _, he⟩ := ok_fillPrepared hs; cases he
  | commitSlice len => obtain ⟨_, _, _, _, _, _, _, _, he⟩ := ok_commitSlice hs; cases he
  | abandonPrepared => exact nomatch (ok_abandonPrepared hs).2
  | reserve n dyn =>
    obtain ⟨_, s1, r, h1, rfl, he⟩ := ok_reserve hs
    cases r with
    | error e1 =>
      cases he
      split at h1
      · exact ⟨fk_reserveDyn h1, rfl⟩
      · exact ⟨fk_reserve h1, rfl⟩
    | ok u => cases he
  | scopeEnter => exact nomatch (ok_scopeEnter hs).2.2
  | scopeExit => obtain ⟨_, _, _, _, _, _, _, _, _, _, he⟩ := ok_scopeExit hs; cases he
  | checkpoint k => exact nomatch (ok_checkpoint hs).2.2.2
  | resetTo k => obtain ⟨_, _, _, _, _, _, _, _, _, _, he⟩ := ok_resetTo hs; cases he
  | resetToStart => exact nomatch (ok_resetToStart hs).2.2.2
  | claim => exact nomatch (ok_claim hs).2.2.2
  | claimEnd => obtain ⟨_, _, _, _, he⟩ := ok_claimEnd hs; cases he
  | onClaimed op' =>
    obtain ⟨_, ⟨rfl, _⟩ | ⟨_, _, _, _, _, _, he⟩ | ⟨_, _, _, _, _, _, _, _, _, _, he⟩⟩ := ok_onClaimed hs
    · exact ⟨FK.refl _ _ _, rfl⟩
    · cases he
    · cases he
  | alignedEnter n => exact nomatch (ok_alignedEnter hs).2.2.1
  | alignedExit => exact nomatch (ok_alignedExit hs).2.1
  | scopedAlignedEnter n => obtain ⟨_, _, _, _, _, he⟩ := ok_scopedAlignedEnter hs; cases he
  | scopedAlignedExit => obtain ⟨_, _, _, _, _, _, _, _, _, _, _, he⟩ := ok_scopedAlignedExit hs; cases he
  | withSettings n ga cl =>
    obtain ⟨_, _, _, ⟨_, _, he⟩ | ⟨_, _, _, he⟩⟩ := ok_withSettings hs <;> cases he
  | allocTryWith L off vsize ok inner m =>
    cases (tryWith_ok hs).2.2.2 with
    | refused h1 => exact ⟨fk_allocGeneric h1, rfl⟩
    | ran _ _ ht => exact absurd rfl (tryTail_ne_err ht e)
  | write b seed => obtain ⟨_, _, _, _, _, he⟩ := ok_write hs; cases he
  | split b at_ => obtain ⟨_, _, _, _, he⟩ := ok_split hs; cases he

/-! ## a refusing base allocator -/

/-- how many pending refusals `answered_of_allFail` asks for: one per allocating call the operation can make
    (`alloc_try_with` whose closure allocates: two) -/
def maxRequests : Op → Nat
  | .allocTryWith _ _ _ _ (some _) _ => 2
  | _ => 1

theorem baseOK_of_fail {s : State} {rest : List BaseResp} (h : s.resps = .fail :: rest) (L : Layout) :
    BaseOK cfg s L := fun _ _ => ⟨.fail, rest, h, trivial⟩

/-- a refusing base allocator "answers" every request (`Answered` only asks that a response is pending and,
    if it is a grant, large enough) -/
theorem answered_of_allFail (g : GState) (op : Op) {resps : List BaseResp} (hall : AllFail resps)
    (hlen : maxRequests op ≤ resps.length) : Answered cfg (install g resps).s op := by
  obtain ⟨r0, rest, rfl⟩ : ∃ r0 rest, resps = r0 :: rest := by
    cases resps with
    | nil => unfold maxRequests at hlen; split at hlen <;> simp at hlen
    | cons a l => exact ⟨a, l, rfl⟩
  have hr0 : r0 = .fail := hall r0 List.mem_cons_self
  subst hr0
  have hb : ∀ L, BaseOK cfg (install g (.fail :: rest)).s L := fun L => baseOK_of_fail rfl L
  cases op with
  | newWithSize n => exact fun size _ => ⟨.fail, rest, rfl, trivial⟩
  | reserve n dyn =>
    cases dyn
    · exact fun _ _ => hb _
    · exact hb _
  | allocTryWith L off vsize ok inner m =>
    refine ⟨hb L, fun Li hLi s1 r hal => ?_⟩
    subst hLi
    obtain ⟨r1, rest1, rfl⟩ : ∃ r1 rest1, rest = r1 :: rest1 := by
      cases rest with
      | nil => simp [maxRequests] at hlen
      | cons a l => exact ⟨a, l, rfl⟩
    have hr1 : r1 = .fail := hall r1 (List.mem_cons_of_mem _ List.mem_cons_self)
    subst hr1
    rcases (allocGeneric_frame hal).2.2.1 with h | ⟨x, h⟩
    · exact baseOK_of_fail (rest := .fail :: rest1) h _
    · have h' : (BaseResp.fail :: BaseResp.fail :: rest1) = x :: s1.resps := h
      simp only [List.cons.injEq] at h'
      exact baseOK_of_fail h'.2.symm _
  | _ => first | exact hb _ | trivial


end Arena.Hist
