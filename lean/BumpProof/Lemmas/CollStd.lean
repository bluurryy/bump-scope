/-
  Lemmas/CollStd.lean — the list-level descriptions of `Coll/Spec.lean` under oracles that do not
  panic are the plain `List` functions that `std::vec::Vec` implements (used by `Props/C08.lean`);
  the clone loop in closed form for every oracle (`extendCloneSpec_closed`).
-/
import BumpProof.Coll.Spec

namespace Coll

/-- the oracle "every callback returns, with these values" -/
def rets (bs : List Nat) : List Outcome := bs.map Outcome.ret

/-- elements of `xs` whose answer satisfies `keep` -/
def keptBy (keep : Nat → Bool) (xs : List Id) (bs : List Nat) : List Id :=
  ((xs.zip bs).filter (fun p => keep p.2)).map (·.1)

theorem keptBy_cons (keep : Nat → Bool) (x : Id) (xs : List Id) (b : Nat) (bs : List Nat) :
    keptBy keep (x :: xs) (b :: bs) = if keep b then x :: keptBy keep xs bs else keptBy keep xs bs := by
  unfold keptBy
  simp only [List.zip_cons_cons, List.filter_cons]
  split <;> simp

theorem sieve_rets (keep : Nat → Bool) (xs : List Id) :
    ∀ (kept : List Id) (bs : List Nat) (o : List Outcome), bs.length = xs.length →
      sieve keep [] kept xs (rets bs ++ o) =
        { final := kept ++ keptBy keep xs bs, dropped := keptBy (fun b => !keep b) xs bs, exit := .ret (), rest := o } := by
  induction xs with
  | nil =>
    intro kept bs o h
    have : bs = [] := List.eq_nil_of_length_eq_zero (by simpa using h)
    subst this
    simp [sieve, rets, keptBy]
  | cons x xs ih =>
    intro kept bs o h
    match bs, h with
    | b :: bs, h =>
      simp only [List.length_cons, Nat.add_right_cancel_iff] at h
      simp only [rets, List.map_cons, List.cons_append, sieve, keptBy_cons]
      simp only [rets] at ih ⊢
      by_cases hk : keep b = true
      · simp [hk, ih (kept ++ [x]) bs o h]
      · have hk' : keep b = false := by simpa using hk
        simp [hk', ih kept bs o h]

theorem clonedIds_length_le (n : Nat) : ∀ (o : List Outcome), (clonedIds n o).length ≤ n := by
  induction n with
  | zero => intro o; simp [clonedIds]
  | succ n ih =>
    intro o
    match o with
    | [] => simp [clonedIds]
    | .panic :: o => simp [clonedIds]
    | .ret id :: o => simp [clonedIds]; exact ih o

/-- the clone loop on lists in closed form: the clones that were made go behind `xs`; how the loop ends and what it
    leaves of the oracle does not depend on `xs` -/
theorem extendCloneSpec_closed (n : Nat) : ∀ (xs : List Id) (o : List Outcome),
    extendCloneSpec xs n o =
      { final := xs ++ clonedIds n o, exit := (extendCloneSpec [] n o).exit, rest := (extendCloneSpec [] n o).rest } := by
  induction n with
  | zero => intro xs o; simp [extendCloneSpec, clonedIds]
  | succ n ih =>
    intro xs o
    match o with
    | [] => simp [extendCloneSpec, clonedIds]
    | .panic :: o => simp [extendCloneSpec, clonedIds]
    | .ret id :: o =>
      simp only [extendCloneSpec, clonedIds]
      rw [ih (xs ++ [id]), ih ([] ++ [id])]
      simp

theorem extendCloneSpec_rets (ids : List Id) : ∀ (xs : List Id) (o : List Outcome),
    extendCloneSpec xs ids.length (rets ids ++ o) = { final := xs ++ ids, exit := .ret (), rest := o } := by
  induction ids with
  | nil => intro xs o; simp [extendCloneSpec, rets]
  | cons id ids ih =>
    intro xs o
    simp only [List.length_cons, rets, List.map_cons, List.cons_append, extendCloneSpec]
    have := ih (xs ++ [id]) o
    simp only [rets] at this
    rw [this]; simp

theorem resizeWithSpec_rets (bombs : List Id) {xs ids : List Id} {newLen : Nat} (o : List Outcome)
    (h : newLen > xs.length) (hn : ids.length = newLen - xs.length) :
    resizeWithSpec true bombs xs newLen (rets ids ++ o) = { final := xs ++ ids, exit := .ret (), rest := o } := by
  rw [resizeWithSpec, if_pos h, extendCloneSpecR, if_pos rfl, ← hn, extendCloneSpec_rets]

theorem resizeSpec_rets (bombs : List Id) {xs ids : List Id} {newLen : Nat} (value : Id) (o : List Outcome)
    (h : newLen > xs.length) (hn : ids.length + 1 = newLen - xs.length) :
    resizeSpec true bombs xs newLen value (rets ids ++ o) = { final := xs ++ ids ++ [value], exit := .ret (), rest := o } := by
  rw [resizeSpec, if_pos h, extendWithSpecR, if_pos rfl, ← hn, extendWithSpec]
  simp only [extendCloneSpec_rets]

theorem clonedIds_rets (ids : List Id) (o : List Outcome) : clonedIds ids.length (rets ids ++ o) = ids := by
  induction ids with
  | nil => simp [clonedIds]
  | cons id ids ih => simp only [List.length_cons, rets, List.map_cons, List.cons_append, clonedIds]; simp only [rets] at ih; rw [ih]

/-- `extract_if` driven to the end (`calls > len`) with answers `bs`: the elements whose answer is
    `true` are extracted in order, the others stay in order -/
theorem extractRun_rets (xs : List Id) : ∀ (kept : List Id) (bs : List Nat) (o : List Outcome) (calls : Nat),
    bs.length = xs.length → calls > xs.length →
    extractRun calls kept xs (rets bs ++ o) = (kept ++ keptBy (· == 0) xs bs, [], false, keptBy (· != 0) xs bs, o) := by
  induction xs with
  | nil =>
    intro kept bs o calls hb hc
    have : bs = [] := List.eq_nil_of_length_eq_zero (by simpa using hb)
    subst this
    obtain ⟨c, rfl⟩ : ∃ c, calls = c + 1 := ⟨calls - 1, by omega⟩
    simp [extractRun, scanSpec, rets, keptBy]
  | cons x xs ih =>
    intro kept bs o calls hb hc
    match bs, hb with
    | b :: bs, hb =>
      simp only [List.length_cons, Nat.add_right_cancel_iff] at hb
      simp only [List.length_cons] at hc
      obtain ⟨c, rfl⟩ : ∃ c, calls = c + 1 := ⟨calls - 1, by omega⟩
      by_cases h0 : b = 0
      · -- retained: the scan goes on within the same call
        subst h0
        have e : extractRun (c + 1) kept (x :: xs) (rets (0 :: bs) ++ o) = extractRun (c + 1) (kept ++ [x]) xs (rets bs ++ o) := by
          simp [extractRun, scanSpec, rets]
        rw [e, ih (kept ++ [x]) bs o (c + 1) hb (by omega)]
        simp [keptBy_cons]
      · have hne : (b != 0) = true := by simp [h0]
        have heq : (b == 0) = false := by simp [h0]
        have e : extractRun (c + 1) kept (x :: xs) (rets (b :: bs) ++ o) =
            ((extractRun c kept xs (rets bs ++ o)).1, (extractRun c kept xs (rets bs ++ o)).2.1, (extractRun c kept xs (rets bs ++ o)).2.2.1,
              x :: (extractRun c kept xs (rets bs ++ o)).2.2.2.1, (extractRun c kept xs (rets bs ++ o)).2.2.2.2) := by
          simp [extractRun, scanSpec, rets, h0]
        rw [e, ih kept bs o c hb (by omega)]
        simp [keptBy_cons, hne, heq]

end Coll
