/-
  Lemmas/HistBlocksBelow.lean — `BlocksBelow B` (every live block, ALSO AN EMPTY ONE, ends at or below `B`) is kept by
  every operation (`bb_stepCore`) and by every step under a correct environment (`bb_step`), provided the chunks before
  and after it end at or below `B`.  A step leaves the list of live blocks alone, forgets blocks, or registers one
  (`BlocksBelow.sub`, `.removeBlock`, `.killFrom`, `.addBlock`); where a new block can be is in Lemmas/HistBlockEnds.lean.
  `bb_stepCore` starts from the `ok_X` and not from `stepCore_acts` (Lemmas/StepActs.lean): what a step does to the live
  blocks is its own bookkeeping, about which `Acts` (`Book`: chunks, requests, responses) says nothing.
-/
import BumpProof.Lemmas.HistBlockEnds
import BumpProof.Lemmas.InvPreparedOps
import BumpProof.Lemmas.InvTryWith
import BumpProof.Lemmas.StepActs

section
namespace Arena.Hist
open Rs Ledger Lemmas

variable {cfg : Cfg} {B : Nat} {g g' : GState} {out : Out}

theorem BlocksBelow.sub {s s' : State} (h : BlocksBelow B s) (hsub : ∀ b ∈ s'.live, b ∈ s.live) : BlocksBelow B s' :=
  fun b hb => h b (hsub b hb)

theorem BlocksBelow.of_live_eq {s s' : State} (h : BlocksBelow B s) (he : s'.live = s.live) : BlocksBelow B s' :=
  h.sub fun _ hb => he ▸ hb

theorem BlocksBelow.nil {s : State} (he : s.live = []) : BlocksBelow B s :=
  fun _ hb => absurd (he ▸ hb) List.not_mem_nil

theorem BlocksBelow.removeBlock {s : State} (h : BlocksBelow B s) (id : Nat) : BlocksBelow B (removeBlock s id) :=
  h.sub fun _ hb => (List.mem_filter.1 hb).1

theorem BlocksBelow.killFrom {s : State} (h : BlocksBelow B s) (mark : Nat) : BlocksBelow B (killFrom s mark) :=
  h.sub fun _ hb => (List.mem_filter.1 hb).1

theorem BlocksBelow.addBlock {s : State} (h : BlocksBelow B s) {p n : Nat} (hp : p + n ≤ B) (al init : Nat) :
    BlocksBelow B (addBlock s p n al init).1 := by
  intro b hb
  rcases List.mem_append.1 hb with hb | hb
  · exact h b hb
  · cases List.mem_singleton.1 hb
    exact hp

theorem bb_write {b seed : Nat} (hbb : BlocksBelow B g.s)
    (hs : stepCore cfg g (.write b seed) = .ok (g', out)) : BlocksBelow B g'.s := by
  obtain ⟨blk, -, s1, hw, rfl, -⟩ := ok_write hs
  -- `write` only records that the block is initialised; address and size stay
  intro x hx
  obtain ⟨y, hy, rfl⟩ := List.mem_map.1 hx
  have := hbb.of_live_eq (Stable.of_path (Fn.writeRange_path hw)).live y hy
  split <;> exact this

theorem bb_split {b at_ : Nat} (hbb : BlocksBelow B g.s)
    (hs : stepCore cfg g (.split b at_) = .ok (g', out)) : BlocksBelow B g'.s := by
  obtain ⟨blk, hblk, hat, rfl, -⟩ := ok_split hs
  have hb := hbb blk (Mem.findBlock_ok hblk).1
  -- the block is replaced by two adjacent parts of it
  exact ((hbb.removeBlock b).addBlock (by omega) _ _).addBlock (by omega) _ _

end Arena.Hist
end

section
namespace Arena.Hist
open Rs Ledger Lemmas

variable {cfg : Cfg} {B : Nat} {g g' : GState} {out : Out}

theorem zero_or_id_stable {s1 s2 : State} {z : Bool} {p n : Nat}
    (hz : (if z then zeroRange cfg s1 p n else pure s1) = .ok s2) : Stable s1 s2 :=
  .of_onlyData (zeroIf_wrote hz).onlyData

theorem zero_or_id_cov {s1 s2 : State} {z : Bool} {p n : Nat}
    (hz : (if z then zeroRange cfg s1 p n else pure s1) = .ok s2) : ChunksCov s1 s2 ∧ s2.live = s1.live :=
  ⟨(zero_or_id_stable hz).cov, (zero_or_id_stable hz).live⟩

theorem bb_allocate {L : Layout} {z : Bool} {via : Via} (h : Inv cfg g) (hr : RespsOK cfg g.s) (hf : RespsFresh g.s)
    (hbb : BlocksBelow B g.s) (hB' : ChunksBelow B g'.s)
    (hs : stepCore cfg g (.allocate L z via) = .ok (g', out)) : BlocksBelow B g'.s := by
  obtain ⟨hL, -, s1, r, h1, hg⟩ := ok_allocate hs
  have hb1 := hbb.of_live_eq (Stable.of_path (Fn.alloc_path h1)).live
  cases r with
  | error e => obtain ⟨rfl, -⟩ := hg; exact hb1
  | ok p =>
    obtain ⟨s2, hz, rfl, -⟩ := hg
    have hst := zero_or_id_stable hz
    exact (hb1.of_live_eq hst.live).addBlock
      (allocVia_below h.cfgOK h.geom hr h.disj hf h.live hL (.inl h1) (ChunksBelow.of_cov hst.cov hB')) _ _

theorem bb_allocLayout {L : Layout} {hh : Hints} (h : Inv cfg g) (hr : RespsOK cfg g.s) (hf : RespsFresh g.s)
    (hbb : BlocksBelow B g.s) (hB' : ChunksBelow B g'.s)
    (hs : stepCore cfg g (.allocLayout L hh) = .ok (g', out)) : BlocksBelow B g'.s := by
  obtain ⟨hL, -, htr, s1, r, h1, hg⟩ := ok_allocLayout hs
  have hb1 := hbb.of_live_eq (Stable.of_path (Fn.allocGeneric_path h1)).live
  rcases r with e | ⟨p, q⟩
  · obtain ⟨rfl, -⟩ := hg; exact hb1
  · obtain ⟨rfl, -⟩ := hg
    exact hb1.addBlock
      ((allocGeneric_post h.cfgOK h.geom hr h.disj hf .alloc hL htr (custom_sma L) (fun hk => by cases hk) h1).below
        h.live hB') _ _

theorem bb_grow {b : Nat} {L : Layout} {z : Bool} {via : Via} (h : Inv cfg g) (hr : RespsOK cfg g.s)
    (hbb : BlocksBelow B g.s) (hB' : ChunksBelow B g'.s)
    (hs : stepCore cfg g (.grow b L z via) = .ok (g', out)) : BlocksBelow B g'.s := by
  obtain ⟨hL, -, blk, hblk, -, s1, r, h1, hg⟩ := ok_grow hs
  have hb := (Mem.findBlock_ok hblk).1
  have hb1 := hbb.of_live_eq (Stable.of_path (grow_path h1)).live
  cases r with
  | error e => obtain ⟨rfl, -⟩ := hg; exact hb1
  | ok np =>
    obtain ⟨s2, hz, rfl, -⟩ := hg
    have hst := zero_or_id_stable hz
    exact ((hb1.of_live_eq hst.live).removeBlock b).addBlock
      (grow_below h hr hb hL h1 (ChunksBelow.of_cov hst.cov hB') (hbb blk hb)) _ _

theorem bb_shrink {b : Nat} {L : Layout} {via : Via} (h : Inv cfg g) (hr : RespsOK cfg g.s)
    (hbb : BlocksBelow B g.s) (hB' : ChunksBelow B g'.s)
    (hs : stepCore cfg g (.shrink b L via) = .ok (g', out)) : BlocksBelow B g'.s := by
  obtain ⟨hL, -, blk, hblk, hsz, s1, r, h1, hg⟩ := ok_shrink hs
  have hb := (Mem.findBlock_ok hblk).1
  have key : s1.live = g.s.live ∧ ∀ v, r = .ok v → ChunksBelow B s1 → v.1 + v.2 ≤ B := by
    split at h1
    · exact ⟨(Stable.of_path (shrinkWithoutShrink_path h1)).live, fun v hv hB1 =>
        shrinkWithoutShrink_below h hr hL hsz (hv ▸ h1) hB1 (hbb blk hb)⟩
    · exact ⟨(Stable.of_path (shrink_path h1)).live, fun v hv hB1 => shrink_below h hr hb hL (hv ▸ h1) hB1 (hbb blk hb)⟩
  have hb1 := hbb.of_live_eq key.1
  rcases r with e | ⟨np, nsize⟩
  · obtain ⟨rfl, -⟩ := hg; exact hb1
  · obtain ⟨rfl, -⟩ := hg
    exact (hb1.removeBlock b).addBlock (key.2 _ rfl hB') _ _

theorem bb_shrinkSlice {b newSize : Nat} (h : Inv cfg g) (hbb : BlocksBelow B g.s)
    (hs : stepCore cfg g (.shrinkSlice b newSize) = .ok (g', out)) : BlocksBelow B g'.s := by
  obtain ⟨-, blk, hblk, hsz, s1, r, h1, hg⟩ := ok_shrinkSlice hs
  have hb := (Mem.findBlock_ok hblk).1
  have hb1 := hbb.of_live_eq (Stable.of_path (shrinkSlice_path h1)).live
  cases r with
  | none => obtain ⟨rfl, -⟩ := hg; exact hb1
  | some np =>
    obtain ⟨rfl, -⟩ := hg
    exact (hb1.removeBlock b).addBlock (shrinkSlice_below h hb hsz h1 (hbb blk hb)) _ _

/-- a prepared range lies in the current chunk, hence ends at or below `B` -/
theorem prepared_below (h : Inv cfg g) (hB : ChunksBelow B g.s) {p : Prepared} (hp : g.s.prepared = some p) :
    p.rstart ≤ p.rend ∧ p.rend ≤ B := by
  obtain ⟨i, c, hcur, hi, hle, hfree⟩ := (h.prep p hp).range
  exact ⟨hle, Nat.le_trans (freeSide_end_le (h.geom.chunks i c hi) hfree) (hB.get hi)⟩

/-- the committed block ends inside the prepared range -/
theorem bb_commits {p : Prepared} {size : Nat} {rev : Bool} (h : Inv cfg g) (hbb : BlocksBelow B g.s)
    (hB : ChunksBelow B g.s) (hc : Commits cfg g g' out p size rev) : BlocksBelow B g'.s := by
  obtain ⟨s1, addr, hcm, -, rfl, -⟩ := hc.run
  exact (hbb.of_live_eq (Stable.of_path hcm.copyThenPos.path).live).addBlock
    (Nat.le_trans (hcm.end_le hc.fits) (prepared_below h hB hc.prep).2) _ _

theorem bb_onClaimed {op : Op} (hbb : BlocksBelow B g.s)
    (hs : stepCore cfg g (.onClaimed op) = .ok (g', out)) : BlocksBelow B g'.s := by
  obtain ⟨-, ⟨rfl, -⟩ | ⟨b, via, blk, -, -, rfl, -⟩ | ⟨b, L, via, blk, -, -, hblk, -, -, rfl, -⟩⟩ := ok_onClaimed hs
  · exact hbb
  · exact hbb.removeBlock b
  · exact (hbb.removeBlock b).addBlock (hbb blk (Mem.findBlock_ok hblk).1) _ _

end Arena.Hist
end

section
namespace Arena.Hist
open Rs Ledger Lemmas

variable {cfg : Cfg} {B : Nat} {g g' : GState} {out : Out}

theorem tryTail_below {S : State} {ptr off vsize : Nat} {ok cs : Bool}
    (h : tryTail cfg g S ptr off vsize ok cs = .ok (g', out)) :
    ChunksCov S g'.s ∧ (BlocksBelow B S → ptr + off + vsize ≤ B → BlocksBelow B g'.s) := by
  rcases tryTail_inv h with ⟨-, -, np, i, -, -, rfl⟩ | ⟨-, -, rfl⟩ | ⟨-, -, s3, h3, rfl⟩ | ⟨-, -, rfl⟩
  · exact ⟨(Stable.setCurPos S np).cov, fun hS hp => (hS.of_live_eq (Stable.setCurPos S np).live).addBlock hp _ _⟩
  · exact ⟨ChunksCov.refl _, fun hS hp => hS.addBlock hp _ _⟩
  · exact ⟨(Stable.of_path (Fn.resetTo_path h3)).cov, fun hS _ => (hS.of_live_eq (Stable.of_path (Fn.resetTo_path h3)).live).killFrom _⟩
  · exact ⟨ChunksCov.refl _, fun hS _ => hS⟩

theorem bb_allocTryWith {L : Layout} {off vsize : Nat} {ok : Bool} {inner : Option Layout} {mut_ : Bool}
    (hsz : L.align ∣ L.size) (h : Inv cfg g) (hr : RespsOK cfg g.s) (hf : RespsFresh g.s)
    (hbb : BlocksBelow B g.s) (hB' : ChunksBelow B g'.s)
    (hs : stepCore cfg g (.allocTryWith L off vsize ok inner mut_) = .ok (g', out)) : BlocksBelow B g'.s := by
  obtain ⟨hL, hp, hov, hrun⟩ := tryWith_ok hs
  have hc := h.cfgOK
  cases hrun with
  | refused ha => exact hbb.of_live_eq (Stable.of_path (Fn.allocGeneric_path ha)).live
  | @ran s1 s2 ptr x io _ _ ha hin htail =>
    have hb1 := hbb.of_live_eq (Stable.of_path (Fn.allocGeneric_path ha)).live
    obtain ⟨hcov, hfin⟩ := tryTail_below (B := B) htail
    have hB2 : ChunksBelow B (withInner s2 io) := .of_cov hcov hB'
    obtain ⟨m1, room1, hR1⟩ := Mid.start h hr hf hp hL hsz ha
    -- the `Result` block lies in a chunk of the state in which the closure returned
    obtain ⟨j, c, hj, hin'⟩ := (m1.closure hc room1 hR1 hin).1.inC
    refine hfin ?_ (by have := Nat.le_trans (Mem.inContent_in_chunk hin').2 (hB2.get hj); omega)
    -- the closure: nothing happened, or `alloc` was called on `s1`
    rcases tryInner_cases hin with ⟨rfl, rfl⟩ | ⟨-, Li, r, hLi, hal, rfl⟩
    · exact hb1
    · have hb2 := hb1.of_live_eq (Stable.of_path (Fn.alloc_path hal)).live
      cases r with
      | error e => exact hb2
      | ok p =>
        exact hb2.addBlock (allocVia_below hc m1.inv.geom m1.resps m1.inv.disj m1.fresh m1.inv.live hLi (.inl hal) hB2) _ _

/-- `commit` / `commitSlice` place their block in the prepared range, which lies in a chunk of the state BEFORE the
    step (`hB`); the allocating and reallocating operations place it in a chunk of the state AFTER it (`hB'`) -/
theorem bb_stepCore {op : Op} (hcov : op.Covered) (h : Inv cfg g) (hr : RespsOK cfg g.s) (hf : RespsFresh g.s)
    (hbb : BlocksBelow B g.s) (hB : ChunksBelow B g.s) (hB' : ChunksBelow B g'.s)
    (hs : stepCore cfg g op = .ok (g', out)) : BlocksBelow B g'.s := by
  cases op with
  | newWithSize n =>
    obtain ⟨-, -, o, -, hg⟩ := ok_newWithSize hs
    cases o with
    | none => obtain ⟨rfl, -⟩ := hg; exact hbb
    | some size =>
      obtain ⟨s1, r, h1, hg⟩ := hg
      have hb1 := hbb.of_live_eq (Stable.of_path (Fn.newChunk_path h1)).live
      cases r <;> (obtain ⟨rfl, -⟩ := hg; exact hb1)
  | newWithCapacity L =>
    obtain ⟨-, -, -, s1, r, h1, hg⟩ := ok_newWithCapacity hs
    have hb1 := hbb.of_live_eq (Stable.of_path (Fn.newChunkForCapacity_path h1)).live
    cases r <;> (obtain ⟨rfl, -⟩ := hg; exact hb1)
  | newUnallocated => obtain ⟨rfl, -⟩ := ok_newUnallocated hs; exact hbb
  | drop => obtain ⟨-, -, rfl, -⟩ := ok_drop hs; exact .nil rfl
  | allocate L z via => exact bb_allocate h hr hf hbb hB' hs
  | deallocate b via =>
    obtain ⟨-, blk, -, s1, h1, rfl, -⟩ := ok_deallocate hs
    refine (hbb.of_live_eq ?_).removeBlock b
    split at h1
    · cases h1; rfl
    · exact (Stable.of_path (Fn.deallocate_path h1)).live
  | grow b L z via => exact bb_grow h hr hbb hB' hs
  | shrink b L via => exact bb_shrink h hr hbb hB' hs
  | allocLayout L hh => exact bb_allocLayout h hr hf hbb hB' hs
  | shrinkSlice b n => exact bb_shrinkSlice h hbb hs
  | prepare L =>
    obtain ⟨-, -, -, s1, r, h1, hg⟩ := ok_prepare hs
    have hb1 := hbb.of_live_eq (Stable.of_path (Fn.allocGeneric_path h1)).live
    rcases r with e | ⟨a, b⟩ <;> (obtain ⟨rfl, -⟩ := hg; exact hb1)
  | commit size rev => obtain ⟨_, hc⟩ := h.commits_commit hs; exact bb_commits h hbb hB hc
  | prepareSlice esize ealign minCap rev =>
    obtain ⟨-, -, ⟨rfl, -⟩ | ⟨-, s1, r, h1, hg⟩⟩ := ok_prepareSlice hs
    · exact hbb
    · have hb1 := hbb.of_live_eq (Stable.of_path (Fn.allocGeneric_path h1)).live
      rcases r with e | ⟨a, b⟩ <;> (obtain ⟨rfl, -⟩ := hg; exact hb1)
  | fillPrepared len seed =>
    obtain ⟨p, -, -, s1, h1, rfl, -⟩ := ok_fillPrepared hs
    exact hbb.of_live_eq (Stable.of_path (Fn.writeRange_path h1)).live
  | commitSlice len => obtain ⟨_, hc⟩ := h.commits_commitSlice hs; exact bb_commits h hbb hB hc
  | abandonPrepared => obtain ⟨rfl, -⟩ := ok_abandonPrepared hs; exact hbb
  | reserve n dyn =>
    obtain ⟨-, s1, r, h1, rfl, _⟩ := ok_reserve hs
    refine hbb.of_live_eq ?_
    split at h1
    · exact (Stable.of_path (reserveDyn_path h1)).live
    · exact (Stable.of_path (reserve_path h1)).live
  | scopeEnter => obtain ⟨-, rfl, -⟩ := ok_scopeEnter hs; exact hbb
  | scopeExit =>
    obtain ⟨-, cp, rest, m, ms, s1, -, -, h1, rfl, -⟩ := ok_scopeExit hs
    exact BlocksBelow.killFrom (s := { s1 with frames := rest }) (hbb.of_live_eq (Stable.of_path (Fn.resetTo_path h1)).live) m
  | checkpoint k => obtain ⟨-, -, rfl, -⟩ := ok_checkpoint hs; exact hbb
  | resetTo k =>
    obtain ⟨-, x, cp, mark, s1, -, -, -, h1, rfl, -⟩ := ok_resetTo hs
    exact (hbb.of_live_eq (Stable.of_path (Fn.resetTo_path h1)).live).killFrom mark
  | reset => obtain ⟨-, -, rfl, -⟩ := ok_reset hs; exact .nil rfl
  | resetToStart => obtain ⟨-, -, rfl, -⟩ := ok_resetToStart hs; exact .nil rfl
  | claim => obtain ⟨-, -, rfl, -⟩ := ok_claim hs; exact hbb
  | claimEnd => obtain ⟨-, rest, -, rfl, -⟩ := ok_claimEnd hs; exact hbb
  | onClaimed op' => exact bb_onClaimed hbb hs
  | alignedEnter n =>
    obtain ⟨-, -, -, ⟨-, rfl⟩ | ⟨-, s1, h1, rfl⟩⟩ := ok_alignedEnter hs
    · exact hbb
    · exact hbb.of_live_eq (Stable.of_path (Fn.alignTo_path h1)).live
  | alignedExit =>
    obtain ⟨-, -, ⟨outer, start, rest, s1, s2, -, h1, h2, rfl⟩ | ⟨outer, rest, -, rfl⟩⟩ := ok_alignedExit hs
    · exact hbb.of_live_eq ((Stable.of_path (Fn.alignGuardDrop_path h1)).trans (Stable.of_path (Fn.alignChunkAt_path h2))).live
    · exact hbb
  | scopedAlignedEnter n =>
    obtain ⟨-, -, s1, h1, rfl, -⟩ := ok_scopedAlignedEnter hs
    exact hbb.of_live_eq (Stable.of_path (Fn.alignTo_path h1)).live
  | scopedAlignedExit =>
    obtain ⟨-, cp, outer, rest, m, ms, s1, -, -, h1, rfl, -⟩ := ok_scopedAlignedExit hs
    exact BlocksBelow.killFrom (s := { s1 with frames := rest }) (hbb.of_live_eq (Stable.of_path (Fn.resetTo_path h1)).live) m
  | withSettings n ga cl =>
    obtain ⟨-, -, -, ⟨rfl, -⟩ | ⟨s1, h1, rfl, -⟩⟩ := ok_withSettings hs
    · exact hbb
    · exact hbb.of_live_eq (Stable.of_path (Fn.alignTo_path h1)).live
  | allocTryWith L off vsize ok inner mut_ =>
    have hsz : L.align ∣ L.size := hcov.tryWith
    exact bb_allocTryWith hsz h hr hf hbb hB' hs
  | write b seed => exact bb_write hbb hs
  | split b at_ => exact bb_split hbb hs

theorem bb_step {op : Op} {resps : List BaseResp} {reqs : List BaseReq} (hcov : op.Covered) (h : Inv cfg g)
    (henv : EnvOK cfg g resps) (hbb : BlocksBelow B g.s) (hB : ChunksBelow B g.s) (hB' : ChunksBelow B g'.s)
    (hs : step cfg g op resps = .ok (g', out, reqs)) : BlocksBelow B g'.s :=
  bb_stepCore (g := install g resps) hcov (h.install resps) henv.1 henv.2 hbb hB hB' (step_ok hs).1

end Arena.Hist
end
