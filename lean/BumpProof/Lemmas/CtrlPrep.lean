/-
  Lemmas/CtrlPrep.lean — what the "prepare" family (`prepare_allocation`, `prepare_slice_allocation`,
  `reserve` of the trait-object interface) may do to the arena: the slow path may make a LATER chunk
  current (resetting it) or append a new one, but never touches the chunks up to the old current one;
  the `prepare` / `prepareSlice` steps of a history taken apart accordingly.
-/
import BumpProof.Lemmas.CtrlState
import BumpProof.Lemmas.StepShape


namespace Ctrl
open Arena Rs Lemmas

theorem tryCur_keeps {cfg : Cfg} {k : Kind} {s : State} {L : Layout} {h : Hints} {v : Nat × Nat} {s' : State}
    (hk : k ≠ .alloc) (hr : tryCur cfg k s L h = .ok (some (v, s'))) : s' = s :=
  (Fn.tryCur_some hr).elim id fun ⟨e, _⟩ => absurd e hk

/-- `s'` is `s` with at most one chunk appended (and base-allocator traffic recorded) -/
structure Appended (s s' : State) : Prop where
  chunks : s'.chunks = s.chunks ∨ ∃ c, s'.chunks = s.chunks ++ [c]
  cur : s'.cur = s.cur
  live : s'.live = s.live
  minAlign : s'.minAlign = s.minAlign
  frames : s'.frames = s.frames
  nextId : s'.nextId = s.nextId
  userCps : s'.userCps = s.userCps
  prepared : s'.prepared = s.prepared

theorem Appended.refl (s : State) : Appended s s := ⟨Or.inl rfl, rfl, rfl, rfl, rfl, rfl, rfl, rfl⟩

theorem Created.appended {cfg : Cfg} {s s' : State} {r : Except AErr Nat} (h : Fn.Created cfg s (s', r)) :
    Appended s s' ∧ ∀ i, r = .ok i → i = s.chunks.length ∧ i < s'.chunks.length := by
  cases h with
  | overflow => exact ⟨.refl _, fun i hi => by cases hi⟩
  | refused => exact ⟨⟨.inl rfl, rfl, rfl, rfl, rfl, rfl, rfl, rfl⟩, fun i hi => by cases hi⟩
  | granted =>
    refine ⟨⟨.inr ⟨_, rfl⟩, rfl, rfl, rfl, rfl, rfl, rfl, rfl⟩, fun i hi => ?_⟩
    cases hi
    exact ⟨rfl, by simp⟩

theorem newChunkForCapacity_appended {cfg : Cfg} {s s' : State} {L : Layout} {r : Except AErr Nat}
    (h : newChunkForCapacity cfg s L = .ok (s', r)) :
    Appended s s' ∧ ∀ i, r = .ok i → i = s.chunks.length ∧ i < s'.chunks.length :=
  Created.appended (Fn.newChunkForCapacity_created h)

theorem resetPos_resetPos (cfg : Cfg) (c : Chunk) : (c.resetPos cfg).resetPos cfg = c.resetPos cfg := rfl

/-- `s'` arises from `s` (whose current chunk is `i`) by making later chunks current: chunks `≤ i` are
    identical; every old chunk is still there, at most reset (same block, same bytes); the ghost state
    is unchanged; the current chunk is `i` or a later one.  `upto` gives the "position unchanged" statements,
    `later` (which holds of all chunks) what `C15.PrepareEffect.later` says. -/
structure Keeps (cfg : Cfg) (i : Nat) (s s' : State) : Prop where
  upto : ∀ j, j ≤ i → s'.chunks[j]? = s.chunks[j]?
  later : ∀ (j : Nat) (c : Chunk), s.chunks[j]? = some c → ∃ c', s'.chunks[j]? = some c' ∧ (c' = c ∨ c' = c.resetPos cfg)
  cur : ∃ j, i ≤ j ∧ s'.cur = .chunk j ∧ j < s'.chunks.length
  live : s'.live = s.live
  minAlign : s'.minAlign = s.minAlign
  frames : s'.frames = s.frames
  nextId : s'.nextId = s.nextId
  userCps : s'.userCps = s.userCps
  prepared : s'.prepared = s.prepared

theorem Keeps.refl (cfg : Cfg) {s : State} {i : Nat} {c : Chunk} (h : CurChunk s i c) : Keeps cfg i s s :=
  ⟨fun _ _ => rfl, fun _ c hj => ⟨c, hj, Or.inl rfl⟩,
    ⟨i, Nat.le_refl i, h.cur, (List.getElem?_eq_some_iff.1 h.get).1⟩, rfl, rfl, rfl, rfl, rfl, rfl⟩

theorem Keeps.trans {cfg : Cfg} {i j : Nat} {s s' s'' : State} (hij : i ≤ j)
    (h1 : Keeps cfg i s s') (h2 : Keeps cfg j s' s'') : Keeps cfg i s s'' := by
  refine ⟨fun k hk => ?_, fun k c hk => ?_, ?_, h2.live.trans h1.live, h2.minAlign.trans h1.minAlign,
    h2.frames.trans h1.frames, h2.nextId.trans h1.nextId, h2.userCps.trans h1.userCps,
    h2.prepared.trans h1.prepared⟩
  · rw [h2.upto k (by omega), h1.upto k hk]
  · obtain ⟨c', hc', hcc⟩ := h1.later k c hk
    obtain ⟨c'', hc'', hcc'⟩ := h2.later k c' hc'
    refine ⟨c'', hc'', ?_⟩
    rcases hcc with rfl | rfl
    · exact hcc'
    · rcases hcc' with rfl | rfl <;> exact Or.inr rfl
  · obtain ⟨k, hk, hc, hl⟩ := h2.cur
    exact ⟨k, by omega, hc, hl⟩

theorem Keeps.appended {cfg : Cfg} {i : Nat} {s s1 s2 : State} (h : Keeps cfg i s s1) (ha : Appended s1 s2) :
    Keeps cfg i s s2 := by
  have hget : ∀ (j : Nat) (c : Chunk), s1.chunks[j]? = some c → s2.chunks[j]? = some c := by
    intro j c hj
    rcases ha.chunks with h2 | ⟨c2, h2⟩
    · rw [h2]; exact hj
    · rw [h2, List.getElem?_append_left (List.getElem?_eq_some_iff.1 hj).1]; exact hj
  obtain ⟨j, hj, hc, hl⟩ := h.cur
  refine ⟨fun k hk => ?_, fun k c hk => ?_, ⟨j, hj, ha.cur.trans hc, ?_⟩, ha.live.trans h.live,
    ha.minAlign.trans h.minAlign, ha.frames.trans h.frames, ha.nextId.trans h.nextId, ha.userCps.trans h.userCps,
    ha.prepared.trans h.prepared⟩
  · have hk1 : k < s1.chunks.length := by omega
    rw [← h.upto k hk, List.getElem?_eq_getElem hk1]
    exact hget k _ (List.getElem?_eq_getElem hk1)
  · obtain ⟨c', hc', hcc⟩ := h.later k c hk
    exact ⟨c', hget k c' hc', hcc⟩
  · exact (List.getElem?_eq_some_iff.1 (hget j _ (List.getElem?_eq_getElem hl))).1

theorem Keeps.setCur {cfg : Cfg} {i j : Nat} {s s1 : State} (h : Keeps cfg i s s1) (hij : i ≤ j)
    (hj : j < s1.chunks.length) : Keeps cfg i s { s1 with cur := .chunk j } :=
  ⟨h.upto, h.later, ⟨j, hij, rfl, hj⟩, h.live, h.minAlign, h.frames, h.nextId, h.userCps, h.prepared⟩

theorem keeps_walk_step (cfg : Cfg) {s : State} {i : Nat} {c1 : Chunk} (h1 : s.chunks[i + 1]? = some c1) :
    Keeps cfg i s { s with chunks := s.chunks.set (i + 1) (c1.resetPos cfg), cur := .chunk (i + 1) } ∧
    CurChunk { s with chunks := s.chunks.set (i + 1) (c1.resetPos cfg), cur := .chunk (i + 1) } (i + 1)
      (c1.resetPos cfg) := by
  have hl := (List.getElem?_eq_some_iff.1 h1).1
  refine ⟨⟨fun j hj => List.getElem?_set_ne (by omega), fun j c' hj => ?_,
    ⟨i + 1, Nat.le_succ i, rfl, by simp only [List.length_set]; exact hl⟩, rfl, rfl, rfl, rfl, rfl, rfl⟩,
    rfl, List.getElem?_set_self hl⟩
  by_cases hji : i + 1 = j
  · subst hji
    cases h1.symm.trans hj
    exact ⟨_, List.getElem?_set_self hl, Or.inr rfl⟩
  · exact ⟨c', (List.getElem?_set_ne hji).trans hj, Or.inl rfl⟩

theorem Walk.keeps {cfg : Cfg} {k : Kind} {L : Layout} {h : Hints} (hk : k ≠ .alloc) {i : Nat} {s s' : State}
    {o : Option ((Nat × Nat) × State)} (hw : Fn.Walk cfg k L h i s o s') : ∀ c, CurChunk s i c → Keeps cfg i s s' := by
  induction hw with
  | stop => exact fun c hc => .refl cfg hc
  | hit hc ht => intro _ _; cases tryCur_keeps hk ht; exact (keeps_walk_step cfg hc).1
  | @miss i s c o s' hc _ _ ih =>
    intro _ _
    obtain ⟨hk1, hc1⟩ := keeps_walk_step cfg hc
    exact hk1.trans (Nat.le_succ i) (ih _ hc1)

theorem inAnotherChunk_keeps {cfg : Cfg} {k : Kind} {L : Layout} {h : Hints} (hk : k ≠ .alloc)
    {i : Nat} {s s' : State} {c : Chunk} {r : Except AErr (Nat × Nat)} (hc : CurChunk s i c)
    (hr : inAnotherChunk cfg k s L h = .ok (s', r)) :
    Keeps cfg i s s' ∧ ∀ e, r = .error e → s'.cur = .chunk i := by
  cases Fn.inAnotherChunk_slow hr with
  | claimed hcur => exact absurd (hc.cur.symm.trans hcur) nofun
  | firstRefused hcur => exact absurd (hc.cur.symm.trans hcur) nofun
  | first hcur => exact absurd (hc.cur.symm.trans hcur) nofun
  | next hcur hw =>
    cases hc.cur.symm.trans hcur
    exact ⟨Walk.keeps hk hw c hc, fun e he => by cases he⟩
  | appendRefused hcur hw hn =>
    cases hc.cur.symm.trans hcur
    have hka := (Walk.keeps hk hw c hc).appended (Created.appended (Fn.appendFor_created hn)).1
    obtain ⟨j, hj, _, hl⟩ := hka.cur
    exact ⟨hka.setCur (Nat.le_refl i) (by omega), fun _ _ => rfl⟩
  | append hcur hw hn ht =>
    cases hc.cur.symm.trans hcur
    cases tryCur_keeps hk ht
    have hkw := Walk.keeps hk hw c hc
    obtain ⟨ha, hidx⟩ := Created.appended (Fn.appendFor_created hn)
    obtain ⟨h1, h2⟩ := hidx _ rfl
    obtain ⟨j1, hj1, _, hl1⟩ := hkw.cur
    exact ⟨(hkw.appended ha).setCur (by omega) h2, fun e he => by cases he⟩

theorem allocGeneric_keeps {cfg : Cfg} {k : Kind} {L : Layout} {h hs : Hints} (hk : k ≠ .alloc)
    {i : Nat} {s s' : State} {c : Chunk} {r : Except AErr (Nat × Nat)} (hc : CurChunk s i c)
    (hr : allocGeneric cfg k s L h hs = .ok (s', r)) :
    Keeps cfg i s s' ∧ ∀ e, r = .error e → s'.cur = .chunk i := by
  rcases Fn.allocGeneric_cases hr with ⟨v, rfl, htc⟩ | ⟨_, hr⟩
  · cases tryCur_keeps hk htc
    exact ⟨.refl cfg hc, fun e he => by cases he⟩
  · exact inAnotherChunk_keeps hk hc hr

/-- the conclusion the two prepare steps share, from the result of their one `.range` request -/
theorem keeps_of_request {cfg : Cfg} {k : Kind} {L : Layout} {h hs : Hints} (hk : k ≠ .alloc) {g g' : GState}
    {i : Nat} {c : Chunk} {s1 : State} {r : Except AErr (Nat × Nat)} {o : Out} (hc : CurChunk g.s i c)
    (hag : allocGeneric cfg k g.s L h hs = .ok (s1, r))
    (hg : ∃ po, g' = ⟨{ s1 with prepared := po }, g.marks⟩) (ho : ∀ e, o = .err e → r = .error e) :
    g'.marks = g.marks ∧ (∃ s1 po, Keeps cfg i g.s s1 ∧ g'.s = { s1 with prepared := po }) ∧
      ∀ e, o = .err e → g'.s.cur = .chunk i := by
  obtain ⟨hkeep, he⟩ := allocGeneric_keeps hk hc hag
  obtain ⟨po, rfl⟩ := hg
  exact ⟨rfl, ⟨s1, po, hkeep, rfl⟩, fun e h => he e (ho e h)⟩

theorem stepCore_prepareSlice_keeps {cfg : Cfg} {g g' : GState} {esize ealign minCap : Nat} {rev : Bool} {o : Out}
    {i : Nat} {c : Chunk} (hc : CurChunk g.s i c)
    (hr : stepCore cfg g (.prepareSlice esize ealign minCap rev) = .ok (g', o)) :
    g'.marks = g.marks ∧ (∃ s1 po, Keeps cfg i g.s s1 ∧ g'.s = { s1 with prepared := po }) ∧
      ∀ e, o = .err e → g'.s.cur = .chunk i := by
  obtain ⟨-, -, ⟨rfl, rfl⟩ | ⟨-, s1, r, hag, hm⟩⟩ := Arena.Hist.ok_prepareSlice hr
  · exact ⟨rfl, ⟨_, _, .refl cfg hc, rfl⟩, fun _ _ => hc.cur⟩
  · cases r with
    | error e => exact keeps_of_request (by decide) hc hag ⟨_, hm.1⟩ fun e h => by cases hm.2.symm.trans h; rfl
    | ok v => exact keeps_of_request (by decide) hc hag ⟨_, hm.1⟩ fun e h => by cases hm.2.symm.trans h

theorem stepCore_prepare_keeps {cfg : Cfg} {g g' : GState} {L : Layout} {o : Out}
    {i : Nat} {c : Chunk} (hc : CurChunk g.s i c) (hr : stepCore cfg g (.prepare L) = .ok (g', o)) :
    g'.marks = g.marks ∧ (∃ s1 po, Keeps cfg i g.s s1 ∧ g'.s = { s1 with prepared := po }) ∧
      ∀ e, o = .err e → g'.s.cur = .chunk i := by
  obtain ⟨-, -, -, s1, r, hag, hm⟩ := Arena.Hist.ok_prepare hr
  cases r with
  | error e => exact keeps_of_request (by decide) hc hag ⟨_, hm.1⟩ fun e h => by cases hm.2.symm.trans h; rfl
  | ok v => exact keeps_of_request (by decide) hc hag ⟨_, hm.1⟩ fun e h => by cases hm.2.symm.trans h

end Ctrl
