/-
  Lemmas/HistFrameIrrelAttr.lean — the simp set used by the frame-irrelevance lemmas of `Lemmas/HistFrameIrrelFn.lean`.
-/
import Lean

/-- rewrite rules `f cfg (sf fs s) … = (f cfg s …).map …` -/
register_simp_attr sf_simp
