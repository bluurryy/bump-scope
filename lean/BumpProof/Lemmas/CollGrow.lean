/-
  Lemmas/CollGrow.lean — the reservation policy (`reserve`, `reserveOne`, `growAmortized`) and the
  refinement lemmas of the growing operations `push`, `insert`, `extend_from_slice_clone`,
  `extend_with` / `resize`, `extend_from_within_clone`, `resize_with`, `append`, and of `pop_if` (`Coll/Vecs.lean`).
  An equation speaks of the reservation through `grown` / `room`, so that it covers the refused and the granted
  case; its proof takes the two apart with `reserve_cases` / `reserveOne_cases`.
-/
import BumpProof.Lemmas.CollBasic
import BumpProof.Lemmas.CollStd

namespace Coll

/-- the vector after the reservation (unchanged if it was refused) / whether it succeeded; the refinement
    equations are stated with these, so that one equation covers the granted and the refused reservation -/
def grown (env : Env) (v : Vec) (n : Nat) : Vec := (reserve env v n).getD v
def room (env : Env) (v : Vec) (n : Nat) : Bool := (reserve env v n).isSome
def grownOne (env : Env) (v : Vec) : Vec := (reserveOne env v).getD v
def roomOne (env : Env) (v : Vec) : Bool := (reserveOne env v).isSome

/-- nothing to reserve: the vector stays as it is (`resize` / `resize_with` that shrink never call `reserve`) -/
theorem grown_sub_of_le {env : Env} {v : Vec} {n : Nat} (h : ¬ n > v.len) : grown env v (n - v.len) = v := by
  rw [Nat.sub_eq_zero_of_le (Nat.le_of_not_gt h), grown, reserve, if_neg (Nat.not_lt_zero _)]; rfl

/-- what a (re)allocation preserves: contents, length, logs; the capacity does not shrink -/
structure Grows (v v' : Vec) (xs : List Id) : Prop where
  slots : v'.slots = I xs ++ H (v'.cap - v'.len)
  len : v'.len = v.len
  dropLog : v'.dropLog = v.dropLog
  escaped : v'.escaped = v.escaped
  cap : v.cap ≤ v'.cap

theorem Grows.shape {v v' : Vec} {xs : List Id} (g : Grows v v' xs) (hl : xs.length = v.len) : View.fwd.Shape v' xs :=
  ⟨g.slots, hl.trans g.len.symm⟩

theorem Grows.refl {v : Vec} {xs : List Id} (hx : View.fwd.Shape v xs) : Grows v v xs :=
  ⟨hx.1, rfl, rfl, rfl, Nat.le_refl _⟩

theorem add_sub_eq_max (a b : Nat) : a + (b - a) = max a b := by
  rw [Nat.add_comm, Nat.sub_add_eq_max, Nat.max_comm]

theorem growTo_grows {v : Vec} {xs : List Id} (hx : View.fwd.Shape v xs) (newCap : Nat) : Grows v (growTo v newCap) xs ∧ (growTo v newCap).cap = max v.cap newCap := by
  revert v
  refine @seg_cases _ xs fun k dl esc => ?_
  have hc : (growTo ⟨I xs ++ H k, xs.length, dl, esc⟩ newCap).cap = max (xs.length + k) newCap := by
    simp only [growTo, Vec.cap, List.length_append, length_I, length_H]; exact add_sub_eq_max ..
  refine ⟨⟨?_, rfl, rfl, rfl, ?_⟩, ?_⟩
  · rw [hc]
    simp only [growTo, Vec.cap, List.length_append, length_I, length_H]
    rw [List.append_assoc, ← H_add]
    exact congrArg (I xs ++ H ·) (by rw [← add_sub_eq_max, Nat.add_assoc, Nat.add_sub_cancel_left])
  · rw [hc]; simp only [Vec.cap, List.length_append, length_I, length_H]; exact Nat.le_max_left ..
  · rw [hc]; simp only [Vec.cap, List.length_append, length_I, length_H]

theorem growAmortized_some {env : Env} {v v' : Vec} {xs : List Id} {n : Nat}
    (hx : View.fwd.Shape v xs) (h : growAmortized env v n = some v') : Grows v v' xs ∧ v.len + n ≤ v'.cap := by
  unfold growAmortized at h
  cases hk : env.kind <;> simp only [hk] at h
  · cases h
  · cases h
  · split at h
    · cases h
      have ⟨g, c⟩ := growTo_grows hx (max (max (v.cap * 2) (v.len + n)) env.minCap)
      exact ⟨g, by rw [c]; exact Nat.le_trans (Nat.le_trans (Nat.le_max_right ..) (Nat.le_max_left ..)) (Nat.le_max_right ..)⟩
    · cases h
  · split at h
    · rename_i hc
      cases h
      have ⟨g, c⟩ := growTo_grows hx env.capIn
      exact ⟨g, by rw [c]; exact Nat.le_trans hc.2 (Nat.le_max_right ..)⟩
    · cases h
  · split at h
    · rename_i hc
      cases h
      have ⟨g, c⟩ := growTo_grows hx env.capIn
      exact ⟨g, by rw [c]; exact Nat.le_trans hc.2 (Nat.le_max_right ..)⟩
    · cases h

theorem reserve_some {env : Env} {v v' : Vec} {xs : List Id} {n : Nat}
    (hx : View.fwd.Shape v xs) (h : reserve env v n = some v') : Grows v v' xs ∧ v.len + n ≤ v'.cap := by
  have hcap := hx.len_le_cap
  unfold reserve at h
  split at h
  · exact growAmortized_some hx h
  · cases h; exact ⟨Grows.refl hx, by omega⟩

theorem reserveOne_some {env : Env} {v v' : Vec} {xs : List Id}
    (hx : View.fwd.Shape v xs) (h : reserveOne env v = some v') : Grows v v' xs ∧ v.len + 1 ≤ v'.cap := by
  have hcap := hx.len_le_cap
  unfold reserveOne at h
  split at h
  · split at h
    · cases h
    · cases h; exact ⟨Grows.refl hx, by omega⟩
  · split at h
    · cases h
    · cases h; exact ⟨Grows.refl hx, by omega⟩
  · split at h
    · exact growAmortized_some hx h
    · cases h; exact ⟨Grows.refl hx, by omega⟩

/-- **no reallocation while the capacity suffices** (C08): the vector is returned as it is -/
theorem reserve_fits (env : Env) (v : Vec) (n : Nat) (h : v.len + n ≤ v.cap) : reserve env v n = some v := by
  unfold reserve
  rw [if_neg (by omega)]

theorem reserveOne_fits (env : Env) (v : Vec) (h : v.len < v.cap) : reserveOne env v = some v := by
  unfold reserveOne
  split
  · rw [if_neg (by omega)]
  · rw [if_neg (by omega)]
  · rw [if_neg (by omega)]

/-- **fixed vectors fail when full** (C08) and never change their buffer -/
theorem reserve_fixed (env : Env) (v : Vec) (n : Nat) (hk : env.kind = .fixed) :
    reserve env v n = if n > v.cap - v.len then none else some v := by
  unfold reserve growAmortized
  simp [hk]

theorem Grows.eq_seg {s : List Slot} {n : Nat} {dl esc xs : List Id} {v' : Vec} (g : Grows ⟨s, n, dl, esc⟩ v' xs) :
    ∃ k', v' = ⟨I xs ++ H k', n, dl, esc⟩ :=
  ⟨_, Vec.eq_of g.slots g.len g.dropLog g.escaped⟩

theorem reserve_seg {env : Env} {xs dl esc : List Id} {k n : Nat} {v' : Vec}
    (h : reserve env ⟨I xs ++ H k, xs.length, dl, esc⟩ n = some v') :
    ∃ k', v' = ⟨I xs ++ H (n + k'), xs.length, dl, esc⟩ ∧ k ≤ n + k' := by
  obtain ⟨g, hc⟩ := reserve_some (seg_shape xs k dl esc) h
  obtain ⟨k', rfl⟩ := g.eq_seg
  obtain ⟨j, rfl⟩ := Nat.exists_eq_add_of_le (show n ≤ k' by simpa [Vec.cap] using hc)
  exact ⟨j, rfl, by simpa [Vec.cap] using g.cap⟩

theorem reserveOne_seg {env : Env} {xs dl esc : List Id} {k : Nat} {v' : Vec}
    (h : reserveOne env ⟨I xs ++ H k, xs.length, dl, esc⟩ = some v') :
    ∃ k', v' = ⟨I xs ++ H (k' + 1), xs.length, dl, esc⟩ ∧ k ≤ k' + 1 := by
  obtain ⟨g, hc⟩ := reserveOne_some (seg_shape xs k dl esc) h
  obtain ⟨k', rfl⟩ := g.eq_seg
  obtain ⟨j, rfl⟩ := Nat.exists_eq_add_of_le' (show 1 ≤ k' by simpa [Vec.cap] using hc)
  exact ⟨j, rfl, by simpa [Vec.cap] using g.cap⟩

/-- a reservation on a vector in the standard shape is refused (nothing changes) or granted (the same record with at
    least `n` spare slots); what an operation and its refinement equation see of it, `reserve`, `grown` and `room`, move
    together -/
@[elab_as_elim] theorem reserve_cases {env : Env} {xs dl esc : List Id} {k n : Nat}
    {motive : Option Vec → Vec → Bool → Prop}
    (refused : motive none ⟨I xs ++ H k, xs.length, dl, esc⟩ false)
    (granted : ∀ k', k ≤ n + k' →
      motive (some ⟨I xs ++ H (n + k'), xs.length, dl, esc⟩) ⟨I xs ++ H (n + k'), xs.length, dl, esc⟩ true) :
    motive (reserve env ⟨I xs ++ H k, xs.length, dl, esc⟩ n) (grown env ⟨I xs ++ H k, xs.length, dl, esc⟩ n)
      (room env ⟨I xs ++ H k, xs.length, dl, esc⟩ n) := by
  unfold grown room
  cases hr : reserve env ⟨I xs ++ H k, xs.length, dl, esc⟩ n with
  | none => exact refused
  | some v' => obtain ⟨k', rfl, hk⟩ := reserve_seg hr; exact granted k' hk

@[elab_as_elim] theorem reserveOne_cases {env : Env} {xs dl esc : List Id} {k : Nat}
    {motive : Option Vec → Vec → Bool → Prop}
    (refused : motive none ⟨I xs ++ H k, xs.length, dl, esc⟩ false)
    (granted : ∀ k', k ≤ k' + 1 →
      motive (some ⟨I xs ++ H (k' + 1), xs.length, dl, esc⟩) ⟨I xs ++ H (k' + 1), xs.length, dl, esc⟩ true) :
    motive (reserveOne env ⟨I xs ++ H k, xs.length, dl, esc⟩) (grownOne env ⟨I xs ++ H k, xs.length, dl, esc⟩)
      (roomOne env ⟨I xs ++ H k, xs.length, dl, esc⟩) := by
  unfold grownOne roomOne
  cases hr : reserveOne env ⟨I xs ++ H k, xs.length, dl, esc⟩ with
  | none => exact refused
  | some v' => obtain ⟨k', rfl, hk⟩ := reserveOne_seg hr; exact granted k' hk

theorem after_congr {α} {v w : Vec} (r : SpecOut α) (hc : v.cap = w.cap) (hd : v.dropLog = w.dropLog)
    (he : v.escaped = w.escaped) : v.after r = w.after r := by
  rw [Vec.after, Vec.after, hc, hd, he]

theorem write_end (xs : List Id) (k l : Nat) (dl esc : List Id) (id : Id) :
    write ⟨I xs ++ H (k + 1), l, dl, esc⟩ xs.length id = .ok ⟨I (xs ++ [id]) ++ H k, l, dl, esc⟩ := by
  rw [write_mid (A := I xs) (B := H k) (by simp) (by simp)]
  simp

theorem push_eq (env : Env) (v : Vec) (xs : List Id) (id : Id)
    (h : View.fwd.Shape v xs) :
    push env v id =
      .ok ⟨(grownOne env v).after (pushSpec (roomOne env v) xs id), (pushSpec (roomOne env v) xs id).exit, []⟩ := by
  revert v
  refine seg_cases fun k dl esc => ?_
  unfold push pushSpec
  refine reserveOne_cases ?_ fun k' _ => ?_
  · rw [after_seg k (by simp)]
    simp [dropArg]
  · simp only [↓reduceIte]
    rw [write_end, after_seg k' (by simp; omega)]
    simp [setLen]

theorem insert_eq (env : Env) (v : Vec) (xs : List Id) (i : Nat) (id : Id)
    (h : View.fwd.Shape v xs) :
    insert env v i id =
      .ok ⟨(if i ≤ v.len then grownOne env v else v).after (insertSpec (roomOne env v) xs i id),
           (insertSpec (roomOne env v) xs i id).exit, []⟩ := by
  revert v
  refine seg_cases fun k dl esc => ?_
  unfold insert insertSpec
  by_cases hi : i > xs.length
  · rw [if_pos hi, if_neg (Nat.not_le.2 hi), if_neg (fun h => Nat.not_le.2 hi h.1), after_seg k (by simp)]
    simp [dropArg]
  · rw [if_neg hi, if_pos (Nat.le_of_not_gt hi)]
    refine reserveOne_cases ?_ fun k' _ => ?_
    · rw [if_neg (by simp), after_seg k (by simp)]
      simp [dropArg]
    · obtain ⟨A, B, rfl, rfl⟩ := exists_append_of_le (Nat.le_of_not_gt hi)
      simp only [Nat.le_of_not_gt hi, and_self, ↓reduceIte, List.take_left, List.drop_left]
      -- the tail `B` moves one slot up
      rw [after_seg k' (by simp; omega), copy_if (by simp),
        copy_fwd (A := I A) (M := I B) (k := 1) (T := H k') (by simp) (by simp) (by simp) (by simp)]
      simp only
      rw [write_mid (A := I A) (B := I B ++ H k') (by simp) (by simp)]
      simp [setLen, Nat.add_assoc]

/-- the clone loop on a buffer with room for all `n` clones -/
theorem extendCloneLoop_eq (n : Nat) : ∀ (xs dl esc : List Id) (m : Nat) (o : List Outcome),
    extendCloneLoop n ⟨I xs ++ H (n + m), xs.length, dl, esc⟩ o =
      .ok ⟨(⟨I xs ++ H (n + m), xs.length, dl, esc⟩ : Vec).after (extendCloneSpec xs n o),
           (extendCloneSpec xs n o).exit, (extendCloneSpec xs n o).rest⟩ := by
  induction n with
  | zero =>
    intro xs dl esc m o
    rw [extendCloneLoop, extendCloneSpec, after_seg (0 + m) (by simp)]
    simp
  | succ n ih =>
    intro xs dl esc m o
    match o with
    | [] => rw [extendCloneLoop, extendCloneSpec, after_seg (n + 1 + m) (by simp)]; simp
    | .panic :: o => rw [extendCloneLoop, extendCloneSpec, after_seg (n + 1 + m) (by simp)]; simp
    | .ret id :: o =>
      rw [extendCloneLoop, extendCloneSpec, Nat.add_right_comm n 1 m, write_end]
      have := ih (xs ++ [id]) dl esc m o
      rw [List.length_append, List.length_singleton] at this
      simp only [setLen]
      rw [this]
      exact congrArg _ (congrArg (Out.mk · _ _) (after_congr _ (by simp [Vec.cap]) rfl rfl))

theorem extendFromSliceClone_eq (env : Env) (v : Vec) (xs : List Id) (n : Nat) (o : List Outcome)
    (h : View.fwd.Shape v xs) :
    extendFromSliceClone env v n o =
      .ok ⟨(grown env v n).after (extendCloneSpecR (room env v n) xs n o),
           (extendCloneSpecR (room env v n) xs n o).exit, (extendCloneSpecR (room env v n) xs n o).rest⟩ := by
  revert v
  refine seg_cases fun k dl esc => ?_
  unfold extendFromSliceClone extendCloneSpecR
  refine reserve_cases ?_ fun k' _ => ?_
  · rw [after_seg k (by simp)]
    simp
  · exact extendCloneLoop_eq n xs dl esc k' o

/-- the loop of `extend_with` writes what the clone loop writes and leaves the length to its guard -/
theorem extendWithLoop_eq (n : Nat) : ∀ (xs dl esc : List Id) (m l : Nat) (o : List Outcome),
    extendWithLoop n ⟨I xs ++ H (n + m), l, dl, esc⟩ xs.length xs.length o =
      .ok ({ (⟨I xs ++ H (n + m), l, dl, esc⟩ : Vec).after (extendCloneSpec xs n o) with len := l },
           (extendCloneSpec xs n o).final.length, (extendCloneSpec xs n o).final.length,
           (match (extendCloneSpec xs n o).exit with | .ret _ => false | .panic _ => true),
           (extendCloneSpec xs n o).rest) := by
  induction n with
  | zero =>
    intro xs dl esc m l o
    rw [extendWithLoop, extendCloneSpec, after_seg (0 + m) (by simp)]
    simp
  | succ n ih =>
    intro xs dl esc m l o
    match o with
    | [] => rw [extendWithLoop, extendCloneSpec, after_seg (n + 1 + m) (by simp)]; simp
    | .panic :: o => rw [extendWithLoop, extendCloneSpec, after_seg (n + 1 + m) (by simp)]; simp
    | .ret id :: o =>
      rw [extendWithLoop, extendCloneSpec, Nat.add_right_comm n 1 m, write_end]
      have := ih (xs ++ [id]) dl esc m l o
      rw [List.length_append, List.length_singleton] at this
      simp only [this]
      exact congrArg _ (congrArg (Prod.mk · _) (congrArg (fun a : Vec => ({ a with len := l } : Vec))
        (after_congr _ (by simp [Vec.cap]) rfl rfl)))

theorem extendWith_eq (env : Env) (v : Vec) (xs : List Id) (n : Nat) (value : Id) (o : List Outcome)
    (h : View.fwd.Shape v xs) :
    extendWith env v n value o =
      .ok ⟨(grown env v n).after (extendWithSpecR (room env v n) env.bombs xs n value o),
           (extendWithSpecR (room env v n) env.bombs xs n value o).exit,
           (extendWithSpecR (room env v n) env.bombs xs n value o).rest⟩ := by
  revert v
  refine seg_cases fun k dl esc => ?_
  unfold extendWith extendWithSpecR
  refine reserve_cases ?_ fun k' _ => ?_
  · rw [after_seg k (by simp)]
    simp [dropArg]
  · simp only [↓reduceIte]
    cases n with
    | zero =>
      -- nothing to add: `value` is dropped at the end of the scope
      simp only [Nat.zero_sub, extendWithLoop, Nat.lt_irrefl, ↓reduceIte, extendWithSpec]
      rw [after_seg (0 + k') (by simp)]
      simp [dropArg, setLen]
    | succ n =>
      have hloop := extendWithLoop_eq n xs dl esc (1 + k') xs.length o
      rw [← Nat.add_assoc] at hloop
      simp only [Nat.add_sub_cancel, hloop, extendWithSpec]
      rw [extendCloneSpec_closed n xs o]
      obtain ⟨j, hj⟩ := Nat.exists_eq_add_of_le (clonedIds_length_le n o)
      rw [after_seg (j + 1 + k') (by simp; omega)]
      cases (extendCloneSpec [] n o).exit with
      | ret u =>
        simp only [Nat.zero_lt_succ, ↓reduceIte]
        rw [Nat.add_right_comm j 1 k', write_end, after_seg (j + k') (by simp; omega)]
        simp [setLen, Nat.add_assoc]
      | panic d =>
        simp only
        rw [after_seg (j + 1 + k') (by simp; omega)]
        simp [dropArg, setLen]

theorem truncateSpec_escaped (bombs : List Id) (xs : List Id) (n : Nat) : (truncateSpec bombs xs n).escaped = [] := by
  unfold truncateSpec; split <;> rfl

theorem resize_eq (env : Env) (v : Vec) (xs : List Id) (newLen : Nat) (value : Id) (o : List Outcome)
    (h : View.fwd.Shape v xs) :
    resize env v newLen value o =
      .ok ⟨(grown env v (newLen - v.len)).after (resizeSpec (room env v (newLen - v.len)) env.bombs xs newLen value o),
           (resizeSpec (room env v (newLen - v.len)) env.bombs xs newLen value o).exit,
           (resizeSpec (room env v (newLen - v.len)) env.bombs xs newLen value o).rest⟩ := by
  unfold resize resizeSpec
  rw [h.2]
  split
  · exact h.2 ▸ extendWith_eq env v xs (newLen - v.len) value o h
  · rw [grown_sub_of_le ‹_›, truncate_eq env.bombs v xs newLen h]
    cases he : (truncateSpec env.bombs xs newLen).exit <;>
      simp [Vec.after, dropArg, truncateSpec_escaped, he]

/-! ## extend_from_within_clone: the copy loop is the clone loop plus reads of initialised source slots -/

theorem extendWithinLoop_eq_clone (n : Nat) : ∀ (xs : List Id) (v : Vec) (src : Nat) (o : List Outcome) (m : Nat),
    v.slots = I xs ++ H m → v.len = xs.length → src + n ≤ xs.length →
    extendWithinLoop n v src o = extendCloneLoop n v o := by
  induction n with
  | zero => intro xs v src o m _ _ _; simp [extendWithinLoop, extendCloneLoop]
  | succ n ih =>
    intro xs v src o m hs hl hsrc
    have hlt : src < xs.length := by omega
    have hpk : peek v src = .ok (xs[src]) := by
      unfold peek; rw [hs]; simp [I, List.getElem?_append_left, hlt]
    simp only [extendWithinLoop, hpk]
    match o with
    | [] => simp [extendCloneLoop]
    | .panic :: o => simp [extendCloneLoop]
    | .ret id :: o =>
      simp only [extendCloneLoop]
      cases m with
      | zero =>
        have : write v v.len id = .error (.outOfBounds v.len) := by
          unfold write; rw [hs]; simp [hl]
        rw [this]
      | succ m =>
        have hs1 : v.slots = I xs ++ Slot.hole :: H m := by rw [hs]; simp
        rw [write_mid hs1 (by simp [hl])]
        simp only
        exact ih (xs ++ [id]) _ (src + 1) o m (by simp [setLen]) (by simp [setLen, hl]) (by simp; omega)

theorem extendFromWithinClone_eq (env : Env) (v : Vec) (xs : List Id) (start end_ : Nat) (o : List Outcome)
    (h : View.fwd.Shape v xs) (hr : start ≤ end_ ∧ end_ ≤ v.len) :
    extendFromWithinClone env v start end_ o = extendFromSliceClone env v (end_ - start) o := by
  revert v
  refine seg_cases fun k dl esc (hr : start ≤ end_ ∧ end_ ≤ xs.length) => ?_
  unfold extendFromWithinClone extendFromSliceClone
  rw [if_neg (by simp only [not_or, Nat.not_lt]; exact hr)]
  cases hres : reserve env ⟨I xs ++ H k, xs.length, dl, esc⟩ (end_ - start) with
  | none => rfl
  | some v' =>
    obtain ⟨k', rfl, -⟩ := reserve_seg hres
    exact extendWithinLoop_eq_clone (end_ - start) xs _ start o _ rfl rfl (by omega)

theorem extendFromWithinClone_bad (env : Env) (v : Vec) (start end_ : Nat) (o : List Outcome)
    (hr : start > end_ ∨ end_ > v.len) :
    extendFromWithinClone env v start end_ o = .ok ⟨v, .panic false, o⟩ := by
  unfold extendFromWithinClone; rw [if_pos hr]

theorem extendCloneSpec_exit (n : Nat) : ∀ (xs : List Id) (o : List Outcome),
    (extendCloneSpec xs n o).exit = .ret () ∨ (extendCloneSpec xs n o).exit = .panic false := by
  induction n with
  | zero => intro xs o; simp [extendCloneSpec]
  | succ n ih =>
    intro xs o
    match o with
    | [] => simp [extendCloneSpec]
    | .panic :: o => simp [extendCloneSpec]
    | .ret id :: o => simp only [extendCloneSpec]; exact ih _ o

theorem resizeWith_eq (env : Env) (v : Vec) (xs : List Id) (newLen : Nat) (o : List Outcome)
    (h : View.fwd.Shape v xs) :
    resizeWith env v newLen o =
      .ok ⟨(grown env v (newLen - v.len)).after (resizeWithSpec (room env v (newLen - v.len)) env.bombs xs newLen o),
           (resizeWithSpec (room env v (newLen - v.len)) env.bombs xs newLen o).exit,
           (resizeWithSpec (room env v (newLen - v.len)) env.bombs xs newLen o).rest⟩ := by
  revert v
  refine seg_cases fun k dl esc => ?_
  unfold resizeWith resizeWithSpec
  simp only
  split
  · unfold extendCloneSpecR
    refine reserve_cases ?_ fun k' _ => ?_
    · rw [after_seg k (by simp)]
      simp
    · simp only [↓reduceIte, extendWithLoop_eq _ xs dl esc k' xs.length o]
      rcases extendCloneSpec_exit (newLen - xs.length) xs o with h | h <;> rw [h] <;> rfl
  · rw [grown_sub_of_le ‹_›, truncate_eq env.bombs _ xs newLen (seg_shape ..)]
    simp only [Vec.after]

theorem popIf_eq (v : Vec) (xs : List Id) (o : List Outcome)
    (h : View.fwd.Shape v xs) :
    popIf v o = .ok ⟨v.after (popIfSpec xs o), (popIfSpec xs o).exit, (popIfSpec xs o).rest⟩ := by
  revert v
  refine seg_cases fun k dl esc => ?_
  unfold popIf popIfSpec
  rcases List.eq_nil_or_concat xs with rfl | ⟨A, x, rfl⟩
  · rw [after_seg k (by simp)]
    simp
  · rw [List.concat_eq_append, List.getLast?_concat, if_neg (by simp),
      peek_mid (A := I A) (x := x) (B := H k) (by simp) (by simp)]
    match o with
    | [] => simp only []; rw [after_seg k (by simp only [List.length_append, length_I, length_H])]; simp
    | .panic :: o => simp only []; rw [after_seg k (by simp only [List.length_append, length_I, length_H])]; simp
    | .ret b :: o =>
      simp only []
      split
      · rw [pop_eq _ (A ++ [x]) (seg_shape ..)]
        simp only [popSpec, List.getLast?_concat, Vec.after]
      · rw [after_seg k (by simp only [List.length_append, length_I, length_H])]; simp

theorem mapM_init (ys : List Id) : (I ys).mapM Slot.id? = some ys := by
  induction ys with
  | nil => rfl
  | cons y ys ih => simp [List.mapM_cons, ih, Slot.id?]

theorem append_eq (env : Env) (v other : Vec) (xs ys : List Id)
    (h : View.fwd.Shape v xs) (ho : View.fwd.Shape other ys) :
    append env v other =
      .ok (⟨(grown env v other.len).after (appendSpec (room env v other.len) xs ys),
            (appendSpec (room env v other.len) xs ys).exit, []⟩,
           appendedOther (room env v other.len) other ys) := by
  revert other
  refine seg_cases fun j dlo esco => ?_
  revert v
  refine seg_cases fun k dl esc => ?_
  unfold append appendSpec appendedOther
  simp only
  refine reserve_cases ?_ fun k' _ => ?_
  · simp only [Bool.false_eq_true, ↓reduceIte]
    rw [dropRange_seg env.bombs ys true _ [] (H j) 0 (by simp [setLen]) rfl, after_seg k (by simp)]
    simp [setLen, Vec.cap, H_add]
  · simp only [↓reduceIte]
    rw [take_I_H, mapM_init]
    simp only
    rw [if_neg (by simp [Vec.cap]), List.drop_left' (length_I xs), H_take,
      Nat.min_eq_left (Nat.le_add_right ..), if_neg (not_not_intro rfl), List.take_left' (length_I xs),
      ← List.drop_drop, List.drop_left' (length_I xs), H_drop, Nat.add_sub_cancel_left,
      List.drop_left' (length_I ys), after_seg k' (by simp; omega)]
    simp [setLen, Vec.cap, H_add]

end Coll
