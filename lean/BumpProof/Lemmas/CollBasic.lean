/-
  Lemmas/CollBasic.lean — refinement lemmas for the loop-free operations `truncate`, `clear`, `pop`,
  `remove`, `swap_remove` and the drop of the owner (`Coll/Slice.lean`): on a vector in the standard shape each
  computes its list-level description of `Coll/Spec.lean`.
-/
import BumpProof.Lemmas.CollView

namespace Coll

theorem truncate_eq (bombs : List Id) (v : Vec) (xs : List Id) (n : Nat)
    (h : View.fwd.Shape v xs) :
    truncate bombs v n = .ok ⟨v.after (truncateSpec bombs xs n), (truncateSpec bombs xs n).exit, []⟩ := by
  revert v
  refine seg_cases fun k dl esc => ?_
  unfold truncate truncateSpec
  by_cases h : n ≥ xs.length
  · rw [if_pos h, if_pos h, after_seg k (by simp)]
    simp
  · obtain ⟨A, B, rfl, rfl⟩ := exists_append_of_le (Nat.le_of_not_ge h)
    rw [if_neg h, if_neg h, List.take_left, List.drop_left, after_seg (B.length + k) (by simp)]
    simp only [setLen, List.length_append, Nat.add_sub_cancel_left]
    rw [dropRange_seg bombs B false _ (I A) (H k) A.length (by simp) (by simp)]
    simp [dropExit, H_add]

/-- the drop glue over the whole contents (`Drop` of the owner, `clear`, an owned slice passed to a refused `append`):
    every element is dropped, front to back, also past a panicking `Drop` -/
theorem dropRange_owner (bombs : List Id) (u : Bool) (v : Vec) (xs : List Id)
    (h : View.fwd.Shape v xs) :
    dropRange bombs u (setLen v 0) 0 v.len =
      .ok ({ v with slots := H v.cap, len := 0, dropLog := v.dropLog ++ xs }, !u && xs.any bombs.contains) := by
  revert v
  refine seg_cases fun k dl esc => ?_
  rw [dropRange_seg bombs xs u _ [] (H k) 0 (by simp [setLen]) rfl]
  simp [setLen, Vec.cap, H_add]

theorem dropVec_eq (bombs : List Id) (u : Bool) (v : Vec) (xs : List Id)
    (h : View.fwd.Shape v xs) :
    dropVec bombs u v =
      .ok ⟨{ v with slots := H v.cap, len := 0, dropLog := v.dropLog ++ xs },
           if (!u && xs.any bombs.contains) then .panic true else .ret (), []⟩ := by
  rw [dropVec, dropRange_owner bombs u v xs h]

/-- `clear` is the drop of the owner outside an unwind (the two model functions have the same text) -/
theorem clear_eq (bombs : List Id) (v : Vec) (xs : List Id)
    (h : View.fwd.Shape v xs) :
    clear bombs v = .ok ⟨v.after (clearSpec bombs xs), (clearSpec bombs xs).exit, []⟩ := by
  show dropVec bombs false v = _
  rw [dropVec_eq bombs false v xs h]
  simp [Vec.after, clearSpec, dropExit]

theorem pop_eq (v : Vec) (xs : List Id)
    (h : View.fwd.Shape v xs) :
    pop v = .ok ⟨v.after (popSpec xs), (popSpec xs).exit, []⟩ := by
  revert v
  refine seg_cases fun k dl esc => ?_
  unfold pop popSpec
  rcases List.eq_nil_or_concat xs with rfl | ⟨A, x, rfl⟩
  · rw [after_seg k (by simp)]
    simp
  · rw [List.concat_eq_append, List.getLast?_concat, List.dropLast_concat, after_seg (k + 1) (by simp)]
    simp only [List.length_append, List.length_singleton, Nat.add_one_ne_zero, if_false, setLen, Nat.add_sub_cancel]
    rw [readOut_mid (A := I A) (x := x) (B := H k) (by simp) (by simp)]
    simp

theorem remove_eq (v : Vec) (xs : List Id) (i : Nat)
    (h : View.fwd.Shape v xs) :
    remove v i = .ok ⟨v.after (removeSpec xs i), (removeSpec xs i).exit, []⟩ := by
  revert v
  refine seg_cases fun k dl esc => ?_
  unfold remove removeSpec
  by_cases h : i ≥ xs.length
  · rw [if_pos h, List.getElem?_eq_none h, after_seg k (by simp)]
    simp
  · obtain ⟨A, x, B, rfl, rfl⟩ := exists_split_of_lt (Nat.lt_of_not_ge h)
    rw [if_neg h, readOut_mid (A := I A) (x := x) (B := I B ++ H k) (by simp) (by simp)]
    simp only
    rw [copy_back (A := I A) (k := 1) (M := I B) (T := H k) (by simp) (by simp) (by simp) (by simp)]
    simp only [List.getElem?_append_right (Nat.le_refl _), Nat.sub_self, List.getElem?_cons_zero,
      List.eraseIdx_append_of_length_le (Nat.le_refl _), List.eraseIdx_cons_zero]
    rw [after_seg (k + 1) (by simp; omega)]
    simp [setLen]

theorem swapRemove_eq (v : Vec) (xs : List Id) (i : Nat)
    (h : View.fwd.Shape v xs) :
    swapRemove v i = .ok ⟨v.after (swapRemoveSpec xs i), (swapRemoveSpec xs i).exit, []⟩ := by
  revert v
  refine seg_cases fun k dl esc => ?_
  unfold swapRemove swapRemoveSpec
  by_cases h : i ≥ xs.length
  · rw [if_pos h, List.getElem?_eq_none h, after_seg k (by simp)]
    simp
  · obtain ⟨A, x, B, rfl, rfl⟩ := exists_split_of_lt (Nat.lt_of_not_ge h)
    rw [if_neg h, readOut_mid (A := I A) (x := x) (B := I B ++ H k) (by simp) (by simp)]
    rcases List.eq_nil_or_concat B with rfl | ⟨B, l, rfl⟩
    · -- the removed element is the last one: the copy moves a hole onto itself
      have e : (A ++ [x]).length - 1 = A.length := by simp
      simp only [setLen, e]
      rw [copy_self (by simp [Vec.cap])]
      simp only [List.getElem?_concat_length, List.getLast?_concat, List.set_append_right, Nat.sub_self,
        List.set_cons_zero, List.dropLast_concat, Nat.le_refl]
      rw [after_seg (k + 1) (by simp)]
      simp
    · -- the last element fills the gap
      have e : (A ++ x :: (B ++ [l])).length - 1 = A.length + 1 + B.length := by simp; omega
      simp only [List.concat_eq_append, setLen, e]
      rw [copy_one_back (A := I A) (B := I B) (x := .init l) (T := H k) (by simp) (by simp) (by simp)]
      have e2 : (A ++ x :: (B ++ [l])).getLast? = some l := by
        rw [← List.cons_append, ← List.append_assoc, List.getLast?_concat]
      have e3 : ((A ++ x :: (B ++ [l])).set A.length l).dropLast = A ++ l :: B := by
        rw [List.set_append_right _ _ (Nat.le_refl _), Nat.sub_self, List.set_cons_zero, ← List.cons_append,
          ← List.append_assoc, List.dropLast_concat]
      simp only [List.getElem?_append_right (Nat.le_refl _), Nat.sub_self, List.getElem?_cons_zero, e2, e3]
      rw [after_seg (k + 1) (by simp; omega)]
      simp; omega

end Coll
