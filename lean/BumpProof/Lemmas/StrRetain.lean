/-
  Lemmas/StrRetain.lean — `retain`: the in-place compaction loop with its `SetLenOnDrop` guard refines
  the `List Char` filter for EVERY predicate oracle, including the executions in which the
  predicate panics (the guard then leaves exactly the characters kept so far).
-/
import BumpProof.Lemmas.StrOps

namespace Str

/-- specification: the characters kept, and whether the predicate panicked.  The oracle is
    consumed one outcome per character in order; an exhausted oracle answers `keep`; after a
    panic nothing further is visited and the unvisited tail is dropped (what `SetLenOnDrop` does,
    and what `std::string::String::retain` does). -/
def retainSpec : List Char → List Outcome → List Char × Bool
  | [], _ => ([], false)
  | c :: cs, o =>
    match o.headD .keep with
    | .panic => ([], true)
    | .drop => retainSpec cs o.tail
    | .keep => (c :: (retainSpec cs o.tail).1, (retainSpec cs o.tail).2)

theorem retainSpec_panic (c : Char) (cs : List Char) (o : List Outcome) (h : o.headD .keep = .panic) :
    retainSpec (c :: cs) o = ([], true) := by
  rw [retainSpec, h]

theorem retainSpec_drop (c : Char) (cs : List Char) (o : List Outcome) (h : o.headD .keep = .drop) :
    retainSpec (c :: cs) o = retainSpec cs o.tail := by
  rw [retainSpec, h]

theorem retainSpec_keep (c : Char) (cs : List Char) (o : List Outcome) (h : o.headD .keep = .keep) :
    retainSpec (c :: cs) o = (c :: (retainSpec cs o.tail).1, (retainSpec cs o.tail).2) := by
  rw [retainSpec, h]

/-- loop invariant: the buffer is `kept ++ gap ++ unvisited ++ spare` = `encode k ++ J ++ encode rest ++ T`, the
    guard's `del_bytes` is the length of the gap and `idx` the start of the unvisited part.  `k`, `J`, `T` (and `rest`)
    are ghosts that name the segments; `fuel`, `buf`, `idx`, `del`, `len`, `oracle` are the loop's own arguments. -/
theorem retainLoop_spec (rest : List Char) :
    ∀ (k : List Char) (J T : Bytes) (oracle : List Outcome) (fuel : Nat) (buf : Bytes) (idx del len : Nat),
      buf = encode k ++ J ++ encode rest ++ T → del = J.length → idx = (encode k).length + del →
      len = idx + (encode rest).length → rest.length ≤ fuel →
      ∃ s', retainLoop len fuel buf idx del oracle =
              (if (retainSpec rest oracle).2 then Res.panic s' else Res.ok () s') ∧
            WFL s' ∧ s'.bytes = encode (k ++ (retainSpec rest oracle).1) := by
  -- where the loop stops (end of the string, or a panic) the length is set to that of the kept part
  have stop : ∀ {k : List Char} {J U T : Bytes} {buf : Bytes} {idx del : Nat}, buf = encode k ++ J ++ U ++ T →
      del = J.length → idx = (encode k).length + del →
      WFL ⟨buf, idx - del⟩ ∧ State.bytes ⟨buf, idx - del⟩ = encode (k ++ []) := fun {k J U T _ _ _} hbuf hdel hidx =>
    have hb := hbuf.trans (by simp only [List.append_assoc] : _ = encode k ++ (J ++ (U ++ T)))
    ⟨(wfl_bytes_mk hb (by omega)).1, (wfl_bytes_mk hb (by omega)).2.trans (by rw [List.append_nil])⟩
  induction rest with
  | nil =>
    intro k J T oracle fuel buf idx del len hbuf hdel hidx hlen _
    refine ⟨⟨buf, idx - del⟩, ?_, stop hbuf hdel hidx⟩
    have hnlt : ¬ idx < len := by rw [hlen]; simp
    cases fuel
    · rw [retainLoop, if_neg hnlt]; rfl
    · rw [retainLoop, if_neg hnlt]; rfl
  | cons c rest ih =>
    intro k J T oracle fuel buf idx del len hbuf hdel hidx hlen hfuel
    obtain ⟨fuel, rfl⟩ : ∃ f, fuel = f + 1 := ⟨fuel - 1, by rw [List.length_cons] at hfuel; omega⟩
    have hfuel' : rest.length ≤ fuel := Nat.le_of_succ_le_succ hfuel
    have hn := encodeChar_length c
    -- all indices in terms of the segments
    subst hdel hidx hlen
    have hlen : (encode k).length + J.length + (encode (c :: rest)).length =
        (encode k).length + J.length + c.utf8Size + (encode rest).length := by
      rw [encode_cons, List.length_append, hn]; omega
    have hdec : decodeFirst ((buf.take ((encode k).length + J.length + (encode (c :: rest)).length)).drop
        ((encode k).length + J.length)) = some (c, encode rest) := by
      rw [hbuf, List.take_left' (by simp only [List.length_append]),
        List.drop_left' (by simp only [List.length_append]), encode_cons, decodeFirst_encodeChar_append]
    rw [retainLoop, if_pos (by have := encodeChar_length_pos c; omega), hdec]
    simp only
    cases ho : oracle.headD Outcome.keep with
    | panic =>
      rw [retainSpec_panic _ _ _ ho]
      exact ⟨_, rfl, stop hbuf rfl rfl⟩
    | drop =>
      rw [retainSpec_drop _ _ _ ho]
      exact ih k (J ++ encodeChar c) T oracle.tail fuel buf _ _ _
        (by rw [hbuf, encode_cons]; simp only [List.append_assoc])
        (by rw [List.length_append, hn]) (Nat.add_assoc _ _ _) hlen hfuel'
    | keep =>
      rw [retainSpec_keep _ _ _ ho, show ∀ X, k ++ c :: X = k ++ [c] ++ X from fun X => by simp]
      have hk : (encode (k ++ [c])).length = (encode k).length + c.utf8Size := by
        rw [encode_append, encode_singleton, List.length_append, hn]
      have hidx : (encode k).length + J.length + c.utf8Size = (encode (k ++ [c])).length + J.length := by
        rw [hk, Nat.add_right_comm]
      simp only
      by_cases hd : J.length > 0
      · -- the character moves down over the first bytes of `gap ++ character`
        rw [if_pos hd]
        obtain ⟨q, J', hq, hql⟩ : ∃ q J', J ++ encodeChar c = q ++ J' ∧ q.length = (encodeChar c).length :=
          ⟨_, _, (List.take_append_drop (encodeChar c).length _).symm, List.length_take_of_le (by simp)⟩
        have hJ' : J.length = J'.length := by
          have := congrArg List.length hq
          simp only [List.length_append] at this; omega
        have hbuf' : buf = encode k ++ q ++ (J' ++ encode rest ++ T) := by
          rw [hbuf, encode_cons, List.append_assoc (encode k) q, ← List.append_assoc q, ← List.append_assoc q, ← hq]
          simp only [List.append_assoc]
        rw [writeAt_seg (encode k) q _ hbuf' (Nat.add_sub_cancel _ _).symm hql]
        simp only
        exact ih (k ++ [c]) J' T oracle.tail fuel (encode k ++ encodeChar c ++ (J' ++ encode rest ++ T)) _ _ _
          (by rw [encode_append, encode_singleton]; simp only [List.append_assoc]) hJ' (hJ' ▸ hidx) hlen hfuel'
      · obtain rfl : J = [] := List.eq_nil_of_length_eq_zero (by omega)
        rw [if_neg hd]
        exact ih (k ++ [c]) [] T oracle.tail fuel buf _ _ _
          (by rw [hbuf, encode_append, encode_singleton, encode_cons]; simp only [List.append_assoc, List.append_nil])
          rfl hidx hlen hfuel'

theorem retain_spec (s : State) (cs : List Char) (oracle : List Outcome) (h : Holds s cs) :
    ∃ s', retain s oracle = (if (retainSpec cs oracle).2 then Res.panic s' else Res.ok () s') ∧
      Holds s' (retainSpec cs oracle).1 := by
  unfold retain
  have hl := h.len
  have hbuf : s.buf = encode [] ++ [] ++ encode cs ++ s.buf.drop s.len := by
    rw [← h.2]; simp [State.bytes]
  obtain ⟨s', h1, h2, h3⟩ := retainLoop_spec cs [] [] (s.buf.drop s.len) oracle s.len s.buf 0 0 s.len hbuf rfl
    (by simp) (by simp [hl]) (by rw [hl]; exact length_le_encode_length cs)
  exact ⟨s', h1, h2, by simp at h3; exact h3⟩

end Str
