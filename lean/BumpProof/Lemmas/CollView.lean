/-
  Lemmas/CollView.lean — from "the model computes the list-level result `r`" to the statements of C06 / C08:
  well-formedness afterwards, conservation of ids, the abstraction.  Proved once for both kinds of vector: a `View`
  says where a vector type keeps its elements in its buffer — at the front (`View.fwd`: `BumpBox<[T]>`,
  `FixedBumpVec`, `BumpVec`, `MutBumpVec`; `Vec.abs`, `Vec.after`, `Vec.WF`) or at the back (`View.bwd`:
  `MutBumpVecRev`; `Vec.rabs`, `Vec.rafter`, `Vec.RWF`) — and everything between a refinement equation
  `op v = .ok ⟨after v' r, r.exit, rest⟩` and a property uses only its four laws (`append`, which also empties a second
  vector: `View.append_done`).
-/
import BumpProof.Coll.RevSpec
import BumpProof.Lemmas.CollWF

namespace Coll

theorem Vec.RWF.rabs_eq {v : Vec} {xs : List Id} (hs : v.slots = H (v.cap - v.len) ++ I xs) (hl : xs.length = v.len) :
    v.rabs = xs := by
  unfold Vec.rabs Vec.rstart
  rw [hs, List.drop_left' (by simp)]
  simp

/-- The laws, by what needs them: `ids_lay` the ids a vector owns (`Shape.total`), `length_lay` the capacity
    (`Shape.len_le_cap`, `after_cap`), `abs_lay` the abstraction (`Shape.abs`), `after_eq` the state after an operation
    (`after_shape`, `done_wf`). -/
structure View where
  /-- the buffer that holds `xs` and `k` free slots -/
  lay : List Id → Nat → List Slot
  abs : Vec → List Id
  after : {α : Type} → Vec → SpecOut α → Vec
  ids_lay : ∀ xs k, idsOf (lay xs k) = xs
  length_lay : ∀ xs k, (lay xs k).length = xs.length + k
  abs_lay : ∀ {v : Vec} {xs : List Id}, v.slots = lay xs (v.cap - v.len) → xs.length = v.len → abs v = xs
  after_eq : ∀ {α : Type} (v : Vec) (r : SpecOut α), after v r =
    ⟨lay r.final (v.cap - r.final.length), r.final.length, v.dropLog ++ r.dropped, v.escaped ++ r.escaped⟩

def View.fwd : View where
  lay xs k := I xs ++ H k
  abs := Vec.abs
  after := Vec.after
  ids_lay xs k := by simp
  length_lay xs k := by simp
  abs_lay := Vec.WF.abs_eq
  after_eq _ _ := rfl

def View.bwd : View where
  lay xs k := H k ++ I xs
  abs := Vec.rabs
  after := Vec.rafter
  ids_lay xs k := by simp
  length_lay xs k := by simp [Nat.add_comm]
  abs_lay := Vec.RWF.rabs_eq
  after_eq _ _ := rfl

/-- well-formed `MutBumpVecRev`: `len ≤ cap`, the LAST `len` slots hold values, the others none, no id twice -/
def Vec.RWF (v : Vec) : Prop :=
  (∃ xs, v.slots = H (v.cap - v.len) ++ I xs ∧ xs.length = v.len) ∧ v.total.Nodup

namespace View
variable (V : View)

def Shape (v : Vec) (xs : List Id) : Prop := v.slots = V.lay xs (v.cap - v.len) ∧ xs.length = v.len

/-- `V.WF v` unfolds to `v.WF` for `fwd` and to `v.RWF` for `bwd` -/
def WF (v : Vec) : Prop := (∃ xs, V.Shape v xs) ∧ v.total.Nodup

variable {V}

theorem Shape.len_le_cap {v : Vec} {xs : List Id} (h : V.Shape v xs) : v.len ≤ v.cap := by
  have := congrArg List.length h.1
  rw [V.length_lay, h.2] at this
  show v.len ≤ v.slots.length
  omega

theorem Shape.total {v : Vec} {xs : List Id} (h : V.Shape v xs) : v.total = xs ++ v.dropLog ++ v.escaped := by
  rw [Vec.total, h.1, V.ids_lay]

theorem Shape.abs {v : Vec} {xs : List Id} (h : V.Shape v xs) : V.abs v = xs := V.abs_lay h.1 h.2

theorem WF.shape {v : Vec} (h : V.WF v) : V.Shape v (V.abs v) := by
  obtain ⟨⟨xs, hs⟩, _⟩ := h
  rwa [hs.abs]

theorem after_cap {α} (v : Vec) (r : SpecOut α) (h : r.final.length ≤ v.cap) : (V.after v r).cap = v.cap := by
  rw [V.after_eq, Vec.cap, V.length_lay]; exact Nat.add_sub_cancel' h

theorem after_shape {α} (v : Vec) (r : SpecOut α) (h : r.final.length ≤ v.cap) : V.Shape (V.after v r) r.final := by
  have hc := after_cap (V := V) v r h
  rw [V.after_eq] at hc ⊢
  exact ⟨by rw [hc], rfl⟩

/-- **conservation ⇒ well-formedness**: if the list-level result `r` only moves the ids of `v` (plus the fresh ids
    `ins`) between contents, drop log and hand-outs, then the vector afterwards is well-formed (nothing is dropped
    twice, nothing that is still owned has been dropped) and accounts for every id; `v'` is `v` after the
    reservation the operation began with (`Coll.Grows`, `Coll.RGrows`), of which only the logs matter here -/
theorem done_wf {α} {v v' : Vec} {r : SpecOut α} {ins : List Id} (hv : V.WF v)
    (hd : v'.dropLog = v.dropLog) (he : v'.escaped = v.escaped)
    (hperm : (r.final ++ r.dropped ++ r.escaped).Perm (V.abs v ++ ins)) (hcap : r.final.length ≤ v'.cap) (hins : (v.total ++ ins).Nodup) :
    V.WF (V.after v' r) ∧ (V.after v' r).total.Perm (v.total ++ ins) := by
  have hsh := after_shape (V := V) v' r hcap
  have hp : (V.after v' r).total.Perm (v.total ++ ins) := by
    rw [hsh.total, hv.shape.total, V.after_eq, hd, he]
    exact ledger_perm hperm
  exact ⟨⟨⟨_, hsh⟩, hp.nodup_iff.mpr hins⟩, hp⟩

/-- `append(other)`: `done_wf` for `self`; `other` is left empty, its elements moved over or dropped with it -/
theorem append_done {v v' other : Vec} {room : Bool} {r : SpecOut Unit} (hv : V.WF v)
    (hd : v'.dropLog = v.dropLog) (he : v'.escaped = v.escaped)
    (hperm : (r.final ++ r.dropped ++ r.escaped).Perm (V.abs v ++ if room then other.abs else []))
    (hcap : r.final.length ≤ v'.cap) (hdisj : (v.total ++ other.abs).Nodup) :
    V.WF (V.after v' r) ∧ (appendedOther room other other.abs).abs = [] ∧
      ((V.after v' r).total ++ (appendedOther room other other.abs).dropLog.drop other.dropLog.length).Perm
        (v.total ++ other.abs) := by
  cases room
  · have hw := done_wf (ins := []) hv hd he hperm hcap (by simpa using hv.2)
    refine ⟨hw.1, by simp [appendedOther, Vec.abs, idsOf], ?_⟩
    have h2 := hw.2
    simp only [List.append_nil] at h2
    simpa [appendedOther] using List.Perm.append_right other.abs h2
  · have hw := done_wf hv hd he hperm hcap hdisj
    exact ⟨hw.1, by simp [appendedOther, Vec.abs, idsOf], by simpa [appendedOther] using hw.2⟩

/-- a vector of the same contents and logs (a grown one) is the same vector as far as ids are concerned -/
theorem Shape.wf {v v' : Vec} (hsh : V.Shape v' (V.abs v)) (hv : V.WF v) (hd : v'.dropLog = v.dropLog)
    (he : v'.escaped = v.escaped) : V.WF v' ∧ v'.total = v.total ∧ V.abs v' = V.abs v := by
  have htot : v'.total = v.total := by rw [hsh.total, hv.shape.total, hd, he]
  exact ⟨⟨⟨_, hsh⟩, htot ▸ hv.2⟩, htot, hsh.abs⟩

theorem final_le {α} {v : Vec} {r : SpecOut α} (hv : V.WF v) (hperm : (r.final ++ r.dropped ++ r.escaped).Perm (V.abs v)) :
    r.final.length ≤ v.cap := by
  have h1 := hperm.length_eq
  have h2 := hv.shape.2
  have h3 := hv.shape.len_le_cap
  simp only [List.length_append] at h1
  omega

/-- a result that needs no more than the reserved room fits the regrown vector -/
theorem cap_le {v v' : Vec} {n m : Nat} {room : Bool} (hv : V.WF v) (hcap : v.cap ≤ v'.cap)
    (hc : room = true → v.len + n ≤ v'.cap) (h : m ≤ v.len + (if room then n else 0)) : m ≤ v'.cap := by
  have := hv.shape.len_le_cap
  cases room
  · simp only [Bool.false_eq_true, ↓reduceIte] at h; omega
  · have := hc rfl; simp only [↓reduceIte] at h; omega

/-- from a refinement equation to the statement shape of C06 (`C06.DropsOnce`, `C06.RDropsOnce`) -/
theorem dropsOnce {α} {res : M (Out α)} {v v' : Vec} {r : SpecOut α} {rest : List Outcome} {ins : List Id}
    (hv : V.WF v) (hd : v'.dropLog = v.dropLog) (he : v'.escaped = v.escaped) (hres : res = .ok ⟨V.after v' r, r.exit, rest⟩)
    (hperm : (r.final ++ r.dropped ++ r.escaped).Perm (V.abs v ++ ins)) (hcap : r.final.length ≤ v'.cap) (hins : (v.total ++ ins).Nodup) :
    ∃ out, res = .ok out ∧ V.WF out.vec ∧ out.vec.total.Perm (v.total ++ ins) :=
  ⟨_, hres, done_wf hv hd he hperm hcap hins⟩

/-- … for an in-place operation that brings no id in (`v.total ++ []`: literally `DropsOnce res v []`) -/
theorem dropsOnce_inplace {α} {res : M (Out α)} {v : Vec} {r : SpecOut α} {rest : List Outcome}
    (hv : V.WF v) (hres : res = .ok ⟨V.after v r, r.exit, rest⟩) (hperm : (r.final ++ r.dropped ++ r.escaped).Perm (V.abs v)) :
    ∃ out, res = .ok out ∧ V.WF out.vec ∧ out.vec.total.Perm (v.total ++ []) :=
  dropsOnce hv rfl rfl hres (by rwa [List.append_nil]) (final_le hv hperm)
    (by rw [List.append_nil]; exact hv.2)

/-- from a refinement equation to the observable facts of C08 -/
theorem refines {α} {res : M (Out α)} {v' : Vec} {r : SpecOut α} {rest : List Outcome}
    (hres : res = .ok ⟨V.after v' r, r.exit, rest⟩) (hle : r.final.length ≤ v'.cap) :
    ∃ out, res = .ok out ∧ V.abs out.vec = r.final ∧ out.exit = r.exit ∧ out.rest = rest ∧
      out.vec.len ≤ out.vec.cap ∧ out.vec.cap = v'.cap :=
  ⟨_, hres, (after_shape v' r hle).abs, rfl, rfl, (after_shape (V := V) v' r hle).len_le_cap, after_cap v' r hle⟩

end View

theorem Vec.WF.shape {v : Vec} (h : v.WF) : View.fwd.Shape v v.abs := View.WF.shape (V := .fwd) h
theorem Vec.RWF.shape {v : Vec} (h : v.RWF) : View.bwd.Shape v v.rabs := View.WF.shape (V := .bwd) h

theorem Vec.WF.len_le_cap {v : Vec} (h : v.WF) : v.len ≤ v.cap := h.shape.len_le_cap
theorem Vec.RWF.len_le_cap {v : Vec} (h : v.RWF) : v.len ≤ v.cap := h.shape.len_le_cap

theorem Vec.WF.total_eq {v : Vec} (h : v.WF) : v.total = v.abs ++ v.dropLog ++ v.escaped := h.shape.total

/-- a vector in the standard shape is `⟨I xs ++ H k, |xs|, dl, esc⟩`: the refinement lemmas are proved for
    this explicit record -/
theorem seg_cases {motive : Vec → Prop} {xs : List Id}
    (h : ∀ k dl esc, motive ⟨I xs ++ H k, xs.length, dl, esc⟩) : ∀ v : Vec, View.fwd.Shape v xs → motive v := by
  rintro ⟨s, n, dl, esc⟩ ⟨hs, rfl⟩
  obtain ⟨k, rfl⟩ : ∃ k, s = I xs ++ H k := ⟨_, hs⟩
  exact h k dl esc

theorem rseg_cases {motive : Vec → Prop} {xs : List Id}
    (h : ∀ k dl esc, motive ⟨H k ++ I xs, xs.length, dl, esc⟩) : ∀ v : Vec, View.bwd.Shape v xs → motive v := by
  rintro ⟨s, n, dl, esc⟩ ⟨hs, rfl⟩
  obtain ⟨k, rfl⟩ : ∃ k, s = H k ++ I xs := ⟨_, hs⟩
  exact h k dl esc

theorem seg_shape (xs : List Id) (k : Nat) (dl esc : List Id) : View.fwd.Shape ⟨I xs ++ H k, xs.length, dl, esc⟩ xs :=
  ⟨by simp [View.fwd, Vec.cap], rfl⟩

theorem rseg_shape (xs : List Id) (k : Nat) (dl esc : List Id) : View.bwd.Shape ⟨H k ++ I xs, xs.length, dl, esc⟩ xs :=
  ⟨by simp [View.bwd, Vec.cap], rfl⟩

theorem after_abs {α} (v : Vec) (r : SpecOut α) : (v.after r).abs = r.final := by
  simp [Vec.abs, Vec.after, take_I_H]

/-- giving back the spare slots beyond `n` (`shrink_to`, `shrink_to_fit`) keeps a well-formed vector as it is -/
theorem Vec.WF.take_slots {v : Vec} (hv : v.WF) {n : Nat} (hn : v.len ≤ n) (hc : n ≤ v.cap) :
    ({ v with slots := v.slots.take n } : Vec).abs = v.abs ∧ ({ v with slots := v.slots.take n } : Vec).WF ∧
      ({ v with slots := v.slots.take n } : Vec).cap = n := by
  have hsh := hv.shape
  have hnd := hv.2
  rw [hv.total_eq] at hnd
  generalize v.abs = xs at hsh hnd ⊢
  clear hv
  revert hn hc hnd
  revert v
  refine @seg_cases _ xs fun k dl esc hn hc hnd => ?_
  obtain ⟨j, rfl⟩ := Nat.exists_eq_add_of_le (show xs.length ≤ n from hn)
  have hjk : j ≤ k := by simpa [Vec.cap] using hc
  have e : (I xs ++ H k).take (xs.length + j) = I xs ++ H j := by
    rw [List.take_append, List.take_of_length_le (by simp), length_I, Nat.add_sub_cancel_left, H_take, Nat.min_eq_left hjk]
  simp only [e]
  exact ⟨(seg_shape ..).abs, ⟨⟨xs, seg_shape ..⟩, by simpa [Vec.total] using hnd⟩, by simp [Vec.cap]⟩

end Coll
