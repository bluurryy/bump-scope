/-
  Lemmas/MemLive.lean — the invariant `LiveOK` on the ghost list of live blocks (aligned, inside
  the content range of a chunk not after the current one, on the allocated side of the bump position,
  pairwise byte-disjoint) and its preservation by allocation / deallocation / scope exit.
-/
import BumpProof.Lemmas.GeomBasic
import BumpProof.Lemmas.MemPlaced
import BumpProof.Lemmas.MemTry
import BumpProof.Lemmas.MemWrite
import BumpProof.Lemmas.StepShape

set_option linter.unusedSimpArgs false

namespace Arena.Mem
open Rs

export Arena.Fn (setPos_getElem?_self setPos_self curPos_chunk)

theorem BlocksDisjoint.symm {a b : Block} (h : BlocksDisjoint a b) : BlocksDisjoint b a := by
  unfold BlocksDisjoint at h ⊢; omega

theorem inContent_in_chunk {cfg : Cfg} {c : Chunk} {a sz : Nat} (h : InContent cfg c a sz) :
    c.base ≤ a ∧ a + sz ≤ c.base + c.size := by
  unfold InContent Chunk.contentStart Chunk.contentEnd at h
  split at h <;> omega

theorem inContent_disjoint_chunks {cfg : Cfg} {s : State} (hd : Arena.ChunksDisjoint s) {i j : Nat} {ci cj : Chunk}
    (hi : s.chunks[i]? = some ci) (hj : s.chunks[j]? = some cj) (hij : j ≠ i) {a1 s1 a2 s2 : Nat}
    (h1 : InContent cfg cj a1 s1) (h2 : InContent cfg ci a2 s2) : RangesDisjoint a1 s1 a2 s2 := by
  have b1 := inContent_in_chunk h1
  have b2 := inContent_in_chunk h2
  have := hd j i cj ci hij hj hi
  unfold RangesDisjoint
  omega

theorem pairwise_of_mem_ne {α} {R : α → α → Prop} (hs : ∀ a b, R a b → R b a) {l : List α} (h : l.Pairwise R)
    {a b : α} (ha : a ∈ l) (hb : b ∈ l) (hab : a ≠ b) : R a b := by
  obtain ⟨i, hi, rfl⟩ := List.getElem_of_mem ha
  obtain ⟨j, hj, rfl⟩ := List.getElem_of_mem hb
  have hpw := List.pairwise_iff_getElem.mp h
  rcases Nat.lt_trichotomy i j with h1 | h1 | h1
  · exact hpw i j hi hj h1
  · subst h1; exact absurd rfl hab
  · exact hs _ _ (hpw j i hj hi h1)

theorem InContent.of_same {cfg : Cfg} {c c' : Chunk} (hb : c'.base = c.base) (hs : c'.size = c.size) {a sz : Nat}
    (h : InContent cfg c a sz) : InContent cfg c' a sz := by
  unfold InContent Chunk.contentStart Chunk.contentEnd at h ⊢
  rw [hb, hs]; exact h

theorem getElem?_geom {l l' : List Chunk} (h : l'.map Chunk.memGeom = l.map Chunk.memGeom) {j : Nat} {c : Chunk}
    (hc : l[j]? = some c) : ∃ c', l'[j]? = some c' ∧ c'.memGeom = c.memGeom :=
  getElem?_of_map_eq h hc

theorem Placed.of_geom {cfg : Cfg} {s s' : State} (hg : s'.chunks.map Chunk.memGeom = s.chunks.map Chunk.memGeom)
    (hcur : s'.cur = s.cur) {a sz : Nat} (h : Placed cfg s a sz) : Placed cfg s' a sz := by
  obtain ⟨i, j, c, h1, h2, h3, h4, h5⟩ := h
  obtain ⟨c', hc', hgeo⟩ := getElem?_geom hg h3
  have e1 : c'.base = c.base := congrArg (·.1) hgeo
  have e2 : c'.size = c.size := congrArg (·.2.1) hgeo
  have e3 : c'.pos = c.pos := congrArg (·.2.2.1) hgeo
  refine ⟨i, j, c', hcur.trans h1, h2, hc', h4.of_same e1 e2, fun hji => ?_⟩
  have := h5 hji
  unfold OnAllocatedSide at this ⊢
  rw [e3]; exact this

theorem LiveOK.of_geom {cfg : Cfg} {s s' : State} (hg : s'.chunks.map Chunk.memGeom = s.chunks.map Chunk.memGeom)
    (hcur : s'.cur = s.cur) (hlive : s'.live = s.live) (h : LiveOK cfg s) : LiveOK cfg s' := by
  refine ⟨?_, ?_, ?_⟩
  · rw [hlive]; exact h.aligned
  · rw [hlive]; exact fun b hb hs => (h.placed b hb hs).of_geom hg hcur
  · rw [hlive]; exact h.disjoint

theorem LiveOK.of_onlyData {cfg : Cfg} {s s' : State} (ho : OnlyDataChanged s s') (h : LiveOK cfg s) : LiveOK cfg s' := by
  obtain ⟨h1, h2⟩ := ho
  exact h.of_geom h2 (by rw [h1]) (by rw [h1])

theorem LiveOK.addBlock {cfg : Cfg} {s : State} (h : LiveOK cfg s) {p size align : Nat} (init : Nat)
    (hal : align ∣ p) (hpl : 0 < size → Placed cfg s p size)
    (hdj : ∀ b ∈ s.live, RangesDisjoint b.addr b.size p size) :
    LiveOK cfg (addBlock s p size align init).1 := by
  unfold Arena.addBlock
  simp only
  refine ⟨?_, ?_, ?_⟩
  · intro b hb
    rcases List.mem_append.mp hb with hb | hb
    · exact h.aligned b hb
    · simp only [List.mem_singleton] at hb; subst hb; exact hal
  · intro b hb hs
    rcases List.mem_append.mp hb with hb | hb
    · exact h.placed b hb hs
    · simp only [List.mem_singleton] at hb; subst hb; exact hpl hs
  · rw [List.pairwise_append]
    refine ⟨h.disjoint, List.pairwise_singleton _ _, ?_⟩
    intro a ha b hb
    simp only [List.mem_singleton] at hb
    subst hb
    exact hdj a ha

theorem LiveOK.filter {cfg : Cfg} {s : State} (h : LiveOK cfg s) (f : Block → Bool) :
    LiveOK cfg { s with live := s.live.filter f } := by
  refine ⟨?_, ?_, ?_⟩
  · exact fun b hb => h.aligned b (List.mem_filter.mp hb).1
  · exact fun b hb hs => h.placed b (List.mem_filter.mp hb).1 hs
  · exact h.disjoint.sublist List.filter_sublist

theorem LiveOK.removeBlock {cfg : Cfg} {s : State} (h : LiveOK cfg s) (id : Nat) : LiveOK cfg (removeBlock s id) :=
  h.filter _

theorem Placed.placedAt {cfg : Cfg} {s : State} {i : Nat} {c : Chunk} (hcur : s.cur = .chunk i)
    (hc : s.chunks[i]? = some c) {a sz : Nat} (h : Placed cfg s a sz) : PlacedAt cfg s ⟨.chunk i, c.pos⟩ a sz := by
  obtain ⟨i', j, cj, h1, h2, h3, h4, h5⟩ := h
  cases hcur.symm.trans h1
  refine ⟨i, j, cj, rfl, h2, h3, h4, fun hji => ?_⟩
  subst hji
  cases hc.symm.trans h3
  exact h5 rfl

/-- a block placed relative to a checkpoint in chunk `i` is placed in every state in which chunk `i` is current
    with a position on the free side of the checkpoint's address (the other chunks being those of `s`) -/
theorem PlacedAt.placed {cfg : Cfg} {s s' : State} {cp : Checkpoint} {i p a sz : Nat} (h : PlacedAt cfg s cp a sz)
    (hcp : cp.cur = .chunk i) (hcur : s'.cur = .chunk i) (hch : s'.chunks = (setPos s i p).chunks)
    (hp : if cfg.up then cp.addr ≤ p else p ≤ cp.addr) : Placed cfg s' a sz := by
  obtain ⟨i', j, c, h1, h2, h3, h4, h5⟩ := h
  cases hcp.symm.trans h1
  by_cases hji : j = i
  · subst hji
    refine ⟨j, j, { c with pos := p }, hcur, h2, by rw [hch]; exact setPos_getElem?_self h3 p, h4, fun _ => ?_⟩
    have := h5 rfl
    unfold OnAllocatedSide
    cases hup : cfg.up <;> simp only [hup, Bool.false_eq_true, ↓reduceIte] at hp this ⊢ <;> omega
  · exact ⟨i, j, c, hcur, h2, by rw [hch, Fn.setPos_getElem?_ne _ _ (Ne.symm hji)]; exact h3, h4, fun e => absurd e hji⟩

/-- what lies behind a boundary shares no byte with what lies in front of it -/
theorem PlacedAt.apart {cfg : Cfg} {s : State} {cp : Checkpoint} {i : Nat} {c : Chunk} {a sz p size : Nat}
    (h : PlacedAt cfg s cp a sz) (hcp : cp.cur = .chunk i) (hc : s.chunks[i]? = some c) (hd : Arena.ChunksDisjoint s)
    (hin : InContent cfg c p size) (hq : if cfg.up then cp.addr ≤ p else p + size ≤ cp.addr) :
    RangesDisjoint a sz p size := by
  obtain ⟨i', j, cj, h1, h2, h3, h4, h5⟩ := h
  cases hcp.symm.trans h1
  by_cases hji : j = i
  · have := h5 hji
    split at hq
    · rename_i hup; rw [if_pos hup] at this; exact .inr (.inr (.inl (Nat.le_trans this hq)))
    · rename_i hup; rw [if_neg hup] at this; exact .inr (.inr (.inr (Nat.le_trans hq this)))
  · exact inContent_disjoint_chunks hd hc h3 hji h4 hin

/-- The non-empty live blocks selected by `keep` lie behind the boundary `cp`.  Boundaries are: the position of the
    current chunk (`LiveOK.behind`), a checkpoint (`CpOK.older`), and the end of a block on the allocated side
    (`if cfg.up then addr else addr + size`): of the last block once it is given up (`Behind.retreat`), of a block just
    carved. -/
def Behind (cfg : Cfg) (s : State) (cp : Checkpoint) (keep : Block → Bool) : Prop :=
  ∀ b ∈ s.live, keep b = true → 0 < b.size → PlacedAt cfg s cp b.addr b.size

/-- `[p, p+size)` lies in the content range of `c`, between the boundary `q` and the position `np` -/
def Between (cfg : Cfg) (c : Chunk) (q p size np : Nat) : Prop :=
  InContent cfg c p size ∧ if cfg.up then q ≤ p ∧ p + size ≤ np else np ≤ p ∧ p + size ≤ q

theorem Between.of_chain {cfg : Cfg} {c : Chunk} {q p size np : Nat}
    (h : if cfg.up then c.contentStart cfg ≤ q ∧ q ≤ p ∧ p + size ≤ np ∧ np ≤ c.contentEnd cfg
         else c.contentStart cfg ≤ np ∧ np ≤ p ∧ p + size ≤ q ∧ q ≤ c.contentEnd cfg) : Between cfg c q p size np := by
  unfold Between InContent
  split at h
  · rename_i hup; rw [if_pos hup]; exact ⟨⟨Nat.le_trans h.1 h.2.1, Nat.le_trans h.2.2.1 h.2.2.2⟩, h.2.1, h.2.2.1⟩
  · rename_i hup; rw [if_neg hup]; exact ⟨⟨Nat.le_trans h.1 h.2.1, Nat.le_trans h.2.2.1 h.2.2.2⟩, h.2.1, h.2.2.1⟩

theorem Between.dir {cfg : Cfg} {c : Chunk} {q p size np : Nat} (h : Between cfg c q p size np) :
    if cfg.up then q ≤ np else np ≤ q := by
  have h := h.2
  split at h
  · rename_i hup; rw [if_pos hup]; exact Nat.le_trans h.1 (Nat.le_trans (Nat.le_add_right _ _) h.2)
  · rename_i hup; rw [if_neg hup]; exact Nat.le_trans h.1 (Nat.le_trans (Nat.le_add_right _ _) h.2)

theorem Between.side {cfg : Cfg} {c : Chunk} {q p size np : Nat} (h : Between cfg c q p size np) :
    OnAllocatedSide cfg { c with pos := np } p size := by
  have h := h.2
  unfold OnAllocatedSide
  split at h
  · rename_i hup; rw [if_pos hup]; exact h.2
  · rename_i hup; rw [if_neg hup]; exact h.1

/-- `Carved` is `Between` with the old position as boundary (given that the old position was not before the content
    range), and says in addition where the new position ends up -/
theorem Carved.between {cfg : Cfg} {c : Chunk} {p size np : Nat} (hcv : Carved cfg c p size np)
    (hpos : if cfg.up then c.contentStart cfg ≤ c.pos else c.pos ≤ c.contentEnd cfg) :
    Between cfg c c.pos p size np := by
  unfold Carved at hcv
  unfold Between InContent
  cases hup : cfg.up <;> simp only [hup, Bool.false_eq_true, ↓reduceIte] at hcv hpos ⊢ <;> omega

/-- what an allocation of `[p, p+size)` that ends in state `s1` must establish -/
structure AllocOutcome (cfg : Cfg) (s1 : State) (p size : Nat) : Prop where
  live : LiveOK cfg s1
  placed : Placed cfg s1 p size
  disj : ∀ b ∈ s1.live, RangesDisjoint b.addr b.size p size

/-- no block is carved: the position moves to the free side of the boundary -/
theorem Behind.liveOK {cfg : Cfg} {s s' : State} {cp : Checkpoint} {keep : Block → Bool} {i p : Nat}
    (hb : Behind cfg s cp keep) (hal : ∀ b ∈ s.live, b.align ∣ b.addr) (hdj : s.live.Pairwise BlocksDisjoint)
    (hcp : cp.cur = .chunk i) (hp : if cfg.up then cp.addr ≤ p else p ≤ cp.addr)
    (hcur : s'.cur = .chunk i) (hch : s'.chunks = (setPos s i p).chunks) (hlive : s'.live = s.live.filter keep) :
    LiveOK cfg s' :=
  ⟨fun b hb' => hal b (List.mem_filter.mp (hlive ▸ hb')).1,
   fun b hb' hs =>
    (hb b (List.mem_filter.mp (hlive ▸ hb')).1 (List.mem_filter.mp (hlive ▸ hb')).2 hs).placed hcp hcur hch hp,
   hlive ▸ hdj.sublist List.filter_sublist⟩

/-- A position moves.  The kept blocks lie behind the boundary `cp` (in chunk `i`); in `s'` chunk `i` is current with
    position `np`, the other chunks are those of `s`, and the kept blocks are the live ones.  Then they are `LiveOK`,
    and any `[p, p+size)` between the boundary and `np` is placed and shares no byte with them.
    `s` need not have chunk `i` current (`reset_to` goes back to an earlier chunk). -/
theorem Behind.carve {cfg : Cfg} {s s' : State} {cp : Checkpoint} {keep : Block → Bool} {i : Nat} {c : Chunk}
    {p size np : Nat} (hb : Behind cfg s cp keep) (hal : ∀ b ∈ s.live, b.align ∣ b.addr)
    (hdj : s.live.Pairwise BlocksDisjoint) (hd : Arena.ChunksDisjoint s) (hcp : cp.cur = .chunk i)
    (hc : s.chunks[i]? = some c) (hgeo : Between cfg c cp.addr p size np)
    (hcur : s'.cur = .chunk i) (hch : s'.chunks = (setPos s i np).chunks) (hlive : s'.live = s.live.filter keep) :
    AllocOutcome cfg s' p size := by
  refine ⟨hb.liveOK hal hdj hcp hgeo.dir hcur hch hlive,
    ⟨i, i, { c with pos := np }, hcur, Nat.le_refl _, hch ▸ setPos_getElem?_self hc np, hgeo.1, fun _ => hgeo.side⟩,
    fun b hb' => ?_⟩
  · obtain ⟨hbm, hk⟩ := List.mem_filter.mp (hlive ▸ hb')
    by_cases hs : 0 < b.size
    · refine (hb b hbm hk hs).apart hcp hc hd hgeo.1 ?_
      have h2 := hgeo.2
      split at h2
      · rename_i hup; rw [if_pos hup]; exact h2.1
      · rename_i hup; rw [if_neg hup]; exact h2.2
    · exact .inl (by omega)

theorem LiveOK.behind {cfg : Cfg} {s : State} (hl : LiveOK cfg s) {i : Nat} {c : Chunk} (hcur : s.cur = .chunk i)
    (hc : s.chunks[i]? = some c) (keep : Block → Bool) : Behind cfg s ⟨.chunk i, c.pos⟩ keep :=
  fun b hb _ hs => (hl.placed b hb hs).placedAt hcur hc

/-- when the last block of the current chunk (it touches the position) is given up, the boundary retreats to its far
    end: the other blocks are disjoint from it and on the allocated side of the position -/
theorem Behind.retreat {cfg : Cfg} {s : State} {i : Nat} (hl : LiveOK cfg s) (hcur : s.cur = .chunk i)
    {blk : Block} (hblk : blk ∈ s.live)
    (hpos : ∀ c, s.chunks[i]? = some c → if cfg.up then blk.addr + blk.size = c.pos else blk.addr = c.pos) :
    Behind cfg s ⟨.chunk i, if cfg.up then blk.addr else blk.addr + blk.size⟩ (fun x => x.id != blk.id) := by
  intro b hb hk hs
  have hne : b ≠ blk := fun e => by simp [e] at hk
  have hdj : BlocksDisjoint b blk := pairwise_of_mem_ne (fun _ _ => BlocksDisjoint.symm) hl.disjoint hb hblk hne
  obtain ⟨i', j, cj, h1, h2, h3, h4, h5⟩ := hl.placed b hb hs
  cases hcur.symm.trans h1
  refine ⟨i, j, cj, rfl, h2, h3, h4, fun hji => ?_⟩
  subst hji
  have hside := h5 rfl
  have hpos := hpos cj h3
  unfold OnAllocatedSide at hside
  unfold BlocksDisjoint at hdj
  cases hup : cfg.up <;> simp only [hup, Bool.false_eq_true, ↓reduceIte] at hpos hside ⊢ <;> omega

theorem filter_all {α} (l : List α) : l = l.filter (fun _ => true) :=
  (List.filter_eq_self.mpr fun _ _ => rfl).symm

/-- carving a block from the free side of the current chunk `i` of `t`, the live blocks being placed
    relative to its position (fast path: `t` is the state before; slow path: all of them lie in earlier
    chunks): the old blocks stay placed, the new block is placed and disjoint from all old ones -/
theorem AllocOutcome.carve {cfg : Cfg} {t : State} {i : Nat} {c : Chunk} {p size np : Nat}
    (hd : Arena.ChunksDisjoint t) (hcur : t.cur = .chunk i) (hc : t.chunks[i]? = some c)
    (hpos : if cfg.up then c.contentStart cfg ≤ c.pos else c.pos ≤ c.contentEnd cfg)
    (hcv : Carved cfg c p size np)
    (hal : ∀ b ∈ t.live, b.align ∣ b.addr) (hdj : t.live.Pairwise BlocksDisjoint)
    (hold : ∀ b ∈ t.live, 0 < b.size → PlacedAt cfg t ⟨.chunk i, c.pos⟩ b.addr b.size) :
    AllocOutcome cfg (setPos t i np) p size :=
  Behind.carve (cp := ⟨.chunk i, c.pos⟩) (keep := fun _ => true) (fun b hb _ hs => hold b hb hs) hal hdj hd rfl hc
    (hcv.between hpos) hcur rfl (filter_all _)

theorem AllocOutcome.of_onlyData {cfg : Cfg} {s1 s2 : State} {p size : Nat} (h : AllocOutcome cfg s1 p size)
    (ho : OnlyDataChanged s1 s2) : AllocOutcome cfg s2 p size := by
  have e := ho.1
  refine ⟨h.live.of_onlyData ho, h.placed.of_geom ho.2 (by rw [e]), ?_⟩
  have : s2.live = s1.live := by rw [e]
  rw [this]; exact h.disj

theorem AllocOutcome.addBlock {cfg : Cfg} {s1 : State} {p size align : Nat} (h : AllocOutcome cfg s1 p size)
    (hal : align ∣ p) (init : Nat) : LiveOK cfg (addBlock s1 p size align init).1 :=
  h.live.addBlock init hal (fun _ => h.placed) h.disj

theorem allocOutcome_tryCur {cfg : Cfg} {s s' : State} {L : Layout} {h : Hints} {p x : Nat}
    (hl : LiveOK cfg s) (hd : Arena.ChunksDisjoint s) (hp : CurPosOK cfg s)
    (hv : C11.Valid cfg.up (bumpProps cfg s L h))
    (hr : tryCur cfg .alloc s L h = .ok (some ((p, x), s'))) :
    AllocOutcome cfg s' p L.size ∧ L.align ∣ p := by
  obtain ⟨i, c, np, hcur, hc, hal, _, hcv, rfl⟩ := tryCur_alloc_carved hv hr
  have hpos := hp i c hcur hc
  exact ⟨.carve hd hcur hc (by split <;> omega) hcv hl.aligned hl.disjoint
    fun b hb hs => (hl.placed b hb hs).placedAt hcur hc, hal⟩

theorem alloc_of_tryCur {cfg : Cfg} {s s' : State} {L : Layout} {p x : Nat}
    (hr : tryCur cfg .alloc s L Hints.custom = .ok (some ((p, x), s'))) :
    alloc cfg s L = .ok (s', .ok p) := by
  unfold alloc allocGeneric
  simp only [bind, Except.bind, pure, Except.pure, hr]
  rfl

theorem okOut_fst (s : State) (a sz al init : Nat) : (okOut s a sz al init).1 = (addBlock s a sz al init).1 := rfl

theorem stepCore_allocate_liveOK_of {cfg : Cfg} {g g' : GState} {L : Layout} {zeroed : Bool} {via : Via} {out : Out}
    (h : stepCore cfg g (.allocate L zeroed via) = .ok (g', out))
    (herr : ∀ s1 e, alloc cfg g.s L = .ok (s1, .error e) → LiveOK cfg s1)
    (hok : ∀ s1 p, alloc cfg g.s L = .ok (s1, .ok p) → AllocOutcome cfg s1 p L.size ∧ L.align ∣ p) :
    LiveOK cfg g'.s := by
  obtain ⟨_, _, s1, r1, ha, hcase⟩ := Hist.ok_allocate h
  cases r1 with
  | error e => rw [hcase.1]; exact herr s1 e ha
  | ok p =>
    obtain ⟨s2, hz, rfl, _⟩ := hcase
    obtain ⟨ho, hal⟩ := hok s1 p ha
    refine AllocOutcome.addBlock ?_ hal _
    cases zeroed
    · cases hz; exact ho
    · exact ho.of_onlyData (writeRange_onlyData (show zeroRange cfg s1 p L.size = .ok s2 from hz))

/-- `Arena.MinAlignOK s.minAlign` (Arena/Inv.lean), as a predicate on states -/
def MinAlignOK (s : State) : Prop :=
  s.minAlign = 1 ∨ s.minAlign = 2 ∨ s.minAlign = 4 ∨ s.minAlign = 8 ∨ s.minAlign = 16

theorem align_pos_free_side {cfg : Cfg} {n x p : Nat} (hn : Arena.MinAlignOK n)
    (h : liftM (Gen.LibArith.align_pos cfg.up n x) = .ok p) : if cfg.up then x ≤ p else p ≤ x :=
  Fn.lib_align_pos_dir hn.p2 hn.lt64 (Fn.liftM_eq_ok h)

/-- `deallocate` of a live block, followed by dropping it from the ghost list, keeps `LiveOK`: when the
    position moves back over the block, every other block stays on the allocated side -/
theorem liveOK_deallocate {cfg : Cfg} {s s' : State} {blk : Block}
    (hl : LiveOK cfg s) (hma : MinAlignOK s) (hb : blk ∈ s.live)
    (h : deallocate cfg s blk.addr blk.size = .ok s') : LiveOK cfg (removeBlock s' blk.id) := by
  rcases Fn.deallocate_inv h with rfl | ⟨i, p, hcur, hlast, hp, rfl⟩
  · exact hl.removeBlock _
  · refine (Behind.retreat hl hcur hb fun c hc => ?_).liveOK hl.aligned hl.disjoint rfl (align_pos_free_side hma hp) hcur
      rfl rfl
    exact Fn.isLast_pos hlast hcur hc

theorem findBlock_ok {s : State} {id : Nat} {blk : Block} (h : findBlock s id = .ok blk) :
    blk ∈ s.live ∧ blk.id = id := by
  unfold findBlock at h
  split at h
  · rename_i b hb
    cases h
    have := List.find?_some hb
    exact ⟨List.mem_of_find?_eq_some hb, by simpa using this⟩
  · cases h

/-- `stepCore`'s `.deallocate`: the block is live; it is dropped from the ghost list after `deallocate`
    (skipped by the `WithoutDealloc` wrapper) -/
theorem stepCore_deallocate_inv {cfg : Cfg} {g g' : GState} {b : Nat} {via : Via} {out : Out}
    (h : stepCore cfg g (.deallocate b via) = .ok (g', out)) :
    ∃ blk s', blk ∈ g.s.live ∧ blk.id = b ∧ (s' = g.s ∨ deallocate cfg g.s blk.addr blk.size = .ok s') ∧
      g' = { g with s := removeBlock s' b } := by
  obtain ⟨_, blk, hb, s1, hd, rfl, _⟩ := Hist.ok_deallocate h
  obtain ⟨hmem, hid⟩ := findBlock_ok hb
  refine ⟨blk, s1, hmem, hid, ?_, rfl⟩
  split at hd
  · cases hd; exact .inl rfl
  · exact .inr hd

/-- `reset_to` a checkpoint and dropping the blocks allocated after it keeps `LiveOK`, provided the
    older blocks were placed relative to the checkpoint -/
theorem liveOK_resetTo_killFrom {cfg : Cfg} {s s' : State} {cp : Checkpoint} {m : Nat}
    (hl : LiveOK cfg s) (hma : MinAlignOK s)
    (hcp : ∀ b ∈ s.live, b.id < m → 0 < b.size → PlacedAt cfg s cp b.addr b.size)
    (h : resetTo cfg s cp = .ok s') : LiveOK cfg (killFrom s' m) := by
  have hlive : (killFrom s' m).live = s.live.filter (·.id < m) := by
    unfold killFrom; simp only [(Fn.resetTo_path (c := false) (w := false) h).kept.live]
  have hbeh : Behind cfg s cp (·.id < m) := fun b hb hk hs => hcp b hb (of_decide_eq_true hk) hs
  rcases Fn.resetTo_inv h with ⟨hu, _⟩ | ⟨i, c, p, hi, hc, hp, rfl⟩
  · refine ⟨fun b hb => hl.aligned b (List.mem_filter.mp (hlive ▸ hb)).1, fun b hb hs => ?_,
      hlive ▸ hl.disjoint.sublist List.filter_sublist⟩
    obtain ⟨hbm, hid⟩ := List.mem_filter.mp (hlive ▸ hb)
    obtain ⟨_, _, _, h1, _⟩ := hbeh b hbm hid hs
    rw [hu] at h1; cases h1
  · exact hbeh.liveOK hl.aligned hl.disjoint hi (align_pos_free_side hma hp) rfl rfl hlive

end Arena.Mem
