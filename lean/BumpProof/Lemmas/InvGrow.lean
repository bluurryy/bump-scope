/-
  Lemmas/InvGrow.lean — preservation of `Arena.Hist.Inv` by the `.grow` operation: a function-level
  post-condition of `Arena.grow` in the live-block world (`GrowPost`), then the assembly of `inv_grow`.
-/
import BumpProof.Lemmas.InvReallocPost
namespace Arena.Hist
open Rs Lemmas
variable {cfg : Cfg}

/-- what `grow` of the live block `blk` to layout `L`, ending in `s'` with result `r`, establishes -/
structure GrowPost (cfg : Cfg) (s s' : State) (blk : Block) (L : Layout) (r : Except AErr Nat) : Prop where
  stable : Stable s s'
  curKind : s'.cur = s.cur ∨ ∃ j, s'.cur = .chunk j
  unalloc : s'.cur = .unallocated → s.cur = .unallocated ∧ SameShape s s'
  /-- a refused request: every live block (also `blk`) stays fine -/
  err : ∀ e, r = .error e → Mem.LiveOK cfg s'
  ok : ∀ np, r = .ok np → L.align ∣ np ∧ (∃ j, s'.cur = .chunk j) ∧ Mem.LiveOK cfg (removeBlock s' blk.id) ∧
    (0 < L.size → Mem.Placed cfg s' np L.size) ∧
    ∀ x ∈ (removeBlock s' blk.id).live, Mem.RangesDisjoint x.addr x.size np L.size

theorem GrowPost.ofOutcome {s s' : State} {blk : Block} {L : Layout} {np j : Nat} (hst : Stable s s')
    (hj : s'.cur = .chunk j) (ho : Mem.AllocOutcome cfg (removeBlock s' blk.id) np L.size) (hal : L.align ∣ np) :
    GrowPost cfg s s' blk L (.ok np) := by
  refine ⟨hst, Or.inr ⟨j, hj⟩, fun hu => ?_, fun e he => (by cases he), fun np' hnp => ?_⟩
  · rw [hj] at hu; cases hu
  · cases hnp
    exact ⟨hal, ⟨j, hj⟩, ho.live, fun _ => ho.placed.of_geom rfl rfl, ho.disj⟩

theorem grow_hist (hc : CfgOK cfg) {s : State} (h : GeomInv cfg s) (hr : RespsOK cfg s) (hd : ChunksDisjoint s)
    (hf : RespsFresh s) (hl : Mem.LiveOK cfg s) {blk : Block} (hb : blk ∈ s.live) {newL : Layout} (hL : newL.Valid)
    (hbc : isLast cfg s blk.addr blk.size = true → BlockInCur cfg s blk.addr blk.size)
    {s' : State} {r : Except AErr Nat} (he : grow cfg s blk.addr blk.size newL = .ok (s', r)) :
    GrowPost cfg s s' blk newL r := by
  obtain ⟨hsz, hcase⟩ := grow_cases he
  have hm := h.minAlign
  rcases hcase with ⟨hup, hlast, hfit, c, rem, t, np, hcc, h1, hle, h2, h3, rfl, rfl⟩ |
    ⟨hup, hlast, c, add, na, s1, nov, hcc, h1, h2, hge, h4, rfl, rfl⟩ | ⟨s1, hvia, hmv⟩
  · -- upwards, in place
    obtain ⟨i, hcur, hi⟩ := curChunk?_eq_some hcc
    have hw := h.chunks i c hi
    obtain ⟨j, c2, hcur2, hi2, hb1, hb2, hb3⟩ := hbc hlast
    rw [hcur] at hcur2; cases hcur2
    rw [hi] at hi2; cases hi2
    unfold Rs.sub at h1
    split at h1 <;> cases h1
    obtain ⟨g1, g2⟩ := up_np_bounds hc h hi (ptr := blk.addr) (size := newL.size)
      (Nat.add_le_of_le_sub' (Nat.le_trans (Nat.le_add_right _ _) hb2) hle) h2 h3
    have ho := realloc_last_up hl hd hb hup hcur hi (isLast_pos hlast hcur hi) hb1 g1 g2
    rw [← Mem.setCurPos_chunk hcur] at ho
    exact GrowPost.ofOutcome (Stable.setCurPos _ _) ((setCurPos_cur _ _).trans hcur) ho (alignFits_dvd hfit)
  · -- downwards, in place
    obtain ⟨i, hcur, hi⟩ := curChunk?_eq_some hcc
    have hw := h.chunks i c hi
    obtain ⟨j, c2, hcur2, hi2, hb1, hb2, hb3⟩ := hbc hlast
    rw [hcur] at hcur2; cases hcur2
    rw [hi] at hi2; cases hi2
    have hpos := isLast_pos hlast hcur hi
    simp only [hup, Bool.false_eq_true, ↓reduceIte] at hpos
    unfold Rs.sub at h1
    rw [if_pos hsz] at h1
    cases h1
    obtain ⟨e1, hdvd, _, hle, _⟩ := bump_down_val (sz := newL.size - blk.size) hL.p2 hL.lt64 hm
      (hpos ▸ Nat.lt_of_le_of_lt hw.pos_le hw.end_lt64 : blk.addr < 2 ^ 64)
    cases e1.symm.trans h2
    have hsp := hw.start_pos
    obtain ⟨hcur1, ho⟩ := realloc_last_down hl hd hb hup hcur hi (isLast_pos hlast hcur hi) hb2 hge
      (size := newL.size) (by omega) h4
    rw [← Mem.setCurPos_chunk hcur1] at ho
    exact GrowPost.ofOutcome ((Stable.of_onlyData (Mem.copyBytes_onlyData h4)).trans (Stable.setCurPos _ _))
      ((setCurPos_cur _ _).trans hcur1) ho hdvd
  · -- a new block is allocated, the bytes move
    obtain ⟨r', rfl, p⟩ := allocVia_post hc h hr hd hf hL hvia
    cases r' with
    | error e =>
      cases hmv
      exact ⟨p.stable, p.curKind, p.unalloc, fun _ _ => p.live hl, fun np hnp => by cases hnp⟩
    | ok v =>
      have ho := Mem.copyBytes_onlyData hmv
      obtain ⟨j, hj⟩ := p.cur_ok v rfl
      exact GrowPost.ofOutcome (p.stable.trans (Stable.of_onlyData ho)) ((show s'.cur = s1.cur by rw [ho.1]).trans hj)
        (allocOutcome_removeBlock ((p.outcome rfl v rfl hl).of_onlyData ho) _) (p.found v rfl)

theorem ReallocPost.ofGrow {s s' : State} {blk : Block} {L : Layout} {r : Except AErr Nat}
    (p : GrowPost cfg s s' blk L r) : ReallocPost cfg s s' blk.id L.align (r.map (·, L.size)).toOption := by
  refine ⟨⟨p.stable, p.unalloc, p.curKind⟩, ?_, ?_⟩
  · cases r with
    | error e => exact fun _ => p.err e rfl
    | ok np => intro hx; cases hx
  · intro v hv
    cases r with
    | error e => cases hv
    | ok np =>
      cases hv
      obtain ⟨a1, a2, a3, a4, a5⟩ := p.ok np rfl
      exact ⟨a2, a3, fun init => a3.addBlock init a1 (fun hs => (a4 hs).of_geom rfl rfl) a5⟩

theorem inv_grow {g g' : GState} {out : Out} {b : Nat} {L : Layout} {z : Bool} {via : Via} (h : Inv cfg g)
    (hr : RespsOK cfg g.s) (hf : RespsFresh g.s)
    (hs : stepCore cfg g (.grow b L z via) = .ok (g', out)) : Inv cfg g' := by
  obtain ⟨hL, hp, blk, hblk, _, s1, r, hx, hrest⟩ := ok_grow hs
  obtain ⟨hb, rfl⟩ := Mem.findBlock_ok hblk
  have hbc := h.blockInCur hb
  obtain ⟨g1, _, g3⟩ := C10.grow_inv h.cfgOK h.geom hr hL hbc hx
  obtain ⟨d1, _⟩ := C10.trace_disjoint (C10.grow_trace h.cfgOK h.geom hr hL hbc hx) h.disj hf
  have rp := ReallocPost.ofGrow (grow_hist h.cfgOK h.geom hr h.disj hf h.live hb hL hbc hx)
  cases r with
  | error e =>
    obtain ⟨rfl, _⟩ := hrest
    exact (inv_of_reallocPost h hp g1 d1 g3 rp hL.1).1 rfl
  | ok np =>
    obtain ⟨s2, hz, rfl, _⟩ := hrest
    have w := (zeroIf_wrote hz).sameGeom
    exact (inv_of_reallocPost h hp (w.inv g1) (w.shape.disjoint d1) (w.minAlign.trans g3)
      (rp.wrote (zeroIf_wrote hz)) hL.1).2 (np, L.size) rfl _

end Arena.Hist
