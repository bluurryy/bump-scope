/-
  Lemmas/GeomReserve.lean — `reserve` (typed and through `dyn BumpAllocatorCore`), `make_allocated`,
  `manually_drop`.
-/
import BumpProof.Lemmas.GeomSlow

set_option linter.unusedSimpArgs false
set_option linter.unusedVariables false

namespace Arena
open Rs Lemmas

section
variable {cfg : Cfg}

theorem walkReserve_le (cfg : Cfg) (chunks : List Chunk) :
    ∀ (fuel i additional rest : Nat), walkReserve cfg chunks fuel i additional = some rest → rest ≤ additional := by
  intro fuel
  induction fuel with
  | zero => intro i a r h; unfold walkReserve at h; cases h; exact Nat.le_refl _
  | succ n ih =>
    intro i a r h
    unfold walkReserve at h
    split at h
    · cases h; exact Nat.le_refl _
    · unfold Rs.checked_sub at h
      split at h
      · cases h
      · rename_i r' hr'
        split at hr'
        · cases hr'
          have := ih _ _ _ h
          omega
        · cases hr'

export Fn (bytes_layout_valid)

structure ReservePost (cfg : Cfg) (s s' : State) : Prop where
  inv : GeomInv cfg s'
  resps : RespsOK cfg s'
  minAlign : s'.minAlign = s.minAlign
  trace : Trace s s'

theorem NewPost.reserve {s s' : State} {r : Except AErr Nat} (p : NewPost cfg s s' r) : ReservePost cfg s s' :=
  ⟨p.inv, p.resps, p.minAlign, p.trace⟩

theorem reserve_ok (hc : CfgOK cfg) {s : State} (h : GeomInv cfg s) (hr : RespsOK cfg s) (additional : Nat) :
    Ensures (reserve cfg s additional) (∀ rest, rest ≤ additional → BaseOK cfg s { size := rest, align := 1 })
      fun x => ReservePost cfg s x.1 := by
  have hsame : ReservePost cfg s s := ⟨h, hr, rfl, Trace.refl _⟩
  unfold reserve
  cases hcur : s.cur with
  | claimed => exact .ok hsame
  | unallocated =>
    refine .branch (fun _ => .ok hsame) fun hlo => ?_
    rw [Bool.not_eq_true, Bool.not_eq_false'] at hlo
    refine ((newChunkForCapacity_ok hc h hr (bytes_layout_valid hlo)).mono
      (fun hb size hs => hb additional (Nat.le_refl _) size ((requestSize_unallocated hcur _).trans hs)) (fun _ => id)).bind ?_
    rintro ⟨s1, r1⟩ _ np
    cases r1 with
    | error e => exact .ok np.reserve
    | ok i => exact .ok ⟨np.withCur, np.resps, np.minAlign, np.trace⟩
  | chunk i =>
    obtain ⟨c, hi, hw, hd⟩ := h.curChunk hcur
    simp only [hi]
    cases hsub : Rs.checked_sub additional (c.remaining cfg) with
    | none => exact .ok hsame
    | some rest =>
      have hrest : rest ≤ additional := by
        unfold Rs.checked_sub at hsub
        split at hsub
        · cases hsub; omega
        · cases hsub
      dsimp only
      cases hwr : walkReserve cfg s.chunks (s.chunks.length - (i + 1)) i rest with
      | none => exact .ok hsame
      | some rest2 =>
        have hrest2 := walkReserve_le cfg _ _ _ _ _ hwr
        refine .branch (fun _ => .ok hsame) fun h0 => .branch (fun _ => .ok hsame) fun hlo => ?_
        rw [Bool.not_eq_true, Bool.not_eq_false'] at hlo
        obtain ⟨last, hlast⟩ := exists_getLast?_of_getElem? hi
        refine ((appendFor_ok hc h hr (bytes_layout_valid hlo) hlast).mono
          (fun hb size hs => hb rest2 (by omega) size ((requestSize_chunk hcur hlast _).trans hs)) (fun _ => id)).bind ?_
        rintro ⟨s1, r1⟩ _ np
        cases r1 <;> exact .ok np.reserve

theorem reserveDyn_ok (hc : CfgOK cfg) {s : State} (h : GeomInv cfg s) (hr : RespsOK cfg s) (additional : Nat) :
    Ensures (reserveDyn cfg s additional) (BaseOK cfg s { size := additional, align := 1 })
      fun x => ReservePost cfg s x.1 := by
  unfold reserveDyn
  refine .branch (fun _ => .ok ⟨h, hr, rfl, Trace.refl _⟩) fun hlo => ?_
  rw [Bool.not_eq_true, Bool.not_eq_false'] at hlo
  refine (allocGeneric_ok hc h hr .range (bytes_layout_valid hlo) (custom_sma _) (custom_sma _)
    (fun _ => Nat.one_dvd _)).bind ?_
  rintro ⟨s1, r1⟩ _ ⟨sp, _⟩
  exact .ok ⟨sp.inv, sp.resps, sp.minAlign, sp.trace⟩

theorem makeAllocated_ok (hc : CfgOK cfg) {s : State} (h : GeomInv cfg s) (hr : RespsOK cfg s) :
    Ensures (makeAllocated cfg s)
      ((∀ size, Spec.calcSize cfg.up cfg.hdr cfg.minChunk = some size → HeadOK cfg s size) ∧
        ∃ size, Spec.calcSize cfg.up cfg.hdr cfg.minChunk = some size)
      fun x => ReservePost cfg s x.1 ∧ (x.2 = .ok () → ∃ j, x.1.cur = .chunk j) := by
  have hsame : ReservePost cfg s s := ⟨h, hr, rfl, Trace.refl _⟩
  unfold makeAllocated
  cases hcur : s.cur with
  | claimed => exact Ensures.ok ⟨hsame, fun hx => by cases hx⟩
  | chunk i => exact Ensures.ok ⟨hsame, fun _ => ⟨i, hcur⟩⟩
  | unallocated =>
    simp only [Fn.calcSize_eq hc.hdr, Nat.max_self, r_ok_bind]
    cases hs : Spec.calcSize cfg.up cfg.hdr cfg.minChunk with
    | none => exact Ensures.error (fun ⟨_, size, hx⟩ => by cases hx)
    | some size =>
      obtain ⟨_, hsa, hsz, _, _⟩ := C12.calcSize_some hc.hdr hs
      refine ((newChunk_ok hc hr size).mono (fun hb => ⟨hsa, hb.1 size rfl⟩) (fun _ hp => (hp h hsz).1)).bind ?_
      rintro ⟨s1, r1⟩ _ np
      cases r1 with
      | error e => exact Ensures.ok ⟨np.reserve, fun hx => by cases hx⟩
      | ok i => exact Ensures.ok ⟨⟨np.withCur, np.resps, np.minAlign, np.trace⟩, fun _ => ⟨i, rfl⟩⟩

/-- `RawBump::manually_drop`: every chunk is released -/
theorem manuallyDrop_inv {s : State} (h : GeomInv cfg s) : GeomInv cfg (manuallyDrop cfg s) := by
  unfold manuallyDrop
  split
  · refine ⟨?_, h.minAlign, ?_⟩
    · intro i c hi; simp at hi
    · intro i hi; cases hi
  · exact ⟨h.chunks, h.minAlign, h.cur⟩

end
end Arena
