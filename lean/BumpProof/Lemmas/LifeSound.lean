/-
  Lemmas/LifeSound.lean — the remaining cases of the soundness proof of the region calculus (method calls through
  `Lemmas/LifeCalls.lean`, collections, closures, stores, value conversions) and the theorems: `step_sound` (a statement
  the checker accepts runs without a fault and re-establishes the invariant) and `check_sound` (a program).
-/
import BumpProof.Lemmas.LifeStmt
import BumpProof.Lemmas.LifeCalls

namespace Life

theorem step_call {t : Table} (hok : sigOK t = true) {fl : Flags} {Γ Γ' : SEnv} {σ : DState} (inv : Inv Γ σ)
    {x h : Var} {op : Op} {owner name : String} (hc : checkStmt t fl Γ (.call x h op owner name) = .ok Γ') :
    ∃ σ', runStmt fl σ (.call x h op owner name) = .ok σ' ∧ Inv Γ' σ' := by
  rcases checkCall_ok hc with ⟨sig, e, Γ1, res, c, rfl, rfl, hne1, hne2⟩
  simp only [runStmt]
  cases hop : sig.op
  · exact call_alloc hok inv c hop
  · exact call_mkGuard hok inv c hop
  · exact call_guardScope hok inv c hop
  · exact call_guardReset hok inv c hop
  · exact call_resetAll hok inv c hop
  · exact call_viewScope hok inv c hop
  · exact call_viewSame hok inv c hop
  · exact call_claim hok inv c hop
  · exact call_poolGet hok inv c hop
  · exact call_convert hok inv c hop
  · exact absurd hop hne1
  · exact absurd hop hne2

theorem step_coll {t : Table} (hok : sigOK t = true) {fl : Flags} {Γ Γ' : SEnv} {σ : DState} (inv : Inv Γ σ)
    {v h : Var} {m : Mode} (hc : checkStmt t fl Γ (.coll v h m) = .ok Γ') :
    ∃ σ', runStmt fl σ (.coll v h m) = .ok σ' ∧ Inv Γ' σ' := by
  simp only [checkStmt, checkColl] at hc
  split at hc
  · cases hc
  rename_i e hl
  split at hc
  · cases hc
  rename_i b hcp
  split at hc
  · cases hc
  rename_i Γ1 hacc
  rcases lookupValid_ok hl with ⟨he, rfl, hv⟩
  rcases inv.typed e he hv with ⟨r, hr, ht⟩
  have hcases := collParam_cases (sigOK_impls hok) hcp
  have hfacts : e.kind.scopes = true ∧ e.isHandle = true := by
    rcases hcases with ⟨hk, _⟩ | ⟨hk, _⟩ <;> simp [hk, Kind.scopes, Entry.isHandle]
  rcases hfacts with ⟨hsc, heH⟩
  refine ⟨σ.set v (Rt.hdl .coll r.arena), ?_, ?_⟩
  · have h3 : (σ.epochs r.arena == []) = false := by simpa using ht.live heH
    simp [runStmt, hr, ht.kind, hsc, h3]
  · rcases access_afterUse inv he hv hacc with ⟨inv1, hau, hkeepE, hmutacc, _⟩
    rcases declare_ok hc with ⟨hfresh, rfl⟩
    rw [show m.recv.mode = m by cases m <;> rfl] at hau
    have sh : DerivedShape e m v .scope
        ⟨v, .coll, m.refAcc, .borrow e.var m :: e.self, if b then .borrow e.var m :: e.self else e.param, true, Γ.depth⟩ :=
      .mk' .coll m.refAcc _ (by decide) (by decide) (by cases b <;> simp [Owner.hasParam])
        (fun hne => match m, hne with | .shr, h => absurd rfl h | .mut, _ => rfl) nofun nofun nofun
    apply inv1.addDerived (hkeepE (by cases m <;> simp [Mode.recv])) hv heH hr hau.noConflict sh hfresh
      (fun hm => hmutacc (by subst hm; rfl)) _ (Rt.hdl .coll r.arena) rfl rfl rfl (fun _ hn => by cases hn) nofun
    -- a receiver that can end epochs is a `Bump`: the collection is bounded by the borrow
    intro hend
    rcases hcases with ⟨_, _, hb⟩ | ⟨hk, _⟩
    · rw [hb]; exact List.mem_cons_self
    · rcases hend with hg | ⟨hb', _⟩ <;> rw [hk] at * <;> contradiction

/-- the closure parameter `s`, derived from the implicit guard / reborrow `G` (declared last in `Γ2`) -/
theorem enter_param {Γ2 : SEnv} {σ2 : DState} (inv2 : Inv Γ2 σ2) {G : Entry} (hG : G ∈ Γ2.ents) (hGv : G.valid = true)
    (hGH : G.isHandle = true) (hGacc : G.acc ≠ .shrRef) {rg : Rt} (hrg : σ2.get G.var = some rg)
    (hnoloan : ∀ e' ∈ Γ2.ents, e'.valid = true → e'.self.on G.var = false)
    {s : Var} (hfresh : s ∉ Γ2.used) (d : Nat) (o : Owner) (P : Region)
    (hP : P = .frame G.var :: .borrow G.var .mut :: G.self ∨ (P = G.param ∧ o.hasParam = true ∧ G.kind = .scope))
    (f : List Var) :
    Inv { ents := ⟨s, .scope, .mutRef, .frame G.var :: .borrow G.var .mut :: G.self, P, true, d⟩ :: Γ2.ents,
          used := s :: Γ2.used, frames := f }
        { (σ2.set s (Rt.hdl .scope rg.arena)) with frames := f } := by
  have sh : DerivedShape G .mut s o ⟨s, .scope, .mutRef, .frame G.var :: .borrow G.var .mut :: G.self, P, true, d⟩ :=
    { var := rfl
      valid := rfl
      handle := rfl
      self1 := List.mem_cons_of_mem _ List.mem_cons_self
      self2 := fun l hl => List.mem_cons_of_mem _ (List.mem_cons_of_mem _ hl)
      self3 := fun l hl => by
        rcases List.mem_cons.1 hl with h | h
        · exact Or.inr (Or.inr ⟨_, h⟩)
        · exact (List.mem_cons.1 h).imp_right Or.inl
      param := by
        rcases hP with rfl | ⟨hP, ho, _⟩
        · exact Or.inl ⟨fun l hl => hl, List.mem_cons_of_mem _ List.mem_cons_self,
            fun l hl => List.mem_cons_of_mem _ (List.mem_cons_of_mem _ hl)⟩
        · exact Or.inr ⟨hP, ho⟩
      excl := fun _ => rfl
      ownScope := fun _ => nofun
      bumpRef := nofun
      guardOwn := nofun }
  refine (inv2.addDerived hG hGv hGH hrg (m := .mut) hnoloan sh hfresh (fun _ => hGacc) ?_
    (Rt.hdl .scope rg.arena) rfl rfl rfl (fun n hn => by cases hn) nofun).setFrames f
  intro hend
  rcases hP with rfl | ⟨_, _, hk⟩
  · exact List.mem_cons_of_mem _ List.mem_cons_self
  · rcases hend with h | ⟨h, _⟩ <;> rw [hk] at h <;> cases h

theorem step_enter {t : Table} (hok : sigOK t = true) {fl : Flags} {Γ Γ' : SEnv} {σ : DState} (inv : Inv Γ σ)
    {s g h : Var} {op : Op} {owner name : String} (hc : checkStmt t fl Γ (.enter s g h op owner name) = .ok Γ') :
    ∃ σ', runStmt fl σ (.enter s g h op owner name) = .ok σ' ∧ Inv Γ' σ' := by
  simp only [checkStmt] at hc
  rcases checkEnter_ok hc with ⟨sig, e, opens, realParam, Γ1, Γ2, hs, hop, hl, happ, hcs, hacc, hd2, hd3⟩
  rcases lookupValid_ok hl with ⟨he, rfl, hv⟩
  rcases inv.typed e he hv with ⟨r, hr, ht⟩
  rcases enter_shape (sigOK_sig hok hs) hop hcs with ⟨hrecv, ho, hcase⟩
  have hkinds := applicable_kinds (sigOK_impls hok) happ
  rcases ownerKinds_scopes hkinds ho with ⟨hsc, heH⟩
  rw [show sig.recv.mode = .mut by rw [hrecv]; rfl] at hd2 hd3
  rw [hrecv] at hacc
  rcases access_afterUse inv he hv hacc with ⟨inv1, hau, hkeepE, hmutacc, _⟩
  have hau : AfterUse Γ Γ1 e .mut := hau
  have he1 : e ∈ Γ1.ents := hkeepE (by decide)
  have heacc : e.acc ≠ .shrRef := hmutacc rfl
  have hlive3 : (σ.epochs r.arena == []) = false := by simpa using ht.live heH
  have hfr : Γ1.frames = σ.frames := hau.frames.trans inv.frames
  -- no other entry holds a loan on the implicit guard / reborrow `G` that was just declared
  have hnoloan : ∀ {G : Entry} {σ2 : DState}, G.var = g → g ∉ Γ1.used →
      Inv { Γ1 with ents := G :: Γ1.ents, used := g :: Γ1.used } σ2 →
      ∀ e' ∈ G :: Γ1.ents, e'.valid = true → e'.self.on G.var = false := by
    intro G σ2 hg hfg inv2 e' he' hv'
    rcases List.mem_cons.1 he' with rfl | he''
    · exact (inv2.closed _ List.mem_cons_self hv').2.2.1
    · exact hg ▸ inv1.no_loan_on_fresh hfg he'' hv'
  rcases hcase with ⟨rfl, rfl, rfl⟩ | ⟨rfl, rfl, hreal⟩
  · -- scoped / scoped_aligned: an implicit guard with a new epoch
    simp only [if_true] at hd2
    simp only [Bool.false_eq_true, if_false] at hd3
    rcases declare_ok hd2 with ⟨hfg, rfl⟩
    rcases declare_ok hd3 with ⟨hfs, rfl⟩
    refine ⟨_, by simp only [runStmt, hr]; simp [ht.kind, hsc, hlive3]; rfl, ?_⟩
    have inv2 := inv1.addGuard he1 hv heH hr hau.noConflict (o := sig.ownerK) (x := g)
      (.mk' (d := Γ.depth) .guard .own _ (by decide) (by decide) (Or.inl rfl) (fun _ => rfl) nofun nofun (fun _ => rfl)) hfg rfl heacc
      (fun _ => List.mem_cons_self)
    have := enter_param inv2 List.mem_cons_self rfl rfl (by simp) (DState.get_set_self _ _ _) (hnoloan rfl hfg inv2)
      hfs (Γ.depth + 1) sig.ownerK _ (Or.inl rfl) (g :: Γ1.frames)
    rw [hfr] at this ⊢
    exact this
  · -- aligned: an implicit reborrow, no new epoch
    simp only [Bool.false_eq_true, if_false] at hd2
    rcases declare_ok hd2 with ⟨hfg, rfl⟩
    rcases declare_ok hd3 with ⟨hfs, rfl⟩
    refine ⟨_, by simp only [runStmt, hr]; simp [ht.kind, hsc, hlive3]; rfl, ?_⟩
    have hP : ∀ {R : Region}, (if realParam then e.param else R) = R ∨
        ((if realParam then e.param else R) = e.param ∧ sig.ownerK.hasParam = true) := by
      intro R; cases hrp : realParam
      · exact Or.inl rfl
      · exact Or.inr ⟨rfl, hreal hrp⟩
    have shG : DerivedShape e .mut g sig.ownerK _ :=
      .mk' (d := Γ.depth) .scope .mutRef _ (by decide) (by decide) hP (fun _ => rfl) (fun _ => nofun) nofun nofun
    have inv2 := inv1.addDerived he1 hv heH hr hau.noConflict shG hfg (fun _ => heacc) (shG.ender_param hkinds)
      (Rt.hdl .scope r.arena) rfl rfl rfl (fun n hn => by cases hn) nofun
    have := enter_param inv2 List.mem_cons_self rfl rfl (by simp) (DState.get_set_self _ _ _) (hnoloan rfl hfg inv2)
      hfs (Γ.depth + 1) sig.ownerK
      (if realParam then e.param else .frame g :: .borrow g .mut :: .borrow e.var .mut :: e.self)
      (by cases hrp : realParam
          · exact Or.inl rfl
          · exact Or.inr ⟨rfl, hreal hrp, rfl⟩)
      (g :: Γ1.frames)
    rw [hfr] at this ⊢
    exact this

theorem step_exit {t : Table} {fl : Flags} {Γ Γ' : SEnv} {σ : DState} (inv : Inv Γ σ)
    {ret : Option Var} (hc : checkStmt t fl Γ (.exit ret) = .ok Γ') :
    ∃ σ', runStmt fl σ (.exit ret) = .ok σ' ∧ Inv Γ' σ' := by
  simp only [checkStmt, checkExit] at hc
  split at hc
  · cases hc
  rename_i g rest hf
  rw [foldl_remove_frames] at hc
  generalize hΓ1 : ((locals Γ).filter (fun v => some v != ret)).foldl (fun Γ v => Γ.remove v) Γ = Γ1' at hc
  have inv1 : Inv Γ1' σ := hΓ1 ▸ inv.removeAll _
  split at hc
  · cases hc
  rename_i eg hfg
  split at hc
  · cases hc
  rename_i hegv
  have hegv' : eg.valid = true := by simpa using hegv
  have hfg' : Γ1'.find g = some eg := hfg
  rcases find_some hfg' with ⟨heg, rfl⟩
  rcases inv1.typed eg heg hegv' with ⟨rg, hrg, _⟩
  rcases dropRt_sound inv1 heg hegv' hrg with ⟨σ1, hd1, inv2, hfr⟩
  have hσf : σ.frames = eg.var :: rest := by rw [← inv.frames]; exact hf
  have hrun : runStmt fl σ (.exit ret) = .ok { σ1 with frames := rest } := by
    simp only [runStmt, hσf, hrg, hd1]
  have inv3 : Inv (({ Γ1' with frames := rest } : SEnv).remove eg.var) { σ1 with frames := rest } :=
    inv2.setFrames rest
  split at hc
  · cases hc
    exact ⟨_, hrun, inv3⟩
  · rename_i r
    split at hc
    · cases hc
    split at hc
    · cases hc
    split at hc <;> cases hc
    refine ⟨_, hrun, ?_⟩
    have := inv3.mapDepth (fun e => if e.var == r then min e.depth rest.length else e.depth)
    have heq : ∀ e : Entry, (if (e.var == r) = true then { e with depth := min e.depth rest.length } else e) =
        { e with depth := if (e.var == r) = true then min e.depth rest.length else e.depth } := by
      intro e; by_cases h : (e.var == r) = true <;> simp [h]
    simp only [heq]
    exact this

theorem step_store {t : Table} {fl : Flags} {Γ Γ' : SEnv} {σ : DState} (inv : Inv Γ σ)
    {o x : Var} (hc : checkStmt t fl Γ (.store o x) = .ok Γ') :
    ∃ σ', runStmt fl σ (.store o x) = .ok σ' ∧ Inv Γ' σ' := by
  simp only [checkStmt, checkStore] at hc
  split at hc
  · cases hc
  rename_i eo hlo
  split at hc
  · cases hc
  rename_i ex hlx
  split at hc
  · cases hc
  rename_i hcond
  split at hc <;> cases hc
  simp only [Bool.or_eq_true, not_or, bne_iff_ne, ne_eq, Decidable.not_not, beq_iff_eq] at hcond
  rcases hcond with ⟨⟨hko, hkx⟩, hox⟩
  rcases lookupValid_ok hlo with ⟨heo, rfl, hvo⟩
  rcases lookupValid_ok hlx with ⟨hex, rfl, hvx⟩
  rcases inv.typed eo heo hvo with ⟨ro, hro, hto⟩
  rcases inv.typed ex hex hvx with ⟨rx, hrx, htx⟩
  refine ⟨σ.set eo.var rx, by simp only [runStmt, hro, hrx]; simp [inv.alive heo hvo hko hro], ?_⟩
  have inv1 := inv.remove ex.var
  -- entries other than `x` that hold no loan on `x` (no valid entry does: `x` is a value) survive the move of `x`
  have hkeep : ∀ ep ∈ Γ.ents, ep.valid = true → ep.var ≠ ex.var → ep ∈ (Γ.remove ex.var).ents :=
    fun ep hep hepv hne =>
      List.mem_filter.2 ⟨mem_killEnts_of_survivor hep (inv.no_loan_on_val hex hkx hep hepv), by simpa using hne⟩
  apply inv1.extendVal (hkeep eo heo hvo hox) hvo hko ex.self rx (htx.kind.trans hkx) (fun _ => htx.epoch_lt)
  · intro p m hp
    rcases (inv.closed ex hex hvx).2.1 p m hp with ⟨ep, hep, h1, h2, h3, h4⟩
    exact ⟨ep, hkeep ep hep h2 fun h => h3 (inv.eq_of_var_eq hep hex h ▸ hkx), h1, h2, h3, h4⟩
  · intro e' he'
    exact ⟨(inv.vals ex hex hvx hkx rx hrx e' he').1, fun g hg hgv rg hrg hend =>
      (inv.vals ex hex hvx hkx rx hrx e' he').2 g (mem_remove_valid hg hgv).1 hgv rg hrg hend⟩

theorem step_vconv {t : Table} (hok : sigOK t = true) {fl : Flags} {Γ Γ' : SEnv} {σ : DState} (inv : Inv Γ σ)
    {x v : Var} {input name : String} (hc : checkStmt t fl Γ (.vconv x v input name) = .ok Γ') :
    ∃ σ', runStmt fl σ (.vconv x v input name) = .ok σ' ∧ Inv Γ' σ' := by
  rcases checkVconv_ok hc with ⟨c, e, hlc, he, rfl, hv, hk, hd⟩
  rw [convRegion_tied (sigOK_conv hok hlc)] at hd
  rcases inv.typed e he hv with ⟨r, hr, ht⟩
  rcases declare_ok hd with ⟨hfresh, rfl⟩
  have hrk : r.kind = .val := ht.kind.trans hk
  refine ⟨σ.set x r, by simp [runStmt, hr, hrk, inv.alive he hv hk hr], ?_⟩
  apply inv.add ⟨x, .val, .own, e.self, e.self, true, Γ.depth⟩ r hfresh (Typed.val rfl hrk fun _ => ht.epoch_lt)
    (inv.closed_of_places (inv.closed e he hv).2.1) (fun _ => inv.vals e he hv hk r hr)
  · intro e' _ _ _ re _ ex _ hend; exact absurd hend.1 (not_enderOn_val rfl)
  · nofun
  · intro h _ _ _ rh' _ hon; exact absurd hon (not_enderOn_val rfl)
  · nofun
  · nofun

theorem step_join {t : Table} (hok : sigOK t = true) {fl : Flags} {Γ Γ' : SEnv} {σ : DState} (inv : Inv Γ σ)
    {x f : Var} {input name : String} (hc : checkStmt t fl Γ (.join x f input name) = .ok Γ') :
    ∃ σ', runStmt fl σ (.join x f input name) = .ok σ' ∧ Inv Γ' σ' := by
  simp only [checkStmt, checkJoin] at hc
  split at hc
  · cases hc
  rename_i c hlc
  split at hc
  · cases hc
  rw [sigOK_conv hok hlc, if_pos rfl] at hc
  exact step_store (t := t) (fl := fl) inv hc

/-- **one step**: a statement accepted by the type checker runs without a fault and re-establishes the invariant -/
theorem step_sound {t : Table} (hok : sigOK t = true) {fl : Flags} {Γ Γ' : SEnv} {σ : DState} (inv : Inv Γ σ)
    (st : Stmt) (hc : checkStmt t fl Γ st = .ok Γ') : ∃ σ', runStmt fl σ st = .ok σ' ∧ Inv Γ' σ' := by
  cases st with
  | newBump b => exact step_newBump inv hc
  | newPool p => exact step_newPool inv hc
  | call x h op owner name => exact step_call hok inv hc
  | coll v h m => exact step_coll hok inv hc
  | enter s g h op owner name => exact step_enter hok inv hc
  | exit ret => exact step_exit inv hc
  | use x => exact step_use inv hc
  | drop x => exact step_drop inv hc
  | slot o => exact step_slot inv hc
  | store o x => exact step_store inv hc
  | send x => exact step_send hok inv hc
  | share x => exact step_share hok inv hc
  | vconv x v input name => exact step_vconv hok inv hc
  | join x f input name => exact step_join hok inv hc

/-- **soundness**: a program accepted by the type checker runs to completion without a fault, from any state
    that satisfies the invariant -/
theorem check_sound {t : Table} (hok : sigOK t = true) (fl : Flags) (p : List Stmt) :
    ∀ {Γ Γ' : SEnv} {σ : DState}, Inv Γ σ → check t fl Γ p = .ok Γ' → ∃ σ', run fl σ p = .ok σ' ∧ Inv Γ' σ' := by
  induction p with
  | nil =>
    intro Γ Γ' σ inv hc
    cases hc
    exact ⟨σ, rfl, inv⟩
  | cons st rest ih =>
    intro Γ Γ' σ inv hc
    simp only [check] at hc
    split at hc
    · cases hc
    rename_i Γ1 hst
    rcases step_sound hok inv st hst with ⟨σ1, hrun, inv1⟩
    rcases ih inv1 hc with ⟨σ', hrun', inv'⟩
    exact ⟨σ', by simp only [run, hrun]; exact hrun', inv'⟩

end Life
