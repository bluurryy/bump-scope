/-
  Lemmas/GeomSlow.lean — the allocation slow path: walking to the next chunks, appending a
  chunk, and the fact that the layout always fits the chunk that was created for it.
-/
import BumpProof.Lemmas.GeomNew

set_option linter.unusedSimpArgs false
set_option linter.unusedVariables false

namespace Arena
open Rs Lemmas

section
variable {cfg : Cfg}

/-! ## walking the successors -/

theorem walkNext_ok (hc : CfgOK cfg) (k : Kind) {L : Layout} {hints : Hints} (hL : L.Valid)
    (hh : hints.sma = true → L.align ∣ L.size) :
    ∀ (fuel i : Nat) (s : State), GeomInv cfg s → (∃ j, s.cur = .chunk j) →
    ∃ o s', walkNext cfg k L hints fuel i s = .ok (o, s') ∧ MovePost cfg s s' ∧ (∃ j, s'.cur = .chunk j) ∧
      (∀ v s'', o = some (v, s'') → s'' = s' ∧
        ∃ sx j, MovePost cfg s sx ∧ sx.cur = .chunk j ∧ i < j ∧ tryCurSpec cfg k sx L = some (v, s')) ∧
      (∀ j, j ≤ i → s'.chunks[j]? = s.chunks[j]?) := by
  intro fuel
  induction fuel with
  | zero =>
    intro i s h hcur
    exact ⟨none, s, rfl, .refl h, hcur, fun _ _ hx => (by cases hx), fun _ _ => rfl⟩
  | succ fuel ih =>
    intro i s h hcur
    unfold walkNext
    cases hn : s.chunks[i+1]? with
    | none => exact ⟨none, s, rfl, .refl h, hcur, fun _ _ hx => (by cases hx), fun _ _ => rfl⟩
    | some c =>
      -- the next chunk is reset and becomes current
      have m1 : MovePost cfg s { s with chunks := s.chunks.set (i+1) (c.resetPos cfg), cur := .chunk (i+1) } :=
        ⟨h.resetCur hc h.minAlign hn, by unfold SameShape; rw [set_resetPos hn]; exact setPos_shape _ _ _, rfl, rfl⟩
      have hset : ∀ j, j ≤ i → (s.chunks.set (i+1) (c.resetPos cfg))[j]? = s.chunks[j]? := by
        intro j hj
        rw [List.getElem?_set, if_neg (Nat.ne_of_gt (Nat.lt_succ_of_le hj))]
      simp only [tryCur_eq hc m1.inv k hL hh, r_ok_bind]
      cases ht : tryCurSpec cfg k { s with chunks := s.chunks.set (i+1) (c.resetPos cfg), cur := .chunk (i+1) } L with
      | none =>
        obtain ⟨o, s', e1, m, e6, e7, e8⟩ := ih (i+1) _ m1.inv ⟨i+1, rfl⟩
        refine ⟨o, s', e1, m1.trans m, e6, ?_, ?_⟩
        · intro v s'' hx
          obtain ⟨f1, sx, j, f2, f5, f6, f7⟩ := e7 v s'' hx
          exact ⟨f1, sx, j, m1.trans f2, f5, Nat.lt_of_succ_lt f6, f7⟩
        · intro j hj
          rw [e8 j (Nat.le_succ_of_le hj)]
          exact hset j hj
      | some r =>
        obtain ⟨v, s2⟩ := r
        obtain ⟨mt, g3, _⟩ := tryCurSpec_inv hc m1.inv hL ht
        refine ⟨some (v, s2), s2, rfl, m1.trans mt, ⟨i+1, g3⟩, ?_, ?_⟩
        · intro v' s'' hx
          cases hx
          exact ⟨rfl, _, i+1, m1, rfl, Nat.lt_succ_self i, ht⟩
        · intro j hj
          rw [tryCurSpec_other hc m1.inv hL ht (c := i+1) rfl (Nat.ne_of_lt (Nat.lt_succ_of_le hj))]
          exact hset j hj

/-! ## the fresh chunk fits -/

/-- what `newChunk` followed by the retry leaves behind -/
structure FreshPost (cfg : Cfg) (k : Kind) (L : Layout) (size : Nat) (s1 s3 : State) (r : Except AErr (Nat × Nat)) : Prop where
  inv : GeomInv cfg s3
  resps : RespsOK cfg s3
  minAlign : s3.minAlign = s1.minAlign
  err : ∀ e, r = .error e → SameShape s1 s3 ∧ s3.cur = s1.cur ∧ s3.chunks = s1.chunks
  ok : ∀ v, r = .ok v → s3.cur = .chunk s1.chunks.length ∧
    ∃ c, s3.chunks.map Chunk.shape = s1.chunks.map Chunk.shape ++ [Chunk.shape c] ∧ size ≤ c.size ∧
      ∃ p g rest sx, s1.resps = .granted p g :: rest ∧ c.base = p ∧ c.size ≤ g ∧
        GeomInv cfg sx ∧ sx.minAlign = s1.minAlign ∧ sx.cur = .chunk s1.chunks.length ∧
        sx.chunks = s1.chunks ++ [c] ∧ tryCurSpec cfg k sx L = some (v, s3)
  trace : Trace s1 s3

/-- the retry in the chunk that was created for `L`: it is current, the invariant holds, and `L` fits (C12): this is
    why `unreachable_unchecked` is unreachable -/
theorem retry_ok (hc : CfgOK cfg) {s1 s2 : State} (hr : RespsOK cfg s1) (k : Kind)
    {L : Layout} {hints : Hints} (hL : L.Valid) (hh : hints.sma = true → L.align ∣ L.size)
    (hk : k = .range → L.align ∣ L.size) {hint : Nat} (hhint : Spec.hintFromCapacity cfg.up cfg.hdr L ≤ hint)
    {i : Nat} (np : NewPost cfg s1 s2 (.ok i)) (hg : Granted cfg hint s1 s2) {Q : Prop} :
    Ensures (Fn.freshTry cfg k L hints (s2, .ok i)) Q fun x => ∃ size v, x.2 = .ok v ∧ FreshPost cfg k L size s1 x.1 x.2 ∧
      Spec.calcSize cfg.up cfg.hdr hint = some size := by
  obtain ⟨size, p, g, rest, hs, hrs, hle, hch⟩ := hg
  have hi : i = s1.chunks.length := (np.ok i rfl).1
  have hgr : RespGeomOK cfg (.granted p g) := hr _ (by rw [hrs]; exact List.mem_cons_self)
  have hget : s2.chunks[i]? = some (freshChunk cfg p g size) := by rw [hch, hi]; exact List.getElem?_concat_length
  have hinv : GeomInv cfg { s2 with cur := .chunk i } := np.withCur
  -- the free range of the new chunk is the one C12 speaks about
  have hfr : freeRange cfg { s2 with cur := .chunk i } =
      Spec.freshRange cfg.up cfg.hdr p (Spec.downAlign g (Spec.sizeAlign cfg.up cfg.hdr)) := by
    rw [freeRange_chunk (s := { s2 with cur := .chunk i }) rfl hget]
    unfold Spec.freshRange freshChunk Chunk.contentEnd Chunk.contentStart
    cases cfg.up <;> simp only [Bool.false_eq_true, ↓reduceIte]
  have hfit : ∃ v s3, tryCurSpec cfg k { s2 with cur := .chunk i } L = some (v, s3) := by
    have hgle : size ≤ g := Nat.le_trans hle (Lemmas.Size.downAlign_le _ _)
    have hma : MinAlignOK s2.minAlign := np.inv.minAlign
    unfold tryCurSpec
    rw [hfr]
    cases hup : cfg.up
    · rw [hup] at hs hhint
      obtain ⟨⟨x, hx⟩, hf2⟩ := C12.fresh_fits_down hc.hdr hL hma hhint hs hgle hgr.1
      cases k
      · simp only [Bool.false_eq_true, ↓reduceIte, hx, Option.map_some]; exact ⟨_, _, rfl⟩
      · simp only [Bool.false_eq_true, ↓reduceIte, hx, Option.map_some]; exact ⟨_, _, rfl⟩
      · obtain ⟨y, hy⟩ := hf2 (hk rfl)
        simp only [Bool.false_eq_true, ↓reduceIte, hy, Option.map_some]; exact ⟨_, _, rfl⟩
    · rw [hup] at hs hhint
      obtain ⟨⟨x, hx⟩, hf2⟩ := C12.fresh_fits_up hc.hdr hL hma hhint hs hgle hgr.1
      cases k
      · simp only [↓reduceIte, hx, Option.map_some]; exact ⟨_, _, rfl⟩
      · simp only [↓reduceIte, hx, Option.map_some]; exact ⟨_, _, rfl⟩
      · obtain ⟨y, hy⟩ := hf2 (hk rfl)
        simp only [↓reduceIte, hy, Option.map_some]; exact ⟨_, _, rfl⟩
  obtain ⟨v, s3, ht⟩ := hfit
  obtain ⟨⟨t1, t2, t4, t5⟩, t3, _⟩ := tryCurSpec_inv hc hinv hL ht
  refine .call (v := some (v, s3)) ((tryCur_eq hc hinv k hL hh).trans (congrArg _ ht)) (.ok ⟨size, v, rfl,
    ⟨t1, fun x hx => np.resps x (t5 ▸ hx), t4.trans np.minAlign, fun e he => (by cases he), ?_,
      np.trace.post (show SameShape s2 s3 from t2) (show s3.resps = s2.resps from t5)⟩, hs⟩)
  intro v' hv'
  cases hv'
  refine ⟨by rw [t3, hi], freshChunk cfg p g size, ?_, hle, p, g, rest, _, hrs, rfl,
    Lemmas.Size.downAlign_le _ _, hinv, np.minAlign, by rw [hi], hch, ht⟩
  have : s3.chunks.map Chunk.shape = s2.chunks.map Chunk.shape := t2
  rw [this, hch, List.map_append]
  rfl

/-- what a completed slow path for `L` leaves behind -/
structure SlowPost {α : Type} (cfg : Cfg) (L : Layout) (s s' : State) (r : Except AErr α) : Prop where
  inv : GeomInv cfg s'
  resps : RespsOK cfg s'
  minAlign : s'.minAlign = s.minAlign
  /-- the arena is unallocated afterwards only if it was before and nothing happened -/
  unalloc : s'.cur = .unallocated → s.cur = .unallocated ∧ SameShape s s'
  /-- success: a chunk is current -/
  cur_ok : ∀ v, r = .ok v → ∃ j, s'.cur = .chunk j
  /-- the chunk list is the old one (up to positions and bytes), or the old one plus one new current chunk
      that is at least as big as the size computed for it -/
  shape : SameShape s s' ∨
    ∃ c size, requestSize cfg s L = some size ∧
      s'.chunks.map Chunk.shape = s.chunks.map Chunk.shape ++ [Chunk.shape c] ∧ size ≤ c.size ∧
      s'.cur = .chunk s.chunks.length
  trace : Trace s s'
  /-- failure leaves the current chunk as it was (crate commit c107ca6) -/
  cur_err : ∀ e, r = .error e → s'.cur = s.cur

/-- a refused request: nothing but positions and consumed refusals changed, the current chunk is the old one -/
theorem SlowPost.of_error {α : Type} {L : Layout} {s s' : State} {e : AErr} (hinv : GeomInv cfg s') (hr : RespsOK cfg s')
    (hma : s'.minAlign = s.minAlign) (hsh : SameShape s s') (ht : Trace s s') (hcur : s'.cur = s.cur) :
    SlowPost cfg L s s' (.error e : Except AErr α) :=
  ⟨hinv, hr, hma, fun hx => ⟨hcur ▸ hx, hsh⟩, fun v hv => (by cases hv), Or.inl hsh, ht, fun _ _ => hcur⟩

/-- a served request: chunk `j` is current -/
theorem SlowPost.of_ok {α : Type} {L : Layout} {s s' : State} {v : α} {j : Nat} (hinv : GeomInv cfg s') (hr : RespsOK cfg s')
    (hma : s'.minAlign = s.minAlign) (hcur : s'.cur = .chunk j) (ht : Trace s s')
    (hsh : SameShape s s' ∨ ∃ c size, requestSize cfg s L = some size ∧
      s'.chunks.map Chunk.shape = s.chunks.map Chunk.shape ++ [Chunk.shape c] ∧ size ≤ c.size ∧
      s'.cur = .chunk s.chunks.length) :
    SlowPost cfg L s s' (.ok v : Except AErr α) :=
  ⟨hinv, hr, hma, fun hx => (by rw [hcur] at hx; cases hx), fun _ _ => ⟨j, hcur⟩, hsh, ht, fun e he => by cases he⟩

theorem SameShape.getLast_size {s s' : State} (h : SameShape s s') {last : Chunk} (hl : s'.chunks.getLast? = some last) :
    ∃ last', s.chunks.getLast? = some last' ∧ last'.size = last.size := by
  have := h.getLast?
  rw [hl] at this
  cases hl' : s.chunks.getLast? with
  | none => rw [hl'] at this; cases this
  | some l' =>
    rw [hl'] at this
    exact ⟨l', rfl, (shape_base (Option.some.inj this).symm).2⟩

theorem exists_getLast?_of_getElem? {α : Type} {l : List α} {i : Nat} {a : α} (h : l[i]? = some a) :
    ∃ b, l.getLast? = some b := by
  cases hl : l.getLast? with
  | none => rw [List.getLast?_eq_none_iff] at hl; subst hl; simp at h
  | some b => exact ⟨b, rfl⟩

/-- where the block of a successful slow path comes from: the last step is a `tryCur` on a state `sx`
    whose current chunk is a LATER chunk of `s` (same shapes) or a NEW chunk in the block the base
    allocator just granted -/
def SlowFrom (cfg : Cfg) (k : Kind) (L : Layout) (s s' : State) (v : Nat × Nat) : Prop :=
  ∃ sx, GeomInv cfg sx ∧ sx.minAlign = s.minAlign ∧ tryCurSpec cfg k sx L = some (v, s') ∧
    ((SameShape s sx ∧ ∃ i j, s.cur = .chunk i ∧ sx.cur = .chunk j ∧ i < j) ∨
     (∃ p g rest c, s.resps = .granted p g :: rest ∧ c.base = p ∧ c.size ≤ g ∧
        sx.chunks.map Chunk.shape = s.chunks.map Chunk.shape ++ [Chunk.shape c] ∧ sx.cur = .chunk s.chunks.length))

/-- a block served from a new chunk that was requested in a state `s1` which differs from `s` in positions only -/
theorem FreshPost.slow {k : Kind} {L : Layout} {size : Nat} {s s1 s3 : State} {v : Nat × Nat}
    (fp : FreshPost cfg k L size s1 s3 (.ok v)) (hsh : SameShape s s1) (hresps : s1.resps = s.resps)
    (hma : s1.minAlign = s.minAlign) (hreq : requestSize cfg s L = some size) :
    SlowPost cfg L s s3 (.ok v) ∧ SlowFrom cfg k L s s3 v := by
  obtain ⟨e1, c, e2, e3, p, g, rest, sx, q1, q2, q3, q4, q5, q6, q7, q8⟩ := fp.ok v rfl
  have h1 : s1.chunks.map Chunk.shape = s.chunks.map Chunk.shape := hsh
  constructor
  · refine SlowPost.of_ok fp.inv fp.resps (fp.minAlign.trans hma) e1 (fp.trace.pre hsh hresps)
      (Or.inr ⟨c, size, hreq, by rw [e2, h1], e3, by rw [e1, hsh.length]⟩)
  · refine ⟨sx, q4, q5.trans hma, q8, Or.inr ⟨p, g, rest, c, hresps ▸ q1, q2, q3, ?_, by rw [q6, hsh.length]⟩⟩
    rw [q7, List.map_append, h1]; rfl

theorem inAnotherChunk_ok (hc : CfgOK cfg) {s : State} (h : GeomInv cfg s) (hr : RespsOK cfg s) (k : Kind)
    {L : Layout} {hints : Hints} (hL : L.Valid) (hh : hints.sma = true → L.align ∣ L.size)
    (hk : k = .range → L.align ∣ L.size) :
    Ensures (inAnotherChunk cfg k s L hints) (BaseOK cfg s L) fun x =>
      SlowPost cfg L s x.1 x.2 ∧ ∀ v, x.2 = .ok v → SlowFrom cfg k L s x.1 v := by
  unfold inAnotherChunk
  cases hcur : s.cur with
  | claimed =>
    exact .ok ⟨SlowPost.of_error h hr rfl (SameShape.refl _) (Trace.refl _) rfl, fun v hv => by cases hv⟩
  | unallocated =>
    have hreq := requestSize_unallocated (cfg := cfg) hcur L
    rw [newChunkForCapacity_eq hc hL]
    refine ((newSized_ok hc h hr _).mono (fun hb size hs => hb size (hreq.trans hs)) fun _ => id).bind ?_
    rintro ⟨s2, r2⟩ _ ⟨np, hg⟩
    cases r2 with
    | error e =>
      exact .ok ⟨.of_error np.inv np.resps np.minAlign (by unfold SameShape; rw [np.err e rfl]) np.trace np.cur,
        fun v hv => by cases hv⟩
    | ok i =>
      refine (retry_ok hc hr k hL hh hk (Nat.le_max_left _ _) np (hg i rfl)).mono id ?_
      rintro ⟨s3, r⟩ ⟨size, v, rfl, fp, hsz⟩
      have := fp.slow (SameShape.refl s) rfl rfl (hreq.trans hsz)
      exact ⟨this.1, fun v' hv' => by cases hv'; exact this.2⟩
  | chunk i =>
    obtain ⟨o, s1, w1, ⟨w2, w3, w4, w5⟩, w6, w7, w8⟩ :=
      walkNext_ok hc k hL hh (s.chunks.length - (i+1)) i s h ⟨i, hcur⟩
    refine .call w1 ?_
    have hr1 : RespsOK cfg s1 := fun x hx => hr x (w5 ▸ hx)
    obtain ⟨j, hj⟩ := w6
    cases o with
    | some x =>
      obtain ⟨v, s''⟩ := x
      obtain ⟨rfl, sx, jx, mx, x4, x5, x6⟩ := w7 v s'' rfl
      exact .ok ⟨SlowPost.of_ok w2 hr1 w4 hj (Trace.of_shape w3 w5) (Or.inl w3),
        fun v' hv' => by cases hv'; exact ⟨sx, mx.inv, mx.minAlign, x6, Or.inl ⟨mx.shape, i, jx, hcur, x4, x5⟩⟩⟩
    | none =>
      obtain ⟨cj, hcj, _⟩ := w2.cur j hj
      obtain ⟨last, hlast⟩ := exists_getLast?_of_getElem? hcj
      obtain ⟨last', hlast', hsz⟩ := w3.getLast_size hlast
      have hreq := requestSize_chunk (cfg := cfg) hcur hlast' L
      rw [hsz] at hreq
      -- chunk `i`, where the allocator stays on failure, was not touched by the walk
      obtain ⟨ci, hci, hdi⟩ := h.cur i hcur
      have hci1 : s1.chunks[i]? = some ci := by rw [w8 i (Nat.le_refl i)]; exact hci
      dsimp only
      rw [appendFor_eq hc hL hlast]
      refine ((newSized_ok hc w2 hr1 _).mono (fun hb size hs => ?_) fun _ => id).bind ?_
      · obtain ⟨r0, rest, hrs, hok⟩ := hb size (hreq.trans hs)
        exact ⟨r0, rest, w5 ▸ hrs, hok⟩
      rintro ⟨s2, r2⟩ _ ⟨np, hg⟩
      cases r2 with
      | error e =>
        exact .ok ⟨.of_error (np.inv.withCur (by rw [np.err e rfl]; exact hci1) (by rw [np.minAlign, w4]; exact hdi))
          np.resps (np.minAlign.trans w4) (w3.trans (show SameShape s1 s2 by unfold SameShape; rw [np.err e rfl]))
          (np.trace.pre w3 w5) hcur.symm, fun v hv => by cases hv⟩
      | ok i' =>
        refine (retry_ok hc hr1 k hL hh hk (Nat.le_trans (Nat.le_max_left _ _) (Nat.le_max_left _ _)) np (hg i' rfl)).mono id ?_
        rintro ⟨s3, r⟩ ⟨size, v, rfl, fp, hsz'⟩
        have := fp.slow w3 w5 w4 (hreq.trans hsz')
        exact ⟨this.1, fun v' hv' => by cases hv'; exact this.2⟩


/-! ## fast path + slow path -/

theorem SlowPost.map {α β : Type} {cfg : Cfg} {L : Layout} {s s' : State} {r : Except AErr α} (f : α → β)
    (p : SlowPost cfg L s s' r) : SlowPost cfg L s s' (r.map f) := by
  refine ⟨p.inv, p.resps, p.minAlign, p.unalloc, ?_, p.shape, p.trace, ?_⟩
  · intro v hv
    cases r with
    | error e => cases hv
    | ok a => exact p.cur_ok a rfl
  · intro e he
    cases r with
    | error e' => exact p.cur_err e' rfl
    | ok a => cases he

/-- where the block of a successful allocation comes from: the current chunk of `s` (fast path), or a later or a new
    chunk (`SlowFrom`) -/
def AllocFrom (cfg : Cfg) (k : Kind) (L : Layout) (s s' : State) (v : Nat × Nat) : Prop :=
  tryCurSpec cfg k s L = some (v, s') ∨ SlowFrom cfg k L s s' v

/-- the block a successful `alloc` returns lies in the content range of a chunk of the state it returns -/
theorem AllocFrom.blockIn (hc : CfgOK cfg) {s s' : State} (h : GeomInv cfg s) {L : Layout} (hL : L.Valid) {v : Nat × Nat}
    (hf : AllocFrom cfg .alloc L s s' v) : BlockInChunk cfg s' v.1 L.size := by
  have key : ∀ {sx : State}, GeomInv cfg sx → tryCurSpec cfg .alloc sx L = some (v, s') → BlockInChunk cfg s' v.1 L.size := by
    intro sx hx ht
    obtain ⟨i, c, _, hi, d1, d2, _⟩ := tryCurSpec_alloc_block hc hx hL ht
    obtain ⟨c', hi', hsh⟩ := (tryCurSpec_inv hc hx hL ht).1.shape.getElem?' hi
    exact ⟨i, c', hi', shape_contentStart hsh ▸ d1, shape_contentEnd hsh ▸ d2⟩
  rcases hf with ht | ⟨sx, hx, _, ht, _⟩
  · exact key h ht
  · exact key hx ht

theorem allocGeneric_ok (hc : CfgOK cfg) {s : State} (h : GeomInv cfg s) (hr : RespsOK cfg s) (k : Kind)
    {L : Layout} {hints hSlow : Hints} (hL : L.Valid) (hh : hints.sma = true → L.align ∣ L.size)
    (hhs : hSlow.sma = true → L.align ∣ L.size) (hk : k = .range → L.align ∣ L.size) :
    Ensures (allocGeneric cfg k s L hints hSlow) (BaseOK cfg s L) fun x =>
      SlowPost cfg L s x.1 x.2 ∧ ∀ v, x.2 = .ok v → AllocFrom cfg k L s x.1 v := by
  unfold allocGeneric
  refine .call (tryCur_eq hc h k hL hh) ?_
  cases ht : tryCurSpec cfg k s L with
  | none => exact (inAnotherChunk_ok hc h hr k hL hhs hk).mono id (fun _ hp => ⟨hp.1, fun v hv => .inr (hp.2 v hv)⟩)
  | some x =>
    obtain ⟨v, s1⟩ := x
    obtain ⟨⟨g1, g2, g4, g5⟩, g3, _⟩ := tryCurSpec_inv hc h hL ht
    obtain ⟨j, hj⟩ := tryCurSpec_isChunk hL ht
    exact .ok ⟨.of_ok g1 (fun x hx => hr x (g5 ▸ hx)) g4 (g3.trans hj) (Trace.of_shape g2 g5) (Or.inl g2),
      fun v' hv' => by cases hv'; exact .inl ht⟩

theorem alloc_ensures (hc : CfgOK cfg) {s : State} (h : GeomInv cfg s) (hr : RespsOK cfg s) {L : Layout} (hL : L.Valid) :
    Ensures (alloc cfg s L) (BaseOK cfg s L) fun x =>
      SlowPost cfg L s x.1 x.2 ∧ ∀ np, x.2 = .ok np → ∃ w, AllocFrom cfg .alloc L s x.1 (np, w) := by
  unfold alloc
  refine (allocGeneric_ok hc h hr .alloc hL (custom_sma L) (custom_sma L) (fun hx => by cases hx)).bind ?_
  rintro ⟨s1, r1⟩ _ p
  refine .ok ⟨p.1.map _, fun np hnp => ?_⟩
  cases r1 with
  | error e => cases hnp
  | ok v => cases hnp; exact ⟨v.2, p.2 v rfl⟩

theorem alloc_ok (hc : CfgOK cfg) {s : State} (h : GeomInv cfg s) (hr : RespsOK cfg s) {L : Layout} (hL : L.Valid) :
    (∀ s' r, alloc cfg s L = .ok (s', r) → SlowPost cfg L s s' r) ∧
    (BaseOK cfg s L → ∃ s' r, alloc cfg s L = .ok (s', r)) :=
  ((alloc_ensures hc h hr hL).mono id fun _ p => p.1).pair

/-! ## chunk sizes keep increasing, an unallocated arena stays empty -/

theorem sizes_of_shape {l l' : List Chunk} (h : l'.map Chunk.shape = l.map Chunk.shape) :
    l'.map (·.size) = l.map (·.size) := by
  have := congrArg (List.map (fun x : Nat × Nat × Nat × Nat × Nat => x.2.1)) h
  simp only [List.map_map] at this
  exact this

theorem SlowPost.unallocEmpty {α : Type} {L : Layout} {s s' : State} {r : Except AErr α}
    (p : SlowPost cfg L s s' r) (hu : UnallocEmpty s) : UnallocEmpty s' := by
  intro hx
  obtain ⟨h1, h2⟩ := p.unalloc hx
  have h3 := h2.length
  rw [hu h1] at h3
  exact List.eq_nil_of_length_eq_zero h3

/-- every chunk of a list that extends `s.chunks` (by shape) with `c` is an old chunk or `c` -/
theorem append_cases {s sx : State} {c : Chunk}
    (hsh : sx.chunks.map Chunk.shape = s.chunks.map Chunk.shape ++ [Chunk.shape c]) (i : Nat) (a : Chunk)
    (ha : sx.chunks[i]? = some a) :
    (i < s.chunks.length ∧ ∃ a', s.chunks[i]? = some a' ∧ a.base = a'.base ∧ a.size = a'.size) ∨
    (i = s.chunks.length ∧ a.base = c.base ∧ a.size = c.size) := by
  have hlen : sx.chunks.length = s.chunks.length + 1 := by
    have := congrArg List.length hsh
    simpa only [List.length_map, List.length_append, List.length_cons, List.length_nil] using this
  have h1 : (sx.chunks.map Chunk.shape)[i]? = some a.shape := by rw [List.getElem?_map, ha]; rfl
  rw [hsh, List.getElem?_append, List.length_map] at h1
  by_cases hlt : i < s.chunks.length
  · rw [if_pos hlt, List.getElem?_map] at h1
    cases ha' : s.chunks[i]? with
    | none => rw [ha'] at h1; cases h1
    | some a' =>
      rw [ha'] at h1
      have := shape_base (Option.some.inj h1).symm
      exact Or.inl ⟨hlt, a', rfl, this.1, this.2⟩
  · rw [if_neg hlt] at h1
    have hi : i = s.chunks.length := by
      have := (List.getElem?_eq_some_iff.1 ha).1
      omega
    rw [hi, Nat.sub_self] at h1
    have := shape_base (Option.some.inj h1).symm
    exact Or.inr ⟨hi, this.1, this.2⟩

theorem SlowPost.sizesIncreasing {α : Type} (hc : CfgOK cfg) {L : Layout} {s s' : State} {r : Except AErr α}
    (p : SlowPost cfg L s s' r) (h : GeomInv cfg s) (hs : SizesIncreasing s) (hu : UnallocEmpty s) :
    SizesIncreasing s' := by
  rcases p.shape with hsh | ⟨c, size, hreq, hsh, hle, hcur'⟩
  · exact hsh.sizesIncreasing hs
  · intro i a b ha hb
    rcases append_cases hsh (i+1) b hb with ⟨hi, b', hb', _, eb⟩ | ⟨hi, _, eb⟩
    · rcases append_cases hsh i a ha with ⟨_, a', ha', _, ea⟩ | ⟨hx, _⟩
      · rw [ea, eb]; exact hs i a' b' ha' hb'
      · exact absurd hi (by rw [hx]; exact Nat.not_succ_lt_self)
    · rcases append_cases hsh i a ha with ⟨_, a', ha', _, ea⟩ | ⟨hx, _⟩
      · -- `a'` is the last chunk of `s`; the new chunk was sized for at least twice that
        have hlast : s.chunks.getLast? = some a' := by
          rw [List.getLast?_eq_getElem?, ← hi]; exact ha'
        have h32 : 32 ≤ a'.size := Nat.le_trans hc.hdr.ge (h.chunks i a' ha').hdr_le
        cases hcur : s.cur with
        | claimed => unfold requestSize at hreq; rw [hcur] at hreq; cases hreq
        | unallocated =>
          rw [hu hcur] at ha'; cases ha'
        | chunk j =>
          rw [requestSize_chunk hcur hlast] at hreq
          rw [ea, eb]
          exact Nat.lt_of_lt_of_le (Lemmas.calcSize_gt hc.hdr hreq
            (Nat.le_trans (Nat.le_max_right _ _) (Nat.le_max_left _ _)) (Nat.lt_of_lt_of_le (by decide) h32)) hle
      · exact absurd hi (by rw [hx]; exact Nat.succ_ne_self _)

end
end Arena
