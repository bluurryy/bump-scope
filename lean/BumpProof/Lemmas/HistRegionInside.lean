/-
  Lemmas/HistRegionInside.lean — histories that run INSIDE a region.  A step is a push or a pop of `f` by what it does to the
  region stack (`FrameStep.of_push`, `of_pop`).  As long as the stack never drops below the stack `base` the history
  started with (`Above`), the marks and the minimum alignment in force at the level of `base` and the place of every chunk
  that existed at the start are tracked (`Inside`), and nothing is released.  `Body` is what such a history leaves when it
  is back at the level of `base`, `Region` an entry that pushed `f` followed by a body; `Region.close`: whatever pops
  the region puts back the regions, marks and minimum alignment of the entry.  And the core of every "scope exit
  restores" theorem: `reset_to` with the checkpoint taken in `g`, run in a later state that still has the chunks of `g`
  (`resetTo_restores`, `Body.restores`).
-/
import BumpProof.Lemmas.HistReachable
import BumpProof.Lemmas.HistRegionStack
import BumpProof.Props.C03

set_option linter.unusedSimpArgs false
set_option linter.unusedVariables false

namespace Arena.Hist
open Rs Ledger

variable {cfg : Cfg}

theorem ne_cons_append {α} {pre post : List α} {a : α} {l : List α} : l ≠ pre ++ a :: (post ++ l) := by
  intro h
  have := congrArg List.length h
  simp only [List.length_append, List.length_cons] at this
  omega

theorem FrameStep.of_push {g g1 : GState} {f : Frame} (h : FrameStep g g1) (hf : g1.s.frames = f :: g.s.frames) :
    g1.marks = (if f.scopeLike then g.s.nextId :: g.marks else g.marks) ∧ f.below g1.s.minAlign = g.s.minAlign ∧
      ChunksCov g.s g1.s := by
  cases h with
  | same ht hm => exact absurd (ht.frames.symm.trans hf) (ne_cons_append (pre := []) (post := []))
  | push f' hf' hm hma hc => cases hf'.symm.trans hf; exact ⟨hm, hma, hc⟩
  | pop f' m hf' hm hma hc => exact absurd (hf'.trans (congrArg _ hf)) (ne_cons_append (pre := []) (post := [f]))

theorem FrameStep.of_pop {g g' : GState} {f : Frame} (h : FrameStep g g') (hf : g.s.frames = f :: g'.s.frames) :
    (∃ m, g.marks = if f.scopeLike then m :: g'.marks else g'.marks) ∧ g'.s.minAlign = f.below g.s.minAlign ∧
      ChunksCov g.s g'.s := by
  cases h with
  | same ht hm => exact absurd (ht.frames.trans hf) (ne_cons_append (pre := []) (post := []))
  | push f' hf' hm hma hc => exact absurd (hf.trans (congrArg _ hf')) (ne_cons_append (pre := []) (post := [f']))
  | pop f' m hf' hm hma hc => cases hf'.symm.trans hf; exact ⟨⟨m, hm⟩, hma, hc⟩

/-- the history `w`, run from `g`, never closes a region of `base`: in the crate, it runs while the guards (or inside
    the closures) that opened `base` are alive -/
def Above (cfg : Cfg) (base : List Frame) : GState → List (Op × List BaseResp) → Prop
  | g, [] => ∃ pre, g.s.frames = pre ++ base
  | g, (op, resps) :: rest => (∃ pre, g.s.frames = pre ++ base) ∧
      ∀ g' out reqs, step cfg g op resps = .ok (g', out, reqs) → Above cfg base g' rest

theorem Above.head {base : List Frame} {g : GState} {w : List (Op × List BaseResp)} (h : Above cfg base g w) :
    ∃ pre, g.s.frames = pre ++ base := by
  cases w with
  | nil => exact h
  | cons x rest => exact h.1

/-- marks and minimum alignment just outside the regions `pre` (innermost first), given those inside -/
def unwind : List Frame → List Nat × Nat → List Nat × Nat
  | [], x => x
  | f :: fs, x => unwind fs (if f.scopeLike then x.1.tail else x.1, f.below x.2)

/-- `g` is inside the regions `base`, whose marks are `bm` and around which the minimum alignment is `a0`; the chunks of
    `s0` are in place -/
structure Inside (base : List Frame) (bm : List Nat) (a0 : Nat) (s0 : State) (g : GState) : Prop where
  ex : ∃ pre, g.s.frames = pre ++ base ∧ unwind pre (g.marks, g.s.minAlign) = (bm, a0)
  cov : ChunksCov s0 g.s

theorem Inside.at_base {base : List Frame} {bm : List Nat} {a0 : Nat} {s0 : State} {g : GState}
    (h : Inside base bm a0 s0 g) (hf : g.s.frames = base) : g.marks = bm ∧ g.s.minAlign = a0 := by
  obtain ⟨pre, h1, h2⟩ := h.ex
  cases pre with
  | nil => cases h2; exact ⟨rfl, rfl⟩
  | cons f pre => exact absurd (hf.symm.trans h1) (ne_cons_append (pre := []))

theorem Inside.step {base : List Frame} {bm : List Nat} {a0 : Nat} {s0 : State} {g g' : GState}
    (hi : Inside base bm a0 s0 g) (hfs : FrameStep g g')
    (hab : ∃ pre, g'.s.frames = pre ++ base) : Inside base bm a0 s0 g' := by
  obtain ⟨pre, h1, h2⟩ := hi.ex
  cases hfs with
  | same ht hm => exact ⟨⟨pre, ht.frames.trans h1, by rw [hm, ht.minAlign]; exact h2⟩, hi.cov.trans ht.cov⟩
  | push f hf hm hma hc =>
    refine ⟨⟨f :: pre, by rw [hf, h1]; rfl, ?_⟩, hi.cov.trans hc⟩
    show unwind pre (if f.scopeLike then g'.marks.tail else g'.marks, f.below g'.s.minAlign) = _
    rw [hma, hm, ← h2]
    cases f.scopeLike <;> rfl
  | pop f m hf hm hma hc =>
    cases pre with
    | nil =>
      -- the stack was `base` itself: the step popped below it
      obtain ⟨pre', hp'⟩ := hab
      exact absurd ((h1.symm.trans hf).trans (congrArg _ hp')) (ne_cons_append (pre := []))
    | cons f0 pre0 =>
      obtain ⟨rfl, h1'⟩ := List.cons.inj (hf.symm.trans h1)
      refine ⟨⟨pre0, h1', ?_⟩, hi.cov.trans hc⟩
      rw [← h2, hma, hm]
      show _ = unwind pre0 _
      cases f.scopeLike <;> rfl

/-- `stepCore_frameStep` for `step`.  `FrameStep` mentions neither `reqs` nor `resps`, so each constructor for
    `install g resps` is, field by field, the one for `g`. -/
theorem step_frameStep {g g' : GState} {op : Op} {resps : List BaseResp} {out : Out} {reqs : List BaseReq}
    (hs : step cfg g op resps = .ok (g', out, reqs)) : (g.s.frames = [] ∧ op.isBare = true) ∨ FrameStep g g' := by
  rcases stepCore_frameStep (step_ok hs).1 with h | h
  · exact .inl h
  · right
    cases h with
    | same a b => exact .same a b
    | push f a b c d => exact .push f a b c d
    | pop f m a b c d => exact .pop f m a b c d

/-- no operation of the history needs exclusive access to the arena (`Op.isBare`) -/
def NoBare (w : List (Op × List BaseResp)) : Prop := ∀ x ∈ w, x.1.isBare = false

theorem not_bare {base : List Frame} {g g1 : GState} {op : Op} {resps : List BaseResp} {out : Out} {reqs : List BaseReq}
    {rest : List (Op × List BaseResp)} (hb : base ≠ [] ∨ NoBare ((op, resps) :: rest)) (ha : ∃ pre, g.s.frames = pre ++ base)
    (hs : step cfg g op resps = .ok (g1, out, reqs)) : op.isBare = false := by
  cases hbare : op.isBare with
  | false => rfl
  | true =>
    rcases hb with hb | hb
    · obtain ⟨pre, hp⟩ := ha
      rw [show g.s.frames = [] from bare_frames (g := install g resps) hbare (step_ok hs).1] at hp
      exact absurd (List.append_eq_nil_iff.1 hp.symm).2 hb
    · exact (hb (op, resps) List.mem_cons_self).symm.trans hbare ▸ rfl

theorem inside_runOps {base : List Frame} {bm : List Nat} {a0 : Nat} {s0 : State} :
    ∀ (w : List (Op × List BaseResp)) (g g2 : GState), (base ≠ [] ∨ NoBare w) → Inside base bm a0 s0 g →
      Above cfg base g w → runOps cfg g w = .ok g2 → Inside base bm a0 s0 g2 := by
  intro w
  induction w with
  | nil => intro g g2 _ hi _ hr; cases hr; exact hi
  | cons x rest ih =>
    intro g g2 hb hi ha hr
    obtain ⟨op, resps⟩ := x
    obtain ⟨g1, out, reqs, hs, hrest⟩ := runOps_cons hr
    have ha1 := ha.2 g1 out reqs hs
    have hnb := not_bare hb ha.1 hs
    rcases step_frameStep hs with ⟨_, hbare⟩ | hfs
    · rw [hnb] at hbare; cases hbare
    · exact ih g1 g2 (hb.imp id fun h y hy => h y (List.mem_cons_of_mem _ hy)) (hi.step hfs ha1.head) ha1 hrest

theorem drop_frames {g g' : GState} {out : Out} (hs : stepCore cfg g .drop = .ok (g', out)) : g.s.frames = [] :=
  (ok_drop hs).1

theorem reset_frames {g g' : GState} {out : Out} (hs : stepCore cfg g .reset = .ok (g', out)) : g.s.frames = [] :=
  (ok_reset hs).1

theorem above_no_release {base : List Frame} :
    ∀ (w : List (Op × List BaseResp)) (g g2 : GState) (log : List LogEntry), (base ≠ [] ∨ NoBare w) →
      Above cfg base g w → runLog cfg g w = .ok (g2, log) → logReleases log = [] := by
  intro w
  induction w with
  | nil =>
    intro g g2 log _ _ hr
    cases hr; rfl
  | cons x rest ih =>
    intro g g2 log hb ha hr
    obtain ⟨op, resps⟩ := x
    obtain ⟨g1, out, reqs, log1, hs, hrest, rfl⟩ := runLog_cons hr
    have hnb := not_bare hb ha.1 hs
    have h0 := step_no_release (by rintro rfl; cases hnb) (by rintro rfl; cases hnb) hs
    have h1 := ih g1 g2 log1 (hb.imp id fun h y hy => h y (List.mem_cons_of_mem _ hy)) (ha.2 g1 out reqs hs) hrest
    simp only [logReleases, List.flatMap_cons] at h1 ⊢
    rw [h0, h1]; rfl

theorem resetToStart_allocated {s : State} (hcur : ∀ j, s.cur = .chunk j → ∃ c, s.chunks[j]? = some c) :
    (stats cfg (resetToStart cfg s)).allocated = 0 := by
  cases hc2 : s.cur with
  | chunk j =>
    obtain ⟨cj, hcj⟩ := hcur j hc2
    cases hch : s.chunks with
    | nil => rw [hch] at hcj; cases hcj
    | cons c0 r0 => exact (C03.resetToStart_allocated_zero (cfg := cfg) (s' := s) (j := j) hc2 hch).2.2.1
  | unallocated =>
    have : resetToStart cfg s = s := by unfold resetToStart; simp only [hc2]
    rw [this, C10.stats_zero (Or.inr hc2)]
  | claimed =>
    have : resetToStart cfg s = s := by unfold resetToStart; simp only [hc2]
    rw [this, C10.stats_zero (Or.inl hc2)]

/-- `g` is the state in which the checkpoint was taken, `s2` any later state that still has every chunk of `g` in place;
    `reset_to` is run by a handle whose minimum alignment is the one of `g`.  The chunk of the checkpoint is still in
    place, so `reset_to` finds it and puts the position back (`C18.resetTo_outer`); `allocated` then depends only on the
    address ranges of the chunks up to it, which are those of `g`. -/
theorem resetTo_restores (hc : CfgOK cfg) {g : GState} (hg : Inv cfg g) {s2 s3 : State} (hg2 : GeomInv cfg s2)
    (hcov : ChunksCov g.s s2)
    (hr : resetTo cfg { s2 with minAlign := g.s.minAlign } (checkpoint cfg g.s) = .ok s3) :
    (stats cfg s3).allocated = (stats cfg g.s).allocated ∧
    (∀ i, g.s.cur = .chunk i → s3.cur = .chunk i ∧ curPos cfg s3 = curPos cfg g.s) ∧
    ChunksCov g.s s3 ∧ s3.minAlign = g.s.minAlign := by
  have hgeo : CpGeom cfg s2 (checkpoint cfg g.s) := cpGeom_mono hcov (cpOK_checkpoint hg).geom
  have hcp : CheckpointOK cfg s2 (checkpoint cfg g.s) :=
    checkpointOK_of (s := { s2 with minAlign := g.s.minAlign }) hgeo hr
  obtain ⟨s', e1, e2, e3, e4, e5⟩ := C18.resetTo_outer hc hg2 hg.geom.minAlign hcp
  rw [hr] at e1
  cases e1
  have hcov3 : ChunksCov g.s s3 := hcov.trans (ChunksCov.of_shape e4)
  refine ⟨?_, ?_, hcov3, e3⟩
  · cases hcu : g.s.cur with
    | claimed => exact absurd hcu hg.notClaimed
    | unallocated =>
      rw [show stats cfg g.s = ⟨0, 0, 0, 0, 0⟩ from C10.stats_zero (Or.inr hcu)]
      have hk : (checkpoint cfg g.s).cur = .unallocated := hcu
      rcases Mem.resetTo_inv hr with ⟨_, h3⟩ | ⟨i, c, p, hi, _⟩
      · subst h3
        refine resetToStart_allocated (s := { s2 with minAlign := g.s.minAlign }) (fun j hj => ?_)
        obtain ⟨cj, hcj, _⟩ := hg2.cur j hj
        exact ⟨cj, hcj⟩
      · rw [hk] at hi; cases hi
    | chunk i =>
      obtain ⟨c, hci, hw, hd⟩ := hg.geom.curChunk hcu
      have hk : (checkpoint cfg g.s).cur = .chunk i := hcu
      have haddr : (checkpoint cfg g.s).addr = c.pos := by
        unfold checkpoint; simp only; exact curPos_chunk hcu hci
      obtain ⟨f1, _, f3⟩ := e5 i hk
      have hp3 := f3 (by rw [haddr]; exact hd)
      obtain ⟨c3, hc3, hb3, hs3⟩ := hcov3 i c hci
      have hpos : c3.pos = c.pos := by rw [← haddr, ← hp3, curPos_chunk f1 hc3]
      exact stats_allocated_congr hcu f1 hci hc3 hb3 hs3 hpos (fun j _ x hx => hcov3 j x hx)
  · intro i hcu
    obtain ⟨c, hci, hw, hd⟩ := hg.geom.curChunk hcu
    have hk : (checkpoint cfg g.s).cur = .chunk i := hcu
    have haddr : (checkpoint cfg g.s).addr = curPos cfg g.s := rfl
    obtain ⟨f1, _, f3⟩ := e5 i hk
    refine ⟨f1, ?_⟩
    rw [f3 (by rw [haddr, curPos_chunk hcu hci]; exact hd), haddr]

/-- the same when the later state already has the minimum alignment of `g` -/
theorem resetTo_restores_same (hc : CfgOK cfg) {g : GState} (hg : Inv cfg g) {s2 s3 : State} (hg2 : GeomInv cfg s2)
    (hcov : ChunksCov g.s s2) (hma : s2.minAlign = g.s.minAlign) (hr : resetTo cfg s2 (checkpoint cfg g.s) = .ok s3) :
    (stats cfg s3).allocated = (stats cfg g.s).allocated ∧
    (∀ i, g.s.cur = .chunk i → s3.cur = .chunk i ∧ curPos cfg s3 = curPos cfg g.s) ∧
    ChunksCov g.s s3 ∧ s3.minAlign = g.s.minAlign :=
  resetTo_restores hc hg hg2 hcov (by rw [show ({ s2 with minAlign := g.s.minAlign } : State) = s2 by rw [← hma]]; exact hr)

theorem keptThrough_head {b : Block} {g : GState} {w : List (Op × List BaseResp)}
    (h : C02.KeptThrough cfg b g w) : b ∈ g.s.live := by
  cases w with
  | nil => exact h
  | cons x rest => exact h.1

theorem Reachable.pos_aligned (hc : CfgOK cfg) {g : GState} (h : Reachable cfg g) {n : Nat} (hn : g.s.minAlign = n) :
    ∀ i, g.s.cur = .chunk i → n ∣ curPos cfg g.s := by
  intro i hi
  obtain ⟨c, hci, hd⟩ := (h.inv hc).geom.cur i hi
  rw [curPos_chunk hi hci, ← hn]; exact hd

/-- what a body leaves: the covered history `w` ran from `g1` to `g2` without ever closing a region that was open in
    `g1`, and `g2` is at the level of `g1` again.  `s0` is any earlier state whose chunks were in place in `g1`. -/
structure Body (cfg : Cfg) (s0 : State) (g1 g2 : GState) (w : List (Op × List BaseResp)) : Prop where
  reach2 : Reachable cfg g2
  frames : g2.s.frames = g1.s.frames
  marks : g2.marks = g1.marks
  minAlign : g2.s.minAlign = g1.s.minAlign
  cov : ChunksCov s0 g2.s
  noRelease : ∀ log, runLog cfg g1 w = .ok (g2, log) → logReleases log = []
  kept : ∀ b, C02.KeptThrough cfg b g1 w →
    b ∈ g2.s.live ∧ ∀ k, k < b.size → readByte g2.s (b.addr + k) = readByte g1.s (b.addr + k)

theorem body (hc : CfgOK cfg) {s0 : State} {g1 g2 : GState} (h1 : Reachable cfg g1) (hc1 : ChunksCov s0 g1.s)
    {w : List (Op × List BaseResp)} (hcov : AllCovered w) (henv : RunEnvOK cfg g1 w) (hrun : runOps cfg g1 w = .ok g2)
    (hb : g1.s.frames ≠ [] ∨ NoBare w) (habove : Above cfg g1.s.frames g1 w) (hbal : g2.s.frames = g1.s.frames) :
    Body cfg s0 g1 g2 w := by
  have hin2 := inside_runOps w g1 g2 hb (bm := g1.marks) (a0 := g1.s.minAlign) ⟨⟨[], rfl, rfl⟩, hc1⟩ habove hrun
  obtain ⟨hm2, hma2⟩ := hin2.at_base hbal
  exact ⟨h1.append hcov henv hrun, hbal, hm2, hma2, hin2.cov, fun log => above_no_release w g1 g2 log hb habove,
    fun b => C02.history_live_bytes w g1 g2 b (h1.inv hc) hcov henv hrun⟩

variable {g g1 g2 g3 : GState} {w : List (Op × List BaseResp)}

/-- the part common to scope exit, `scoped_aligned` exit and `reset_to(checkpoint)`: after the body, the
    exit step `op3` is `reset_to` with the checkpoint of `g` at the minimum alignment of `g`, followed by forgetting everything
    younger than `g`, and puts back the regions and marks of `g`. -/
theorem Body.restores (hc : CfgOK cfg) (h : Reachable cfg g) (B : Body cfg g.s g1 g2 w) {op3 : Op} {o3 : Out}
    {q3 : List BaseReq} (hcov3 : op3.Covered) (hnw : ∀ b seed, op3 ≠ .write b seed)
    (h3 : step cfg g2 op3 [] = .ok (g3, o3, q3)) {s3 : State}
    (hr : resetTo cfg { (install g2 []).s with minAlign := g.s.minAlign } (checkpoint cfg g.s) = .ok s3)
    (e3 : g3 = ⟨killFrom { s3 with frames := g.s.frames } g.s.nextId, g.marks⟩)
    (hby1 : ∀ b ∈ g.s.live, b ∈ g1.s.live → ∀ k, k < b.size → readByte g1.s (b.addr + k) = readByte g.s (b.addr + k)) :
    ((stats cfg g3.s).allocated = (stats cfg g.s).allocated ∧
     (∀ i, g.s.cur = .chunk i → g3.s.cur = .chunk i ∧ curPos cfg g3.s = curPos cfg g.s) ∧ ChunksCov g.s g3.s ∧
     (g3.s.frames = g.s.frames ∧ g3.marks = g.marks ∧ g3.s.minAlign = g.s.minAlign) ∧
     ∀ b ∈ g3.s.live, b.id < g.s.nextId) ∧
    Reachable cfg g3 ∧ q3 = [] ∧ (∀ log, runLog cfg g1 w = .ok (g2, log) → logReleases log = []) ∧
    (∀ b ∈ g.s.live, C02.KeptThrough cfg b g1 w →
      b ∈ g3.s.live ∧ ∀ k, k < b.size → readByte g3.s (b.addr + k) = readByte g.s (b.addr + k)) := by
  have hi := h.inv hc
  have hi2 := B.reach2.inv hc
  obtain ⟨r1, r2, r3, r6⟩ := resetTo_restores hc hi (hi2.install []).geom B.cov hr
  have hl : s3.live = g2.s.live := (C03.resetTo_live hr).1
  subst e3
  -- the exit keeps of the live blocks of `g2` those older than `g`
  have hmem : ∀ b, b ∈ s3.live.filter (·.id < g.s.nextId) ↔ b ∈ g2.s.live ∧ b.id < g.s.nextId := fun b => by
    rw [hl]; simp only [List.mem_filter, decide_eq_true_eq]
  refine ⟨⟨r1, r2, r3, ⟨rfl, rfl, r6⟩, fun b hb => ((hmem b).1 hb).2⟩, B.reach2.snoc hcov3 (envOK_nil g2) h3, ?_,
    B.noRelease, fun b hb hk => ?_⟩
  · rw [(step_ok h3).2.2]; exact (Quiet.of_path (Fn.resetTo_path hr)).1
  · obtain ⟨hb2, hby2⟩ := B.kept b hk
    have hb3 := (hmem b).2 ⟨hb2, hi.ids b hb⟩
    refine ⟨hb3, fun k hkk => ?_⟩
    rw [bytes_step hi2 (envOK_nil g2) h3 b hb2 hb3 (fun seed => hnw _ seed) k hkk, hby2 k hkk,
      hby1 b hb (keptThrough_head hk) k hkk]

/-- the region `f`: opened in the reachable state `g` by a step to `g1`, with a body from `g1` to `g2`.  The steps that
    open and close a region never ask the base allocator, hence `resps = []` there and `q1 = []`, `q3 = []` in the
    round-trip theorems. -/
structure Region (cfg : Cfg) (f : Frame) (g g1 g2 : GState) (w : List (Op × List BaseResp)) : Prop where
  reach1 : Reachable cfg g1
  frames1 : g1.s.frames = f :: g.s.frames
  marks1 : g1.marks = if f.scopeLike then g.s.nextId :: g.marks else g.marks
  minAlign1 : f.below g1.s.minAlign = g.s.minAlign
  body : Body cfg g.s g1 g2 w

theorem region (hc : CfgOK cfg) (h : Reachable cfg g) {op1 : Op} (hcov1 : op1.Covered) (hnb1 : op1.isBare = false)
    {o1 : Out} {q1 : List BaseReq} (h1 : step cfg g op1 [] = .ok (g1, o1, q1)) {f : Frame}
    (hf : g1.s.frames = f :: g.s.frames) (hcov : AllCovered w) (henv : RunEnvOK cfg g1 w)
    (hrun : runOps cfg g1 w = .ok g2) (habove : Above cfg g1.s.frames g1 w) (hbal : g2.s.frames = g1.s.frames) :
    Region cfg f g g1 g2 w := by
  have hreach1 : Reachable cfg g1 := h.snoc hcov1 (envOK_nil g) h1
  rcases step_frameStep h1 with ⟨_, hb⟩ | hfs
  · rw [hnb1] at hb; cases hb
  · obtain ⟨hm1, hma1, hc1⟩ := FrameStep.of_push hfs hf
    exact ⟨hreach1, hf, hm1, hma1,
      body hc hreach1 hc1 hcov henv hrun (Or.inl (by rw [hf]; exact List.cons_ne_nil _ _)) habove hbal⟩

/-- the step that leaves the region: regions, marks, minimum alignment of `g` are back, whatever kind of region it is -/
theorem Region.close {f : Frame} (R : Region cfg f g g1 g2 w) {op3 : Op} (hcov3 : op3.Covered) {o3 : Out} {q3 : List BaseReq}
    (h3 : step cfg g2 op3 [] = .ok (g3, o3, q3)) {f' : Frame} (hf3 : g2.s.frames = f' :: g3.s.frames) :
    f' = f ∧ g3.s.frames = g.s.frames ∧ g3.marks = g.marks ∧ g3.s.minAlign = g.s.minAlign ∧ ChunksCov g.s g3.s ∧
      Reachable cfg g3 := by
  have hf2 := R.body.frames.trans R.frames1
  rcases step_frameStep h3 with ⟨h0, _⟩ | hfs
  · rw [hf2] at h0; cases h0
  · obtain ⟨⟨m, hm⟩, hma, hc⟩ := FrameStep.of_pop hfs hf3
    obtain ⟨rfl, hfr⟩ := List.cons.inj (hf3.symm.trans hf2)
    refine ⟨rfl, hfr, ?_, by rw [hma, R.body.minAlign]; exact R.minAlign1, R.body.cov.trans hc,
      R.body.reach2.snoc hcov3 (envOK_nil g2) h3⟩
    have hm' := hm.symm.trans (R.body.marks.trans R.marks1)
    cases hsl : f'.scopeLike <;> simp only [hsl, Bool.false_eq_true, ↓reduceIte, List.cons.injEq] at hm'
    · exact hm'
    · exact hm'.2

end Arena.Hist
