/-
  Lemmas/InvShrink.lean — preservation of `Arena.Hist.Inv` by the `.shrink` (through `shrink` or
  `WithoutShrink::shrink`) and `.shrinkSlice` operations: the post-condition `ReallocPost` (live-block
  world) for `shrinkSlice`, `shrink`, `shrinkWithoutShrink`, then the assembly.
-/
import BumpProof.Lemmas.InvReallocPost
namespace Arena.Hist
open Rs Lemmas
variable {cfg : Cfg}

theorem shr_down_core {s : State} (h : GeomInv cfg s) {i : Nat} {c : Chunk}
    (hcur : s.cur = .chunk i) (hi : s.chunks[i]? = some c) {ptr oldSize newSize al : Nat} (hal : P2 al) (hal64 : al < 2 ^ 64)
    (hap : al ∣ ptr) (h1 : ptr = c.pos) (h2 : ptr + oldSize ≤ c.contentEnd cfg) (h3 : newSize ≤ oldSize)
    {oldEnd newAddr : Nat} (he : Rs.add ptr oldSize = .ok oldEnd)
    (hna : Gen.LibArith.bump_down oldEnd newSize (Rs.max al s.minAlign) = .ok newAddr) :
    ptr ≤ newAddr ∧ newAddr + newSize ≤ ptr + oldSize ∧ al ∣ newAddr := by
  obtain ⟨_, hc', hd⟩ := h.cur i hcur
  cases hi.symm.trans hc'
  cases (Fn.rs_add_ok he).1
  obtain ⟨e1, e2, _, e4, e5⟩ := bump_down_val (sz := newSize) hal hal64 h.minAlign
    (Nat.lt_of_le_of_lt h2 (h.chunks i c hi).end_lt64)
  cases e1.symm.trans hna
  -- both alignments divide the old address, so rounding down does not pass it
  exact ⟨e5 ptr hap (h1 ▸ hd) (Nat.le_sub_of_add_le (Nat.add_le_add_left h3 ptr)),
    Nat.add_le_of_le_sub (Nat.le_trans h3 (Nat.le_add_left _ _)) e4, e2⟩

/-! ## in-place shrinking of the last block (shared by `shrink` and `shrink_slice`) -/

/-- an in-place shrink of the live block `blk`: upwards it keeps its address and the position moves back to just past
    its new end; downwards it moves up against its old end and the new position is its new start -/
theorem inplace_realloc {g : GState} (h : Inv cfg g) {blk : Block} (hb : blk ∈ g.s.live) {newSize al : Nat}
    (hsz : newSize ≤ blk.size) (hal : P2 al) (hal64 : al < 2 ^ 64) (hap : al ∣ blk.addr) {s' : State} {np : Nat}
    (hs : ShrunkInPlace cfg g.s blk.addr blk.size newSize al s' np) :
    ReallocPost cfg g.s s' blk.id al (some (np, newSize)) := by
  obtain ⟨hlast, _, hs⟩ := hs
  obtain ⟨i, c, hcur, hi, hb1, hb2, hb3⟩ := h.blockInCur hb hlast
  have hpos := isLast_pos hlast hcur hi
  rcases hs with ⟨hup, e, p, he, hp, rfl, rfl⟩ | ⟨hup, oe, s1, nov, he, hna, hcp, rfl⟩
  · obtain ⟨g1, g2⟩ := up_np_bounds h.cfgOK h.geom hi (ptr := blk.addr) (size := newSize) (by omega) he hp
    rw [Mem.setCurPos_chunk hcur]
    exact ReallocPost.ofOutcome (GhostPost.setPos _ _ _) ⟨i, hcur⟩
      (realloc_last_up h.live h.disj hb hup hcur hi hpos hb1 g1 g2) hap
  · have hpos' := hpos
    simp only [hup, Bool.false_eq_true, ↓reduceIte] at hpos'
    obtain ⟨g1, g2, g3⟩ := shr_down_core h.geom hcur hi hal hal64 hap hpos' hb2 hsz he hna
    obtain ⟨hcur1, ho⟩ := realloc_last_down h.live h.disj hb hup hcur hi hpos hb2 (Nat.le_trans hb1 g1) g2 hcp
    rw [Mem.setCurPos_chunk hcur1]
    exact ReallocPost.ofOutcome ((GhostPost.wrote (Fn.copyBytes_wrote hcp)).trans (GhostPost.setPos _ _ _)) ⟨i, hcur1⟩ ho g3

theorem shrinkSlice_realloc {g : GState} (h : Inv cfg g) {blk : Block} (hb : blk ∈ g.s.live) {newSize : Nat}
    (hsz : newSize ≤ blk.size) {s' : State} {r : Option Nat}
    (he : shrinkSlice cfg g.s blk.addr blk.size newSize blk.align = .ok (s', r)) :
    ReallocPost cfg g.s s' blk.id blk.align (r.map (fun np => (np, newSize))) := by
  obtain ⟨k, hk, hk2⟩ := h.aligns blk hb
  rcases shrinkSlice_cases he with ⟨rfl, rfl⟩ | ⟨np, hs, rfl⟩
  · exact ReallocPost.ofNone (GhostPost.refl _) h.live
  · exact inplace_realloc h hb hsz ⟨k, hk2⟩ (by rw [hk2]; exact Nat.pow_lt_pow_right (by decide) hk)
      (h.live.aligned blk hb) hs

theorem inv_shrinkSlice {g g' : GState} {out : Out} {b newSize : Nat} (h : Inv cfg g)
    (hr : RespsOK cfg g.s) (hf : RespsFresh g.s)
    (hs : stepCore cfg g (.shrinkSlice b newSize) = .ok (g', out)) : Inv cfg g' := by
  obtain ⟨hp, blk, hblk, hsz, s1, r, hx, hrest⟩ := ok_shrinkSlice hs
  obtain ⟨hmem, rfl⟩ := Mem.findBlock_ok hblk
  obtain ⟨k, hk, hk2⟩ := h.aligns blk hmem
  have bp := shrinkSlice_post h.cfgOK h.geom hr ⟨k, hk2⟩ (by rw [hk2]; exact Nat.pow_lt_pow_right (by decide) hk)
    (h.live.aligned blk hmem) hsz (h.blockInCur hmem) hx
  have key := inv_of_reallocPost h hp bp.inv (bp.trace.disjoint h.disj hf).1 bp.minAlign
    (shrinkSlice_realloc h hmem hsz hx) ⟨k, hk, hk2⟩
  cases r with
  | none => obtain ⟨rfl, _⟩ := hrest; exact key.1 rfl
  | some np => obtain ⟨rfl, _⟩ := hrest; exact key.2 (np, newSize) rfl _

/-! ## building blocks for `shrink` / `WithoutShrink::shrink` -/

/-- nothing is done to the arena: the block keeps its address with a size not bigger than before -/
theorem keep_realloc {g : GState} (h : Inv cfg g) {blk : Block} (hb : blk ∈ g.s.live) {al nsize : Nat}
    (hal : al ∣ blk.addr) (hsz : nsize ≤ blk.size) :
    ReallocPost cfg g.s g.s blk.id al (some (blk.addr, nsize)) := by
  have hl := h.live.removeBlock blk.id
  refine ⟨GhostPost.refl _, fun hx => (by cases hx), fun v hv => ?_⟩
  cases hv
  exact ⟨cur_chunk_of_live h hb, hl, fun init => liveOK_sub_of_dropped h.live hb hl rfl rfl (fun x hx => Or.inl hx)
    (Nat.le_refl _) (Nat.add_le_add_left hsz _) hal init⟩

theorem deallocAssumeLast_form {s s1 : State} (hm : MinAlignOK s.minAlign) {i : Nat} {c : Chunk}
    (hcur : s.cur = .chunk i) (hi : s.chunks[i]? = some c) {ptr size : Nat}
    (hpos : if cfg.up then ptr + size = c.pos else ptr = c.pos)
    (he : deallocAssumeLast cfg s ptr size = .ok s1) :
    ∃ p1, s1 = setPos s i p1 ∧ (if cfg.up then ptr ≤ p1 else p1 ≤ ptr + size) := by
  rcases Mem.deallocAssumeLast_inv he with rfl | ⟨i', p, hcur', hp, rfl⟩
  · refine ⟨c.pos, (Fn.setPos_self hi).symm, ?_⟩
    cases hup : cfg.up
    · simp only [hup, Bool.false_eq_true, ↓reduceIte] at hpos ⊢; omega
    · simp only [hup, ↓reduceIte] at hpos ⊢; omega
  · have hii : i' = i := by rw [hcur] at hcur'; cases hcur'; rfl
    subst hii
    refine ⟨p, rfl, ?_⟩
    have := Mem.align_pos_free_side hm hp
    cases hup : cfg.up
    · simp only [hup, Bool.false_eq_true, ↓reduceIte] at this ⊢; exact this
    · simp only [hup, ↓reduceIte] at this ⊢; exact this

/-- `shrink_unfit` of the last block when the new block fits the current chunk after the old block was given up -/
theorem unfit_fast {g : GState} (h : Inv cfg g) {blk : Block} (hb : blk ∈ g.s.live)
    (hlast : isLast cfg g.s blk.addr blk.size = true) {L : Layout} (hL : L.Valid) {s1 : State}
    (hd : deallocAssumeLast cfg g.s blk.addr blk.size = .ok s1) {v : Nat × Nat} {s2 : State}
    (ht : tryCurSpec cfg .alloc s1 L = some (v, s2)) {s3 : State} {src len : Nat} {no : Bool}
    (hcp : copyBytes cfg s2 src v.1 len no = .ok s3) :
    ReallocPost cfg g.s s3 blk.id L.align (some (v.1, L.size)) := by
  have hbc := h.blockInCur hb hlast
  obtain ⟨d2, _⟩ := C10.deallocAssumeLast_inv h.cfgOK h.geom hbc hd
  obtain ⟨i, c, hcur, hi, hb1, hb2, hb3⟩ := hbc
  have hpos := isLast_pos hlast hcur hi
  obtain ⟨p1, rfl, hp1⟩ := deallocAssumeLast_form h.geom.minAlign hcur hi hpos hd
  obtain ⟨i', c1, np, hcur', hi', hs2, t1, t2, t3, t4, t5, t6⟩ := tryCurSpec_alloc_some h.cfgOK d2 hL ht
  have hcur1 : (setPos g.s i p1).cur = .chunk i := hcur
  have hii : i' = i := by rw [hcur1] at hcur'; cases hcur'; rfl
  subst hii
  rw [Mem.setPos_getElem?_self hi p1] at hi'
  cases hi'
  have e1 : Chunk.contentStart cfg { c with pos := p1 } = c.contentStart cfg := rfl
  have e2 : Chunk.contentEnd cfg { c with pos := p1 } = c.contentEnd cfg := rfl
  have e3 : ({ c with pos := p1 } : Chunk).pos = p1 := rfl
  rw [e1] at t1
  rw [e2] at t2
  rw [e3] at t6
  rw [Mem.setCurPos_chunk hcur1, Fn.setPos_setPos] at hs2
  subst hs2
  have hout : Mem.AllocOutcome cfg (removeBlock (setPos g.s i' np) blk.id) v.1 L.size := by
    apply realloc_last h.live h.disj hb hcur hi hpos
    split at t6
    · rename_i hup; rw [if_pos hup] at hp1 ⊢; exact ⟨hb1, Nat.le_trans hp1 t6.1, t6.2.1, t2⟩
    · rename_i hup; rw [if_neg hup] at hp1 ⊢; exact ⟨t1, Nat.le_of_eq t6.1, Nat.le_trans t6.2.1 hp1, hb2⟩
  have ho := Mem.copyBytes_onlyData hcp
  have hg := copyBytes_geom hcp
  exact ReallocPost.ofOutcome ((GhostPost.setPos g.s i' np).trans (GhostPost.wrote (Fn.copyBytes_wrote hcp))) ⟨i', hg.cur.trans hcur⟩
    (hout.of_onlyData (onlyData_removeBlock ho blk.id)) t4

/-- a new block is allocated (or the request refused), then the bytes move -/
theorem moved_realloc {g : GState} (h : Inv cfg g) (hr : RespsOK cfg g.s) (hf : RespsFresh g.s)
    {L : Layout} (hL : L.Valid) (id ptr : Nat) {s1 s' : State} {r1 : Except AErr Nat}
    (hvia : AllocVia cfg g.s L s1 r1) (hmv : Moved cfg s1 r1 ptr L.size s') :
    ReallocPost cfg g.s s' id L.align (r1.map (·, L.size)).toOption := by
  obtain ⟨r', rfl, p⟩ := allocVia_post h.cfgOK h.geom hr h.disj hf hL hvia
  cases r' with
  | error e => cases hmv; exact ReallocPost.ofNone (GhostPost.ofAlloc p) (p.live h.live)
  | ok v =>
    obtain ⟨j, hj⟩ := p.cur_ok v rfl
    exact ReallocPost.ofOutcome ((GhostPost.ofAlloc p).trans (GhostPost.wrote (Fn.copyBytes_wrote hmv))) ⟨j, (copyBytes_geom hmv).cur.trans hj⟩
      (allocOutcome_removeBlock ((p.outcome rfl v rfl h.live).of_onlyData (Mem.copyBytes_onlyData hmv)) id) (p.found v rfl)

theorem shrinkWithoutShrink_realloc {g : GState} (h : Inv cfg g) (hr : RespsOK cfg g.s) (hf : RespsFresh g.s)
    {blk : Block} (hb : blk ∈ g.s.live) {L : Layout} (hL : L.Valid) (hsz : L.size ≤ blk.size)
    {s' : State} {r : Except AErr (Nat × Nat)}
    (he : shrinkWithoutShrink cfg g.s blk.addr blk.size L = .ok (s', r)) :
    ReallocPost cfg g.s s' blk.id L.align r.toOption := by
  rcases shrinkWithoutShrink_paths he with ⟨hfit, rfl, rfl⟩ | ⟨s1, r1, h1, hmv, rfl⟩
  · exact keep_realloc h hb (alignFits_dvd hfit) hsz
  · exact moved_realloc h hr hf hL blk.id blk.addr (.inl h1) hmv

theorem shrink_realloc {g : GState} (h : Inv cfg g) (hr : RespsOK cfg g.s) (hf : RespsFresh g.s)
    {blk : Block} (hb : blk ∈ g.s.live) {L : Layout} (hL : L.Valid)
    {s' : State} {r : Except AErr (Nat × Nat)}
    (he : shrink cfg g.s blk.addr blk.size L = .ok (s', r)) :
    ReallocPost cfg g.s s' blk.id L.align r.toOption := by
  obtain ⟨hsz, hcase⟩ := shrink_cases he
  rcases hcase with ⟨hfit, ⟨rfl, rfl⟩ | ⟨np, hs, rfl⟩⟩ | ⟨s1, r1, hvia, hmv, rfl⟩ | ⟨hlast, sd, hd, hC⟩
  · exact keep_realloc h hb (alignFits_dvd hfit) (Nat.le_refl _)
  · exact inplace_realloc h hb hsz hL.p2 hL.lt64 (alignFits_dvd hfit) hs
  · exact moved_realloc h hr hf hL blk.id blk.addr hvia hmv
  · -- `shrink_unfit` of the last block: it is given up first
    rcases hC with ⟨v, s2, nov, ht, hcp, rfl⟩ | ⟨s3, r1, hvia, hmv, rfl⟩
    · obtain ⟨d2, _⟩ := C10.deallocAssumeLast_inv h.cfgOK h.geom (h.blockInCur hb hlast) hd
      rw [tryCur_eq h.cfgOK d2 .alloc hL (custom_sma L)] at ht
      exact unfit_fast h hb hlast hL hd (Except.ok.inj ht) hcp
    · rw [Fn.deallocAssumeLast_restore hd] at hvia
      exact moved_realloc h hr hf hL blk.id blk.addr hvia hmv

theorem inv_shrink {g g' : GState} {out : Out} {b : Nat} {L : Layout} {via : Via} (h : Inv cfg g)
    (hr : RespsOK cfg g.s) (hf : RespsFresh g.s)
    (hs : stepCore cfg g (.shrink b L via) = .ok (g', out)) : Inv cfg g' := by
  obtain ⟨hL, hp, blk, hblk, hsz, s1, r, hx, hrest⟩ := ok_shrink hs
  obtain ⟨hmem, rfl⟩ := Mem.findBlock_ok hblk
  have both : BasicPost cfg g.s s1 ∧ ReallocPost cfg g.s s1 blk.id L.align r.toOption := by
    by_cases hw : (via == .withoutShrink) = true
    · rw [if_pos hw] at hx
      exact ⟨shrinkWithoutShrink_post h.cfgOK h.geom hr hL hx, shrinkWithoutShrink_realloc h hr hf hmem hL hsz hx⟩
    · rw [if_neg hw] at hx
      exact ⟨shrink_post h.cfgOK h.geom hr hL (h.blockInCur hmem) hx, shrink_realloc h hr hf hmem hL hx⟩
  obtain ⟨bp, rp⟩ := both
  have key := inv_of_reallocPost h hp bp.inv (bp.trace.disjoint h.disj hf).1 bp.minAlign rp hL.1
  cases r with
  | error e => obtain ⟨rfl, _⟩ := hrest; exact key.1 rfl
  | ok v =>
    obtain ⟨np, nsize⟩ := v
    obtain ⟨rfl, _⟩ := hrest
    exact key.2 (np, nsize) rfl _

end Arena.Hist
