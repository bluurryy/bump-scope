/-
  Lemmas/CtrlBase.lean — what the control-flow properties C13, C14, C15, C17 share: the admissible minimum
  alignments (`MinAlignOk`), truthful hints (`Truthful`), the guards of a step passed forwards (`validLayout_ok`,
  `any_claim`), and the dummy range of a claimed / unallocated handle, on which every bump computation answers
  "does not fit" (`tryCur_dummy`, through the wide-integer specification: `tryCur_eq_of_valid` of Lemmas/FnTry).
-/
import BumpProof.Arena.Step
import BumpProof.Lemmas.FnTry


namespace Ctrl
open Arena Rs Lemmas

/-- `MIN_ALIGN` of the crate: 1 … 16.  The bounds `… + 16 ≤ 2 ^ 64` in this tower are there so that rounding
    an address up to the minimum alignment cannot overflow.  Same body as `Arena.MinAlignOK` (Arena/Inv.lean, which
    this file does not import). -/
def MinAlignOk (m : Nat) : Prop := m = 1 ∨ m = 2 ∨ m = 4 ∨ m = 8 ∨ m = 16

theorem MinAlignOk.p2 {m : Nat} (h : MinAlignOk m) : P2 m := (p2_of_min_align h).1

theorem MinAlignOk.le {m : Nat} (h : MinAlignOk m) : m ≤ 16 := (p2_of_min_align h).2

theorem MinAlignOk.pos {m : Nat} (h : MinAlignOk m) : 0 < m := h.p2.pos

/-- the one hint with content, `size_is_multiple_of_align`, is only set when it holds (as it does for the
    `SizedLayout` / `ArrayLayout` of a Rust type) -/
def Truthful (L : Layout) (h : Hints) : Prop := h.sma = true → L.align ∣ L.size

theorem validLayout_ok {L : Layout} (h : L.Valid) : validLayout L = .ok () := by
  have hp := layout_p2 h
  have hpos := hp.pos
  unfold validLayout
  rw [hp.is_power_of_two, decide_eq_true h.2, decide_eq_true (show L.align > 0 from hpos)]
  rfl

theorem bytes_layout_valid {n : Nat} (h : n ≤ Rs.IMAX) : ({ size := n, align := 1 } : Layout).Valid :=
  ⟨⟨0, by decide, rfl⟩, h⟩

theorem liftM_ok {α} (v : α) : liftM (.ok v : Rs.M α) = .ok v := rfl
theorem liftM_pure {α} (v : α) : liftM (pure v : Rs.M α) = .ok v := rfl
theorem R_ok_bind {α β} (a : α) (f : α → R β) : (Except.ok a >>= f) = f a := rfl
theorem R_pure_bind {α β} (a : α) (f : α → R β) : ((pure a : R α) >>= f) = f a := rfl
theorem R_pure_eq {α} (a : α) : (pure a : R α) = .ok a := rfl
theorem R_err_bind {α β} (e : Fault) (f : α → R β) : ((Except.error e : R α) >>= f) = .error e := rfl

/-- the guard of `Op.onClaimed` passes when a claim frame is open (for any predicate `p`: the guard's own is
    an anonymous `match`) -/
theorem any_claim {l : List Frame} (h : Frame.claim ∈ l) {p : Frame → Bool} (hp : p .claim = true) :
    l.any p = true :=
  List.any_eq_true.2 ⟨_, h, hp⟩

export Arena (bumpProps_start bumpProps_end)
export Arena.Fn (dummy_of_freeRange valid_of_dummy)
theorem bumpProps_min (cfg : Cfg) (s : State) (L : Layout) (h : Hints) :
    (bumpProps cfg s L h).min_align = s.minAlign := rfl
theorem bumpProps_layout (cfg : Cfg) (s : State) (L : Layout) (h : Hints) :
    (bumpProps cfg s L h).layout = L := rfl
theorem bumpProps_sma (cfg : Cfg) (s : State) (L : Layout) (h : Hints) :
    (bumpProps cfg s L h).size_is_multiple_of_align = h.sma := rfl

theorem freeRange_claimed (cfg : Cfg) {s : State} (hc : s.cur = .claimed) :
    freeRange cfg s = (dummyAddr + 16, dummyAddr) := by
  unfold freeRange; rw [hc]

theorem freeRange_unallocated (cfg : Cfg) {s : State} (hc : s.cur = .unallocated) :
    freeRange cfg s = (dummyAddr + 16, dummyAddr) := by
  unfold freeRange; rw [hc]

theorem valid_hints {cfg : Cfg} {s : State} {L : Layout} {h1 h2 : Hints} {up : Bool}
    (hv : C11.Valid up (bumpProps cfg s L h1)) (ht : Truthful L h2) :
    C11.Valid up (bumpProps cfg s L h2) := by
  obtain ⟨hc, hr⟩ := hv
  exact ⟨⟨hc.start_ne, hc.end_ne, hc.start_lt, hc.end_lt, hc.min_align, hc.layout, ht⟩, hr⟩

theorem tryCur_dummy {cfg : Cfg} {s : State} {L : Layout} {h : Hints} (k : Kind)
    (hv : C11.Valid cfg.up (bumpProps cfg s L h)) (hd : C11.Dummy (bumpProps cfg s L h)) :
    tryCur cfg k s L h = .ok none := by
  rw [tryCur_eq_of_valid hv, Fn.tryCurSpec_dummy (L := L) hd.1 (layout_p2 hv.1.layout).pos k]

end Ctrl
