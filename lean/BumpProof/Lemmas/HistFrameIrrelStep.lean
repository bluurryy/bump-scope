/-
  Lemmas/HistFrameIrrelStep.lean — frame irrelevance of `stepCore`: the constructors that do not look at the region stack
  commute with replacing it (`sfo_all`, "o" for ordinary); those that push a region (`sfp_all`) or pop one (`sfq_*`) only
  look at its top.  The remaining ones — `drop`, `reset`, `resetToStart`, `withSettings`, which test the whole stack for
  emptiness, and `onClaimed`, which searches it for a claim — have no lemma here (Lemmas/HistFrameIrrelRun.lean excludes them).
-/
import BumpProof.Arena.Hist
import BumpProof.Lemmas.HistFrameIrrelFn
import BumpProof.Lemmas.StepTryWith

set_option linter.unusedSimpArgs false
set_option linter.unusedVariables false

namespace Arena.Hist
open Rs Ledger

variable {cfg : Cfg}

def gf (fs : List Frame) (g : GState) : GState := { g with s := sf fs g.s }

def lg (fs : List Frame) (x : GState × Out) : GState × Out := (gf fs x.1, x.2)

/-- lift over the result of a pushing constructor: the new top region stays, the rest is replaced -/
def lgPush (fs : List Frame) (x : GState × Out) : GState × Out := (gf (x.1.s.frames.take 1 ++ fs) x.1, x.2)

@[simp, sf_simp] theorem gf_s (fs : List Frame) (g : GState) : (gf fs g).s = sf fs g.s := rfl
@[simp, sf_simp] theorem gf_marks (fs : List Frame) (g : GState) : (gf fs g).marks = g.marks := rfl
@[sf_simp] theorem gf_mk (fs : List Frame) (s : State) (m : List Nat) : gf fs ⟨s, m⟩ = ⟨sf fs s, m⟩ := rfl
@[sf_simp] theorem lg_mk (fs : List Frame) (g : GState) (o : Out) : lg fs (g, o) = (gf fs g, o) := rfl
theorem gf_gf (fs fs' : List Frame) (g : GState) : gf fs (gf fs' g) = gf fs g := rfl
theorem gf_install (fs : List Frame) (g : GState) (resps : List BaseResp) : install (gf fs g) resps = gf fs (install g resps) := rfl

/-- the constructors that never look at the region stack -/
def _root_.Arena.Op.frameFree : Op → Bool
  | .newWithSize _ => true
  | .newWithCapacity _ => true
  | .newUnallocated => true
  | .allocate _ _ _ => true
  | .deallocate _ _ => true
  | .grow _ _ _ _ => true
  | .shrink _ _ _ => true
  | .allocLayout _ _ => true
  | .shrinkSlice _ _ => true
  | .prepare _ => true
  | .commit _ _ => true
  | .prepareSlice _ _ _ _ => true
  | .fillPrepared _ _ => true
  | .commitSlice _ => true
  | .abandonPrepared => true
  | .reserve _ _ => true
  | .checkpoint _ => true
  | .resetTo _ => true
  | .allocTryWith _ _ _ _ _ _ => true
  | .write _ _ => true
  | .split _ _ => true
  | _ => false

/- Like `sf_setCur`: record updates that commute with `sf`.  They must rewrite before `sf_simp` does (cases `commit`,
   `commitSlice` of `sfo_all`; `sfq_scopedAlignedExit`): `sf_simp` turns the fields `(sf fs s).chunks`, … of the record into
   those of `s`, and then the left-hand side does not match. -/
theorem sf_clearPrep (fs : List Frame) (s : State) :
    ({ sf fs s with prepared := none } : State) = sf fs { s with prepared := none } := rfl

theorem sf_setClaimed (fs : List Frame) (s : State) :
    ({ sf fs s with cur := .claimed } : State) = sf fs { s with cur := .claimed } := rfl

theorem sf_setMinAlign (fs : List Frame) (s : State) (m : Nat) :
    ({ sf fs s with minAlign := m } : State) = sf fs { s with minAlign := m } := rfl

@[sf_simp] theorem sf_okOut (fs : List Frame) (s : State) (a n al i : Nat) :
    okOut (sf fs s) a n al i = (sf fs (okOut s a n al i).1, (okOut s a n al i).2) := rfl
@[sf_simp] theorem sf_removeBlock (fs : List Frame) (s : State) (b : Nat) :
    removeBlock (sf fs s) b = sf fs (removeBlock s b) := rfl
@[sf_simp] theorem sf_killFrom (fs : List Frame) (s : State) (m : Nat) : killFrom (sf fs s) m = sf fs (killFrom s m) := rfl

/-! ### `alloc_try_with`: through its three pieces (`Lemmas/StepTryWith.lean`) -/

@[sf_simp] theorem sf_tryInner (fs : List Frame) (s : State) (inner : Option Layout) (m : Bool) :
    tryInner cfg (sf fs s) inner m = (tryInner cfg s inner m).map (l1 fs) := by
  unfold tryInner
  cases inner <;> simp only [sf_simp]
  refine ite_congr rfl (fun _ => rfl) fun _ => bind_congr fun _ => bind_congr fun ⟨s', r⟩ => ?_
  cases r <;> rfl

@[sf_simp] theorem sf_withInner (fs : List Frame) (s : State) (io : Option (Nat × Layout)) :
    withInner (sf fs s) io = sf fs (withInner s io) := by
  cases io <;> rfl

@[sf_simp] theorem sf_tryTail (fs : List Frame) (g : GState) (s2 : State) (ptr off vsize : Nat) (ok cs : Bool) :
    tryTail cfg (gf fs g) (sf fs s2) ptr off vsize ok cs = (tryTail cfg g s2 ptr off vsize ok cs).map (lg fs) := by
  unfold tryTail
  cases ok <;> cases cs <;> simp only [sf_simp, Bool.false_eq_true, ↓reduceIte]
  refine ite_congr rfl (fun _ => bind_congr fun _ => ?_) fun _ => bind_congr fun _ => ?_ <;> cases s2.cur <;> rfl

theorem sfo_allocTryWith (fs : List Frame) (g : GState) (L : Layout) (off vsize : Nat) (ok : Bool)
    (inner : Option Layout) (m : Bool) :
    stepCore cfg (gf fs g) (.allocTryWith L off vsize ok inner m) =
      (stepCore cfg g (.allocTryWith L off vsize ok inner m)).map (lg fs) := by
  rw [tryWith_eq, tryWith_eq]
  simp only [tryWithSpec, sf_simp]
  refine bind_congr fun _ => bind_congr fun _ => ite_congr rfl (fun _ => rfl) fun _ => bind_congr fun ⟨s1, r⟩ => ?_
  cases r <;> simp only [sf_simp]

/-! ### the constructors that never look at the region stack

After `simp only [sf_simp]` the two sides are the same chain of guards and calls; they differ where the result of a
call is matched on (`l1 fs a` against `a`), which a case split on that result removes. -/

theorem sfo_all {op : Op} (hop : op.frameFree = true) (fs : List Frame) (g : GState) :
    stepCore cfg (gf fs g) op = (stepCore cfg g op).map (lg fs) := by
  cases op
  case allocTryWith L off vsize ok inner m => exact sfo_allocTryWith fs g L off vsize ok inner m
  case commit size rev =>
    unfold stepCore
    simp only [gf_s, sf_clearPrep, sf_prepared]
    cases g.s.prepared <;> simp only [sf_simp] <;> rfl
  case commitSlice len =>
    unfold stepCore
    simp only [gf_s, sf_clearPrep, sf_prepared]
    cases g.s.prepared <;> simp only [sf_simp] <;> rfl
  all_goals first | (cases hop; done) | (unfold stepCore; simp only [sf_simp])
  case newWithSize n =>
    refine ite_congr rfl (fun _ => rfl) fun _ => bind_congr fun o => ?_
    cases o <;> simp only [sf_simp]
    refine bind_congr fun ⟨s', r⟩ => ?_
    cases r <;> rfl
  case newWithCapacity L =>
    refine bind_congr fun _ => ite_congr rfl (fun _ => rfl) fun _ => bind_congr fun ⟨s', r⟩ => ?_
    cases r <;> rfl
  case allocate L z via =>
    refine bind_congr fun _ => bind_congr fun _ => bind_congr fun ⟨s', r⟩ => ?_
    cases r <;> simp only [sf_simp]
  case grow b L z via =>
    refine bind_congr fun _ => bind_congr fun _ => bind_congr fun blk => ite_congr rfl (fun _ => rfl) fun _ =>
      bind_congr fun ⟨s', r⟩ => ?_
    cases r <;> simp only [sf_simp]
  case shrink b L via =>
    refine bind_congr fun _ => bind_congr fun _ => bind_congr fun blk => ite_congr rfl (fun _ => rfl) fun _ =>
      ite_congr rfl (fun _ => bind_congr fun ⟨s', r⟩ => ?_) fun _ => bind_congr fun ⟨s', r⟩ => ?_
    all_goals cases r <;> rfl
  case allocLayout L hh =>
    refine bind_congr fun _ => bind_congr fun _ => ite_congr rfl (fun _ => rfl) fun _ => bind_congr fun ⟨s', r⟩ => ?_
    cases r <;> rfl
  case shrinkSlice b n =>
    refine bind_congr fun _ => bind_congr fun blk => ite_congr rfl (fun _ => rfl) fun _ => bind_congr fun ⟨s', r⟩ => ?_
    cases r <;> rfl
  case prepare L =>
    refine bind_congr fun _ => bind_congr fun _ => ite_congr rfl (fun _ => rfl) fun _ => bind_congr fun ⟨s', r⟩ => ?_
    cases r <;> rfl
  case prepareSlice a b c d =>
    refine ite_congr rfl (fun _ => rfl) fun _ => ?_
    cases checked_mul a c <;> simp only [sf_simp]
    refine ite_congr rfl (fun _ => rfl) fun _ => bind_congr fun ⟨s', r⟩ => ?_
    cases r <;> rfl
  case fillPrepared a b => cases g.s.prepared <;> simp only [sf_simp]
  case abandonPrepared => cases g.s.prepared <;> rfl
  case reserve n dyn =>
    cases dyn <;> simp only [Bool.false_eq_true, ↓reduceIte, sf_simp]
    all_goals
      refine bind_congr fun _ => bind_congr fun ⟨s', r⟩ => ?_
      cases r <;> rfl
  case checkpoint k => rfl
  case resetTo k =>
    refine bind_congr fun _ => ?_
    split <;> simp only [sf_simp]
  case write b seed => rfl
  case split b a => rfl

/-! ### the constructors that push a region -/

def _root_.Arena.Op.pushes : Op → Bool
  | .scopeEnter | .claim | .alignedEnter _ | .scopedAlignedEnter _ => true
  | _ => false

theorem sfp_all {op : Op} (hop : op.pushes = true) (fs : List Frame) (g : GState) :
    stepCore cfg (gf fs g) op = (stepCore cfg g op).map (lgPush fs) := by
  cases op <;> first | (cases hop; done) | (unfold stepCore; simp only [sf_simp]; rfl)

/-! ### the constructors that pop a region: they only look at the top one -/

theorem sfq_scopeExit (f0 : Frame) (T T' : List Frame) (g : GState) (hf : g.s.frames = f0 :: T) :
    stepCore cfg (gf (f0 :: T') g) .scopeExit = (stepCore cfg g .scopeExit).map (lg T') := by
  unfold stepCore
  simp only [sf_simp, hf]
  refine bind_congr fun _ => ?_
  cases f0 <;> try rfl
  cases g.marks <;> simp only [sf_simp] <;> rfl

theorem sfq_claimEnd (f0 : Frame) (T T' : List Frame) (g : GState) (hf : g.s.frames = f0 :: T) :
    stepCore cfg (gf (f0 :: T') g) .claimEnd = (stepCore cfg g .claimEnd).map (lg T') := by
  unfold stepCore
  simp only [sf_simp, hf]
  refine bind_congr fun _ => ?_
  cases f0 <;> rfl

theorem sfq_alignedExit (f0 : Frame) (T T' : List Frame) (g : GState) (hf : g.s.frames = f0 :: T) :
    stepCore cfg (gf (f0 :: T') g) .alignedExit = (stepCore cfg g .alignedExit).map (lg T') := by
  unfold stepCore
  simp only [sf_simp, hf]
  refine bind_congr fun _ => ?_
  cases f0 <;> simp only [sf_simp] <;> rfl

theorem sfq_scopedAlignedExit (f0 : Frame) (T T' : List Frame) (g : GState) (hf : g.s.frames = f0 :: T) :
    stepCore cfg (gf (f0 :: T') g) .scopedAlignedExit = (stepCore cfg g .scopedAlignedExit).map (lg T') := by
  unfold stepCore
  simp only [gf_s, sf_setMinAlign]
  simp only [sf_simp, hf]
  refine bind_congr fun _ => ?_
  cases f0 <;> try rfl
  cases g.marks <;> simp only [sf_simp] <;> rfl

end Arena.Hist
