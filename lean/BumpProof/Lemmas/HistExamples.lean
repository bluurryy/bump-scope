/-
  Lemmas/HistExamples.lean — a concrete history (non-vacuity witness): a `Bump` is created, two blocks are
  allocated, a scope is entered, a block that needs a second chunk is allocated, the scope is left, a
  block is deallocated, the arena is dropped; its hypotheses are established by the checks of `HistCheck.lean`.
  Then non-vacuity of the hypotheses of `bytes_step` / `bytes_stepCore` (Lemmas/HistBytes.lean): a reachable state
  with two live blocks on which writing operations (`write`, zeroed `allocate`, `grow`, `shrink`) succeed while the
  other block stays live.
-/
import BumpProof.Lemmas.HistLedgerAlgebra
import BumpProof.Lemmas.InvStep

section
set_option linter.unusedSimpArgs false
set_option linter.unusedVariables false

namespace Arena.Hist
open Rs

variable {cfg : Cfg}

def exL1 : Layout := { size := 24, align := 8 }
def exL2 : Layout := { size := 40, align := 16 }
def exL3 : Layout := { size := 600, align := 8 }

/-- create (the base allocator grants 496 bytes at 0x10000), allocate 24 and 40 bytes, enter a scope,
    allocate 600 bytes (second chunk: 1008 bytes at 0x20000), leave the scope, deallocate the second
    block, drop -/
def exOps : List (Op × List BaseResp) :=
  [(.newWithSize 512, [.granted 0x10000 496]), (.allocate exL1 false .plain, []), (.allocate exL2 false .plain, []),
   (.scopeEnter, []), (.allocate exL3 false .plain, [.granted 0x20000 1008]), (.scopeExit, []),
   (.deallocate 1 .plain, []), (.drop, [])]

/-- the same without the final `drop` (an arena in use) -/
def exOps7 : List (Op × List BaseResp) := exOps.take 7

theorem exOps_covered : AllCovered exOps := coveredCheck_sound (by decide)
theorem exOps7_covered : AllCovered exOps7 := coveredCheck_sound (by decide)

theorem run_take {g g' : GState} {ops : List (Op × List BaseResp)} (n : Nat) (he : RunEnvOK cfg g ops)
    (hr : runOps cfg g ops = .ok g') : RunEnvOK cfg g (ops.take n) ∧ ∃ g1, runOps cfg g (ops.take n) = .ok g1 := by
  rw [← List.take_append_drop n ops] at he hr
  obtain ⟨g1, h1, _⟩ := (runOps_append _ _ _ _).1 hr
  exact ⟨(runEnvOK_of_append _ _ _ he).1, g1, h1⟩

/- `exOps_env` and the run with its log below are the two evaluations of the example history; what is said of the run
   without log and of the prefixes `exOps7`, `exOps3` is derived from them. -/
theorem exOps_env : RunEnvOK exCfg (initG exCfg) exOps := runEnvCheck_sound _ _ (by decide +kernel)

theorem exOps_log : ∃ g log, runLog exCfg (initG exCfg) exOps = .ok (g, log) := ⟨_, _, rfl⟩

theorem exOps_run : ∃ g, runOps exCfg (initG exCfg) exOps = .ok g :=
  let ⟨g, log, h⟩ := exOps_log; ⟨g, runLog_runOps _ _ _ _ h⟩

theorem exOps7_env : RunEnvOK exCfg (initG exCfg) exOps7 := let ⟨_, h⟩ := exOps_run; (run_take 7 exOps_env h).1

theorem exOps7_run : ∃ g, runOps exCfg (initG exCfg) exOps7 = .ok g := let ⟨_, h⟩ := exOps_run; (run_take 7 exOps_env h).2

end Arena.Hist
end

section
set_option linter.unusedSimpArgs false
set_option linter.unusedVariables false
namespace Arena.Hist
open Rs

/-- create, allocate 24 bytes (block 0), allocate 40 bytes (block 1) -/
def exOps3 : List (Op × List BaseResp) := exOps.take 3

def exG3 : GState :=
  match runOps exCfg (initG exCfg) exOps3 with
  | .ok g => g
  | .error _ => default

/-- `exG3` written out: one 496-byte chunk at `0x10000`, holding the blocks of 24 and 40 bytes.  The examples that start
    at `exG3` rewrite with `exG3_eq` first, so that the three steps behind `exG3` are run once, here, and not in each. -/
def exG3lit : GState :=
  ⟨{ chunks := [⟨0x10000, 496, 0x10068, 496, 496, Array.replicate 496 0xAA⟩], cur := .chunk 0, minAlign := 8, frames := [],
     live := [⟨0, 0x10020, 24, 8, 0, 0⟩, ⟨1, 0x10040, 40, 16, 0, 0⟩], nextId := 2, userCps := [], prepared := none,
     resps := [], reqs := [], dropped := false }, []⟩

theorem exG3lit_run : runOps exCfg (initG exCfg) exOps3 = .ok exG3lit := by rfl

theorem exG3_eq : exG3 = exG3lit := by unfold exG3; rw [exG3lit_run]

theorem exG3_run : runOps exCfg (initG exCfg) exOps3 = .ok exG3 := exG3_eq ▸ exG3lit_run

theorem exOps3_covered : AllCovered exOps3 := coveredCheck_sound (by decide)

theorem exOps3_env : RunEnvOK exCfg (initG exCfg) exOps3 := let ⟨_, h⟩ := exOps_run; (run_take 3 exOps_env h).1

theorem exG3_inv : Inv exCfg exG3 := inv_reachable exCfg_ok exOps3_covered exOps3_env exG3_run

theorem exG3_live : exG3.s.live.map (fun b => (b.id, b.addr, b.size)) = [(0, 0x10020, 24), (1, 0x10040, 40)] := by rw [exG3_eq]; rfl

set_option maxRecDepth 1000000 in
/-- hypotheses of `bytes_step` for a `write` to block 1; block 0 is live before and after -/
example : Inv exCfg exG3 ∧ EnvOK exCfg exG3 [] ∧
    ∃ g' out reqs, step exCfg exG3 (.write 1 7) [] = .ok (g', out, reqs) ∧
      g'.s.live.map (fun b => (b.id, b.addr, b.size)) = [(0, 0x10020, 24), (1, 0x10040, 40)] :=
  ⟨exG3_inv, exG3_eq ▸ envCheck_sound (by rfl), exG3_eq ▸ ⟨_, _, _, rfl, rfl⟩⟩

set_option maxRecDepth 1000000 in
/-- … for a zeroed allocation -/
example : EnvOK exCfg exG3 [] ∧
    ∃ g' out reqs, step exCfg exG3 (.allocate exL1 true .plain) [] = .ok (g', out, reqs) ∧
      g'.s.live.map (fun b => b.id) = [0, 1, 2] :=
  exG3_eq ▸ ⟨envCheck_sound (by rfl), _, _, _, rfl, rfl⟩

set_option maxRecDepth 1000000 in
/-- … for a zeroed `grow` of the last block (in place) and of the first block (moved) -/
example : EnvOK exCfg exG3 [] ∧
    (∃ g' out reqs, step exCfg exG3 (.grow 1 { size := 64, align := 8 } true .plain) [] = .ok (g', out, reqs) ∧
      g'.s.live.map (fun b => b.id) = [0, 2]) ∧
    (∃ g' out reqs, step exCfg exG3 (.grow 0 { size := 64, align := 8 } true .plain) [] = .ok (g', out, reqs) ∧
      g'.s.live.map (fun b => b.id) = [1, 2]) :=
  exG3_eq ▸ ⟨envCheck_sound (by rfl), ⟨_, _, _, rfl, rfl⟩, ⟨_, _, _, rfl, rfl⟩⟩

set_option maxRecDepth 1000000 in
/-- … for `shrink` and `shrink_slice` of the last block -/
example : (∃ g' out reqs, step exCfg exG3 (.shrink 1 { size := 16, align := 8 } .plain) [] = .ok (g', out, reqs) ∧
      g'.s.live.map (fun b => b.id) = [0, 2]) ∧
    (∃ g' out reqs, step exCfg exG3 (.shrinkSlice 1 16) [] = .ok (g', out, reqs) ∧
      g'.s.live.map (fun b => b.id) = [0, 2]) :=
  exG3_eq ▸ ⟨⟨_, _, _, rfl, rfl⟩, ⟨_, _, _, rfl, rfl⟩⟩

set_option maxRecDepth 1000000 in
/-- … for a prepared allocation that is filled and committed while both blocks stay live -/
example : ∃ g1 o1 r1 g2 o2 r2 g3 o3 r3,
    step exCfg exG3 (.prepareSlice 4 4 8 false) [] = .ok (g1, o1, r1) ∧
    step exCfg g1 (.fillPrepared 3 2) [] = .ok (g2, o2, r2) ∧
    step exCfg g2 (.commitSlice 3) [] = .ok (g3, o3, r3) ∧
    g3.s.live.map (fun b => b.id) = [0, 1, 2] :=
  exG3_eq ▸ ⟨_, _, _, _, _, _, _, _, _, rfl, rfl, rfl, rfl⟩

end Arena.Hist
end
