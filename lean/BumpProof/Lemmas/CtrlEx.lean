/-
  Lemmas/CtrlEx.lean — concrete configurations / states used by the non-vacuity examples of
  C13, C14, C15, C17 (all hypotheses of the theorems are checked on them by evaluation).
-/
import BumpProof.Lemmas.CtrlReserve
import BumpProof.Lemmas.CtrlRealloc


namespace Ctrl
open Arena Rs Lemmas

def dCfg : Cfg := { wCfg with up := false }

def exL : Layout := { size := 24, align := 8 }
theorem exL_valid : exL.Valid := ⟨⟨3, by decide, rfl⟩, by decide⟩

/-- one 256-byte chunk at 0x10000 (header 32 bytes).  `exChunkUp` (upwards): content `[0x10020, 0x10100)`, 32 bytes
    used; `exChunkDown` (downwards): content `[0x10000, 0x100E0)`, 32 bytes used -/
def exChunkUp : Chunk :=
  { base := 0x10000, size := 0x100, pos := 0x10040, granted := 0x100, reqSize := 0x100,
    data := Array.replicate 0x100 0 }
def exChunkDown : Chunk :=
  { base := 0x10000, size := 0x100, pos := 0x100C0, granted := 0x100, reqSize := 0x100,
    data := Array.replicate 0x100 0 }

def mkState (chunks : List Chunk) (cur : Cur) (live : List Block) (frames : List Frame) : State :=
  { chunks := chunks, cur := cur, minAlign := 8, frames := frames, live := live, nextId := 1,
    userCps := [], prepared := none, resps := [], reqs := [], dropped := false }

def exUp : State := mkState [exChunkUp] (.chunk 0) [] []
def exDown : State := mkState [exChunkDown] (.chunk 0) [] []

/-- the first 16 content bytes: not the newest block (the position is 0x10040) -/
def exBlk : Block := { id := 0, addr := 0x10020, size := 16, align := 8, depth := 0, init := 0 }
/-- the state the claimed original handle sees -/
def exClaimed : State := mkState [exChunkUp] .claimed [exBlk] [.claim]
/-- a history state with an open claim (the claimant's view) -/
def exG : GState := { s := mkState [exChunkUp] (.chunk 0) [exBlk] [.claim], marks := [] }

theorem minAlign8 : MinAlignOk 8 := Or.inr (Or.inr (Or.inr (Or.inl rfl)))

theorem exUp_valid (L : Layout) (hL : L.Valid) (h : Hints) (ht : Truthful L h) :
    C11.Valid true (bumpProps wCfg exUp L h) :=
  valid_of_regular (a := 0x10040) (b := 0x10100) rfl (by decide) (by decide) (by decide) (by decide)
    minAlign8 hL ht ⟨by decide, by decide, ⟨0x2008, by decide⟩, ⟨0x1010, by decide⟩⟩

theorem exDown_valid (L : Layout) (hL : L.Valid) (h : Hints) (ht : Truthful L h) :
    C11.Valid false (bumpProps dCfg exDown L h) :=
  valid_of_regular (a := 0x10000) (b := 0x100C0) rfl (by decide) (by decide) (by decide) (by decide)
    minAlign8 hL ht ⟨by decide, by decide, ⟨0x1000, by decide⟩, ⟨0x2018, by decide⟩⟩

theorem wState_valid (L : Layout) (hL : L.Valid) (h : Hints) (ht : Truthful L h) :
    C11.Valid true (bumpProps wCfg wState L h) :=
  valid_of_regular (a := 0x100F0) (b := 0x10100) rfl (by decide) (by decide) (by decide) (by decide)
    minAlign8 hL ht ⟨by decide, by decide, ⟨0x201E, by decide⟩, ⟨0x1010, by decide⟩⟩

end Ctrl
