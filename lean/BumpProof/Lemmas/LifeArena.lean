/-
  Lemmas/LifeArena.lean — the second kind of change the invariant survives: the epoch stack of one arena changes while
  store and environment stay (`Inv.changeArena`), with its instances: a new arena, the death of an arena, `reset`, a new
  epoch on top, the end of an epoch and everything above, and the loops over a pool's arenas.
-/
import BumpProof.Lemmas.LifeInv

namespace Life

/-- The epoch stack of arena `a` becomes `eps'` (fresh epochs are numbered from `σ.next` on); the other arenas, the
    store and the frames stay.  The invariant survives if every handle of the arena still has an epoch, every value's
    epoch is still open, no guard's own epoch becomes the bottom one, and a guard covers no surviving old epoch that it
    did not cover before. -/
theorem Inv.changeArena {Γ : SEnv} {σ σ' : DState} (inv : Inv Γ σ) (a : Nat) (eps' : List Nat)
    (hstore : σ'.store = σ.store) (hframes : σ'.frames = σ.frames) (hlen : σ.arenas.length ≤ σ'.arenas.length)
    (hself : σ'.epochs a = eps') (hother : ∀ b, b ≠ a → σ'.epochs b = σ.epochs b)
    (hnd : eps'.Nodup) (hlt : ∀ e ∈ eps', e < σ'.next) (hn : σ.next ≤ σ'.next)
    (hfresh : ∀ e ∈ eps', e ∈ σ.epochs a ∨ σ.next ≤ e)
    (hH : ∀ h ∈ Γ.ents, h.valid = true → h.isHandle = true → ∀ rh, σ.get h.var = some rh → rh.arena = a → eps' ≠ [])
    (hV : ∀ e ∈ Γ.ents, e.valid = true → e.kind = .val → ∀ r, σ.get e.var = some r → r.arena = a →
          ∀ ex, r.epoch = some ex → ex ∈ eps')
    (hG : ∀ g ∈ Γ.ents, g.valid = true → g.kind = .guard → ∀ rg, σ.get g.var = some rg → rg.arena = a →
          ∀ eg, rg.epoch = some eg → eps'.head? ≠ some eg)
    (hC : ∀ eg ex, eg ∈ σ.epochs a → eg ∈ eps' → ex ∈ σ.epochs a → ex ∈ eps' →
          ex ∉ cutAt eg eps' → ex ∉ cutAt eg (σ.epochs a)) :
    Inv Γ σ' := by
  have hget : ∀ v, σ'.get v = σ.get v := fun v => by unfold DState.get; rw [hstore]
  -- the new stack of an arena: `eps'` for `a`, the old one otherwise
  have heps : ∀ b, (b = a ∧ σ'.epochs b = eps') ∨ (b ≠ a ∧ σ'.epochs b = σ.epochs b) := fun b => by
    by_cases hb : b = a
    · exact Or.inl ⟨hb, hb ▸ hself⟩
    · exact Or.inr ⟨hb, hother b hb⟩
  -- an epoch of a valid entry that is in the new stack was in the old one
  have hold : ∀ g ∈ Γ.ents, g.valid = true → ∀ rg, σ.get g.var = some rg → ∀ eg, rg.epoch = some eg → eg ∈ eps' →
      eg ∈ σ.epochs a := by
    intro g hg hv rg hr eg heg hm
    rcases hfresh eg hm with h | h
    · exact h
    · have := (inv.typed_get hg hv hr).epoch_lt heg
      omega
  -- no entry gains the power to end epochs
  have hE : ∀ g ∈ Γ.ents, g.valid = true → ∀ rg, σ.get g.var = some rg → ∀ b, EnderOn σ' g rg b → EnderOn σ g rg b := by
    rintro g hg hv rg hr b (⟨hk, hab, eg, heg, hm⟩ | h | h)
    · refine Or.inl ⟨hk, hab, eg, heg, ?_⟩
      rcases heps b with ⟨rfl, h⟩ | ⟨_, h⟩ <;> rw [h] at hm
      · exact hold g hg hv rg hr eg heg hm
      · exact hm
    · exact Or.inr (Or.inl h)
    · exact Or.inr (Or.inr h)
  constructor
  · exact inv.nodup
  · exact inv.used
  · rw [hstore]; exact inv.storeUsed
  · rw [hframes]; exact inv.frames
  · intro b
    rcases heps b with ⟨_, h⟩ | ⟨_, h⟩ <;> rw [h]
    · exact ⟨hnd, hlt⟩
    · exact ⟨(inv.epochs b).1, fun e he => Nat.lt_of_lt_of_le ((inv.epochs b).2 e he) hn⟩
  · intro e he hv
    rcases inv.typed e he hv with ⟨r, hr, ht⟩
    refine ⟨r, by rw [hget]; exact hr, ht.1, ht.2.1, ?_, fun hh => ?_, ht.2.2.2.2.1, ?_, fun hk eg heg => ?_⟩
    · intro hk; exact ⟨(ht.pool hk).1, fun a ha => Nat.lt_of_lt_of_le ((ht.pool hk).2 a ha) hlen⟩
    · rcases heps r.arena with ⟨hb, h⟩ | ⟨_, h⟩ <;> rw [h]
      · exact hH e he hv hh r hr hb
      · exact ht.live hh
    · intro ex hex; exact Nat.lt_of_lt_of_le (ht.epoch_lt hex) hn
    · rcases heps r.arena with ⟨hb, h⟩ | ⟨_, h⟩ <;> rw [h]
      · exact hG e he hv hk r hr hb eg heg
      · exact ht.guard_head hk heg
  · exact inv.closed
  · intro e he hv hk r hr ex hex
    rw [hget] at hr
    rcases inv.vals e he hv hk r hr ex hex with ⟨h1, h2⟩
    have h1' : ex ∈ σ'.epochs r.arena := by
      rcases heps r.arena with ⟨hb, h⟩ | ⟨_, h⟩ <;> rw [h]
      · exact hV e he hv hk r hr hb ex hex
      · exact h1
    refine ⟨h1', fun g hg hgv rg hrg hend => ?_⟩
    rw [hget] at hrg
    refine h2 g hg hgv rg hrg ⟨hE g hg hgv rg hrg _ hend.1, fun hgk i hi => ?_⟩
    -- the guard's arena is the value's arena, and its epoch is still open
    rcases hend.1.guard hgk with ⟨_, i', hi', hmem⟩
    rw [hi] at hi'; cases hi'
    have hnot := hend.2 hgk i hi
    rcases heps r.arena with ⟨hb, h⟩ | ⟨_, h⟩ <;> rw [h] at hmem hnot h1'
    · rw [hb] at h1 ⊢
      exact hC i ex (hold g hg hgv rg hrg i hi hmem) hmem h1 h1' hnot
    · exact hnot
  · intro h hh hv hH' rh hrh g hg hgv hne rg hrg hend
    rw [hget] at hrh hrg
    exact inv.handles h hh hv hH' rh hrh g hg hgv hne rg hrg (hE g hg hgv rg hrg _ hend)
  · intro h1 hh1 hv1 hH1 ha h2 hh2 hv2 hH2 hne r1 r2 hr1 hr2 har
    rw [hget] at hr1 hr2
    exact inv.uniq h1 hh1 hv1 hH1 ha h2 hh2 hv2 hH2 hne r1 r2 hr1 hr2 har

theorem Inv.newArena {Γ : SEnv} {σ : DState} (inv : Inv Γ σ) : Inv Γ σ.newArena := by
  have hnil : σ.epochs σ.arenas.length = [] := by
    simp [DState.epochs, List.getD]
  refine inv.changeArena σ.arenas.length [σ.next] rfl rfl (by simp [DState.newArena]) σ.epochs_newArena_self
    (fun b hb => σ.epochs_newArena_ne hb) (by simp) (by simp [DState.newArena]) (Nat.le_succ _) (by simp) ?_ ?_ ?_ ?_
  · intro _ _ _ _ _ _ _; simp
  · intro e he hv hk r hr hb ex hex
    exact absurd hb (Nat.ne_of_lt (inv.val_arena_lt he hv hk hr hex))
  · intro g hg hv hk rg hr hb
    exact absurd hb (Nat.ne_of_lt (inv.handle_arena_lt hg hv (by simp [Entry.isHandle, hk]) hr))
  · intro eg ex h; rw [hnil] at h; cases h

theorem EnderOn_of_newArena {Γ : SEnv} {σ : DState} (inv : Inv Γ σ) {g : Entry} (hg : g ∈ Γ.ents) (hv : g.valid = true)
    {rg : Rt} (hr : σ.get g.var = some rg) {a : Nat} (hon : EnderOn σ.newArena g rg a) : EnderOn σ g rg a := by
  rcases hon with ⟨hk, ha, i, hi, hlt⟩ | h | h
  · have hal := ha ▸ inv.handle_arena_lt hg hv (by simp [Entry.isHandle, hk]) hr
    rw [σ.epochs_newArena_ne (Nat.ne_of_lt hal)] at hlt
    exact Or.inl ⟨hk, ha, i, hi, hlt⟩
  · exact Or.inr (Or.inl h)
  · exact Or.inr (Or.inr h)

theorem Inv.killArena {Γ : SEnv} {σ : DState} (inv : Inv Γ σ) (a : Nat)
    (hH : ∀ h ∈ Γ.ents, h.valid = true → h.isHandle = true → ∀ rh, σ.get h.var = some rh → rh.arena ≠ a)
    (hV : ∀ e ∈ Γ.ents, e.valid = true → e.kind = .val → ∀ r, σ.get e.var = some r → ∀ ex, r.epoch = some ex → r.arena ≠ a) :
    Inv Γ (σ.killArena a) := by
  apply inv.changeArena (σ' := σ.killArena a) a [] rfl rfl (by simp [DState.killArena, DState.setEpochs]) (σ.epochs_setEpochs_nil a)
    (fun b hb => σ.epochs_setEpochs_ne hb _) (by simp) (by simp) (Nat.le_refl _) (by simp)
  · intro h hh hv hH' rh hrh hb; exact absurd hb (hH h hh hv hH' rh hrh)
  · intro e he hv hk r hr hb ex hex; exact absurd hb (hV e he hv hk r hr ex hex)
  · intro g _ _ _ rg _ _ eg _; simp
  · intro eg ex _ h; cases h

theorem Inv.resetArena {Γ : SEnv} {σ : DState} (inv : Inv Γ σ) (a : Nat) (ha : a < σ.arenas.length)
    (hV : ∀ e ∈ Γ.ents, e.valid = true → e.kind = .val → ∀ r, σ.get e.var = some r → ∀ ex, r.epoch = some ex → r.arena ≠ a) :
    Inv Γ (σ.resetArena a) := by
  apply inv.changeArena (σ' := σ.resetArena a) a [σ.next] rfl rfl (by simp [DState.resetArena, DState.setEpochs])
    (DState.epochs_setEpochs_self ha _)
    (fun b hb => σ.epochs_setEpochs_ne hb _) (by simp) (by simp [DState.resetArena]) (Nat.le_succ _) (by simp)
  · intro _ _ _ _ _ _ _; simp
  · intro e he hv hk r hr hb ex hex; exact absurd hb (hV e he hv hk r hr ex hex)
  · intro g hg hv _ rg hr _ eg heg
    have := (inv.typed_get hg hv hr).epoch_lt heg
    simp; omega
  · intro eg ex h1 h2
    have := (inv.epochs a).2 eg h1
    simp at h2; omega

theorem Inv.push {Γ : SEnv} {σ : DState} (inv : Inv Γ σ) (a : Nat) (ha : a < σ.arenas.length) : Inv Γ (σ.push a).2 := by
  have hnew : ∀ x ∈ σ.epochs a, x ≠ σ.next := fun x hx => Nat.ne_of_lt ((inv.epochs a).2 x hx)
  apply inv.changeArena (σ' := (σ.push a).2) a (σ.epochs a ++ [σ.next]) rfl rfl (by simp [DState.push, DState.setEpochs])
    (DState.epochs_setEpochs_self ha _) (fun b hb => σ.epochs_setEpochs_ne hb _)
  · rw [List.nodup_append]
    exact ⟨(inv.epochs a).1, by simp, fun x hx y hy => by rw [List.mem_singleton.1 hy]; exact hnew x hx⟩
  · intro e he
    show e < σ.next + 1
    rcases List.mem_append.1 he with h | h
    · exact Nat.lt_succ_of_lt ((inv.epochs a).2 e h)
    · simp at h; omega
  · exact Nat.le_succ _
  · intro e he
    rcases List.mem_append.1 he with h | h
    · exact Or.inl h
    · simp at h; exact Or.inr (by omega)
  · intro _ _ _ _ _ _ _; simp
  · intro e he hv hk r hr hb ex hex
    exact List.mem_append_left _ (hb ▸ (inv.vals e he hv hk r hr ex hex).1)
  · intro g hg hv hk rg hr hb eg heg
    have ht := inv.typed_get hg hv hr
    have h7 := hb ▸ ht.guard_head hk heg
    cases hl : σ.epochs a with
    | nil => exact absurd (hb ▸ hl) (ht.live (by simp [Entry.isHandle, hk]))
    | cons x l => rw [hl] at h7; simpa using h7
  · intro eg ex h1 _ _ _ hnot
    rw [cutAt_append_of_mem h1] at hnot; exact hnot

theorem Inv.endFrom {Γ : SEnv} {σ : DState} (inv : Inv Γ σ) (a e0 : Nat) (ha : a < σ.arenas.length)
    (hH : ∀ h ∈ Γ.ents, h.valid = true → h.isHandle = true → ∀ rh, σ.get h.var = some rh → rh.arena = a →
          cutAt e0 (σ.epochs a) ≠ [])
    (hV : ∀ e ∈ Γ.ents, e.valid = true → e.kind = .val → ∀ r, σ.get e.var = some r → r.arena = a →
          ∀ ex, r.epoch = some ex → ex ∈ cutAt e0 (σ.epochs a)) :
    Inv Γ (σ.endFrom a e0) := by
  apply inv.changeArena (σ' := σ.endFrom a e0) a (cutAt e0 (σ.epochs a)) rfl rfl (by simp [DState.endFrom, DState.setEpochs])
    (DState.epochs_setEpochs_self ha _) (fun b hb => σ.epochs_setEpochs_ne hb _) (nodup_cutAt (inv.epochs a).1)
    (fun e he => (inv.epochs a).2 e (mem_cutAt he)) (Nat.le_refl _) (fun e he => Or.inl (mem_cutAt he)) hH hV
  · intro g hg hv hk rg hr hb eg heg
    rcases head?_cutAt e0 (σ.epochs a) with h | h <;> rw [h]
    · simp
    · exact hb ▸ (inv.typed_get hg hv hr).guard_head hk heg
  · intro eg ex _ h2 _ _ hnot
    rw [cutAt_cutAt_of_mem h2] at hnot; exact hnot

theorem Inv.killArenas {Γ : SEnv} (as : List Nat) : ∀ {σ : DState}, Inv Γ σ →
    (∀ h ∈ Γ.ents, h.valid = true → h.isHandle = true → ∀ rh, σ.get h.var = some rh → rh.arena ∉ as) →
    (∀ e ∈ Γ.ents, e.valid = true → e.kind = .val → ∀ r, σ.get e.var = some r → ∀ ex, r.epoch = some ex → r.arena ∉ as) →
    Inv Γ (as.foldl (fun σ a => σ.killArena a) σ) ∧ (as.foldl (fun σ a => σ.killArena a) σ).frames = σ.frames := by
  induction as with
  | nil => intro σ inv _ _; exact ⟨inv, rfl⟩
  | cons a as ih =>
    intro σ inv hH hV
    have inv1 : Inv Γ (σ.killArena a) := inv.killArena a
      (fun h hh hv hH' rh hrh hb => hH h hh hv hH' rh hrh (hb ▸ List.mem_cons_self))
      (fun e he hv hk r hr ex hex hb => hV e he hv hk r hr ex hex (hb ▸ List.mem_cons_self))
    exact ih inv1
      (fun h hh hv hH' rh hrh hm => hH h hh hv hH' rh hrh (List.mem_cons_of_mem _ hm))
      (fun e he hv hk r hr ex hex hm => hV e he hv hk r hr ex hex (List.mem_cons_of_mem _ hm))

theorem Inv.resetArenas {Γ : SEnv} (as : List Nat) : ∀ {σ : DState}, Inv Γ σ → (∀ a ∈ as, a < σ.arenas.length) →
    (∀ e ∈ Γ.ents, e.valid = true → e.kind = .val → ∀ r, σ.get e.var = some r → ∀ ex, r.epoch = some ex → r.arena ∉ as) →
    Inv Γ (as.foldl (fun σ a => σ.resetArena a) σ) := by
  induction as with
  | nil => intro σ inv _ _; exact inv
  | cons a as ih =>
    intro σ inv hlt hV
    have inv1 : Inv Γ (σ.resetArena a) := inv.resetArena a (hlt a List.mem_cons_self)
      (fun e he hv hk r hr ex hex hb => hV e he hv hk r hr ex hex (hb ▸ List.mem_cons_self))
    exact ih inv1 (fun b hb => by simpa using hlt b (List.mem_cons_of_mem _ hb))
      (fun e he hv hk r hr ex hex hm => hV e he hv hk r hr ex hex (List.mem_cons_of_mem _ hm))

/-- the hypothesis `hep` of `Inv.addDerived` (Lemmas/LifeAdd.lean) for a guard whose own epoch `σ.next` was just pushed
    on top of arena `a` -/
theorem fresh_guard_epoch {Γ : SEnv} {σ : DState} (inv : Inv Γ σ) {a : Nat} (hlive : σ.epochs a ≠ []) :
    σ.next < (σ.push a).2.next ∧ σ.next ∈ (σ.push a).2.epochs a ∧ ((σ.push a).2.epochs a).head? ≠ some σ.next ∧
    (∀ ex ∈ (σ.push a).2.epochs a, ex ∉ cutAt σ.next ((σ.push a).2.epochs a) → ex = σ.next) ∧
    (∀ v ∈ Γ.ents, v.valid = true → v.kind = .val → ∀ rv, σ.get v.var = some rv → rv.epoch ≠ some σ.next) := by
  have hnot : σ.next ∉ σ.epochs a := fun h => Nat.lt_irrefl _ ((inv.epochs a).2 _ h)
  rw [DState.epochs_push_self (DState.lt_of_epochs_ne_nil hlive)]
  refine ⟨Nat.lt_succ_self _, by simp, ?_, ?_, ?_⟩
  · cases hl : σ.epochs a with
    | nil => exact absurd hl hlive
    | cons y l =>
      simp only [List.cons_append, List.head?_cons, ne_eq, Option.some.injEq]
      exact fun hy => hnot (by rw [hl, ← hy]; exact List.mem_cons_self)
  · intro ex hex hnc
    rw [cutAt_append_self hnot] at hnc
    rcases List.mem_append.1 hex with h | h
    · exact absurd h hnc
    · simpa using h
  · intro v hv hvv hvk rv hrv hex
    exact Nat.lt_irrefl _ ((inv.typed_get hv hvv hrv).epoch_lt hex)

end Life
