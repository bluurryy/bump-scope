/-
  Lemmas/CtrlReserve.lean — `reserve` (typed) and `reserve` (trait object) when the request fits the
  current chunk; the concrete witness state for finding C17-a.
-/
import BumpProof.Lemmas.CtrlState


namespace Ctrl
open Arena Rs Lemmas

theorem checked_sub_none_or_zero {a b : Nat} (h : a ≤ b) : Rs.checked_sub a b = none ∨ Rs.checked_sub a b = some 0 := by
  unfold Rs.checked_sub
  split
  · exact .inr (congrArg some (by omega))
  · exact .inl rfl

/-- nothing is left to reserve: the walk over the successor chunks ends with `none` ("enough") or `some 0` -/
theorem walkReserve_zero (cfg : Cfg) (chunks : List Chunk) :
    ∀ fuel i, walkReserve cfg chunks fuel i 0 = none ∨ walkReserve cfg chunks fuel i 0 = some 0 := by
  intro fuel
  induction fuel with
  | zero => exact fun i => .inr rfl
  | succ fuel ih =>
    intro i
    rw [walkReserve]
    split
    · exact .inr rfl
    · rename_i c hc
      rcases checked_sub_none_or_zero (Nat.zero_le (c.capacity cfg)) with h | h <;> rw [h]
      · exact .inl rfl
      · exact ih (i + 1)

theorem reserve_fits {cfg : Cfg} {s : State} {i : Nat} {c : Chunk} {n : Nat} (hc : CurChunk s i c)
    (hn : n ≤ c.remaining cfg) : reserve cfg s n = .ok (s, .ok ()) := by
  unfold reserve
  simp only [hc.cur, hc.get]
  rcases checked_sub_none_or_zero hn with h | h <;> rw [h]
  · rfl
  · rcases walkReserve_zero cfg s.chunks (s.chunks.length - (i + 1)) i with h | h <;> simp only [h] <;> rfl

theorem reserveDyn_fits {cfg : Cfg} {s : State} {i : Nat} {c : Chunk} {n : Nat} (hc : CurChunk s i c)
    (hv : C11.Valid cfg.up (bumpProps cfg s { size := n, align := 1 } Hints.custom))
    (hle : (freeRange cfg s).1 ≤ (freeRange cfg s).2)
    (hn : n ≤ c.remaining cfg) : reserveDyn cfg s n = .ok (s, .ok ()) := by
  have hlo : layoutOk n 1 = true := decide_eq_true hv.1.layout.2
  have hts : ∃ x, tryCurSpec cfg .range s { size := n, align := 1 } = some (x, s) := by
    unfold tryCurSpec Spec.prepareUp Spec.prepareDown
    unfold Chunk.remaining at hn
    rw [hc.freeRange cfg] at hle ⊢
    cases hup : cfg.up <;> simp only [hup, Bool.false_eq_true, ↓reduceIte] at hle hn ⊢
    · rw [downAlign_eq_self (Nat.one_dvd _), if_pos (by omega)]
      exact ⟨_, rfl⟩
    · rw [upAlign_eq_self Nat.one_pos (Nat.one_dvd _), if_pos (by omega)]
      exact ⟨_, rfl⟩
  obtain ⟨x, hx⟩ := hts
  unfold reserveDyn allocGeneric
  simp only [hlo, tryCur_eq_of_valid hv, hx]
  rfl

/-! ## Witness for C17-a -/

/-- upward arena, `MIN_ALIGN` 8, 32-byte chunk header, minimum chunk size 512: the configuration of the examples
    of C13–C17 (`dCfg` in Lemmas/CtrlEx.lean is its downward twin) and of the witness for C17-a, for which the
    direction and the header size fix the free space of the two chunks below -/
def wCfg : Cfg :=
  { up := true, minAlign0 := 8, ga := true, claimable := true,
    deallocates := true,
    shrinks := true,
    minChunk := 512, hdr := { size := 32, align := 8 } }
/-- a 256-byte chunk with 16 free bytes -/
def wChunk0 : Chunk :=
  { base := 0x10000, size := 0x100, pos := 0x100F0, granted := 0x100, reqSize := 0x100,
    data := Array.replicate 0x100 0 }
/-- an empty 512-byte successor chunk -/
def wChunk1 : Chunk :=
  { base := 0x20000, size := 0x200, pos := 0x20020, granted := 0x200, reqSize := 0x200,
    data := Array.replicate 0x200 0 }
def wState : State :=
  { chunks := [wChunk0, wChunk1], cur := .chunk 0, minAlign := 8, frames := [], live := [], nextId := 0,
    userCps := [], prepared := none, resps := [], reqs := [], dropped := false }

end Ctrl
