/-
  Lemmas/StrBoundary.lean — `is_char_boundary` as implemented (index 0, index len, or the byte test
  `(b as i8) >= -0x40`) coincides, on valid UTF-8, with "the prefix is a whole number of encoded
  characters" (`CharPos`); `chars().next_back()`.
-/
import BumpProof.Lemmas.StrUtf8

namespace Str

/-- byte index `i` splits `cs` between two characters: some prefix of `cs` encodes to exactly `i` bytes -/
def CharPos (cs : List Char) (i : Nat) : Prop :=
  ∃ cs1 cs2, cs = cs1 ++ cs2 ∧ (encode cs1).length = i

theorem charPos_zero (cs : List Char) : CharPos cs 0 := ⟨[], cs, rfl, rfl⟩

theorem charPos_len (cs : List Char) : CharPos cs (encode cs).length := ⟨cs, [], by simp, rfl⟩

theorem charPos_le {cs : List Char} {i : Nat} (h : CharPos cs i) : i ≤ (encode cs).length := by
  obtain ⟨a, b, rfl, rfl⟩ := h
  simp [encode_append]

theorem charPos_nil (i : Nat) : CharPos [] i ↔ i = 0 :=
  ⟨fun h => Nat.le_zero.1 (charPos_le h), fun h => h ▸ charPos_zero _⟩

theorem charPos_cons (c : Char) (cs : List Char) (i : Nat) :
    CharPos (c :: cs) i ↔ i = 0 ∨ ((encodeChar c).length ≤ i ∧ CharPos cs (i - (encodeChar c).length)) := by
  constructor
  · rintro ⟨a, b, h, rfl⟩
    cases a with
    | nil => left; rfl
    | cons x xs =>
      right
      simp only [List.cons_append, List.cons.injEq] at h
      obtain ⟨rfl, rfl⟩ := h
      refine ⟨by simp, xs, b, rfl, by simp⟩
  · rintro (rfl | ⟨hle, a, b, rfl, hl⟩)
    · exact charPos_zero _
    · exact ⟨c :: a, b, rfl, by simp only [encode_cons, List.length_append]; omega⟩

theorem encode_head_boundary (cs : List Char) (b : UInt8) (h : (encode cs)[0]? = some b) :
    isBoundaryByte b = true := by
  cases cs with
  | nil => simp at h
  | cons c cs =>
    have hp := encodeChar_length_pos c
    simp only [encode_cons] at h
    rw [List.getElem?_append_left hp] at h
    exact (encodeChar_getElem_boundary c 0 b h).2 rfl

theorem isCharBoundary_zero (l : Bytes) : isCharBoundary l 0 = true := by simp [isCharBoundary]

/-- past a prefix `e` the boundary test of `e ++ l` is that of `l`; `l` valid, so that its first byte passes the test -/
theorem isCharBoundary_append_ge (e : Bytes) (cs : List Char) (i : Nat) (he : 0 < e.length) (hi : e.length ≤ i) :
    isCharBoundary (e ++ encode cs) i = isCharBoundary (encode cs) (i - e.length) := by
  simp only [isCharBoundary, List.length_append, ge_iff_le]
  have hi0 : ¬ i = 0 := by omega
  rw [if_neg hi0]
  by_cases heq : i = e.length
  · subst heq
    rw [if_pos (Nat.sub_self _)]
    by_cases hl : (encode cs).length = 0
    · rw [if_pos (show e.length + (encode cs).length ≤ e.length by omega)]; simp [hl]
    · rw [if_neg (show ¬ e.length + (encode cs).length ≤ e.length by omega),
        List.getElem?_append_right (Nat.le_refl _), Nat.sub_self]
      match hb : (encode cs)[0]? with
      | some b => exact encode_head_boundary cs b hb
      | none => simp at hb; simp [hb] at hl
  · have c1 : e.length + (encode cs).length ≤ i ↔ (encode cs).length ≤ i - e.length := by omega
    have c2 : (i == e.length + (encode cs).length) = (i - e.length == (encode cs).length) := by
      rw [Bool.eq_iff_iff, beq_iff_eq, beq_iff_eq]; omega
    rw [if_neg (show ¬ i - e.length = 0 by omega), List.getElem?_append_right hi]
    simp only [c1, c2]

theorem isCharBoundary_iff (cs : List Char) (i : Nat) :
    isCharBoundary (encode cs) i = true ↔ CharPos cs i := by
  induction cs generalizing i with
  | nil =>
    rw [charPos_nil]
    unfold isCharBoundary
    by_cases h : i = 0
    · simp [h]
    · simp [h]
  | cons c cs ih =>
    rw [charPos_cons]
    have hp := encodeChar_length_pos c
    by_cases h0 : i = 0
    · subst h0; simp [isCharBoundary_zero]
    · by_cases hlt : i < (encodeChar c).length
      · -- inside the first character: a continuation byte
        have hne : ¬ ((encodeChar c).length ≤ i) := by omega
        simp only [h0, hne, false_and, or_false, iff_false, Bool.not_eq_true]
        unfold isCharBoundary
        rw [if_neg h0, if_neg (by simp only [encode_cons, List.length_append]; omega)]
        simp only [encode_cons]
        rw [List.getElem?_append_left hlt]
        match hb : (encodeChar c)[i]? with
        | some b =>
          have := encodeChar_getElem_boundary c i b hb
          simp only
          cases hbb : isBoundaryByte b with
          | false => rfl
          | true => exact absurd (this.1 hbb) h0
        | none => rfl
      · have hge : (encodeChar c).length ≤ i := by omega
        simp only [encode_cons]
        rw [isCharBoundary_append_ge _ _ _ hp hge, ih]
        simp [h0, hge]

/-- two splits of the same text are comparable, and the byte lengths of the left parts say which way -/
theorem split_le {a b a' b' : List Char} (h : a ++ b = a' ++ b') (hl : (encode a).length ≤ (encode a').length) :
    ∃ m, a' = a ++ m ∧ b = m ++ b' := by
  rcases List.append_eq_append_iff.1 h with ⟨m, hx, hy⟩ | ⟨m, hx, hy⟩
  · exact ⟨m, hx, hy⟩
  · -- `a = a' ++ m` with `m` encoding to nothing
    have : (encode m).length = 0 := by rw [hx, encode_append, List.length_append] at hl; omega
    obtain rfl := encode_eq_nil (List.eq_nil_of_length_eq_zero this)
    exact ⟨[], by simpa using hx.symm, by simpa using hy.symm⟩

theorem charPos_snoc (cs : List Char) (c : Char) (i : Nat) :
    CharPos (cs ++ [c]) i ↔ CharPos cs i ∨ i = (encode cs).length + (encodeChar c).length := by
  constructor
  · rintro ⟨a, b, h, rfl⟩
    by_cases hl : (encode a).length ≤ (encode cs).length
    · obtain ⟨m, rfl, _⟩ := split_le h.symm hl
      exact Or.inl ⟨a, m, rfl, rfl⟩
    · -- `a` is longer than `cs`: it is all of `cs ++ [c]`
      obtain ⟨m, rfl, hm⟩ := split_le h (Nat.le_of_not_le hl)
      cases m with
      | nil => simp at hl
      | cons x m =>
        obtain ⟨rfl, hmb⟩ := List.cons.inj hm
        obtain rfl : m = [] := (List.append_eq_nil_iff.1 hmb.symm).1
        exact Or.inr (by rw [encode_append, encode_singleton, List.length_append])
  · rintro (⟨a, b, rfl, rfl⟩ | rfl)
    · exact ⟨a, b ++ [c], by simp, rfl⟩
    · exact ⟨cs ++ [c], [], by simp, by simp [encode_append]⟩

theorem lastChar_nil : lastChar [] = none := rfl

/-- the backward walk of `next_code_point_reverse` over at most three non-boundary bytes stops at the
    last boundary, `n ≤ 4` bytes before the end -/
theorem lastStart (P : Nat → Bool) (L n : Nat) (h1 : 1 ≤ n) (h4 : n ≤ 4)
    (hf : ∀ j, 0 < j → j < n → P (L - j) = false) (ht : P (L - n) = true) :
    (if P (L - 1) = true then L - 1 else if P (L - 2) = true then L - 2 else if P (L - 3) = true then L - 3
      else L - 4) = L - n := by
  obtain rfl | rfl | rfl | rfl : n = 1 ∨ n = 2 ∨ n = 3 ∨ n = 4 := by omega
  · rw [if_pos ht]
  · rw [if_neg (by simp [hf 1]), if_pos ht]
  · rw [if_neg (by simp [hf 1]), if_neg (by simp [hf 2]), if_pos ht]
  · rw [if_neg (by simp [hf 1]), if_neg (by simp [hf 2]), if_neg (by simp [hf 3])]

/-- `next_back` on a valid non-empty string returns its last character and where it starts -/
theorem lastChar_snoc (cs : List Char) (c : Char) :
    lastChar (encode (cs ++ [c])) = some (c, (encode cs).length) := by
  have hp := encodeChar_length_pos c
  have hlen : (encode (cs ++ [c])).length = (encode cs).length + (encodeChar c).length := by
    rw [encode_append, encode_singleton, List.length_append]
  have hst := lastStart (isCharBoundary (encode (cs ++ [c]))) (encode (cs ++ [c])).length (encodeChar c).length hp
    (encodeChar_length_le c)
    (fun j hj0 hj => by
      -- strictly inside the last character
      refine Bool.eq_false_iff.2 fun hbb => ?_
      rw [isCharBoundary_iff, charPos_snoc] at hbb
      rcases hbb with h | h
      · have := charPos_le h; omega
      · omega)
    (by rw [isCharBoundary_iff, charPos_snoc, hlen, Nat.add_sub_cancel]; exact Or.inl (charPos_len cs))
  unfold lastChar
  simp only
  rw [if_neg (by omega), hst, hlen, Nat.add_sub_cancel, encode_append, List.drop_left, encode_singleton]
  have := decodeFirst_encodeChar_append c []
  rw [List.append_nil] at this
  rw [this]

end Str
