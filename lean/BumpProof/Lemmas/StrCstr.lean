/-
  Lemmas/StrCstr.lean — C-string constructors: the specification (text up to the first NUL, or all of it,
  followed by exactly one NUL), on bytes and on characters, `nulPos` against it, and the push loop of `alloc_cstr_fmt`.
-/
import BumpProof.Lemmas.StrOps

namespace Str

/-- specification: the text up to the first NUL byte (or all of it), then one NUL -/
def cstrSpec (text : Bytes) : Bytes := text.takeWhile (· != 0) ++ [0]

/-- the same on characters -/
def cstrText (cs : List Char) : List Char := cs.takeWhile (· != Char.ofNat 0) ++ [Char.ofNat 0]

theorem nulPos_some {l : Bytes} {n : Nat} (h : nulPos l = some n) :
    l.take (n + 1) = l.takeWhile (· != 0) ++ [0] ∧ n + 1 ≤ l.length := by
  induction l generalizing n with
  | nil => simp [nulPos] at h
  | cons b r ih =>
    simp only [nulPos] at h
    split at h
    · rename_i hb
      simp only [Option.some.injEq] at h
      subst h; subst hb
      simp
    · rename_i hb
      cases hr : nulPos r with
      | none => rw [hr] at h; simp at h
      | some m =>
        rw [hr] at h
        simp only [Option.map_some, Option.some.injEq] at h
        subst h
        obtain ⟨h1, h2⟩ := ih hr
        have hb' : (b != 0) = true := by simpa using hb
        simp only [List.take_succ_cons, List.takeWhile_cons, hb', ↓reduceIte, List.cons_append, List.length_cons]
        exact ⟨by rw [h1], by omega⟩

theorem nulPos_none {l : Bytes} (h : nulPos l = none) : l.takeWhile (· != 0) = l := by
  induction l with
  | nil => rfl
  | cons b r ih =>
    simp only [nulPos] at h
    split at h
    · simp at h
    · rename_i hb
      have hb' : (b != 0) = true := by simpa using hb
      cases hr : nulPos r with
      | none => simp only [List.takeWhile_cons, hb', ↓reduceIte]; rw [ih hr]
      | some m => rw [hr] at h; simp at h

theorem takeWhile_no_zero (l : Bytes) : (l.takeWhile (· != 0)).count 0 = 0 :=
  List.count_eq_zero.2 fun h => by simpa using List.all_eq_true.1 List.all_takeWhile 0 h

/-- the bytes of an encoded character are non-zero unless the character is NUL -/
theorem encodeChar_takeWhile (c : Char) :
    (c = Char.ofNat 0 ∧ encodeChar c = [0]) ∨
    (c ≠ Char.ofNat 0 ∧ ∀ r : Bytes, (encodeChar c ++ r).takeWhile (· != 0) = encodeChar c ++ r.takeWhile (· != 0)) := by
  by_cases hc : c = Char.ofNat 0
  · left; subst hc; exact ⟨rfl, by decide⟩
  · refine Or.inr ⟨hc, fun r => ?_⟩
    obtain ⟨b0, t, he, h0, ht⟩ := encodeChar_cases c
    -- a continuation byte is not 0; neither is the first byte, which would decode to NUL
    have hall : ∀ b ∈ encodeChar c, (b != 0) = true := by
      rw [he]
      intro b hb
      rw [bne_iff_ne]
      rintro rfl
      rcases List.mem_cons.1 hb with rfl | hb
      · have hd := decodeFirst_encodeChar_append c []
        rw [he, List.append_nil, decodeFirst, if_pos (by decide)] at hd
        exact hc (Prod.mk.inj (Option.some.inj hd)).1.symm
      · exact absurd (ht 0 hb) (by decide)
    exact List.takeWhile_append_of_pos hall

/-- the first NUL byte of a valid string is its first NUL character -/
theorem takeWhile_encode (cs : List Char) :
    (encode cs).takeWhile (· != 0) = encode (cs.takeWhile (· != Char.ofNat 0)) := by
  induction cs with
  | nil => rfl
  | cons c cs ih =>
    rcases encodeChar_takeWhile c with ⟨hc, he⟩ | ⟨hc, hr⟩
    · subst hc
      simp only [encode_cons, he]
      simp
    · have : (c != Char.ofNat 0) = true := by simpa using hc
      simp only [encode_cons, List.takeWhile_cons, this, ↓reduceIte]
      rw [hr, ih]

theorem cstrSpec_encode (cs : List Char) : cstrSpec (encode cs) = encode (cstrText cs) := by
  unfold cstrSpec cstrText
  rw [takeWhile_encode, encode_append]
  congr 1

/-- pushing the pieces `core::fmt` produces -/
theorem allocCstrFmt_go (ps : List (List Char)) (s : State) (cs : List Char) (h : Holds s cs) :
    ∃ s', allocCstrFmt.go s (ps.map encode) = .ok () s' ∧ Holds s' (cs ++ ps.flatten) := by
  induction ps generalizing s cs with
  | nil => exact ⟨s, rfl, by simpa using h⟩
  | cons p ps ih =>
    obtain ⟨s1, hp, hh, _⟩ := (pushStr_spec .exact s p cs h).growable rfl
    simp only [List.map_cons, allocCstrFmt.go, hp]
    obtain ⟨s', hg, hh'⟩ := ih s1 (cs ++ p) hh
    exact ⟨s', hg, by simpa using hh'⟩

end Str
