/-
  Lemmas/CtrlState.lean — `CurChunk` (the current chunk as the bump computations see it) and how `setPos` /
  `setCurPos` act on it; `deallocate` / `shrink` / `shrink_slice` when they reclaim nothing (opt-out, or not the
  newest block) and the `deallocate` step in that case.  The `Gen.LibArith` helpers evaluated (`align_pos`,
  `bump_down`, …) and the `setPos` facts are those of Lemmas/FnShape, under the names this tower uses.
-/
import BumpProof.Lemmas.CtrlBase


namespace Ctrl
open Arena Rs Lemmas

export Arena.Fn (lib_up_align_eq lib_align_pos_up lib_align_pos_down)

theorem lib_bump_down_eq {x sz a : Nat} (ha : P2 a) (ha64 : a < 2 ^ 64) (hx : x < 2 ^ 64) :
    Gen.LibArith.bump_down x sz a = .ok (Spec.downAlign (x - sz) a) := Fn.lib_bump_down_eq ha ha64 hx

theorem MinAlignOk.lt64 {m : Nat} (h : MinAlignOk m) : m < 2 ^ 64 := by
  have := h.le; omega

export Arena.Fn (setCurPos_chunk setPos_setPos)

theorem setPos_cur (s : State) (i q : Nat) : (setPos s i q).cur = s.cur := rfl
theorem setPos_minAlign (s : State) (i q : Nat) : (setPos s i q).minAlign = s.minAlign := rfl
theorem setPos_live (s : State) (i q : Nat) : (setPos s i q).live = s.live := rfl
theorem setPos_frames (s : State) (i q : Nat) : (setPos s i q).frames = s.frames := rfl
/-- the state-level facts about the current chunk that the bump computations see -/
structure CurChunk (s : State) (i : Nat) (c : Chunk) : Prop where
  cur : s.cur = .chunk i
  get : s.chunks[i]? = some c

theorem CurChunk.setPos {s : State} {i : Nat} {c : Chunk} (h : CurChunk s i c) (q : Nat) :
    CurChunk (setPos s i q) i { c with pos := q } :=
  ⟨h.cur, Fn.setPos_getElem?_self h.get q⟩

theorem CurChunk.setCurPos {s : State} {i : Nat} {c : Chunk} (h : CurChunk s i c) (q : Nat) :
    CurChunk (setCurPos s q) i { c with pos := q } :=
  setCurPos_chunk h.cur q ▸ h.setPos q

theorem CurChunk.curPos {s : State} {i : Nat} {c : Chunk} (h : CurChunk s i c) (cfg : Cfg) :
    curPos cfg s = c.pos := Fn.curPos_chunk h.cur h.get

theorem CurChunk.freeRange {s : State} {i : Nat} {c : Chunk} (h : CurChunk s i c) (cfg : Cfg) :
    freeRange cfg s = if cfg.up then (c.pos, c.contentEnd cfg) else (c.contentStart cfg, c.pos) :=
  freeRange_chunk h.cur h.get

theorem CurChunk.curChunk? {s : State} {i : Nat} {c : Chunk} (h : CurChunk s i c) : curChunk? s = some c := by
  unfold Arena.curChunk?; simp only [h.cur, h.get]

theorem contentEnd_setpos (cfg : Cfg) (c : Chunk) (q : Nat) :
    Chunk.contentEnd cfg { c with pos := q } = c.contentEnd cfg := rfl
theorem contentStart_setpos (cfg : Cfg) (c : Chunk) (q : Nat) :
    Chunk.contentStart cfg { c with pos := q } = c.contentStart cfg := rfl

/-- `DEALLOCATES = false` / `SHRINKS = false`, or the block is not the newest one: `deallocate`, `shrink`
    (alignment fits) and `shrink_slice` move nothing -/
theorem deallocate_noop {cfg : Cfg} {s : State} {ptr size : Nat}
    (h : cfg.deallocates = false ∨ isLast cfg s ptr size = false) : deallocate cfg s ptr size = .ok s := by
  unfold deallocate
  rcases h with h | h <;> rw [h]
  · rfl
  · cases cfg.deallocates <;> rfl

theorem shrink_noop {cfg : Cfg} {s : State} {ptr oldSize : Nat} {newL : Layout} (hsz : newL.size ≤ oldSize)
    (hfit : alignFits ptr newL.align = true) (h : cfg.shrinks = false ∨ isLast cfg s ptr oldSize = false) :
    shrink cfg s ptr oldSize newL = .ok (s, .ok (ptr, oldSize)) := by
  unfold shrink
  have hc : (!cfg.shrinks || !isLast cfg s ptr oldSize) = true := by
    rcases h with h | h <;> rw [h]
    · rfl
    · exact Bool.or_true _
  simp only [assert_decide hsz, liftM_ok, R_ok_bind, hfit, hc, Bool.not_true, Bool.false_eq_true, ↓reduceIte]
  rfl

theorem shrinkSlice_noop {cfg : Cfg} {s : State} {ptr oldSize newSize ealign : Nat}
    (h : cfg.shrinks = false ∨ isLast cfg s ptr oldSize = false) :
    shrinkSlice cfg s ptr oldSize newSize ealign = .ok (s, none) := by
  unfold shrinkSlice
  rcases h with h | h <;> rw [h]
  · rfl
  · cases cfg.shrinks <;> rfl

/-- a `deallocate` step whose `deallocate` call (if any: `WithoutDealloc` makes none) leaves the arena alone
    only forgets the ghost block -/
theorem stepCore_deallocate_noop {cfg : Cfg} {g : GState} {b : Nat} {blk : Block} {via : Via}
    (hp : g.s.prepared = none) (hb : findBlock g.s b = .ok blk)
    (hd : via = .withoutDealloc ∨ deallocate cfg g.s blk.addr blk.size = .ok g.s) :
    stepCore cfg g (.deallocate b via) = .ok ({ g with s := removeBlock g.s b }, .unit) := by
  -- `unfold`, not `rw [stepCore]`: the latter first generates the equation lemmas of every operation
  unfold stepCore
  simp only [noPrepared, hp, Option.isNone_none, ↓reduceIte, R_pure_bind, hb, R_ok_bind]
  rcases hd with rfl | hd
  · rfl
  · rw [hd]; cases via <;> rfl

end Ctrl
