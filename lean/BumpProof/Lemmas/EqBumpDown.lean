/-
  Lemmas/EqBumpDown.lean — `bump_down` computes `Spec.bumpDown`.

  As in `EqBumpUp.lean`, the join points of the translated `do` block are characterised one by
  one.  Every path computes `D = downAlign (end - size) (max align min_align)`: the aligning step
  is elided only when the hints make `end - size` a multiple already.
-/
import BumpProof.Lemmas.RsOps
namespace Lemmas
open Gen.Bumping Rs C11

theorem bump_down_eq (p : BumpProps) (h : Valid false p) :
    bump_down p = .ok (Spec.bumpDown p.start p.«end» p.layout.size p.layout.align p.min_align) := by
  unfold bump_down
  rw [debug_assert_valid_eq h, ok_bind, min_chunk_align_eq]
  extract_lets s e L m aic sic smoa e0 elideL elideA ff asserts check remaining esat body
  have hf : Facts false s e m L.size L.align smoa := Valid.facts h
  show _ = Except.ok (Spec.bumpDown s e L.size L.align m)
  clear_value s e L m aic sic smoa
  clear h
  have hme := hf.min_dvd_end
  have hs16 := hf.start16
  have he16 := hf.end_ge
  have hsz' := hf.size_lt
  have hrS := hf.range
  obtain ⟨hm, hm16, hm16d, ha, ha64, hap, hmp, hs0, he0, hs64, he64, hsz, htr, -⟩ := hf
  have hM : P2 (Nat.max L.align m) := ha.max hm
  have haM := dvd_max_left ha hm
  have hmM := dvd_max_right ha hm
  have hM64 : Nat.max L.align m < 2 ^ 64 := Nat.max_lt.2 ⟨ha64, Nat.lt_of_le_of_lt hm16 (by decide)⟩
  -- stated now so that `generalize` below turns them into facts about `D`
  have hMm : L.align ≤ m → Nat.max L.align m = m := Nat.max_eq_right
  have hM16 : L.align ≤ 16 → Nat.max L.align m ∣ 16 := fun h => hM.dvd_of_le P2.sixteen (Nat.max_le.2 ⟨h, hm16⟩)
  have hda := down_align_eq hM hM64 (Nat.lt_of_le_of_lt (Nat.sub_le e L.size) he64)
  have hD1 := downAlign_dvd (e - L.size) (Nat.max L.align m)
  have hD2 := downAlign_le (e - L.size) (Nat.max L.align m)
  have hD4 : ∀ q, Nat.max L.align m ∣ q → q ≤ e - L.size → q ≤ Spec.downAlign (e - L.size) (Nat.max L.align m) :=
    fun q h1 h2 => le_downAlign_of_dvd hM.pos h1 h2
  have hDself : Nat.max L.align m ∣ e - L.size → Spec.downAlign (e - L.size) (Nat.max L.align m) = e - L.size :=
    downAlign_eq_self
  -- `start > 0`, so the test `size ≤ end` of the specification is subsumed by `start ≤ D`
  have hspec : Spec.bumpDown s e L.size L.align m =
      if s ≤ Spec.downAlign (e - L.size) (Nat.max L.align m) then
        some (Spec.downAlign (e - L.size) (Nat.max L.align m)) else none := by
    unfold Spec.bumpDown
    by_cases h : L.size ≤ e
    · rw [if_pos h]
    · have : ¬ s ≤ Spec.downAlign (e - L.size) (Nat.max L.align m) := fun hs =>
        Nat.not_le.2 hs0 (Nat.sub_eq_zero_of_le (Nat.le_of_not_le h) ▸ Nat.le_trans hs hD2)
      rw [if_neg h, if_neg this]
  rw [hspec]
  clear hspec
  rw [← rs_max_eq] at *
  generalize Spec.downAlign (e - L.size) (Rs.max L.align m) = D at *
  have hasserts : s ≤ D → asserts () D = .ok (some D) := by
    intro hsD
    have hD0 : 0 < D := Nat.lt_of_lt_of_le hs0 hsD
    have hDe : e ≥ D := Nat.le_trans hD2 (Nat.sub_le e L.size)
    have hDsz : e - D ≥ L.size :=
      Nat.le_sub_of_add_le' (Nat.add_le_of_le_sub (Nat.le_of_lt (Nat.lt_of_sub_pos (Nat.lt_of_lt_of_le hD0 hD2))) hD2)
    simp only [asserts, e0, assert_p2 ha, assert_p2 hm, sub_one_ok hap, sub_one_ok hmp,
      assert_band ha (Nat.dvd_trans haM hD1), assert_band hm (Nat.dvd_trans hmM hD1), assert_decide (Nat.pos_iff_ne_zero.1 hD0),
      assert_decide (show D ≥ s from hsD), sub_ok hDe, assert_decide hDsz, ok_bind, pure_eq_ok]
  have hcheck : check () D = .ok (if s ≤ D then some D else none) := by
    simp only [check]
    by_cases hsD : s ≤ D
    · rw [decide_eq_false (Nat.not_lt.2 hsD), if_neg Bool.false_ne_true, if_pos hsD, hasserts hsD]
    · rw [decide_eq_true (Nat.lt_of_not_le hsD), if_pos rfl, if_neg hsD, pure_eq_ok]
  -- `t0`: the constant size is known to be a multiple of `min_align`
  have hbody : ∀ t0, (t0 = true → m ∣ L.size) → body () t0 = .ok (if s ≤ D then some D else none) := by
    intro t0 ht0
    simp -zeta only [body]
    extract_lets _ elideM elide needs
    have halign : ∀ k : Nat → M (Option Nat),
        (if needs = true then down_align (e - L.size) (Rs.max L.align m) >>= k else k (e - L.size)) = k D := by
      intro k
      cases hn : needs
      · simp only [needs, elide, elideM, elideL, elideA, Bool.not_eq_false', Bool.and_eq_true, Bool.or_eq_true,
          decide_eq_true_eq] at hn
        obtain ⟨⟨⟨h1, _⟩, h2⟩, h3⟩ := hn
        have : m ∣ L.size := by
          rcases h3 with h3 | h3
          · exact Nat.le_antisymm h2 h3.2 ▸ htr h1
          · exact ht0 h3
        rw [if_neg Bool.false_ne_true, hDself (by rw [hMm h2]; exact Nat.dvd_sub hme this)]
      · rw [if_pos rfl, hda, ok_bind]
    clear_value needs
    by_cases b1 : (sic && decide (L.size ≤ 16)) = true
    · rw [if_pos b1]
      simp only [Bool.and_eq_true, decide_eq_true_eq] at b1
      rw [sub_ok (Nat.le_trans b1.2 he16), ok_bind, halign, hcheck]
    · rw [if_neg b1]
      by_cases b2 : (aic && decide (L.align ≤ 16)) = true
      · rw [if_pos b2]
        simp only [remaining, remaining_test hsz' he64 hs64 hrS]
        simp only [Bool.and_eq_true, decide_eq_true_eq] at b2
        by_cases hfit : s + L.size ≤ e
        · rw [decide_eq_false (Nat.not_lt.2 hfit), if_neg Bool.false_ne_true,
            sub_ok (Nat.le_trans (Nat.le_add_left _ _) hfit), ok_bind, halign]
          have hsD : s ≤ D := hD4 s (Nat.dvd_trans (hM16 b2.2) hs16) (Nat.le_sub_of_add_le hfit)
          rw [hasserts hsD, if_pos hsD]
        · rw [decide_eq_true (Nat.lt_of_not_le hfit), if_pos rfl, if_neg (by omega), pure_eq_ok]
      · rw [if_neg b2]
        simp only [esat, saturating_sub, hda, ok_bind]
        exact hcheck
  cases sic
  · exact hbody false (fun h => nomatch h)
  · rw [if_pos rfl, rem_ok (Nat.pos_iff_ne_zero.1 hmp), ok_bind]
    exact hbody _ (fun h => Nat.dvd_of_mod_eq_zero (of_decide_eq_true h))

end Lemmas
