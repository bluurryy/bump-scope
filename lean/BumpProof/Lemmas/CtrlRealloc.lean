/-
  Lemmas/CtrlRealloc.lean — allocate / deallocate / allocate again on the current chunk, through the
  wide-integer specification (C13 part 3): the second allocation lands on the address of the first.
  Before that: when the free range of the current chunk is valid (`valid_of_regular`, also used for the
  example states; `valid_setPos`), and `deallocate` of the newest block.
-/
import BumpProof.Lemmas.CtrlState


namespace Ctrl
open Arena Rs Lemmas

theorem valid_of_regular {cfg : Cfg} {s : State} {L : Layout} {h : Hints} {up : Bool} {a b : Nat}
    (hfr : freeRange cfg s = (a, b)) (ha0 : a ≠ 0) (hb0 : b ≠ 0) (ha : a < 2 ^ 64) (hb : b < 2 ^ 64)
    (hm : MinAlignOk s.minAlign) (hL : L.Valid) (ht : Truthful L h)
    (hreg : a ≤ b ∧ b - a ≤ Rs.IMAX ∧ (if up then s.minAlign ∣ a ∧ 16 ∣ b else 16 ∣ a ∧ s.minAlign ∣ b)) :
    C11.Valid up (bumpProps cfg s L h) := by
  -- the goals: start ≠ 0, end ≠ 0, start < 2 ^ 64, end < 2 ^ 64, `Regular`
  refine ⟨⟨?_, ?_, ?_, ?_, hm, hL, ht⟩, Or.inl ?_⟩
  all_goals ((try unfold C11.Regular); simp only [bumpProps_start, bumpProps_end, bumpProps_min, hfr])
  · exact ha0
  · exact hb0
  · exact ha
  · exact hb
  · exact hreg

theorem regular_of_success {cfg : Cfg} {s : State} {L : Layout} {h : Hints} {k : Kind} {r : (Nat × Nat) × State}
    (hv : C11.Valid cfg.up (bumpProps cfg s L h)) (h1 : tryCur cfg k s L h = .ok (some r)) :
    ∃ i c, CurChunk s i c ∧ C11.Regular cfg.up (bumpProps cfg s L h) := by
  rcases hv.2 with hreg | hd
  · obtain ⟨i, c, hcur, hc, -⟩ := freeRange_nonempty (cfg := cfg) (s := s) hreg.1
    exact ⟨i, c, ⟨hcur, hc⟩, hreg⟩
  · rw [tryCur_dummy k hv hd] at h1
    cases h1

theorem valid_setPos {cfg : Cfg} {s : State} {i : Nat} {c : Chunk} {L : Layout} {h : Hints} {t : Nat}
    (hc : CurChunk s i c) (hv : C11.ValidCommon (bumpProps cfg s L h))
    (hreg : C11.Regular cfg.up (bumpProps cfg s L h))
    (hlo : (freeRange cfg s).1 ≤ t) (hhi : t ≤ (freeRange cfg s).2) (hmt : s.minAlign ∣ t) :
    C11.Valid cfg.up (bumpProps cfg (setPos s i t) L h) := by
  obtain ⟨h1, h2, -, h4, hm, hL, htr⟩ := hv
  obtain ⟨-, hcap, hal⟩ := hreg
  have hfr' := (hc.setPos t).freeRange cfg
  rw [bumpProps_start] at h1 hcap hal
  rw [bumpProps_end] at h2 h4 hcap hal
  rw [bumpProps_min] at hal
  rw [hc.freeRange cfg] at h1 h2 h4 hcap hal hlo hhi
  -- the bounds by order lemmas: with truncated subtraction and `≠ 0` facts around `omega` is slow to check
  have hne : ∀ {a : Nat}, a ≠ 0 → a ≤ t → t ≠ 0 := fun ha hat h0 => ha (Nat.le_zero.1 (h0 ▸ hat))
  cases hup : cfg.up <;>
    simp only [hup, Bool.false_eq_true, ↓reduceIte, contentStart_setpos, contentEnd_setpos] at h1 h2 h4 hcap hal hlo hhi hfr'
  · exact valid_of_regular hfr' h1 (hne h1 hlo) (Nat.lt_of_le_of_lt (Nat.le_trans hlo hhi) h4)
      (Nat.lt_of_le_of_lt hhi h4) hm hL htr ⟨hlo, Nat.le_trans (Nat.sub_le_sub_right hhi _) hcap, hal.1, hmt⟩
  · exact valid_of_regular hfr' (hne h1 hlo) h2 (Nat.lt_of_le_of_lt hhi h4) h4 hm hL htr
      ⟨hhi, Nat.le_trans (Nat.sub_le_sub_left hlo _) hcap, hmt, hal.2⟩

/-- `deallocate` of the newest block moves the position back over it (`t` = the block's address
    upwards, its end downwards) -/
theorem deallocate_last {cfg : Cfg} {s : State} {i : Nat} {c : Chunk} {ptr size t : Nat}
    (hd : cfg.deallocates = true) (hc : CurChunk s i c) (hm : MinAlignOk s.minAlign)
    (hl : isLast cfg s ptr size = true) (ht : t = if cfg.up then ptr else ptr + size)
    (hmt : s.minAlign ∣ t) (hb : if cfg.up then t + 16 ≤ 2 ^ 64 else t < 2 ^ 64) :
    deallocate cfg s ptr size = .ok (setPos s i t) := by
  have hle := hm.le
  have hgt : ¬ t > Rs.MAX := by rw [MAX_eq]; split at hb <;> omega
  unfold deallocate deallocAssumeLast
  simp only [hd, hl, hc.cur, Bool.not_true, Bool.false_eq_true, ↓reduceIte, ← ht, hgt, setCurPos_chunk hc.cur]
  rw [Fn.lib_align_pos_self hm.p2 hm.lt64 hmt (by split at hb <;> omega)]; rfl

/-- upwards, start and size aligned to the minimum alignment: the block ends at the new position, and
    the same request with the free range starting at the block gives the same answer -/
theorem bumpUp_again {a e sz al ma p q : Nat} (hal : P2 al) (hma : P2 ma) (haa : ma ∣ a) (hms : ma ∣ sz)
    (h : Spec.bumpUp a e sz al ma = some (p, q)) :
    q = p + sz ∧ a ≤ p ∧ p + sz ≤ e ∧ ma ∣ p ∧ Spec.bumpUp p e sz al ma = some (p, q) := by
  unfold Spec.bumpUp at h ⊢
  simp only at h ⊢
  split at h
  case isFalse => cases h
  rename_i hfit
  cases h
  have hmp : ma ∣ Spec.upAlign a al := hma.dvd_upAlign hal haa
  have hnp := upAlign_eq_self hma.pos ((Nat.dvd_add_right hmp).2 hms)
  rw [upAlign_eq_self hal.pos (upAlign_dvd a al), if_pos hfit]
  exact ⟨hnp, le_upAlign a hal.pos, hfit, hmp, rfl⟩

/-- downwards: the same request with the free range ending at the END of the block gives the same answer
    (padding between the block and the old position is not part of that range) -/
theorem bumpDown_again {a e sz al ma p : Nat} (hal : P2 al) (hma : P2 ma) (hms : ma ∣ sz)
    (h : Spec.bumpDown a e sz al ma = some p) :
    a ≤ p + sz ∧ p + sz ≤ e ∧ ma ∣ p + sz ∧ Spec.bumpDown a (p + sz) sz al ma = some p := by
  unfold Spec.bumpDown at h ⊢
  simp only at h ⊢
  split at h
  case isFalse => cases h
  split at h
  case isFalse => cases h
  rename_i hsz hfit
  cases h
  have hM := downAlign_dvd (e - sz) (Nat.max al ma)
  rw [if_pos (Nat.le_add_left _ _), Nat.add_sub_cancel, downAlign_eq_self hM, if_pos hfit]
  exact ⟨Nat.le_trans hfit (Nat.le_add_right _ _), Nat.add_le_of_le_sub hsz (downAlign_le _ _),
    (Nat.dvd_add_right (Nat.dvd_trans (dvd_max_right hal hma) hM)).2 hms, rfl⟩

theorem CurChunk.trySpec_alloc {s : State} {i : Nat} {c : Chunk} (hc : CurChunk s i c) (cfg : Cfg) (L : Layout) :
    tryCurSpec cfg .alloc s L =
      if cfg.up then (Spec.bumpUp c.pos (c.contentEnd cfg) L.size L.align s.minAlign).map
        fun r => ((r.1, 0), Arena.setPos s i r.2)
      else (Spec.bumpDown (c.contentStart cfg) c.pos L.size L.align s.minAlign).map
        fun p => ((p, 0), Arena.setPos s i p) := by
  unfold tryCurSpec
  rw [hc.freeRange cfg]
  cases cfg.up <;> simp only [Bool.false_eq_true, ↓reduceIte, setCurPos_chunk hc.cur]

/-- After a successful allocation of `L` (size a multiple of the minimum alignment) the block is the
    newest one; deallocating it moves the position back (upwards to its address, downwards to its END);
    allocating `L` again returns the SAME address and leads to the SAME state.  (`hms`: otherwise, upwards, the
    position after the block is padded up to the minimum alignment and `isLast` does not recognise the block;
    downwards the end of the block would not be an aligned position to go back to.) -/
theorem realloc_same {cfg : Cfg} {s s1 : State} {L : Layout} {p x : Nat} (hd : cfg.deallocates = true)
    (hv : C11.Valid cfg.up (bumpProps cfg s L Hints.custom)) (hms : s.minAlign ∣ L.size)
    (h1 : tryCur cfg .alloc s L Hints.custom = .ok (some ((p, x), s1))) :
    isLast cfg s1 p L.size = true ∧
    ∃ s2, deallocate cfg s1 p L.size = .ok s2 ∧ curPos cfg s2 = (if cfg.up then p else p + L.size) ∧
      tryCur cfg .alloc s2 L Hints.custom = .ok (some ((p, x), s1)) := by
  have hmOk : MinAlignOk s.minAlign := hv.1.min_align
  have ha : P2 L.align := layout_p2 hv.1.layout
  obtain ⟨i, c, hc, hreg⟩ := regular_of_success hv h1
  have h64 := hv.1.end_lt
  have hal := hreg.2.2
  rw [tryCur_eq_of_valid hv, hc.trySpec_alloc] at h1
  -- `q`: position after the allocation, `t`: after the deallocation
  suffices h : ∃ q t, s1 = setPos s i q ∧ x = 0 ∧ curPos cfg (setPos s i q) = (if cfg.up then p + L.size else p) ∧
      t = (if cfg.up then p else p + L.size) ∧ s.minAlign ∣ t ∧ (if cfg.up then t + 16 ≤ 2 ^ 64 else t < 2 ^ 64) ∧
      (freeRange cfg s).1 ≤ t ∧ t ≤ (freeRange cfg s).2 ∧
      tryCurSpec cfg .alloc (setPos s i t) L = some ((p, 0), setPos s i q) by
    obtain ⟨q, t, rfl, rfl, hq, ht, hmt, hb, hlo, hhi, hs2⟩ := h
    have hl : isLast cfg (setPos s i q) p L.size = true := by
      unfold isLast; rw [hq]; cases cfg.up <;> simp
    refine ⟨hl, setPos s i t, ?_, ?_, ?_⟩
    · rw [deallocate_last hd (hc.setPos q) hmOk hl ht hmt hb, setPos_setPos]
    · rw [← ht, (hc.setPos t).curPos cfg]
    · rw [tryCur_eq_of_valid (valid_setPos hc hv.1 hreg hlo hhi hmt), hs2]
  simp only [bumpProps_start, bumpProps_end, bumpProps_min, hc.freeRange cfg] at hal h64 ⊢
  cases hup : cfg.up <;> simp only [hup, Bool.false_eq_true, ↓reduceIte] at hal h64 h1 ⊢
  · obtain ⟨r, hb, hr⟩ := Option.map_eq_some_iff.1 (Except.ok.inj h1)
    cases hr
    obtain ⟨hlo, hhi, hmt, hagain⟩ := bumpDown_again ha hmOk.p2 hms hb
    refine ⟨p, p + L.size, rfl, rfl, (hc.setPos p).curPos cfg, rfl, hmt, Nat.lt_of_le_of_lt hhi h64, hlo, hhi, ?_⟩
    rw [(hc.setPos (p + L.size)).trySpec_alloc]
    simp only [hup, Bool.false_eq_true, ↓reduceIte, contentStart_setpos, setPos_minAlign, hagain, Option.map_some,
      setPos_setPos]
  · obtain ⟨⟨r, q⟩, hb, hr⟩ := Option.map_eq_some_iff.1 (Except.ok.inj h1)
    cases hr
    obtain ⟨rfl, hlo, hhi, hmt, hagain⟩ := bumpUp_again ha hmOk.p2 hal.1 hms hb
    have hpe : r ≤ c.contentEnd cfg := Nat.le_trans (Nat.le_add_right _ _) hhi
    refine ⟨r + L.size, r, rfl, rfl, (hc.setPos _).curPos cfg, rfl, hmt,
      Nat.le_trans (Nat.add_le_add_right hpe 16) (add_sixteen_le hal.2 h64), hlo, hpe, ?_⟩
    rw [(hc.setPos r).trySpec_alloc]
    simp only [hup, ↓reduceIte, contentEnd_setpos, setPos_minAlign, hagain, Option.map_some, setPos_setPos]

end Ctrl
