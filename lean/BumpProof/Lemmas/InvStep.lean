/-
  Lemmas/InvStep.lean — `Arena.Hist.Inv` is preserved by `.onClaimed op` (an operation addressed to the claimed
  original handle while a claim guard lives), then by `stepCore` (every covered constructor, from the `inv_X` of the
  `Lemmas/Inv*.lean` files), by `step`, and along runs; runs of a concatenated history; the induction along a history
  (`runOps_preserves`).
-/
import BumpProof.Lemmas.InvGrow
import BumpProof.Lemmas.InvPreparedOps
import BumpProof.Lemmas.InvShrink
import BumpProof.Lemmas.InvTryWith

section
namespace Arena.Hist
open Rs
variable {cfg : Cfg}

theorem inv_onClaimed {g g' : GState} {out : Out} {op : Op} (h : Inv cfg g)
    (hs : stepCore cfg g (.onClaimed op) = .ok (g', out)) : Inv cfg g' := by
  obtain ⟨_, ⟨rfl, _⟩ | ⟨b, via, blk, _, _, rfl, _⟩ | ⟨b, L, via, blk, _, hL, hb, _, hfit, rfl, _⟩⟩ := ok_onClaimed hs
  · exact h
  · exact h.dropBlock b
  · -- the very same byte range is registered again, with the weaker alignment
    obtain ⟨hmem, rfl⟩ := Mem.findBlock_ok hb
    exact (h.dropBlock blk.id).withBlock
      (liveOK_sub_of_dropped h.live hmem (h.live.removeBlock _) rfl rfl (fun x hx => Or.inl hx) (Nat.le_refl _)
        (Nat.le_refl _) (alignFits_dvd hfit) _)
      (cur_chunk_of_live (g := g) h hmem) hL.1

end Arena.Hist
end

section
set_option linter.unusedSimpArgs false
set_option linter.unusedVariables false

namespace Arena.Hist
open Rs

variable {cfg : Cfg}

theorem inv_stepCore {g g' : GState} {op : Op} {out : Out} (hcov : op.Covered) (h : Inv cfg g)
    (hr : RespsOK cfg g.s) (hf : RespsFresh g.s) (hs : stepCore cfg g op = .ok (g', out)) : Inv cfg g' := by
  cases op with
  | newWithSize n => exact inv_newWithSize h hr hf hs
  | newWithCapacity L => exact inv_newWithCapacity h hr hf hs
  | newUnallocated => exact inv_newUnallocated h hs
  | drop => exact inv_drop h hs
  | allocate L z via => exact inv_allocate h hr hf hs
  | deallocate b via => exact inv_deallocate h hs
  | grow b L z via => exact inv_grow h hr hf hs
  | shrink b L via => exact inv_shrink h hr hf hs
  | allocLayout L hh => exact inv_allocLayout h hr hf hs
  | shrinkSlice b n => exact inv_shrinkSlice h hr hf hs
  | prepare L => exact inv_prepare h hr hf hs
  | commit size rev => obtain ⟨_, hc⟩ := h.commits_commit hs; exact inv_commits h hc
  | prepareSlice esize ealign minCap rev =>
    have hp : Rs.is_power_of_two ealign = true := by simpa [Op.Covered, Op.covered] using hcov
    exact inv_prepareSlice hp h hr hf hs
  | fillPrepared len seed => exact inv_fillPrepared h hs
  | commitSlice len => obtain ⟨_, hc⟩ := h.commits_commitSlice hs; exact inv_commits h hc
  | abandonPrepared => exact inv_abandonPrepared h hs
  | reserve n dyn => exact inv_reserve h hr hf hs
  | scopeEnter => exact inv_scopeEnter h hs
  | scopeExit => exact inv_scopeExit h hs
  | checkpoint k => exact inv_checkpoint h hs
  | resetTo k => exact inv_resetTo h hs
  | reset => exact inv_reset h hs
  | resetToStart => exact inv_resetToStart h hs
  | claim => exact inv_claim h hs
  | claimEnd => exact inv_claimEnd h hs
  | onClaimed op' => exact inv_onClaimed h hs
  | alignedEnter n => exact inv_alignedEnter h hs
  | alignedExit => exact inv_alignedExit h hs
  | scopedAlignedEnter n => exact inv_scopedAlignedEnter h hs
  | scopedAlignedExit => exact inv_scopedAlignedExit h hs
  | withSettings n ga cl => exact inv_withSettings h hs
  | allocTryWith L off vsize ok inner mut_ =>
    have hsz : L.align ∣ L.size := hcov.tryWith
    exact inv_allocTryWith hsz h hr hf hs
  | write b seed => exact inv_write h hs
  | split b at_ => exact inv_split h hs

/-- the invariant is inductive: every covered operation preserves it under a correct environment (`EnvOK`) -/
theorem inv_step {g g' : GState} {op : Op} {resps : List BaseResp} {out : Out} {reqs : List BaseReq}
    (hcov : op.Covered) (h : Inv cfg g) (henv : EnvOK cfg g resps)
    (hs : step cfg g op resps = .ok (g', out, reqs)) : Inv cfg g' :=
  inv_stepCore hcov (h.install resps) henv.1 henv.2 (step_ok hs).1

theorem runOps_cons {g g'' : GState} {op : Op} {resps : List BaseResp} {rest : List (Op × List BaseResp)}
    (h : runOps cfg g ((op, resps) :: rest) = .ok g'') :
    ∃ g' out reqs, step cfg g op resps = .ok (g', out, reqs) ∧ runOps cfg g' rest = .ok g'' := by
  unfold runOps at h
  simp only [bind, Except.bind] at h
  split at h
  · cases h
  · rename_i x hx
    obtain ⟨g', out, reqs⟩ := x
    exact ⟨g', out, reqs, hx, h⟩

theorem runOps_cons_eq {g g1 : GState} {op : Op} {resps : List BaseResp} {out : Out} {reqs : List BaseReq}
    (rest : List (Op × List BaseResp)) (hs : step cfg g op resps = .ok (g1, out, reqs)) :
    runOps cfg g ((op, resps) :: rest) = runOps cfg g1 rest := by
  rw [runOps]
  simp only [bind, Except.bind, hs]

theorem runOps_append : ∀ (a b : List (Op × List BaseResp)) (g g'' : GState),
    runOps cfg g (a ++ b) = .ok g'' ↔ ∃ g', runOps cfg g a = .ok g' ∧ runOps cfg g' b = .ok g'' := by
  intro a
  induction a with
  | nil =>
    intro b g g''
    simp only [List.nil_append]
    constructor
    · intro h; exact ⟨g, rfl, h⟩
    · rintro ⟨g', h1, h2⟩
      cases h1; exact h2
  | cons x a ih =>
    intro b g g''
    obtain ⟨op, resps⟩ := x
    constructor
    · intro h
      obtain ⟨g1, out, reqs, hs, hr⟩ := runOps_cons (show runOps cfg g ((op, resps) :: (a ++ b)) = .ok g'' from h)
      obtain ⟨g', h1, h2⟩ := (ih b g1 g'').1 hr
      exact ⟨g', by rw [runOps_cons_eq a hs]; exact h1, h2⟩
    · rintro ⟨g', h1, h2⟩
      obtain ⟨g1, out, reqs, hs, hr⟩ := runOps_cons h1
      show runOps cfg g ((op, resps) :: (a ++ b)) = .ok g''
      rw [runOps_cons_eq (a ++ b) hs]
      exact (ih b g1 g'').2 ⟨g', hr, h2⟩

theorem runEnvOK_append : ∀ (a b : List (Op × List BaseResp)) (g : GState),
    RunEnvOK cfg g a → (∀ g', runOps cfg g a = .ok g' → RunEnvOK cfg g' b) → RunEnvOK cfg g (a ++ b) := by
  intro a
  induction a with
  | nil => intro b g _ h; exact h g rfl
  | cons x a ih =>
    intro b g h1 h2
    obtain ⟨op, resps⟩ := x
    obtain ⟨e1, e2⟩ := h1
    refine ⟨e1, fun g1 out reqs hs => ih b g1 (e2 g1 out reqs hs) (fun g' hr => h2 g' ?_)⟩
    rw [runOps_cons_eq a hs]; exact hr

theorem runEnvOK_of_append : ∀ (a b : List (Op × List BaseResp)) (g : GState),
    RunEnvOK cfg g (a ++ b) → RunEnvOK cfg g a ∧ (∀ g', runOps cfg g a = .ok g' → RunEnvOK cfg g' b) := by
  intro a
  induction a with
  | nil => intro b g h; exact ⟨trivial, fun g' hr => by cases hr; exact h⟩
  | cons x a ih =>
    intro b g h
    obtain ⟨op, resps⟩ := x
    obtain ⟨e1, e2⟩ := h
    refine ⟨⟨e1, fun g1 out reqs hs => (ih b g1 (e2 g1 out reqs hs)).1⟩, fun g' hr => ?_⟩
    obtain ⟨g1, out, reqs, hs, hr'⟩ := runOps_cons hr
    exact (ih b g1 (e2 g1 out reqs hs)).2 g' hr'

/-- Along a covered history under a correct environment the invariant holds, and with it whatever every such
    step preserves (`Q`: a side condition on each operation with its responses). -/
theorem runOps_preserves {P : GState → Prop} {Q : Op × List BaseResp → Prop}
    (hstep : ∀ {g g' op resps out reqs}, op.Covered → Q (op, resps) → Inv cfg g → EnvOK cfg g resps → P g →
      step cfg g op resps = .ok (g', out, reqs) → P g')
    {w : List (Op × List BaseResp)} {g g' : GState} (hi : Inv cfg g) (hp : P g) (hc : AllCovered w)
    (hq : ∀ x ∈ w, Q x) (he : RunEnvOK cfg g w) (hr : runOps cfg g w = .ok g') : Inv cfg g' ∧ P g' := by
  induction w generalizing g with
  | nil => cases hr; exact ⟨hi, hp⟩
  | cons x rest ih =>
    obtain ⟨op, resps⟩ := x
    obtain ⟨g1, out, reqs, hs, hrest⟩ := runOps_cons hr
    have hcov := hc _ List.mem_cons_self
    exact ih (inv_step hcov hi he.1 hs) (hstep hcov (hq _ List.mem_cons_self) hi he.1 hp hs)
      (fun y hy => hc y (List.mem_cons_of_mem _ hy)) (fun y hy => hq y (List.mem_cons_of_mem _ hy))
      (he.2 g1 out reqs hs) hrest

/-- every state reached by a finite history of covered operations under a correct
    environment satisfies the invariant -/
theorem inv_runOps : ∀ (ops : List (Op × List BaseResp)) (g g' : GState), Inv cfg g → AllCovered ops →
    RunEnvOK cfg g ops → runOps cfg g ops = .ok g' → Inv cfg g' :=
  fun _ _ _ hi hc he hr =>
    (runOps_preserves (P := fun _ => True) (Q := fun _ => True) (fun _ _ _ _ _ _ => trivial) hi trivial hc
      (fun _ _ => trivial) he hr).1

theorem inv_reachable (hc : CfgOK cfg) {ops : List (Op × List BaseResp)} {g : GState}
    (hcov : AllCovered ops) (henv : RunEnvOK cfg (initG cfg) ops) (hr : runOps cfg (initG cfg) ops = .ok g) :
    Inv cfg g :=
  inv_runOps ops _ _ (inv_init hc) hcov henv hr

end Arena.Hist
end
