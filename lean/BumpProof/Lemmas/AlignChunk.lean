/-
  Lemmas/AlignChunk.lean — the second half of `BumpAlignGuard::drop` (`Arena.alignChunkAt`): what it can do.
-/
import BumpProof.Lemmas.GeomBasic

namespace Arena
open Rs

variable {cfg : Cfg}

theorem alignChunkAt_cur (s : State) (n : Nat) : alignChunkAt cfg s n s.cur = .ok s := by
  unfold alignChunkAt
  cases hc : s.cur with
  | chunk j => simp only [↓reduceIte]; rfl
  | _ => rfl

theorem alignChunkAt_cur' {s s' : State} {n : Nat} (h : alignChunkAt cfg s n s.cur = .ok s') : s' = s := by
  rw [alignChunkAt_cur] at h; cases h; rfl

/-- all five statistics (`count`, `size`, `capacity`, `allocated`, `remaining`) are computed from the position of
    the CURRENT chunk and the address ranges of all chunks: moving the position of another chunk changes none -/
theorem stats_setPos_other {s : State} {j p : Nat} (hne : s.cur ≠ .chunk j) :
    stats cfg (setPos s j p) = stats cfg s := by
  unfold stats
  show (match s.cur with
    | .chunk i => _
    | _ => _) = _
  cases hcur : s.cur with
  | chunk i =>
    have hij : j ≠ i := fun e => hne (e ▸ hcur)
    have hcap := map_modify_eq s.chunks j (fun c => { c with pos := p }) (Chunk.capacity cfg) (fun _ _ => rfl)
    have hsz := map_modify_eq s.chunks j (fun c => { c with pos := p }) (·.size) (fun _ _ => rfl)
    simp only [setPos_getElem?_ne s p hij]
    cases s.chunks[i]? with
    | none => rfl
    | some c =>
      unfold setPos
      simp only [List.length_modify, List.map_take, List.map_drop, hcap, hsz]
  | _ => rfl

theorem curPos_setPos_other {s : State} {j p : Nat} (hne : s.cur ≠ .chunk j) :
    curPos cfg (setPos s j p) = curPos cfg s :=
  Fn.curPos_congr cfg rfl fun i hi => by rw [setPos_getElem?_ne s p fun e => hne (by rw [hi, e])]

theorem stats_alignChunkAt {s s' : State} {n : Nat} {st : Cur} (h : alignChunkAt cfg s n st = .ok s') :
    stats cfg s' = stats cfg s := by
  rcases alignChunkAt_cases h with rfl | ⟨j, c, p, _, hne, _, _, rfl⟩
  · rfl
  · exact stats_setPos_other hne

theorem alignChunkAt_cur_eq {s s' : State} {n : Nat} {st : Cur} (h : alignChunkAt cfg s n st = .ok s') :
    s'.cur = s.cur := by
  rcases alignChunkAt_cases h with rfl | ⟨j, c, p, _, _, _, _, rfl⟩ <;> rfl

theorem curPos_alignChunkAt {s s' : State} {n : Nat} {st : Cur} (h : alignChunkAt cfg s n st = .ok s') :
    curPos cfg s' = curPos cfg s := by
  rcases alignChunkAt_cases h with rfl | ⟨j, c, p, _, hne, _, _, rfl⟩
  · rfl
  · exact curPos_setPos_other hne

end Arena
