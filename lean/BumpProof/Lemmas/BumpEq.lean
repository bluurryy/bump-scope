/-
  Lemmas/BumpEq.lean — what Props/C11.lean rests on: generated code = specification
  (`EqBumpUp`, `EqBumpDown`, `EqPrepareUp`, `EqPrepareDown`) and the properties of the
  specification (`SpecProps`).
-/
import BumpProof.Lemmas.EqBumpUp
import BumpProof.Lemmas.EqBumpDown
import BumpProof.Lemmas.EqPrepareUp
import BumpProof.Lemmas.EqPrepareDown
import BumpProof.Lemmas.SpecProps
