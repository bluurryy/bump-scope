/-
  Lemmas/HistReachable.lean — runs: reachability is closed under further covered steps / histories, `step` from
  `stepCore`, and the environments of the examples (`AllFail`, `envOK_allFail`, `envOK_nil`).
-/
import BumpProof.Props.Hist

set_option linter.unusedSimpArgs false
set_option linter.unusedVariables false

namespace Arena.Hist
open Rs

variable {cfg : Cfg}

theorem runOps_nil (g : GState) : runOps cfg g [] = .ok g := rfl

theorem allCovered_append {a b : List (Op × List BaseResp)} (ha : AllCovered a) (hb : AllCovered b) :
    AllCovered (a ++ b) := by
  intro x hx
  rcases List.mem_append.mp hx with h | h
  · exact ha x h
  · exact hb x h

theorem Reachable.append {g g' : GState} (h : Reachable cfg g) {w : List (Op × List BaseResp)}
    (hcov : AllCovered w) (henv : RunEnvOK cfg g w) (hr : runOps cfg g w = .ok g') : Reachable cfg g' := by
  obtain ⟨ops, h1, h2, h3⟩ := h
  refine ⟨ops ++ w, allCovered_append h1 hcov, runEnvOK_append ops w _ h2 (fun g1 hg1 => ?_), ?_⟩
  · rw [h3] at hg1; cases hg1; exact henv
  · exact (runOps_append ops w _ _).2 ⟨g, h3, hr⟩

theorem Reachable.snoc {g g' : GState} (h : Reachable cfg g) {op : Op} {resps : List BaseResp} {out : Out}
    {reqs : List BaseReq} (hcov : op.Covered) (henv : EnvOK cfg g resps)
    (hs : Arena.step cfg g op resps = .ok (g', out, reqs)) : Reachable cfg g' := by
  refine h.append (w := [(op, resps)]) ?_ ⟨henv, fun _ _ _ _ => trivial⟩ ?_
  · intro x hx
    simp only [List.mem_singleton] at hx
    subst hx; exact hcov
  · rw [runOps_cons_eq [] hs]; rfl

theorem step_of_stepCore {g g' : GState} {op : Op} {resps : List BaseResp} {out : Out}
    (h : stepCore cfg (install g resps) op = .ok (g', out)) (hr : g'.s.resps = []) :
    step cfg g op resps = .ok (g', out, g'.s.reqs) := by
  unfold step
  have : stepCore cfg { g with s := { g.s with resps := resps, reqs := [] } } op = .ok (g', out) := h
  simp only [bind, Except.bind, this, hr, List.isEmpty_nil, Bool.not_true, Bool.false_eq_true, ↓reduceIte]
  rfl

/-- a refusing base allocator -/
def AllFail (resps : List BaseResp) : Prop := ∀ r ∈ resps, r = BaseResp.fail

theorem envOK_allFail (g : GState) {resps : List BaseResp} (h : AllFail resps) : EnvOK cfg g resps := by
  refine ⟨fun r hr => ?_, ?_, fun p gr hpg => ?_⟩
  · have : r = .fail := h r hr
    subst this; trivial
  · show List.Pairwise _ resps
    induction resps with
    | nil => exact List.Pairwise.nil
    | cons x xs ih =>
      refine List.Pairwise.cons (fun y hy => ?_) (ih (fun r hr => h r (List.mem_cons_of_mem _ hr)))
      have : x = .fail := h x List.mem_cons_self
      subst this; trivial
  · have := h _ hpg
    cases this

theorem envOK_nil (g : GState) : EnvOK cfg g [] := envOK_allFail g (by intro r hr; cases hr)

end Arena.Hist
