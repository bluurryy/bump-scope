/-
  Lemmas/HistNoFaultRealloc.lean — NO-FAULT companion of the preservation of `Arena.Hist.Inv` (calculus `NoBug`,
  Lemmas/HistNoFault.lean): `shrink_slice`, `grow`, `shrink`, `alloc_try_with`, operations addressed to the claimed
  handle, `Op.noFaultCovered` and the main theorem `noFault_stepCore_partial`.
-/
import BumpProof.Lemmas.HistNoFaultAlloc
import BumpProof.Lemmas.InvGrow
import BumpProof.Props.C14
import BumpProof.Lemmas.InvTryWith
set_option linter.unusedSimpArgs false
set_option linter.unusedVariables false
namespace Arena.Hist
open Rs Lemmas
variable {cfg : Cfg}

/-! ## what the reallocating functions ask of the old block holds of every live block, also of an empty one -/

theorem Inv.reallocOK {g : GState} (h : Inv cfg g) (hfr : RespsFresh g.s) {blk : Block} (hmem : blk ∈ g.s.live)
    {L : Layout} (hans : BaseOK cfg g.s L) : ReallocOK cfg g.s blk.addr blk.size L :=
  ⟨h.disj, hfr, (Nat.eq_zero_or_pos blk.size).imp id fun hs => liveBlock_of_placed (h.live.placed blk hmem hs), hans⟩

theorem noFault_shrinkSlice {g : GState} {b newSize : Nat} (h : Inv cfg g) :
    NoBug (stepCore cfg g (.shrinkSlice b newSize)) := by
  refine .bind (fun _ => check_err) fun _ _ => .bind (fun _ => findBlock_err) fun blk hblk => .guard fun hchk => ?_
  have hmem := (Mem.findBlock_ok hblk).1
  obtain ⟨k, hk, hk2⟩ := h.aligns blk hmem
  refine .bind (.of_ensures (shrinkSlice_ok h.cfgOK h.geom ⟨k, hk2⟩ (hk2 ▸ Nat.pow_lt_pow_right (by decide) hk)
    (h.live.aligned blk hmem) (Nat.le_of_not_lt hchk) (h.blockInCur hmem)) h.disj) fun x _ => ?_
  · obtain ⟨s1, _ | np⟩ := x <;> exact .pure _

theorem noFault_grow {g : GState} {b : Nat} {L : Layout} {z : Bool} {via : Via} (h : Inv cfg g)
    (hr : RespsOK cfg g.s) (hfr : RespsFresh g.s) (hans : BaseOK cfg g.s L) :
    NoBug (stepCore cfg g (.grow b L z via)) := by
  refine .bind (fun _ => check_err) fun _ hv => .bind (fun _ => check_err) fun _ _ =>
    .bind (fun _ => findBlock_err) fun blk hblk => .guard fun hchk => ?_
  have hL := validLayout_valid hv
  have hmem := (Mem.findBlock_ok hblk).1
  have hsz : blk.size ≤ L.size := Nat.le_of_not_lt hchk
  refine .bind (.of_ensures (grow_ok h.cfgOK h.geom hr hL (h.blockInCur hmem)) ⟨hsz, h.reallocOK hfr hmem hans⟩)
    fun x hx => ?_
  · obtain ⟨s1, _ | np⟩ := x
    · exact .pure _
    · cases z
      · exact .pure _
      · -- the tail `[np + blk.size, np + L.size)` of the new block is writable
        have hbc := h.blockInCur hmem
        obtain ⟨g1, _, _⟩ := C10.grow_inv h.cfgOK h.geom hr hL hbc hx
        obtain ⟨d1, _⟩ := C10.trace_disjoint (C10.grow_trace h.cfgOK h.geom hr hL hbc hx) h.disj hfr
        obtain ⟨_, _, _, a4, _⟩ := (grow_hist h.cfgOK h.geom hr h.disj hfr h.live hmem hL hbc hx).ok np rfl
        exact .bind (.of_ok (placed_writable g1 d1 (a := np + blk.size) (n := L.size - blk.size)
          (fun hpos => placed_sub (a4 (by omega)) (Nat.le_add_right _ _) (by omega)) _)) fun _ _ => .pure _

theorem noFault_shrink {g : GState} {b : Nat} {L : Layout} {via : Via} (h : Inv cfg g)
    (hr : RespsOK cfg g.s) (hfr : RespsFresh g.s) (hans : BaseOK cfg g.s L) :
    NoBug (stepCore cfg g (.shrink b L via)) := by
  refine .bind (fun _ => check_err) fun _ hv => .bind (fun _ => check_err) fun _ _ =>
    .bind (fun _ => findBlock_err) fun blk hblk => .guard fun hchk => ?_
  have hL := validLayout_valid hv
  have hmem := (Mem.findBlock_ok hblk).1
  have hsz : L.size ≤ blk.size := Nat.le_of_not_lt hchk
  have fin : ∀ x : State × Except AErr (Nat × Nat), NoBug (match x with
      | (s', .error e) => (Pure.pure (({ g with s := s' } : GState), Out.err e) : R (GState × Out))
      | (s', .ok (np, nsize)) =>
        let (s3, o) := okOut (removeBlock s' b) np nsize L.align (Nat.min blk.init L.size)
        Pure.pure ({ g with s := s3 }, o)) := by
    intro x
    obtain ⟨s1, _ | v⟩ := x <;> exact .pure _
  have hq := And.intro hsz (h.reallocOK hfr hmem hans)
  exact .ite (fun _ => .bind (.of_ensures (shrinkWithoutShrink_ok h.cfgOK h.geom hr hL) hq) fun x _ => fin x)
    fun _ => .bind (.of_ensures (shrink_ok h.cfgOK h.geom hr hL (h.blockInCur hmem)) hq) fun x _ => fin x

/-! ## alloc_try_with(_mut)

`stepCore`'s `.allocTryWith` is cut into the allocation of the `Result`, the closure (`tryInner`) and the end
(`tryTail`), see `Lemmas/StepTryWith.lean`. -/

/-- the end of `alloc_try_with`: shrinking the `Result` block to the value (`Ok`) or resetting to the checkpoint
    taken at the start (`Err`) -/
theorem tryTail_noBug (hc : CfgOK cfg) {g : GState} {ptr size : Nat} {s2 : State} (m : Mid cfg g ptr size s2)
    {off vsize : Nat} (hov : off + vsize ≤ size) (ok cs : Bool) : NoBug (tryTail cfg g s2 ptr off vsize ok cs) := by
  have hm := m.inv.geom.minAlign
  obtain ⟨j, hj⟩ := m.cur
  unfold tryTail
  cases ok <;> cases cs <;> simp only [Bool.false_eq_true, ↓reduceIte]
  · exact .bind (.pure _) fun _ _ => .pure _
  · exact .bind (resetTo_noBug hc m.inv.geom hm m.cp.geom) fun _ _ => .pure _
  · exact .bind (.pure _) fun _ _ => .pure _
  · obtain ⟨e, h16, h64, hle⟩ := m.end16
    have hmle := hm.le
    have hu := Fn.lib_up_align_eq (x := ptr + off + vsize) hm.p2 hm.lt64 (by rw [two_pow_64] at h64 ⊢; omega)
    have hd := Fn.lib_down_align_eq (x := ptr + off) hm.p2 hm.lt64 (by omega)
    refine .ite (fun _ => .bind (.of_ok ⟨_, by rw [hu]; rfl⟩) fun np _ => ?_)
      fun _ => .bind (.of_ok ⟨_, by rw [hd]; rfl⟩) fun np _ => ?_
    all_goals rw [hj]; exact .bind (.pure _) fun _ _ => .pure _

/-- the closure of `alloc_try_with`: it may allocate `inner` through the same arena -/
def nfInner (cfg : Cfg) (s1 : State) (inner : Option Layout) (mut_ : Bool) : R (State × Option (Nat × Layout)) :=
  match inner with
  | some Li => do
    if mut_ then throw (.contract "closure of alloc_try_with_mut cannot use the arena")
    validLayout Li
    match ← alloc cfg s1 Li with
    | (s', .error _) => pure (s', none)
    | (s', .ok p) => pure (s', some (p, Li))
  | none => pure (s1, none)

theorem tryInner_noBug (hc : CfgOK cfg) {s1 : State} (hg : GeomInv cfg s1) (hr : RespsOK cfg s1)
    {inner : Option Layout} {m : Bool} (hans : ∀ Li, inner = some Li → BaseOK cfg s1 Li) :
    NoBug (tryInner cfg s1 inner m) := by
  cases inner with
  | none => exact .pure _
  | some Li =>
    refine .guard fun _ => .bind (fun _ => check_err) fun _ hv => ?_
    refine .bind (.of_ensures (alloc_ensures hc hg hr (validLayout_valid hv)) (hans Li rfl)) fun x _ => ?_
    obtain ⟨s2, _ | p⟩ := x <;> exact .pure _

theorem noFault_allocTryWith {g : GState} {L : Layout} {off vsize : Nat} {ok : Bool} {inner : Option Layout}
    {mut_ : Bool} (hsz : L.align ∣ L.size) (h : Inv cfg g) (hr : RespsOK cfg g.s) (hfr : RespsFresh g.s)
    (hans : BaseOK cfg g.s L)
    (hans2 : ∀ Li, inner = some Li → ∀ s1 r,
      allocGeneric cfg (if mut_ then .prepare else .alloc) g.s L Hints.sized Hints.custom = .ok (s1, r) → BaseOK cfg s1 Li) :
    NoBug (stepCore cfg g (.allocTryWith L off vsize ok inner mut_)) := by
  rw [tryWith_eq]
  refine .bind (fun _ => check_err) fun _ hv => .bind (fun _ => check_err) fun _ hp => .guard fun hov => ?_
  have hL := validLayout_valid hv
  refine .bind (.of_ensures (allocGeneric_ok h.cfgOK h.geom hr (if mut_ then Kind.prepare else Kind.alloc)
    hL (hints := Hints.sized) (hSlow := Hints.custom) (fun _ => hsz) (custom_sma L)
    (tryKind_ne_range mut_)) hans) fun y hx => ?_
  obtain ⟨s1, _ | ⟨ptr, x⟩⟩ := y
  · exact .pure _
  -- the states in which the closure starts and returns are those of `inv_allocTryWith`
  obtain ⟨m1, room1, hR1⟩ := Mid.start h hr hfr (noPrepared_ok hp) hL hsz hx
  refine .bind (tryInner_noBug h.cfgOK m1.inv.geom m1.resps fun Li hi => hans2 Li hi s1 _ hx) fun z hin => ?_
  obtain ⟨s2, io⟩ := z
  exact tryTail_noBug h.cfgOK (m1.closure h.cfgOK room1 hR1 hin).1 (Nat.le_of_not_gt hov) _ _

/-! ## operations addressed to the claimed (original) handle -/

/-- The constructors for which `noFault_stepCore_partial` is proved.  Side conditions on numeric arguments that
    come from Rust values (as in `Op.covered`): `newWithSize n` takes a `usize` (no proof uses this one: the size
    computation answers `none` for a hint that does not fit); the element alignment of
    `prepareSlice` is a power of two; the `Result` layout of `allocTryWith` has a size that is a multiple of its
    alignment (size of a Rust type; the model calls the fast path with `Hints.sized`).  On the claimed handle: the hint of `allocLayout` must be truthful (the
    model checks this contract only for the active handle); `grow / deallocate / shrink` of a block through the
    claimed handle are not covered (see `noFault_onClaimed_block` for what is missing). -/
def _root_.Arena.Op.noFaultCovered : Op → Bool
  | .newWithSize n => decide (n < 2 ^ 64)
  | .prepareSlice _ ealign _ _ => Rs.is_power_of_two ealign
  | .onClaimed (.allocLayout L h) => !h.sma || L.size % L.align == 0
  | .onClaimed (.grow _ _ _ _) => false
  | .onClaimed (.deallocate _ _) => false
  | .onClaimed (.shrink _ _ _) => false
  | .allocTryWith L _ _ _ _ _ => L.size % L.align == 0
  | _ => true


/-- every allocating call on the claimed handle returns `AllocError` (C14): the
    `throw (.ub "… succeeded on a claimed handle")` branches of the model are unreachable -/
theorem noFault_onClaimed {g : GState} {op : Op} (hcov : (Op.onClaimed op).noFaultCovered = true) (h : Inv cfg g) :
    NoBug (stepCore cfg g (.onClaimed op)) := by
  have hm : Ctrl.MinAlignOk g.s.minAlign := h.geom.minAlign
  refine .guard fun _ => ?_
  cases op with
  | claim => exact .pure _
  | allocate L z via =>
    refine .bind (fun _ => check_err) fun _ hv => ?_
    rw [C14.alloc_claimed cfg { g.s with cur := .claimed } L rfl hm (validLayout_valid hv)]
    exact .pure _
  | allocLayout L hh =>
    refine .bind (fun _ => check_err) fun _ hv => ?_
    have ht : Ctrl.Truthful L hh := by
      intro hsma
      simp only [Op.noFaultCovered, hsma, Bool.not_true, Bool.false_or, beq_iff_eq] at hcov
      exact Nat.dvd_of_mod_eq_zero hcov
    rw [C14.allocGeneric_claimed cfg .alloc { g.s with cur := .claimed } L hh Hints.custom rfl hm (validLayout_valid hv) ht]
    exact .pure _
  | reserve n dyn =>
    cases dyn
    · simp only [Bool.false_eq_true, ↓reduceIte, C14.reserve_claimed cfg { g.s with cur := .claimed } n rfl]
      exact .pure _
    · simp only [↓reduceIte]
      rw [C14.reserveDyn_claimed cfg { g.s with cur := .claimed } n rfl hm]
      exact .pure _
  | grow | deallocate | shrink => cases hcov
  | _ => exact .contract _

/-- no live block touches the address of the static dummy chunk header (the crate's dummy chunks are statics of
    the binary; the base allocator never hands out memory that overlaps them — an assumption about the
    environment that `EnvOK` / `Inv` do not record) -/
def DummyApart (cfg : Cfg) (s : State) : Prop :=
  ∀ blk ∈ s.live, isLast cfg { s with cur := .claimed } blk.addr blk.size = false

/-- `grow / deallocate / shrink` of the block `b` through the claimed handle: no bug fault provided THIS block does
    not pass the `is_last` test of the dummy chunk (otherwise the model runs into `as_non_dummy_unchecked` on the
    dummy chunk) -/
theorem noFault_onClaimed_addressed {g : GState} {op : Op} (h : Inv cfg g) {b : Nat}
    (hda : ∀ blk, findBlock g.s b = .ok blk → isLast cfg { g.s with cur := .claimed } blk.addr blk.size = false)
    (hop : (∃ L z via, op = .grow b L z via) ∨ (∃ via, op = .deallocate b via) ∨ (∃ L via, op = .shrink b L via)) :
    NoBug (stepCore cfg g (.onClaimed op)) := by
  have hm : Ctrl.MinAlignOk g.s.minAlign := h.geom.minAlign
  refine .guard fun _ => ?_
  rcases hop with ⟨L, z, via, rfl⟩ | ⟨via, rfl⟩ | ⟨L, via, rfl⟩
  · refine .bind (fun _ => check_err) fun _ hv => .bind (fun _ => findBlock_err) fun blk hblk => .guard fun hchk => ?_
    rw [C14.grow_claimed cfg { g.s with cur := .claimed } blk.addr blk.size L rfl hm (validLayout_valid hv)
      (Nat.le_of_not_lt hchk) (hda blk hblk)]
    exact .pure _
  · refine .bind (fun _ => findBlock_err) fun blk hblk => ?_
    rw [C14.deallocate_claimed cfg { g.s with cur := .claimed } blk.addr blk.size (hda blk hblk)]
    exact .pure _
  · refine .bind (fun _ => check_err) fun _ hv => .bind (fun _ => findBlock_err) fun blk hblk =>
      .guard fun hchk => .guard fun hnfit => ?_
    rw [C14.shrink_claimed cfg { g.s with cur := .claimed } blk.addr blk.size L (Nat.le_of_not_lt hchk)
      (alignFits_of_not hnfit) (hda blk hblk)]
    exact .pure _

/-- the same when no live block at all sits at the dummy chunk's address (`DummyApart`).  Not part of
    `noFault_stepCore_partial` because `DummyApart` does not follow from `Inv`. -/
theorem noFault_onClaimed_block {g : GState} {op : Op} (h : Inv cfg g) (hda : DummyApart cfg g.s)
    (hop : (∃ b L z via, op = .grow b L z via) ∨ (∃ b via, op = .deallocate b via) ∨ (∃ b L via, op = .shrink b L via)) :
    ∀ f, stepCore cfg g (.onClaimed op) = .error f → ¬ Fault.isBug f := by
  have hda' : ∀ b blk, findBlock g.s b = .ok blk →
      isLast cfg { g.s with cur := .claimed } blk.addr blk.size = false :=
    fun b blk hblk => hda blk (Mem.findBlock_ok hblk).1
  rcases hop with ⟨b, L, z, via, rfl⟩ | ⟨b, via, rfl⟩ | ⟨b, L, via, rfl⟩
  · exact noFault_onClaimed_addressed h (hda' b) (.inl ⟨L, z, via, rfl⟩)
  · exact noFault_onClaimed_addressed h (hda' b) (.inr (.inl ⟨via, rfl⟩))
  · exact noFault_onClaimed_addressed h (hda' b) (.inr (.inr ⟨L, via, rfl⟩))

/-- non-vacuity of `DummyApart` (together with `Inv`): the arena after one `allocate` of 24 bytes has one live block,
    at `0x40020`, far from the dummy chunk -/
example : ∃ g : GState, Inv exCfg g ∧ DummyApart exCfg g.s ∧ g.s.live.length = 1 := by
  have hs : ∃ g' out, stepCore exCfg (install (initG exCfg) [.granted 0x40000 4000])
      (.allocate { size := 24, align := 8 } false .plain) = .ok (g', out) ∧
      (∀ blk ∈ g'.s.live, isLast exCfg { g'.s with cur := .claimed } blk.addr blk.size = false) ∧
      g'.s.live.length = 1 := ⟨_, _, rfl, by decide, rfl⟩
  obtain ⟨g', out, h1, h2, h3⟩ := hs
  exact ⟨g', inv_allocate ((inv_init exCfg_ok).install _) exFresh_env.1 exFresh_env.2 h1, h2, h3⟩

/-- the full statement (all 34 constructors, no side condition on the operation) -/
def noFault_stepCore_target : Prop :=
  ∀ (cfg : Cfg) (g : GState) (op : Op), Inv cfg g → RespsOK cfg g.s → RespsFresh g.s → Answered cfg g.s op →
    ∀ f, stepCore cfg g op = .error f → ¬ Fault.isBug f

/-- NO FAULT (C10): from a state satisfying the invariant of histories, with a base allocator that behaves
    correctly (`RespsOK`, `RespsFresh`) and answers the request of the operation (`Answered`), a covered
    operation never ends in an overflow / failed debug assertion (`.rs`) or in undefined behaviour (`.ub`):
    it succeeds, or the caller violated the documented contract (`.contract`). -/
theorem noFault_stepCore_partial {g : GState} {op : Op} (hcov : op.noFaultCovered = true) (h : Inv cfg g)
    (hr : RespsOK cfg g.s) (hf : RespsFresh g.s) (hans : Answered cfg g.s op) :
    ∀ f, stepCore cfg g op = .error f → ¬ Fault.isBug f := by
  cases op with
  | newWithSize n => exact noFault_newWithSize h hr hans
  | newWithCapacity L => exact noFault_newWithCapacity h hr hans
  | newUnallocated => exact noFault_newUnallocated
  | drop => exact noFault_wholeArena
  | allocate L z via => exact noFault_allocate h hr hf hans
  | deallocate b via => exact noFault_deallocate h
  | grow b L z via => exact noFault_grow h hr hf hans
  | shrink b L via => exact noFault_shrink h hr hf hans
  | allocLayout L hh => exact noFault_allocLayout h hr hans
  | shrinkSlice b n => exact noFault_shrinkSlice h
  | prepare L => exact noFault_prepare h hr hans
  | commit size rev => exact noFault_commit h
  | prepareSlice esize ealign minCap rev =>
    exact noFault_prepareSlice (by simpa [Op.noFaultCovered] using hcov) h hr hans
  | fillPrepared len seed => exact noFault_fillPrepared h
  | commitSlice len => exact noFault_commitSlice h
  | abandonPrepared => exact noFault_abandonPrepared
  | reserve n dyn => exact noFault_reserve h hr hans
  | scopeEnter => exact noFault_scopeEnter
  | scopeExit => exact noFault_scopeExit h
  | checkpoint k => exact noFault_checkpoint
  | resetTo k => exact noFault_resetTo h
  | reset => exact noFault_wholeArena
  | resetToStart => exact noFault_wholeArena
  | claim => exact noFault_claim
  | claimEnd => exact noFault_claimEnd
  | onClaimed op => exact noFault_onClaimed hcov h
  | alignedEnter n => exact noFault_alignedEnter h
  | alignedExit => exact noFault_alignedExit h
  | scopedAlignedEnter n => exact noFault_scopedAlignedEnter h
  | scopedAlignedExit => exact noFault_scopedAlignedExit h
  | withSettings n ga cl => exact noFault_withSettings h
  | allocTryWith L off vsize ok inner mut_ =>
    exact noFault_allocTryWith (Nat.dvd_of_mod_eq_zero (by simpa [Op.noFaultCovered] using hcov)) h hr hf hans.1 hans.2
  | write b seed => exact noFault_write h
  | split b at_ => exact noFault_split

/-- non-vacuity: a fresh arena (upwards, `MIN_ALIGN = 8`) to which the base allocator is about to grant 4000
    bytes at `0x40000` satisfies all hypotheses for a zeroed `allocate` of 24 bytes, which asks for 496 bytes -/
example : ∃ g : GState, Inv exCfg g ∧ RespsOK exCfg g.s ∧ RespsFresh g.s ∧
    Answered exCfg g.s (.allocate { size := 24, align := 8 } true .plain) ∧
    (Op.allocate { size := 24, align := 8 } true .plain).noFaultCovered = true ∧
    ∃ g' out, stepCore exCfg g (.allocate { size := 24, align := 8 } true .plain) = .ok (g', out) := by
  refine ⟨install (initG exCfg) [.granted 0x40000 4000], (inv_init exCfg_ok).install _, exFresh_env.1, exFresh_env.2,
    ?_, rfl, ⟨_, _, rfl⟩⟩
  intro size hs
  have : requestSize exCfg (install (initG exCfg) [.granted 0x40000 4000]).s { size := 24, align := 8 } = some 496 := by
    decide
  rw [this] at hs; cases hs
  exact ⟨_, _, rfl, by decide, by decide, by decide, by decide⟩

end Arena.Hist
