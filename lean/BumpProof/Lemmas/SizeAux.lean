/-
  Lemmas/SizeAux.lean — helper lemmas for Lemmas/SizeEq.lean (property C12): how far aligning
  up can move an address, checked addition, and the small generated helpers of
  `Gen.SizeConfig`.  The alignment arithmetic and the `Rs` operators are those of
  `Lemmas/Align.lean` and `Lemmas/RsOps.lean`.
-/
import BumpProof.Gen.SizeConfig
import BumpProof.Lemmas.RsOps

namespace Lemmas.Size
open Rs Spec

export Lemmas (downAlign_dvd downAlign_le le_downAlign_of_dvd upAlign_dvd le_upAlign upAlign_le_of_dvd)

/-- aligning an `a`-aligned address up to a power of two `b` moves it by at most `b - a`
    (not at all if `b ≤ a`) -/
theorem upAlign_le_p2 {x a b : Nat} (ha : Lemmas.P2 a) (hb : Lemmas.P2 b) (hax : a ∣ x) :
    upAlign x b ≤ x + (b - a) := by
  rcases ha.dvd_or_dvd hb with h | h
  · -- `upAlign x b < x + b`, both multiples of `a`
    have := add_le_of_dvd_of_lt (Nat.dvd_trans h (upAlign_dvd x b)) ((Nat.dvd_add_right hax).2 h) (upAlign_lt x hb.pos)
    have := Nat.le_of_dvd hb.pos h
    omega
  · rw [upAlign_eq_self hb.pos (Nat.dvd_trans h hax)]; omega

/-- the same predicate as `Lemmas.P2` -/
def P2 (a : Nat) : Prop := ∃ k, a = 2 ^ k

theorem P2.is_power_of_two {a : Nat} (h : P2 a) : Rs.is_power_of_two a = true :=
  Lemmas.P2.is_power_of_two h

theorem checked_add_some {a b : Nat} (h : a + b < 2 ^ 64) : Rs.checked_add a b = some (a + b) := by
  unfold Rs.checked_add Rs.MAX; rw [if_pos (by omega)]

theorem checked_add_none {a b : Nat} (h : 2 ^ 64 ≤ a + b) : Rs.checked_add a b = none := by
  unfold Rs.checked_add Rs.MAX; rw [if_neg (by omega)]

theorem checked_add_eq (a b : Nat) :
    Rs.checked_add a b = if a + b < 2 ^ 64 then some (a + b) else none := by
  by_cases h : a + b < 2 ^ 64
  · rw [if_pos h, checked_add_some h]
  · rw [if_neg h, checked_add_none (by omega)]

open Gen.SizeConfig

/-- rewriting with it lets `omega` see through `Nat.max` -/
theorem natmax (a b : Nat) : Nat.max a b = Max.max a b := rfl

theorem ite_gt_eq_max (a b : Nat) : (if a > b then a else b) = Nat.max a b := by
  rw [natmax]; split <;> omega

theorem max_eq (a b : Nat) : Gen.SizeConfig.max a b = .ok (Nat.max a b) := by
  rw [← ite_gt_eq_max]
  unfold Gen.SizeConfig.max
  by_cases h : a > b <;> simp only [h, decide_true, decide_false, ↓reduceIte] <;> rfl

/- `down_align`, `up_align` here are the copies in `size_config.rs` (`Gen.SizeConfig`), not those of
   `bumping.rs` that `Lemmas/RsOps.lean` speaks of.  `down_align` has the same body in both, so one evaluation
   serves (also for `Gen.LibArith.down_align_usize`); `up_align` differs (no `NonZero` here). -/
theorem down_align_eq {x a : Nat} (ha : Lemmas.P2 a) (ha64 : a < 2 ^ 64) (hx : x < 2 ^ 64) :
    down_align x a = .ok (downAlign x a) :=
  Lemmas.down_align_eq ha ha64 hx

theorem up_align_eq {x a : Nat} (ha : Lemmas.P2 a) (ha64 : a < 2 ^ 64) :
    up_align x a = .ok (if upAlign x a < 2 ^ 64 then some (upAlign x a) else none) := by
  unfold up_align
  rw [assert_p2 ha, ok_bind, sub_one_ok ha.pos, ok_bind]
  simp only []
  by_cases h : x + (a - 1) < 2 ^ 64
  · rw [checked_add_some h, if_pos ((ha.upAlign_lt_iff ha64 x).2 h)]
    simp only []
    rw [ha.band_bnot ha64 h]; rfl
  · rw [checked_add_none (by omega), if_neg (fun hlt => h ((ha.upAlign_lt_iff ha64 x).1 hlt))]
    rfl

theorem offset_add_layout_eq {x : Nat} {L : Layout} (ha : Lemmas.P2 L.align) (ha64 : L.align < 2 ^ 64) :
    offset_add_layout x L =
      .ok (if upAlign x L.align + L.size < 2 ^ 64 then some (upAlign x L.align + L.size) else none) := by
  unfold offset_add_layout
  simp only [up_align_eq ha ha64, bind, Except.bind, pure, Except.pure]
  by_cases h : upAlign x L.align < 2 ^ 64
  · rw [if_pos h]
    simp only []
    rw [checked_add_eq]
    by_cases h2 : upAlign x L.align + L.size < 2 ^ 64
    · simp only [if_pos h2]
    · simp only [if_neg h2]
  · rw [if_neg h, if_neg (by omega)]

end Lemmas.Size
