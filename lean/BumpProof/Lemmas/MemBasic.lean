/-
  Lemmas/MemBasic.lean — the predicates on chunk memory used by C01 / C02 (`ChunksDisjoint`, `DataOK`,
  `InChunks`, `BlockInChunks`, `MemExt`, `OnlyDataChanged`) and what `readByte` depends on: the list
  `memOf s` of (base, size, bytes) per chunk, read at the first chunk whose range contains the address.
  Moving a bump position does not change it; appending chunks does not change it inside old chunks.

  The `Lemmas/Mem*` files take `MemWF`, `HeadFresh`, `C11.Valid` as hypotheses; of `Arena/Inv.lean` they use only
  `Arena.ChunksDisjoint` and `Arena.MinAlignOK` (in `MemLive`), not `GeomInv`; `disjoint_iff` below and `Lemmas/InvBasic.lean` (`liveBlock_of_placed`)
  connect the two vocabularies.
-/
import BumpProof.Arena.Inv
import BumpProof.Lemmas.FnShape
import BumpProof.Lemmas.FnWrite

set_option linter.unusedSimpArgs false

namespace Arena.Mem
open Rs

def ChunksDisjoint (cs : List Chunk) : Prop :=
  cs.Pairwise (fun c d => c.base + c.size ≤ d.base ∨ d.base + d.size ≤ c.base)

def DataOK (cs : List Chunk) : Prop := ∀ c ∈ cs, c.data.size = c.size

def InChunks (s : State) (a : Nat) : Prop := ∃ c ∈ s.chunks, c.base ≤ a ∧ a < c.base + c.size

def BlockInChunks (s : State) (lo hi : Nat) : Prop := ∃ c ∈ s.chunks, c.base ≤ lo ∧ hi ≤ c.base + c.size

/-- what `readByte` depends on -/
abbrev MemCell := Nat × Nat × Array UInt8
def _root_.Arena.Chunk.memCell (c : Chunk) : MemCell := (c.base, c.size, c.data)
def memOf (s : State) : List MemCell := s.chunks.map Chunk.memCell

def MemExt (s s' : State) : Prop := ∃ extra, memOf s' = memOf s ++ extra

/-- `Chunk.geom` (Lemmas/FnWrite) without `data.size` -/
def _root_.Arena.Chunk.memGeom (c : Chunk) : Nat × Nat × Nat × Nat × Nat := (c.base, c.size, c.pos, c.granted, c.reqSize)

def OnlyDataChanged (s s' : State) : Prop :=
  s' = { s with chunks := s'.chunks } ∧ s'.chunks.map Chunk.memGeom = s.chunks.map Chunk.memGeom

/-- what well-formedness depends on -/
def _root_.Arena.Chunk.memShape (c : Chunk) : Nat × Nat × Nat := (c.base, c.size, c.data.size)
def shapeOf (s : State) : List (Nat × Nat × Nat) := s.chunks.map Chunk.memShape

def cellHas (a : Nat) (m : MemCell) : Bool := decide (m.1 ≤ a ∧ a < m.1 + m.2.1)

def readMem (m : List MemCell) (a : Nat) : UInt8 :=
  match m.find? (cellHas a) with
  | some c => c.2.2.getD (a - c.1) 0
  | none => 0

theorem readByte_eq_readMem (s : State) (a : Nat) : readByte s a = readMem (memOf s) a := by
  unfold readByte readMem memOf
  rw [List.find?_map]
  have : (cellHas a ∘ Chunk.memCell) = fun c : Chunk => decide (c.base ≤ a ∧ a < c.base + c.size) := rfl
  rw [this]
  cases s.chunks.find? (fun c : Chunk => decide (c.base ≤ a ∧ a < c.base + c.size)) <;> rfl

theorem readByte_congr {s s' : State} (h : memOf s' = memOf s) (a : Nat) : readByte s' a = readByte s a := by
  rw [readByte_eq_readMem, readByte_eq_readMem, h]

theorem inChunks_iff (s : State) (a : Nat) : InChunks s a ↔ ∃ m ∈ memOf s, cellHas a m = true := by
  unfold InChunks memOf
  constructor
  · rintro ⟨c, hc, h1, h2⟩
    exact ⟨c.memCell, List.mem_map_of_mem hc, by simp [cellHas, Chunk.memCell, h1, h2]⟩
  · rintro ⟨m, hm, h⟩
    obtain ⟨c, hc, rfl⟩ := List.mem_map.mp hm
    exact ⟨c, hc, of_decide_eq_true h⟩

theorem MemExt.refl (s : State) : MemExt s s := ⟨[], by simp⟩

theorem MemExt.of_eq {s s' : State} (h : memOf s' = memOf s) : MemExt s s' := ⟨[], by simp [h]⟩

theorem MemExt.trans {s t u : State} (h1 : MemExt s t) (h2 : MemExt t u) : MemExt s u := by
  obtain ⟨e1, h1⟩ := h1
  obtain ⟨e2, h2⟩ := h2
  exact ⟨e1 ++ e2, by rw [h2, h1, List.append_assoc]⟩

theorem MemExt.readByte {s s' : State} (h : MemExt s s') {a : Nat} (ha : InChunks s a) :
    readByte s' a = readByte s a := by
  obtain ⟨e, h⟩ := h
  rw [readByte_eq_readMem, readByte_eq_readMem, h]
  unfold readMem
  rw [List.find?_append]
  rw [inChunks_iff] at ha
  obtain ⟨m, hm, hh⟩ := ha
  cases hf : (memOf s).find? (cellHas a) with
  | some c => rfl
  | none =>
    rw [List.find?_eq_none] at hf
    exact absurd hh (hf m hm)

theorem shapeOf_eq_map_memOf (s : State) : shapeOf s = (memOf s).map (fun m => (m.1, m.2.1, m.2.2.size)) := by
  unfold shapeOf memOf; rw [List.map_map]; rfl

theorem shapeOf_of_memOf {s s' : State} (h : memOf s' = memOf s) : shapeOf s' = shapeOf s := by
  rw [shapeOf_eq_map_memOf, shapeOf_eq_map_memOf, h]

theorem blockInChunks_of_shape_append {s s' : State} {e : List (Nat × Nat × Nat)} (h : shapeOf s' = shapeOf s ++ e)
    {lo hi : Nat} (hb : BlockInChunks s lo hi) : BlockInChunks s' lo hi := by
  obtain ⟨c, hc, h1, h2⟩ := hb
  have : c.memShape ∈ shapeOf s' := by rw [h]; exact List.mem_append_left _ (List.mem_map_of_mem hc)
  obtain ⟨d, hd, hcd⟩ := List.mem_map.mp this
  have e1 : d.base = c.base := congrArg (·.1) hcd
  have e2 : d.size = c.size := congrArg (·.2.1) hcd
  exact ⟨d, hd, by omega, by omega⟩

theorem MemExt.blockInChunks {s s' : State} (h : MemExt s s') {lo hi : Nat} (hb : BlockInChunks s lo hi) :
    BlockInChunks s' lo hi := by
  obtain ⟨e, h⟩ := h
  refine blockInChunks_of_shape_append (e := e.map (fun m => (m.1, m.2.1, m.2.2.size))) ?_ hb
  rw [shapeOf_eq_map_memOf, shapeOf_eq_map_memOf, h, List.map_append]

theorem MemExt.inChunks {s s' : State} (h : MemExt s s') {a : Nat} (ha : InChunks s a) : InChunks s' a :=
  -- `InChunks s a` unfolds to `BlockInChunks s a (a + 1)`
  h.blockInChunks (lo := a) (hi := a + 1) ha

theorem BlockInChunks.inChunks {s : State} {lo hi a : Nat} (h : BlockInChunks s lo hi) (h1 : lo ≤ a) (h2 : a < hi) :
    InChunks s a := by
  obtain ⟨c, hc, h3, h4⟩ := h
  exact ⟨c, hc, by omega, by omega⟩

theorem ChunksDisjoint.of_ne {l : List Chunk} (hd : ChunksDisjoint l) {i j : Nat} {ci cj : Chunk}
    (hi : l[i]? = some ci) (hj : l[j]? = some cj) (hij : i ≠ j) :
    ci.base + ci.size ≤ cj.base ∨ cj.base + cj.size ≤ ci.base := by
  obtain ⟨hli, rfl⟩ := List.getElem?_eq_some_iff.mp hi
  obtain ⟨hlj, rfl⟩ := List.getElem?_eq_some_iff.mp hj
  rcases Nat.lt_or_gt_of_ne hij with h | h
  · exact List.pairwise_iff_getElem.mp hd i j hli hlj h
  · exact (List.pairwise_iff_getElem.mp hd j i hlj hli h).symm

/-- the disjointness of `Arena/Inv.lean` speaks of indices; it is the form every lemma below the statements consumes -/
theorem _root_.Arena.disjoint_iff (s : State) : Arena.ChunksDisjoint s ↔ ChunksDisjoint s.chunks :=
  ⟨fun h => List.pairwise_iff_getElem.2 fun i j hi hj hij =>
      h i j _ _ (Nat.ne_of_lt hij) (List.getElem?_eq_getElem hi) (List.getElem?_eq_getElem hj),
   fun h _ _ _ _ hij ha hb => h.of_ne ha hb hij⟩

theorem findIdx?_owner {l : List Chunk} (hd : ChunksDisjoint l) {i : Nat} {c : Chunk} (hi : l[i]? = some c)
    {a : Nat} (h1 : c.base ≤ a) (h2 : a < c.base + c.size) :
    l.findIdx? (fun c : Chunk => decide (c.base ≤ a ∧ a < c.base + c.size)) = some i := by
  obtain ⟨hlt, hget⟩ := List.getElem?_eq_some_iff.mp hi
  rw [List.findIdx?_eq_some_iff_getElem]
  refine ⟨hlt, by rw [hget]; exact decide_eq_true ⟨h1, h2⟩, fun j hj hc => ?_⟩
  have := hd.of_ne (List.getElem?_eq_getElem (by omega)) hi (Nat.ne_of_lt hj)
  have := of_decide_eq_true hc
  omega

theorem find?_of_findIdx? {α} (p : α → Bool) (l : List α) (i : Nat) (h : l.findIdx? p = some i) :
    l.find? p = l[i]? := by
  rw [List.find?_eq_bind_findIdx?_getElem?, h]; rfl

theorem find?_modify {α} (p : α → Bool) (f : α → α) (hp : ∀ x, p (f x) = p x) (l : List α) (i : Nat) :
    (l.modify i f).find? p = if l.findIdx? p = some i then (l.find? p).map f else l.find? p := by
  have hidx : (l.modify i f).findIdx? p = l.findIdx? p := by
    have := congrArg (List.findIdx? id) (map_modify_eq l i f p fun x _ => hp x)
    rwa [List.findIdx?_map, List.findIdx?_map] at this
  rw [List.find?_eq_bind_findIdx?_getElem?, List.find?_eq_bind_findIdx?_getElem?, hidx]
  cases l.findIdx? p with
  | none => rfl
  | some j =>
    simp only [Option.bind_some, List.getElem?_modify, Option.some.injEq]
    by_cases hij : i = j
    · subst hij; simp
    · simp [hij, Ne.symm hij]

theorem memOf_setPos (s : State) (i p : Nat) : memOf (setPos s i p) = memOf s :=
  map_modify_eq s.chunks i (fun c => { c with pos := p }) Chunk.memCell fun _ _ => rfl

theorem memOf_setCurPos (s : State) (p : Nat) : memOf (setCurPos s p) = memOf s := by
  unfold setCurPos
  split
  · exact memOf_setPos s _ p
  · rfl

export Arena.Fn (setCurPos_chunk)

theorem readByte_setPos (s : State) (i p a : Nat) : readByte (setPos s i p) a = readByte s a :=
  readByte_congr (memOf_setPos s i p) a

theorem readByte_setCurPos (s : State) (p a : Nat) : readByte (setCurPos s p) a = readByte s a :=
  readByte_congr (memOf_setCurPos s p) a

end Arena.Mem
