/-
  Lemmas/FnCreate.lean — the size computations in front of `newChunk`, evaluated with the proved size arithmetic
  (`Props/C12`): `newChunkForCapacity` and `appendFor` are `newChunk` at the wide-integer size, or a size overflow.
  This needs only that the header layout is one the crate produces (the wide-integer functions answer `none`
  consistently for hints that do not fit a `usize`), so it stands below the towers that assume more (the geometry
  invariant) or less (a refusing base allocator).
-/
import BumpProof.Lemmas.FnShape
import BumpProof.Props.C12

namespace Arena
open Rs Lemmas

theorem sizeCfg_eq (cfg : Cfg) : sizeCfg cfg = Spec.mkCfg cfg.up cfg.hdr := rfl

namespace Fn
variable {cfg : Cfg} {s : State}

theorem bytes_layout_valid {n : Nat} (h : layoutOk n 1 = true) : ({ size := n, align := 1 } : Layout).Valid :=
  ⟨⟨0, by decide, rfl⟩, of_decide_eq_true h⟩

/-- `ChunkSizeHint::calc_size` never faults: it is the wide-integer size, `none` on overflow -/
theorem calcSize_eq (hH : Spec.HeaderOK cfg.hdr) (hint : Nat) :
    calcSize cfg hint = .ok (Spec.calcSize cfg.up cfg.hdr (Nat.max hint cfg.minChunk)) := by
  unfold calcSize
  simp only [Lemmas.Size.ite_gt_eq_max, sizeCfg_eq, Lemmas.calc_size_from_hint_eq cfg.up cfg.hdr hH]
  rfl

theorem specCalcSize_none_of_ge (cfg : Cfg) (hH : Spec.HeaderOK cfg.hdr) {hint : Nat} (hh : 2 ^ 64 ≤ hint) :
    Spec.calcSize cfg.up cfg.hdr hint = none :=
  (C12.calcSize_none_iff cfg.up cfg.hdr hint).2 (Nat.le_trans hh (Lemmas.Size.raw_ge hH hint).1)

/-- `ChunkSize::from_capacity` + `NonDummyChunk::new` -/
theorem newChunkForCapacity_eq (hH : Spec.HeaderOK cfg.hdr) {L : Layout} (hL : L.Valid) :
    newChunkForCapacity cfg s L =
      match Spec.calcSize cfg.up cfg.hdr (Nat.max (Spec.hintFromCapacity cfg.up cfg.hdr L) cfg.minChunk) with
      | none => .ok (s, .error .capacityOverflow)
      | some size => newChunk cfg s size := by
  unfold newChunkForCapacity
  simp only [sizeCfg_eq, C12.calc_hint_from_capacity_eq cfg.up cfg.hdr hH L hL, liftM_ok, ok_bind]
  by_cases hlt : Spec.hintFromCapacity cfg.up cfg.hdr L < 2 ^ 64
  · simp only [hlt, ↓reduceIte, calcSize_eq hH, ok_bind]
    cases Spec.calcSize cfg.up cfg.hdr (Nat.max (Spec.hintFromCapacity cfg.up cfg.hdr L) cfg.minChunk) <;> rfl
  · have hn : Spec.calcSize cfg.up cfg.hdr (Nat.max (Spec.hintFromCapacity cfg.up cfg.hdr L) cfg.minChunk) = none :=
      specCalcSize_none_of_ge cfg hH (by rw [Lemmas.Size.natmax]; omega)
    simp only [hlt, ↓reduceIte, hn]
    rfl

/-- `NonDummyChunk::append_for`: the hint is `max(required, 2 * last size)` -/
theorem appendFor_eq (hH : Spec.HeaderOK cfg.hdr) {L : Layout} (hL : L.Valid) {last : Chunk}
    (hlast : s.chunks.getLast? = some last) :
    appendFor cfg s L =
      match Spec.calcSize cfg.up cfg.hdr
          (Nat.max (Nat.max (Spec.hintFromCapacity cfg.up cfg.hdr L) (2 * last.size)) cfg.minChunk) with
      | none => .ok (s, .error .capacityOverflow)
      | some size => newChunk cfg s size := by
  unfold appendFor
  simp only [hlast, sizeCfg_eq, C12.calc_hint_from_capacity_eq cfg.up cfg.hdr hH L hL, liftM_ok, ok_bind]
  -- an overflow of the required size or of the doubled size makes the wide-integer size overflow too
  have hover : ∀ x, 2 ^ 64 ≤ x → x ≤ Nat.max (Spec.hintFromCapacity cfg.up cfg.hdr L) (2 * last.size) →
      Spec.calcSize cfg.up cfg.hdr
        (Nat.max (Nat.max (Spec.hintFromCapacity cfg.up cfg.hdr L) (2 * last.size)) cfg.minChunk) = none :=
    fun x h1 h2 => specCalcSize_none_of_ge cfg hH (Nat.le_trans h1 (Nat.le_trans h2 (Nat.le_max_left _ _)))
  by_cases hlt : Spec.hintFromCapacity cfg.up cfg.hdr L < 2 ^ 64
  · simp only [hlt, ↓reduceIte]
    unfold Rs.checked_mul
    by_cases hm : last.size * 2 ≤ Rs.MAX
    · simp only [hm, ↓reduceIte, Lemmas.Size.ite_gt_eq_max]
      rw [calcSize_eq hH, Nat.mul_comm last.size 2]
      simp only [ok_bind]
      cases Spec.calcSize cfg.up cfg.hdr
        (Nat.max (Nat.max (Spec.hintFromCapacity cfg.up cfg.hdr L) (2 * last.size)) cfg.minChunk) <;> rfl
    · simp only [hm, ↓reduceIte, hover (2 * last.size) (by rw [MAX_eq] at hm; rw [two_pow_64]; omega) (Nat.le_max_right _ _)]
      rfl
  · simp only [hlt, ↓reduceIte, hover _ (Nat.le_of_not_lt hlt) (Nat.le_max_left _ _)]
    rfl

theorem sized_refused {rest : List BaseResp} (hr : s.resps = .fail :: rest) (o : Option Nat) :
    ∃ (s' : State) (e : AErr), (match o with
      | none => (.ok (s, .error .capacityOverflow) : R (State × Except AErr Nat))
      | some size => newChunk cfg s size) = .ok (s', .error e) := by
  cases o with
  | none => exact ⟨_, _, rfl⟩
  | some size =>
    cases hl : layoutOk size cfg.hdr.align
    · exact ⟨_, _, newChunk_iff.2 (.overflow hl)⟩
    · exact ⟨_, _, newChunk_iff.2 (.refused hl hr)⟩

end Fn
end Arena
