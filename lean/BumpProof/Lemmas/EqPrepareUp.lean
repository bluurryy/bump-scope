/-
  Lemmas/EqPrepareUp.lean — `bump_prepare_up` computes `Spec.prepareUp`.

  Three ways to the aligned start: `align ≤ min_align` known, the start is aligned already;
  `align ≤ 16` known, `up_align_unchecked`, which cannot overflow because the start is at least
  16 below `2^64` (it is at most the 16-aligned end, or 16-aligned itself on the dummy range);
  otherwise the checked `up_align`, whose overflow means that nothing fits.  All three end in the
  same fit test, characterised once (`hfit`).
-/
import BumpProof.Lemmas.RsOps
namespace Lemmas
open Gen.Bumping Rs C11

theorem bump_prepare_up_eq (p : BumpProps) (h : Valid true p) :
    bump_prepare_up p = .ok (Spec.prepareUp p.start p.«end» p.layout.size p.layout.align) := by
  unfold bump_prepare_up
  rw [debug_assert_valid_eq h, ok_bind, min_chunk_align_eq]
  extract_lets s e L m aic fit t1 check
  have hf : Facts true s e m L.size L.align p.size_is_multiple_of_align := Valid.facts h
  show _ = Except.ok (Spec.prepareUp s e L.size L.align)
  clear_value s e L m aic
  have he16 := hf.end16
  have hms := hf.min_dvd_start
  have hsz' := hf.size_lt
  have hrS := hf.range
  have hrange := hf.range_upAlign
  obtain ⟨hm, hm16, hm16d, ha, ha64, hap, hmp, hs0, he0, hs64, he64, hsz, -, hr⟩ := hf
  clear h
  rw [if_pos rfl] at hr
  have hda := down_align_eq ha ha64 he64
  have hE1 := downAlign_dvd e L.align
  have hE4 : ∀ q, L.align ∣ q → q ≤ e → q ≤ Spec.downAlign e L.align := fun q h1 h2 => le_downAlign_of_dvd hap h1 h2
  unfold Spec.prepareUp
  generalize Spec.downAlign e L.align = E at *
  have hfit : ∀ X, L.align ∣ X → 0 < X → X < 2 ^ 64 → ((X ≤ e ∧ e - X < 2 ^ 63) ∨ X = e + 16) →
      fit () X = .ok (if X + L.size ≤ e then some (X, E) else none) := by
    intro X haX hX0 hX64 hrX
    simp only [fit, remaining_test hsz' he64 hX64 hrX]
    by_cases hfit : X + L.size ≤ e
    · have hE0 : E ≠ 0 :=
        Nat.pos_iff_ne_zero.1 (Nat.lt_of_lt_of_le hX0 (hE4 X haX (Nat.le_trans (Nat.le_add_right _ _) hfit)))
      rw [decide_eq_false (Nat.not_lt.2 hfit), if_neg Bool.false_ne_true, if_pos hfit]
      simp only [hda, assert_p2 ha, sub_one_ok hap, assert_band ha haX, assert_band ha hE1, assert_decide hE0,
        assert_decide (Nat.pos_iff_ne_zero.1 hX0), ok_bind, pure_eq_ok]
    · rw [decide_eq_true (Nat.lt_of_not_le hfit), if_pos rfl, if_neg hfit, pure_eq_ok]
  have hS1 := upAlign_dvd s L.align
  have hS2 := le_upAlign s hap
  -- an aligned start `≤ end` can only be on a regular range
  have hreg : Spec.upAlign s L.align ≤ e →
      (Spec.upAlign s L.align ≤ e ∧ e - Spec.upAlign s L.align < 2 ^ 63) ∨ Spec.upAlign s L.align = e + 16 := by
    intro h
    rcases hr with ⟨_, h2, _, _⟩ | ⟨h1, _, _⟩
    · exact Or.inl ⟨h, Nat.lt_of_le_of_lt (Nat.sub_le_sub_left hS2 e) h2⟩
    · omega
  by_cases c1 : (aic && decide (L.align ≤ m)) = true
  · rw [if_pos c1]
    simp only [Bool.and_eq_true, decide_eq_true_eq] at c1
    have has : L.align ∣ s := Nat.dvd_trans (ha.dvd_of_le hm c1.2) hms
    rw [upAlign_eq_self hap has]
    exact hfit s has hs0 hs64 hrS
  · rw [if_neg c1]
    by_cases c2 : (aic && decide (L.align ≤ 16)) = true
    · rw [if_pos c2]
      simp only [Bool.and_eq_true, decide_eq_true_eq] at c2
      have hX := hrange (ha.dvd_of_le P2.sixteen c2.2)
      rw [up_align_unchecked_eq ha ha64 (Nat.lt_of_lt_of_le (Nat.add_lt_add_of_le_of_lt hS2
        (Nat.lt_of_lt_of_le (Nat.sub_lt hap Nat.one_pos) c2.2)) hX.2), ok_bind]
      exact hfit _ hS1 (Nat.lt_of_lt_of_le hs0 hS2)
        (Nat.lt_of_lt_of_le (Nat.lt_add_of_pos_right (by decide)) hX.2) hX.1
    · rw [if_neg c2]
      rw [up_align_eq ha ha64 hs0, ok_bind]
      by_cases hXe : Spec.upAlign s L.align ≤ e
      · rw [if_pos (Nat.lt_of_le_of_lt hXe he64)]
        simp only [check]
        rw [decide_eq_false (Nat.not_lt.2 hXe), if_neg Bool.false_ne_true]
        exact hfit _ hS1 (Nat.lt_of_lt_of_le hs0 hS2) (Nat.lt_of_le_of_lt hXe he64) (hreg hXe)
      · rw [if_neg (fun h => hXe (Nat.le_trans (Nat.le_add_right _ _) h))]
        by_cases h64 : Spec.upAlign s L.align < 2 ^ 64
        · rw [if_pos h64]
          simp only [check]
          rw [decide_eq_true (Nat.lt_of_not_le hXe), if_pos rfl, pure_eq_ok]
        · rw [if_neg h64]
          rfl

end Lemmas
