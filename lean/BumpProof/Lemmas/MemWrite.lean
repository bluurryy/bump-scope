/-
  Lemmas/MemWrite.lean — `writeRange` / `copyBytes` / `zeroRange`: exactly the addressed bytes change, and
  nothing but bytes (`Fn.Wrote`; the functions are taken apart in `Lemmas/FnWrite.lean`).  `MemWF` (chunk ranges
  disjoint, every chunk carries `size` bytes) depends on the chunk shapes only, which no write alters.
-/
import BumpProof.Lemmas.MemBasic

set_option linter.unusedSimpArgs false

namespace Arena.Mem
open Rs

export Arena.Fn (writtenData writeRange_ok copyBytes_ok copyBytes_writeRange)

theorem readByte_of_findIdx? {s : State} {i a : Nat} {c : Chunk}
    (hidx : s.chunks.findIdx? (fun c : Chunk => decide (c.base ≤ a ∧ a < c.base + c.size)) = some i)
    (hc : s.chunks[i]? = some c) : readByte s a = c.data.getD (a - c.base) 0 := by
  unfold readByte
  rw [find?_of_findIdx? _ _ _ hidx, hc]

theorem readByte_modify_data (s : State) (i : Nat) (c : Chunk) (hc : s.chunks[i]? = some c) (D : Array UInt8) (a : Nat) :
    readByte { s with chunks := s.chunks.modify i (fun d => { d with data := D }) } a =
      if s.chunks.findIdx? (fun c : Chunk => decide (c.base ≤ a ∧ a < c.base + c.size)) = some i
      then D.getD (a - c.base) 0 else readByte s a := by
  unfold readByte
  simp only
  rw [find?_modify (fun c : Chunk => decide (c.base ≤ a ∧ a < c.base + c.size))
    (fun d : Chunk => { d with data := D }) (fun _ => rfl)]
  by_cases hidx : s.chunks.findIdx? (fun c : Chunk => decide (c.base ≤ a ∧ a < c.base + c.size)) = some i
  · rw [if_pos hidx, if_pos hidx, find?_of_findIdx? _ _ _ hidx, hc]
    rfl
  · rw [if_neg hidx, if_neg hidx]

theorem writtenData_getD (c : Chunk) (lo hi : Nat) (f : Nat → UInt8) {a : Nat} (h1 : c.base ≤ a) :
    (writtenData c lo hi f).getD (a - c.base) 0 =
      if a - c.base < c.data.size ∧ lo ≤ a ∧ a < hi then f a else c.data.getD (a - c.base) 0 := by
  have e : c.base + (a - c.base) = a := by omega
  unfold writtenData
  rw [Array.getD_eq_getD_getElem?, Array.getElem?_ofFn, Array.getD_eq_getD_getElem?]
  by_cases h2 : a - c.base < c.data.size
  · simp only [e, Option.getD_some, h2, true_and, Array.getElem?_eq_getElem h2, Array.getD,
      Array.getInternal_eq_getElem, ↓reduceDIte]
  · simp only [h2, false_and, if_false, Array.getElem?_eq_none (Nat.le_of_not_lt h2), ↓reduceDIte]

theorem writeRange_read_in {cfg : Cfg} {s s' : State} {lo hi : Nat} {f : Nat → UInt8}
    (hd : ChunksDisjoint s.chunks) (hdata : DataOK s.chunks)
    (h : writeRange cfg s lo hi f = .ok s') {a : Nat} (h1 : lo ≤ a) (h2 : a < hi) :
    readByte s' a = f a := by
  rcases writeRange_ok h with ⟨hle, _⟩ | ⟨_, i, c, hc, hb1, hb2, _, _, rfl⟩
  · omega
  · have hsz := hdata c (List.mem_of_getElem? hc)
    rw [readByte_modify_data s i c hc, if_pos (findIdx?_owner hd hc (by omega) (by omega)),
      writtenData_getD c lo hi f (by omega), if_pos ⟨by omega, h1, h2⟩]

theorem writeRange_read_out {cfg : Cfg} {s s' : State} {lo hi : Nat} {f : Nat → UInt8}
    (h : writeRange cfg s lo hi f = .ok s') {a : Nat} (h1 : a < lo ∨ hi ≤ a) :
    readByte s' a = readByte s a := by
  rcases writeRange_ok h with ⟨_, rfl⟩ | ⟨_, i, c, hc, hb1, hb2, _, _, rfl⟩
  · rfl
  · rw [readByte_modify_data s i c hc]
    split
    · rename_i hidx
      obtain ⟨_, hp, _⟩ := List.findIdx?_eq_some_iff_getElem.mp hidx
      rw [(List.getElem?_eq_some_iff.mp hc).2] at hp
      rw [readByte_of_findIdx? hidx hc, writtenData_getD c lo hi f (of_decide_eq_true hp).1, if_neg (by omega)]
    · rfl

theorem _root_.Arena.Fn.Wrote.onlyData {s s' : State} (h : Fn.Wrote s s') : OnlyDataChanged s s' :=
  ⟨h.rest, h.map fun x => (x.1, x.2.1, x.2.2.1, x.2.2.2.1, x.2.2.2.2.1)⟩

theorem _root_.Arena.Fn.Wrote.shapeOf {s s' : State} (h : Fn.Wrote s s') : shapeOf s' = shapeOf s :=
  h.map fun x => (x.1, x.2.1, x.2.2.2.2.2)

theorem writeRange_onlyData {cfg : Cfg} {s s' : State} {lo hi : Nat} {f : Nat → UInt8}
    (h : writeRange cfg s lo hi f = .ok s') : OnlyDataChanged s s' := (Fn.writeRange_wrote h).onlyData

def MemWF (s : State) : Prop := ChunksDisjoint s.chunks ∧ DataOK s.chunks

theorem MemWF.disj {s : State} (h : MemWF s) : Arena.ChunksDisjoint s := (disjoint_iff s).2 h.1

def ShapeWF (l : List (Nat × Nat × Nat)) : Prop :=
  l.Pairwise (fun x y => x.1 + x.2.1 ≤ y.1 ∨ y.1 + y.2.1 ≤ x.1) ∧ ∀ x ∈ l, x.2.2 = x.2.1

theorem memWF_iff (s : State) : MemWF s ↔ ShapeWF (shapeOf s) := by
  unfold MemWF ShapeWF shapeOf ChunksDisjoint DataOK
  rw [List.pairwise_map]
  constructor
  · rintro ⟨h1, h2⟩
    refine ⟨h1, ?_⟩
    intro x hx
    obtain ⟨c, hc, rfl⟩ := List.mem_map.mp hx
    exact h2 c hc
  · rintro ⟨h1, h2⟩
    exact ⟨h1, fun c hc => h2 _ (List.mem_map_of_mem hc)⟩

theorem MemWF.of_shape {s s' : State} (h : shapeOf s' = shapeOf s) (hw : MemWF s) : MemWF s' := by
  rw [memWF_iff] at hw ⊢; rw [h]; exact hw

theorem blockInChunks_shape {s s' : State} (h : shapeOf s' = shapeOf s) {lo hi : Nat} (hb : BlockInChunks s lo hi) :
    BlockInChunks s' lo hi :=
  blockInChunks_of_shape_append (e := []) (by rw [h, List.append_nil]) hb

theorem inChunks_shape {s s' : State} (h : shapeOf s' = shapeOf s) {a : Nat} (ha : InChunks s a) : InChunks s' a :=
  blockInChunks_shape h (lo := a) (hi := a + 1) ha

/-- memmove semantics: afterwards the destination holds what the source held before (also when the
    two ranges overlap) -/
theorem copyBytes_read_dst {cfg : Cfg} {s s' : State} {src dst len : Nat} {b : Bool}
    (hw : MemWF s) (h : copyBytes cfg s src dst len b = .ok s') {k : Nat} (hk : k < len) :
    readByte s' (dst + k) = readByte s (src + k) := by
  rw [writeRange_read_in hw.1 hw.2 (copyBytes_writeRange h) (Nat.le_add_right dst k) (by omega), Nat.add_sub_cancel_left]

theorem copyBytes_onlyData {cfg : Cfg} {s s' : State} {src dst len : Nat} {b : Bool}
    (h : copyBytes cfg s src dst len b = .ok s') : OnlyDataChanged s s' :=
  writeRange_onlyData (copyBytes_writeRange h)

theorem copyBytes_src_inChunks {cfg : Cfg} {s s' : State} {src dst len : Nat} {b : Bool}
    (h : copyBytes cfg s src dst len b = .ok s') (hlen : 0 < len) : BlockInChunks s src (src + len) := by
  rcases copyBytes_ok h with ⟨h0, _⟩ | ⟨_, _, ⟨i, hi⟩, _⟩
  · omega
  · obtain ⟨hlt, hp, _⟩ := List.findIdx?_eq_some_iff_getElem.mp hi
    exact ⟨s.chunks[i], List.getElem_mem hlt, of_decide_eq_true hp⟩

/-- inside its content range even: `C02.writeRange_in_content` at `copyBytes_writeRange` -/
theorem copyBytes_dst_inChunks {cfg : Cfg} {s s' : State} {src dst len : Nat} {b : Bool}
    (h : copyBytes cfg s src dst len b = .ok s') (hlen : 0 < len) : BlockInChunks s dst (dst + len) := by
  rcases copyBytes_ok h with ⟨h0, _⟩ | ⟨_, _, _, hwr⟩
  · omega
  · rcases writeRange_ok hwr with ⟨h0, _⟩ | ⟨_, i, c, hc, hb1, hb2, _, _, _⟩
    · omega
    · exact ⟨c, List.mem_of_getElem? hc, hb1, hb2⟩
