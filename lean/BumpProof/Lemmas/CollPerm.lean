/-
  Lemmas/CollPerm.lean — list-level facts about the descriptions of `Coll/Spec.lean`: each operation
  only rearranges ids between "still in the vector", "dropped" and "handed out" (conservation), plus
  length bounds; that a granted reservation keeps the shape and is large enough (`grown_grows'`, `grown_cap_le`);
  and the bridge from a refinement lemma to the C06 statement (`View.fwd` of `Lemmas/CollView.lean` under the names of
  the forward vectors).
-/
import BumpProof.Lemmas.CollGrow

namespace Coll

theorem dropExit_nil (ds : List Id) : dropExit [] ds = .ret () := by
  simp [dropExit]

theorem truncateSpec_final (bombs : List Id) (xs : List Id) (n : Nat) : (truncateSpec bombs xs n).final = xs.take n := by
  unfold truncateSpec; split
  · exact (List.take_of_length_le ‹_›).symm
  · rfl

theorem truncateSpec_exit_nil (xs : List Id) (n : Nat) : (truncateSpec [] xs n).exit = .ret () := by
  unfold truncateSpec; split
  · rfl
  · exact dropExit_nil _

theorem truncateSpec_perm (bombs : List Id) (xs : List Id) (n : Nat) :
    ((truncateSpec bombs xs n).final ++ (truncateSpec bombs xs n).dropped ++ (truncateSpec bombs xs n).escaped).Perm xs := by
  unfold truncateSpec; split <;> simp

theorem truncateSpec_len (bombs : List Id) (xs : List Id) (n : Nat) :
    (truncateSpec bombs xs n).final.length ≤ xs.length := by
  rw [truncateSpec_final, List.length_take]; exact Nat.min_le_right ..

theorem popSpec_perm (xs : List Id) :
    ((popSpec xs).final ++ (popSpec xs).dropped ++ (popSpec xs).escaped).Perm xs := by
  unfold popSpec
  by_cases h : xs = []
  · subst h; simp
  · rw [List.getLast?_eq_some_getLast h]
    simp [List.dropLast_concat_getLast]

theorem popIfSpec_perm (xs : List Id) (o : List Outcome) :
    ((popIfSpec xs o).final ++ (popIfSpec xs o).dropped ++ (popIfSpec xs o).escaped).Perm xs := by
  unfold popIfSpec
  by_cases hne : xs = []
  · rw [hne]; simp
  · rw [List.getLast?_eq_some_getLast hne]
    match o with
    | [] => simp
    | .panic :: o => simp
    | .ret b :: o =>
      simp only
      split
      · simp [List.dropLast_concat_getLast]
      · simp

theorem removeSpec_perm (xs : List Id) (i : Nat) :
    ((removeSpec xs i).final ++ (removeSpec xs i).dropped ++ (removeSpec xs i).escaped).Perm xs := by
  unfold removeSpec
  by_cases h : i < xs.length
  · rw [List.getElem?_eq_getElem h]
    simp only [List.append_nil]
    have hx : xs = xs.take i ++ xs[i] :: xs.drop (i + 1) := by simp
    conv => rhs; rw [hx]
    rw [List.eraseIdx_eq_take_drop_succ]
    simp only [List.append_assoc]
    exact List.Perm.append_left _ (List.perm_append_singleton _ _)
  · have : xs[i]? = none := by simp; omega
    rw [this]; simp

theorem set_perm (ini : List Id) (i : Nat) (l : Id) (h : i < ini.length) :
    (ini.set i l ++ [ini[i]]).Perm (ini ++ [l]) := by
  rw [List.set_eq_take_append_cons_drop, if_pos h]
  have hx : ini = ini.take i ++ ini[i] :: ini.drop (i + 1) := by simp
  conv => rhs; rw [hx]
  simp only [List.append_assoc, List.cons_append]
  refine List.Perm.append_left _ ?_
  refine (List.Perm.cons _ (List.perm_append_singleton _ _)).trans ?_
  refine (List.Perm.swap _ _ _).trans ?_
  exact List.Perm.cons _ (List.perm_append_singleton _ _).symm

theorem swapRemoveSpec_perm (xs : List Id) (i : Nat) :
    ((swapRemoveSpec xs i).final ++ (swapRemoveSpec xs i).dropped ++ (swapRemoveSpec xs i).escaped).Perm xs := by
  unfold swapRemoveSpec
  by_cases h : i < xs.length
  · have hne : xs ≠ [] := by intro h'; subst h'; simp at h
    obtain ⟨ini, l, rfl⟩ : ∃ ini l, xs = ini ++ [l] := ⟨_, _, (List.dropLast_concat_getLast hne).symm⟩
    rw [List.getElem?_eq_getElem h]
    simp only [List.getLast?_append, List.getLast?_singleton, Option.some_or, List.append_nil]
    by_cases hi : i < ini.length
    · rw [List.set_append_left _ _ hi, List.dropLast_concat, List.getElem_append_left hi]
      exact set_perm ini i l hi
    · have : i = ini.length := by simp at h; omega
      subst this
      simp
  · have : xs[i]? = none := by simp; omega
    rw [this]; simp

theorem clearSpec_perm (bombs : List Id) (xs : List Id) :
    ((clearSpec bombs xs).final ++ (clearSpec bombs xs).dropped ++ (clearSpec bombs xs).escaped).Perm xs := by
  simp [clearSpec]

theorem pushSpec_perm (room : Bool) (xs : List Id) (id : Id) :
    ((pushSpec room xs id).final ++ (pushSpec room xs id).dropped ++ (pushSpec room xs id).escaped).Perm (xs ++ [id]) := by
  unfold pushSpec; split <;> simp

theorem pushSpec_len (room : Bool) (xs : List Id) (id : Id) :
    (pushSpec room xs id).final.length ≤ xs.length + (if room then 1 else 0) := by
  unfold pushSpec; split <;> simp

theorem insertSpec_perm (room : Bool) (xs : List Id) (i : Nat) (id : Id) :
    ((insertSpec room xs i id).final ++ (insertSpec room xs i id).dropped ++ (insertSpec room xs i id).escaped).Perm (xs ++ [id]) := by
  unfold insertSpec
  split
  · simp only [List.append_nil]
    have : xs = xs.take i ++ xs.drop i := (List.take_append_drop i xs).symm
    conv => rhs; rw [this]
    simp only [List.append_assoc]
    exact List.Perm.append_left _ (List.perm_append_singleton _ _).symm
  · simp

theorem insertSpec_len (room : Bool) (xs : List Id) (i : Nat) (id : Id) :
    (insertSpec room xs i id).final.length ≤ xs.length + (if room then 1 else 0) := by
  unfold insertSpec
  split
  · rename_i h; simp [h.2]; omega
  · simp

theorem insertSpec_of_not {room : Bool} {xs : List Id} {i : Nat} (id : Id) (h : ¬ (i ≤ xs.length ∧ room = true)) :
    insertSpec room xs i id = { final := xs, dropped := [id], exit := .panic false, rest := [] } := by
  unfold insertSpec; rw [if_neg h]

theorem extendWithSpecR_perm (room : Bool) (bombs : List Id) (xs : List Id) (n : Nat) (value : Id) (o : List Outcome) :
    ((extendWithSpecR room bombs xs n value o).final ++ (extendWithSpecR room bombs xs n value o).dropped ++
      (extendWithSpecR room bombs xs n value o).escaped).Perm (xs ++ extendWithIns room n value o) := by
  unfold extendWithSpecR extendWithIns
  cases room
  · simp
  · simp only [↓reduceIte]
    unfold extendWithSpec
    cases n with
    | zero => simp [clonedIds]
    | succ m =>
      simp only [Nat.add_sub_cancel]
      rw [extendCloneSpec_closed m xs o]
      cases (extendCloneSpec [] m o).exit <;> simp

theorem extendWithSpecR_len (room : Bool) (bombs : List Id) (xs : List Id) (n : Nat) (value : Id) (o : List Outcome) :
    (extendWithSpecR room bombs xs n value o).final.length ≤ xs.length + (if room then n else 0) := by
  unfold extendWithSpecR
  cases room
  · simp
  · simp only [↓reduceIte]
    unfold extendWithSpec
    cases n with
    | zero => simp
    | succ m =>
      have := clonedIds_length_le m o
      simp only
      rw [extendCloneSpec_closed m xs o]
      split <;> simp <;> omega

theorem extendCloneSpecR_perm (room : Bool) (xs : List Id) (n : Nat) (o : List Outcome) :
    ((extendCloneSpecR room xs n o).final ++ (extendCloneSpecR room xs n o).dropped ++
      (extendCloneSpecR room xs n o).escaped).Perm (xs ++ (if room then clonedIds n o else [])) := by
  unfold extendCloneSpecR
  cases room
  · simp
  · rw [if_pos rfl, extendCloneSpec_closed]; simp

theorem extendCloneSpecR_len (room : Bool) (xs : List Id) (n : Nat) (o : List Outcome) :
    (extendCloneSpecR room xs n o).final.length ≤ xs.length + (if room then n else 0) := by
  unfold extendCloneSpecR
  cases room
  · simp
  · have := clonedIds_length_le n o
    rw [if_pos rfl, extendCloneSpec_closed]; simpa using this

theorem resizeSpec_perm (room : Bool) (bombs : List Id) (xs : List Id) (newLen : Nat) (value : Id) (o : List Outcome) :
    ((resizeSpec room bombs xs newLen value o).final ++ (resizeSpec room bombs xs newLen value o).dropped ++
      (resizeSpec room bombs xs newLen value o).escaped).Perm (xs ++ resizeIns room xs newLen value o) := by
  unfold resizeSpec resizeIns
  split
  · exact extendWithSpecR_perm ..
  · have := truncateSpec_perm bombs xs newLen
    rw [truncateSpec_escaped] at this
    simp only [List.append_nil] at this ⊢
    rw [← List.append_assoc]
    exact List.Perm.append_right _ this

theorem resizeSpec_len (room : Bool) (bombs : List Id) (xs : List Id) (newLen : Nat) (value : Id) (o : List Outcome) :
    (resizeSpec room bombs xs newLen value o).final.length ≤ xs.length + (if room then newLen - xs.length else 0) := by
  unfold resizeSpec
  split
  · exact extendWithSpecR_len ..
  · have := truncateSpec_len bombs xs newLen
    simp only; omega

theorem resizeWithSpec_perm (room : Bool) (bombs : List Id) (xs : List Id) (newLen : Nat) (o : List Outcome) :
    ((resizeWithSpec room bombs xs newLen o).final ++ (resizeWithSpec room bombs xs newLen o).dropped ++
      (resizeWithSpec room bombs xs newLen o).escaped).Perm
      (xs ++ (if newLen > xs.length ∧ room then clonedIds (newLen - xs.length) o else [])) := by
  unfold resizeWithSpec
  by_cases h : newLen > xs.length
  · simp only [if_pos h, h, true_and]
    exact extendCloneSpecR_perm ..
  · simp only [if_neg h, h, false_and, ↓reduceIte, List.append_nil]
    exact truncateSpec_perm bombs xs newLen

theorem resizeWithSpec_len (room : Bool) (bombs : List Id) (xs : List Id) (newLen : Nat) (o : List Outcome) :
    (resizeWithSpec room bombs xs newLen o).final.length ≤ xs.length + (if room then newLen - xs.length else 0) := by
  unfold resizeWithSpec
  split
  · exact extendCloneSpecR_len ..
  · exact Nat.le_trans (truncateSpec_len bombs xs newLen) (Nat.le_add_right ..)

theorem grown_grows' {env : Env} {v : Vec} {n : Nat} (hv : v.WF) :
    Grows v (grown env v n) v.abs ∧ (room env v n = true → v.len + n ≤ (grown env v n).cap) := by
  unfold grown room
  cases hr : reserve env v n with
  | none => exact ⟨Grows.refl hv.shape, by simp⟩
  | some v' => have ⟨g, hc⟩ := reserve_some hv.shape hr; exact ⟨g, fun _ => hc⟩

theorem grownOne_grows' {env : Env} {v : Vec} (hv : v.WF) :
    Grows v (grownOne env v) v.abs ∧ (roomOne env v = true → v.len + 1 ≤ (grownOne env v).cap) := by
  unfold grownOne roomOne
  cases hr : reserveOne env v with
  | none => exact ⟨Grows.refl hv.shape, by simp⟩
  | some v' => have ⟨g, hc⟩ := reserveOne_some hv.shape hr; exact ⟨g, fun _ => hc⟩

theorem final_le_of_perm {α} {v : Vec} {r : SpecOut α} (hv : v.WF)
    (hperm : (r.final ++ r.dropped ++ r.escaped).Perm v.abs) : r.final.length ≤ v.cap :=
  View.final_le (V := .fwd) hv hperm

theorem grown_cap_le {env : Env} {v : Vec} {n m : Nat} (hv : v.WF) (h : m ≤ v.len + (if room env v n then n else 0)) :
    m ≤ (grown env v n).cap :=
  View.cap_le (V := .fwd) hv (grown_grows' hv).1.cap (grown_grows' hv).2 h

theorem grownOne_cap_le {env : Env} {v : Vec} {m : Nat} (hv : v.WF) (h : m ≤ v.len + (if roomOne env v then 1 else 0)) :
    m ≤ (grownOne env v).cap :=
  View.cap_le (V := .fwd) hv (grownOne_grows' hv).1.cap (grownOne_grows' hv).2 h

theorem wf_of_eq_inplace {α} {res : M (Out α)} {v : Vec} {r : SpecOut α} {rest : List Outcome} (hv : v.WF)
    (hres : res = .ok ⟨v.after r, r.exit, rest⟩) (hperm : (r.final ++ r.dropped ++ r.escaped).Perm v.abs) :
    ∃ out, res = .ok out ∧ out.vec.WF ∧ out.vec.total.Perm (v.total ++ []) :=
  View.dropsOnce_inplace (V := .fwd) hv hres hperm

end Coll
