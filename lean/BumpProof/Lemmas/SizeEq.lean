/-
  Lemmas/SizeEq.lean — proofs behind Props/C12.lean: the generated `align_size`,
  `calc_size_from_hint`, `calc_hint_from_capacity_bytes` compute their wide-integer
  specifications; what a computed size (its closed form `calcSize_eq_of_some`, `calcSize_some`, growth) and the
  aligned grant (`alignedSize_props`) satisfy; a fresh chunk fits the request that caused it (`fresh_fits_up/down`).
-/
import BumpProof.Lemmas.SizeSpec
import BumpProof.Lemmas.SpecProps

namespace Lemmas
open Gen.SizeConfig Rs Spec

theorem align_size_eq (up : Bool) (H : Layout) (hH : HeaderOK H) (g : Nat) (hg : g < 2^64) :
    align_size (mkCfg up H) g = .ok (downAlign g (sizeAlign up H)) := by
  unfold align_size
  cases up
  · simp only [mkCfg, Bool.false_eq_true, ↓reduceIte, Size.max_eq, MIN_CHUNK_ALIGN, bind, Except.bind]
    rw [Size.down_align_eq (P2.max ⟨4, rfl⟩ (Size.hdr_p2 hH)) (by
      have := Size.hdr_le hH; rw [Size.natmax, two_pow_64]; omega) hg]
    rfl
  · simp only [mkCfg, ↓reduceIte, MIN_CHUNK_ALIGN]
    rw [Size.down_align_eq ⟨4, rfl⟩ (by decide) hg]
    rfl

theorem calc_size_from_hint_eq (up : Bool) (H : Layout) (hH : HeaderOK H) (hint : Nat) :
    calc_size_from_hint (mkCfg up H) hint = .ok (calcSize up H hint) := by
  unfold calc_size_from_hint
  rw [show MIN_CHUNK_ALIGN = 16 from rfl, show (mkCfg up H).chunk_header_layout = H from rfl,
    show (mkCfg up H).up = up from rfl]
  -- the prefix: both `offset_add_layout`s and both `max`es succeed
  extract_lets ovh hdr off0 t6 t10 fin
  rw [show offset_add_layout off0 ovh = .ok (some 16) from Size.oal_overhead, ok_bind]
  dsimp -zeta only
  extract_lets off1
  rw [show offset_add_layout off1 hdr = .ok (some (minSize H)) from Size.oal_header hH, ok_bind]
  dsimp -zeta only
  extract_lets off2 minv
  rw [Size.max_eq, ok_bind]
  extract_lets step tail
  rw [Size.max_eq, ok_bind]
  extract_lets h npot
  -- `simp` does not rewrite inside `Decidable` instances; `subst` replaces the let-bound constants
  -- everywhere
  have e1 : H = hdr := rfl
  have e2 : Size.stepOf H = step := rfl
  have e3 : Size.hOf H hint = h := rfl
  have e4 : minSize H = minv := rfl
  have e5 : (⟨16, 8⟩ : Layout) = ovh := rfl
  clear_value hdr step h minv ovh
  subst e1 e2 e3 e4 e5
  have hApos := (Size.hdr_p2 hH).pos
  have hSpos := (Size.step_p2 hH).pos
  have hge := Size.raw_ge hH hint
  have hsz := hH.ge
  have h16' := Size.raw_ge_hdr hH hint
  -- the checks and the final adjustment, from the raw size
  have hraw : calcSizeRaw H hint < 2 ^ 64 → tail () (some (calcSizeRaw H hint)) = .ok (calcSize up H hint) := by
    intro hr
    simp -zeta only [tail]
    extract_lets size adjust isPow2
    have e6 : calcSizeRaw H hint = size := rfl
    clear_value size
    subst e6
    have hadj : adjust () true = .ok (calcSize up H hint) := by
      simp only [adjust, fin, assert_ok rfl, ok_bind]
      rcases Size.calcSize_cases hH up hint with ⟨h1, _⟩ | ⟨_, hc, hsa, he⟩ | ⟨_, hc, hsa, he⟩
      · omega
      · have : (up || decide (H.align ≤ 16)) = true := by
          rcases hc with hc | hc
          · rw [hc]; rfl
          · rw [Bool.or_eq_true]; right; exact decide_eq_true hc
        have h16 : 16 ∣ calcSizeRaw H hint - 16 := Nat.dvd_sub (Size.raw_16_dvd hH hint) (Nat.dvd_refl 16)
        have hne : ¬ (calcSizeRaw H hint - 16 = 0) :=
          Nat.sub_ne_zero_of_lt (Nat.lt_of_lt_of_le (Nat.lt_add_of_pos_left (Nat.lt_of_lt_of_le (by decide) hsz)) h16')
        rw [if_pos this, sub_ok (Nat.le_trans (Nat.le_add_left _ _) h16'), ok_bind,
          align_size_eq up H hH _ (Nat.lt_of_le_of_lt (Nat.sub_le _ _) hr), ok_bind, hsa, he,
          downAlign_eq_self h16, pure_eq_ok]
        unfold nonZero
        rw [if_neg hne]
      · have : ¬ (up || decide (H.align ≤ 16)) = true := by
          rwa [Bool.or_eq_true, decide_eq_true_eq]
        have hne : ¬ (calcSizeRaw H hint = 0) :=
          Nat.pos_iff_ne_zero.1 (Nat.lt_of_lt_of_le (by decide) (Nat.le_trans (Nat.le_add_left _ _) h16'))
        rw [if_neg this, he, pure_eq_ok]
        unfold nonZero
        rw [if_neg hne]
    rw [rem_ok (Nat.pos_iff_ne_zero.1 hApos), Nat.mod_eq_zero_of_dvd (Size.raw_dvd hH hint), ok_bind,
      assert_decide rfl, ok_bind, assert_decide hge.2, ok_bind]
    by_cases hs : calcSizeRaw H hint < Size.stepOf H
    · rw [decide_eq_true hs, if_pos rfl, show isPow2 = true from (Size.raw_lt_step hH hs).is_power_of_two]
      exact hadj
    · rw [decide_eq_false hs, if_neg Bool.false_ne_true, rem_ok (Nat.pos_iff_ne_zero.1 hSpos),
        Nat.mod_eq_zero_of_dvd (Size.raw_ge_step hH (Nat.le_of_not_lt hs)), ok_bind, decide_eq_true rfl]
      exact hadj
  by_cases hlt : Size.hOf H hint < Size.stepOf H
  · have hr : calcSizeRaw H hint < 2 ^ 64 := by
      have := Size.raw_le_step hH hlt
      have := Size.step_le hH
      omega
    have e1 : npot = some (calcSizeRaw H hint) := by
      have : npotFrom (Size.hOf H hint) 64 1 = calcSizeRaw H hint := by
        rw [Size.calcSizeRaw_def, if_pos hlt]; rfl
      simp only [npot, checked_next_power_of_two, this]
      rw [if_pos (by unfold Rs.MAX; omega)]
    rw [decide_eq_true hlt, if_pos rfl, e1]
    exact hraw hr
  · have eraw : upAlign (Size.hOf H hint) (Size.stepOf H) = calcSizeRaw H hint := by
      rw [Size.calcSizeRaw_def, if_neg hlt]
    rw [decide_eq_false hlt, if_neg Bool.false_ne_true, Size.up_align_eq (Size.step_p2 hH) (Size.step_lt64 hH),
      ok_bind, eraw]
    by_cases hr : calcSizeRaw H hint < 2 ^ 64
    · rw [if_pos hr]
      exact hraw hr
    · rw [if_neg hr]
      rcases Size.calcSize_cases hH up hint with ⟨_, he⟩ | ⟨_, _⟩ | ⟨_, _⟩
      · rw [he]; rfl
      · omega
      · omega
theorem calc_hint_from_capacity_bytes_eq (up : Bool) (H : Layout) (hH : HeaderOK H) (bytes : Nat) :
    calc_hint_from_capacity_bytes (mkCfg up H) bytes =
      .ok (if hintFromBytes up H bytes < 2^64 then some (hintFromBytes up H bytes) else none) := by
  unfold calc_hint_from_capacity_bytes
  delta mkCfg
  cases up
  · simp only [Size.oal_overhead, Size.checked_add_eq, MIN_CHUNK_ALIGN, bind, Except.bind, pure,
      Except.pure, Bool.false_eq_true, ↓reduceIte]
    have e : hintFromBytes false H bytes = upAlign (16 + bytes) H.align + H.size + 16 := rfl
    rw [e]
    by_cases h1 : 16 + bytes < 2 ^ 64
    · simp only [h1, ↓reduceIte, Size.offset_add_layout_eq (Size.hdr_p2 hH) (Size.hdr_lt64 hH)]
      by_cases h2 : upAlign (16 + bytes) H.align + H.size < 2 ^ 64
      · simp only [h2, ↓reduceIte]
        by_cases h3 : upAlign (16 + bytes) H.align + H.size + 16 < 2 ^ 64
        · simp only [h3, ↓reduceIte]
        · simp only [h3, ↓reduceIte]
      · have h3 : ¬ upAlign (16 + bytes) H.align + H.size + 16 < 2 ^ 64 := by omega
        simp only [h2, h3, ↓reduceIte]
    · have := Size.le_upAlign (16 + bytes) (Size.hdr_p2 hH).pos
      have h3 : ¬ upAlign (16 + bytes) H.align + H.size + 16 < 2 ^ 64 := by omega
      simp only [h1, h3, ↓reduceIte]
  · simp only [Size.oal_overhead, Size.oal_header hH, Size.checked_add_eq, MIN_CHUNK_ALIGN, bind, Except.bind,
      pure, Except.pure, ↓reduceIte]
    have e : hintFromBytes true H bytes = minSize H + bytes + 16 := rfl
    rw [e]
    by_cases h1 : minSize H + bytes < 2 ^ 64
    · simp only [h1, ↓reduceIte]
      by_cases h2 : minSize H + bytes + 16 < 2 ^ 64
      · simp only [h2, ↓reduceIte]
      · simp only [h2, ↓reduceIte]
    · have h2 : ¬ minSize H + bytes + 16 < 2 ^ 64 := by omega
      simp only [h1, h2, ↓reduceIte]

/-- a computed size is the raw size, less the 16 bytes of assumed overhead when those are
    subtracted -/
theorem calcSize_eq_of_some {up : Bool} {H : Layout} (hH : HeaderOK H) {hint s : Nat}
    (h : calcSize up H hint = some s) :
    calcSizeRaw H hint < 2 ^ 64 ∧ s = calcSizeRaw H hint - (if up = true ∨ H.align ≤ 16 then 16 else 0) := by
  rcases Size.calcSize_cases hH up hint with ⟨_, he⟩ | ⟨hr, hc, _, he⟩ | ⟨hr, hc, _, he⟩
  · rw [he] at h; cases h
  · rw [he] at h
    rw [if_pos hc]
    exact ⟨hr, (Option.some.inj h).symm⟩
  · rw [he] at h
    rw [if_neg hc]
    exact ⟨hr, (Option.some.inj h).symm⟩

theorem calcSize_some {up : Bool} {H : Layout} (hH : HeaderOK H) {hint s : Nat}
    (h : calcSize up H hint = some s) :
    16 ∣ s ∧ sizeAlign up H ∣ s ∧ H.size ≤ s ∧ hint ≤ s + 16 ∧ s < 2^64 := by
  have hge := (Size.raw_ge hH hint).1
  have hroom := Size.raw_ge_hdr hH hint
  have h16 := Size.raw_16_dvd hH hint
  rcases Size.calcSize_cases hH up hint with ⟨_, he⟩ | ⟨hr, _, hsa, he⟩ | ⟨hr, _, hsa, he⟩
  · rw [he] at h; cases h
  · rw [he] at h
    obtain rfl : calcSizeRaw H hint - 16 = s := Option.some.inj h
    have d : 16 ∣ calcSizeRaw H hint - 16 := Nat.dvd_sub h16 (Nat.dvd_refl 16)
    exact ⟨d, hsa ▸ d, Nat.le_sub_of_add_le hroom,
      (Nat.sub_add_cancel (Nat.le_trans (Nat.le_add_left _ _) hroom)).symm ▸ hge,
      Nat.lt_of_le_of_lt (Nat.sub_le _ _) hr⟩
  · rw [he] at h
    obtain rfl : calcSizeRaw H hint = s := Option.some.inj h
    exact ⟨h16, hsa ▸ Size.raw_dvd hH hint, Nat.le_trans (Nat.le_add_right _ _) hroom,
      Nat.le_trans hge (Nat.le_add_right _ _), hr⟩

/-- what `align_size` makes of a granted size `g`, whatever was asked for: a multiple of 16 (and of the header
    alignment downwards) that still covers every request `s ≤ g` that is itself such a multiple -/
theorem alignedSize_props {H : Layout} (hH : HeaderOK H) (up : Bool) (g : Nat) :
    16 ∣ downAlign g (sizeAlign up H) ∧ downAlign g (sizeAlign up H) ≤ g ∧
    (up = false → H.align ∣ downAlign g (sizeAlign up H)) ∧
    ∀ s, sizeAlign up H ∣ s → s ≤ g → s ≤ downAlign g (sizeAlign up H) := by
  refine ⟨Nat.dvd_trans (Size.sizeAlign_16_dvd hH up) (downAlign_dvd _ _), downAlign_le _ _, fun hup => ?_,
    fun s hd hg => le_downAlign_of_dvd (Size.sizeAlign_pos hH up) hd hg⟩
  subst hup
  exact Nat.dvd_trans (Nat.le_max_right 16 H.align |> (Size.hdr_p2 hH).dvd_of_le (P2.max ⟨4, rfl⟩ (Size.hdr_p2 hH)))
    (downAlign_dvd _ _)

theorem align_size_fits {up : Bool} {H : Layout} (hH : HeaderOK H) {hint s g : Nat}
    (h : calcSize up H hint = some s) (hg : s ≤ g) :
    s ≤ downAlign g (sizeAlign up H) ∧ downAlign g (sizeAlign up H) ≤ g ∧
    16 ∣ downAlign g (sizeAlign up H) ∧ sizeAlign up H ∣ downAlign g (sizeAlign up H) :=
  have p := alignedSize_props hH up g
  ⟨p.2.2.2 s (calcSize_some hH h).2.1 hg, p.2.1, p.1, downAlign_dvd _ _⟩

theorem grow_ge {up : Bool} {H : Layout} (hH : HeaderOK H) {prev req s : Nat}
    (h : calcSize up H (Nat.max req (2 * prev)) = some s) : 2 * prev ≤ s + 16 :=
  Nat.le_trans (Nat.le_max_right req (2 * prev)) (calcSize_some hH h).2.2.2.1

/-- A chunk sized for a hint of at least twice another chunk is strictly larger than that chunk, whatever else went
    into the hint.  The computed size may fall short of the hint by the 16 bytes of assumed malloc overhead
    (`hint ≤ s + 16`), so `<` survives only for `prev > 16`; every real chunk holds a header of at least 32 bytes. -/
theorem calcSize_gt {up : Bool} {H : Layout} (hH : HeaderOK H) {hint s prev : Nat}
    (h : calcSize up H hint = some s) (hp : 2 * prev ≤ hint) (h16 : 16 < prev) : prev < s := by
  have := (calcSize_some hH h).2.2.2.1
  omega

/- A fresh chunk fits the request that caused it: both directions exhibit an aligned block
   inside the fresh range; that the specification then succeeds is `bumpUp_none_iff` and its
   siblings. -/

theorem fresh_fits_up {H : Layout} (hH : HeaderOK H) {L : Layout} (hL : L.Valid) {ma : Nat}
    {hint s g p : Nat} (hhint : hintFromCapacity true H L ≤ hint)
    (hs : calcSize true H hint = some s) (hg : s ≤ g) (hp : H.align ∣ p) :
    let s' := downAlign g (sizeAlign true H)
    let r := freshRange true H p s'
    (∃ x, bumpUp r.1 r.2 L.size L.align ma = some x) ∧
    (L.align ∣ L.size → ∃ x, prepareUp r.1 r.2 L.size L.align = some x) := by
  intro s' r
  have hLp2 := layout_p2 hL
  -- the size leaves room for the header, the padding and the block
  have hhc : hintFromCapacity true H L = minSize H + (L.size + (L.align - H.align)) + 16 := rfl
  have hmin := Size.minSize_eq hH
  have hle := (calcSize_some hH hs).2.2.2.1
  have hs' : s ≤ s' := (align_size_fits hH hs hg).1
  -- the aligned start is at most `L.align - H.align` above the end of the header
  have hptr : upAlign (p + H.size) L.align ≤ p + H.size + (L.align - H.align) :=
    Size.upAlign_le_p2 (Size.hdr_p2 hH) hLp2 ((Nat.dvd_add_right hp).2 hH.dvd)
  have hq : ∃ q, L.align ∣ q ∧ p + H.size ≤ q ∧ q + L.size ≤ p + s' :=
    ⟨_, upAlign_dvd _ _, le_upAlign _ hLp2.pos, by omega⟩
  exact ⟨Option.ne_none_iff_exists'.1 (mt (bumpUp_none_iff hLp2.pos).1 (not_not_intro hq)),
    fun _ => Option.ne_none_iff_exists'.1 (mt (prepareUp_none_iff hLp2.pos).1 (not_not_intro hq))⟩

theorem fresh_fits_down {H : Layout} (hH : HeaderOK H) {L : Layout} (hL : L.Valid) {ma : Nat}
    (hma : ma = 1 ∨ ma = 2 ∨ ma = 4 ∨ ma = 8 ∨ ma = 16)
    {hint s g p : Nat} (hhint : hintFromCapacity false H L ≤ hint)
    (hs : calcSize false H hint = some s) (hg : s ≤ g) (hp : H.align ∣ p) :
    let s' := downAlign g (sizeAlign false H)
    let r := freshRange false H p s'
    (∃ x, bumpDown r.1 r.2 L.size L.align ma = some x) ∧
    (L.align ∣ L.size → ∃ x, prepareDown r.1 r.2 L.size L.align = some x) := by
  intro s' r
  show (∃ x, bumpDown p (p + s' - H.size) L.size L.align ma = some x) ∧
    (L.align ∣ L.size → ∃ x, prepareDown p (p + s' - H.size) L.size L.align = some x)
  have hLp2 := layout_p2 hL
  have hA16 := Size.hdr_ge hH
  have hm := p2_of_min_align hma
  -- the size leaves room for 16 spare bytes, the header, the padding and the block
  have hhc : hintFromCapacity false H L =
      upAlign (16 + (L.size + (L.align - H.align))) H.align + H.size + 16 := rfl
  have hup := le_upAlign (16 + (L.size + (L.align - H.align))) (Size.hdr_p2 hH).pos
  have hle := (calcSize_some hH hs).2.2.2.1
  have hs' : s ≤ s' := (align_size_fits hH hs hg).1
  have hroom : 16 + L.size + (L.align - H.align) + H.size ≤ s' := by omega
  clear_value s'
  clear hhc hup hle hs' hhint hs hg r
  constructor
  · -- a multiple of `max L.align ma` within `L.align - H.align` above `p`
    have hM := hLp2.max hm.1
    have hq := Size.upAlign_le_p2 (Size.hdr_p2 hH) hM hp
    have hMle : Nat.max L.align ma - H.align ≤ L.align - H.align := by
      rcases Nat.le_total L.align ma with h | h
      · rw [show Nat.max L.align ma = ma from Nat.max_eq_right h, Nat.sub_eq_zero_of_le (Nat.le_trans hm.2 hA16)]
        exact Nat.zero_le _
      · rw [show Nat.max L.align ma = L.align from Nat.max_eq_left h]
        exact Nat.le_refl _
    apply Option.ne_none_iff_exists'.1
    rw [Ne, bumpDown_none_iff hLp2.pos hm.1.pos (hLp2.dvd_or_dvd hm.1)]
    exact not_not_intro ⟨_, Nat.dvd_trans (dvd_max_left hLp2 hm.1) (upAlign_dvd p _),
      Nat.dvd_trans (dvd_max_right hLp2 hm.1) (upAlign_dvd p _), le_upAlign p hM.pos, by omega⟩
  · intro hdvd
    have hq := Size.upAlign_le_p2 (Size.hdr_p2 hH) hLp2 hp
    apply Option.ne_none_iff_exists'.1
    rw [Ne, prepareDown_none_iff hLp2.pos hdvd]
    exact not_not_intro ⟨_, upAlign_dvd p _, le_upAlign p hLp2.pos, by omega⟩

end Lemmas
