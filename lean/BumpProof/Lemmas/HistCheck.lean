/-
  Lemmas/HistCheck.lean — executable checks for the hypotheses of the history theorems (`EnvOK`, `RunEnvOK`,
  `AllCovered`), each with its soundness lemma: a concrete history or state gets these hypotheses by evaluation.
-/
import BumpProof.Arena.Hist

set_option linter.unusedSimpArgs false
set_option linter.unusedVariables false

namespace Arena.Hist
open Rs

variable {cfg : Cfg}

def respCheck (cfg : Cfg) (g : GState) : BaseResp → Bool
  | .fail => true
  | .granted p gr => decide (cfg.hdr.align ∣ p) && decide (p ≠ 0) && decide (p + gr < 2 ^ 63) &&
      g.s.chunks.all (fun c => decide (p + gr ≤ c.base ∨ c.base + c.size ≤ p))

def respApart : BaseResp → BaseResp → Bool
  | .granted p1 g1, .granted p2 g2 => decide (p1 + g1 ≤ p2 ∨ p2 + g2 ≤ p1)
  | _, _ => true

def pairCheck : List BaseResp → Bool
  | [] => true
  | r :: rs => rs.all (respApart r) && pairCheck rs

def envCheck (cfg : Cfg) (g : GState) (resps : List BaseResp) : Bool :=
  resps.all (respCheck cfg g) && pairCheck resps

theorem pairCheck_sound : ∀ (l : List BaseResp), pairCheck l = true →
    l.Pairwise (fun r1 r2 => match r1, r2 with
      | .granted p1 g1, .granted p2 g2 => p1 + g1 ≤ p2 ∨ p2 + g2 ≤ p1
      | _, _ => True) := by
  intro l
  induction l with
  | nil => intro _; exact List.Pairwise.nil
  | cons r rs ih =>
    intro h
    simp only [pairCheck, Bool.and_eq_true, List.all_eq_true] at h
    refine List.Pairwise.cons ?_ (ih h.2)
    intro r2 hr2
    have := h.1 r2 hr2
    cases r with
    | fail => trivial
    | granted p1 g1 =>
      cases r2 with
      | fail => trivial
      | granted p2 g2 => exact of_decide_eq_true this

theorem envCheck_sound {g : GState} {resps : List BaseResp} (h : envCheck cfg g resps = true) : EnvOK cfg g resps := by
  simp only [envCheck, Bool.and_eq_true, List.all_eq_true] at h
  obtain ⟨h1, h2⟩ := h
  refine ⟨?_, pairCheck_sound resps h2, ?_⟩
  · intro r hr
    have := h1 r hr
    cases r with
    | fail => trivial
    | granted p gr =>
      simp only [respCheck, Bool.and_eq_true, decide_eq_true_eq, List.all_eq_true] at this
      exact ⟨this.1.1.1, this.1.1.2, this.1.2⟩
  · intro p gr hm i c hc
    have := h1 _ hm
    simp only [respCheck, Bool.and_eq_true, decide_eq_true_eq, List.all_eq_true] at this
    exact this.2 c (List.mem_of_getElem? hc)

def runEnvCheck (cfg : Cfg) : GState → List (Op × List BaseResp) → Bool
  | _, [] => true
  | g, (op, resps) :: rest =>
    envCheck cfg g resps &&
      (match step cfg g op resps with
       | .ok (g', _, _) => runEnvCheck cfg g' rest
       | .error _ => true)

theorem runEnvCheck_sound : ∀ (ops : List (Op × List BaseResp)) (g : GState),
    runEnvCheck cfg g ops = true → RunEnvOK cfg g ops := by
  intro ops
  induction ops with
  | nil => intro g _; trivial
  | cons x rest ih =>
    intro g h
    obtain ⟨op, resps⟩ := x
    simp only [runEnvCheck, Bool.and_eq_true] at h
    refine ⟨envCheck_sound h.1, ?_⟩
    intro g' out reqs hs
    have h2 := h.2
    rw [hs] at h2
    exact ih g' h2

def coveredCheck (ops : List (Op × List BaseResp)) : Bool := ops.all (fun x => x.1.covered)

theorem coveredCheck_sound {ops : List (Op × List BaseResp)} (h : coveredCheck ops = true) : AllCovered ops := by
  intro x hx
  simp only [coveredCheck, List.all_eq_true] at h
  exact h x hx

end Arena.Hist
