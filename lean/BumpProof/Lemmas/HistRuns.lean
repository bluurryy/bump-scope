/-
  Lemmas/HistRuns.lean — from steps to runs: chunk sizes keep increasing, the
  base-allocator ledger stays balanced, `step` never ends in a bug fault, and what `Bump::reset` does to the
  chunk list.
-/
import BumpProof.Lemmas.HistLedger
import BumpProof.Lemmas.HistNoFaultRealloc
import BumpProof.Lemmas.HistSizes
import BumpProof.Lemmas.InvStep

set_option linter.unusedSimpArgs false
set_option linter.unusedVariables false

namespace Arena.Hist
open Rs

variable {cfg : Cfg}

theorem sizes_runOps : ∀ (ops : List (Op × List BaseResp)) (g g' : GState), Inv cfg g → SizesIncreasing g.s →
    AllCovered ops → RunEnvOK cfg g ops → runOps cfg g ops = .ok g' → SizesIncreasing g'.s :=
  fun _ _ _ hi hsz hc he hr =>
    (runOps_preserves (P := fun g => SizesIncreasing g.s) (Q := fun _ => True)
      (fun hcov _ hi he hsz hs => sizes_step hcov hi he hsz hs) hi hsz hc (fun _ _ => trivial) he hr).2

theorem ledger_runLog (ops : List (Op × List BaseResp)) (g g' : GState) (log : List LogEntry)
    (G : List Grant) (R : List BaseReq) (h : Inv cfg g) (hb : Balanced cfg G R g.s)
    (hc : AllCovered ops) (he : RunEnvOK cfg g ops) (hr : runLog cfg g ops = .ok (g', log)) :
    Balanced cfg (G ++ logGrants log) (R ++ logReleases log) g'.s :=
  runLog_induct
    (P := fun g w g' log => ∀ G R, Inv cfg g → Balanced cfg G R g.s → AllCovered w → RunEnvOK cfg g w →
      Balanced cfg (G ++ logGrants log) (R ++ logReleases log) g'.s)
    (fun g G R _ hb _ _ => by simpa [logGrants, logReleases] using hb)
    (fun {g op resps rest g1 out reqs g' log} hs _ ih G R h hb hc he => by
      obtain ⟨acq, hm, hp, _⟩ := step_ledgerR h hs
      have := ih _ _ (inv_step (hc _ List.mem_cons_self) h he.1 hs) (hb.step hm hp)
        (fun y hy => hc y (List.mem_cons_of_mem _ hy)) (he.2 g1 out reqs hs)
      simpa [logGrants, logReleases, List.append_assoc] using this)
    hr G R h hb hc he

theorem runLog_append_drop {g' : GState} {resps : List BaseResp} :
    ∀ (ops : List (Op × List BaseResp)) (g : GState) (log : List LogEntry), Inv cfg g → AllCovered ops →
      RunEnvOK cfg g (ops ++ [(.drop, resps)]) → runLog cfg g (ops ++ [(.drop, resps)]) = .ok (g', log) →
      owned cfg g'.s = [] := by
  intro ops g log hi hc he hr
  obtain ⟨g1, h1, h2⟩ := (runOps_append ops _ g g').1 (runLog_runOps _ _ _ _ hr)
  obtain ⟨g2, out, reqs, hs, hrest⟩ := runOps_cons h2
  cases hrest
  exact drop_owned_nil (inv_runOps ops g g1 hi hc (runEnvOK_of_append ops _ g he).1 h1) hs

theorem noFault_step {g : GState} {op : Op} {resps : List BaseResp} (hcov : op.noFaultCovered = true)
    (h : Inv cfg g) (henv : EnvOK cfg g resps) (hans : Answered cfg (install g resps).s op) :
    ∀ f, step cfg g op resps = .error f → ¬ Fault.isBug f :=
  fun f hf hb => noFault_stepCore_partial hcov (h.install resps) henv.1 henv.2 hans f (step_bug hf hb) hb

/-- `Bump::reset` from a state with a current chunk: exactly the last chunk is kept (its position reset),
    every other chunk is released exactly once, nothing is requested -/
theorem reset_step {g g' : GState} {resps : List BaseResp} {out : Out} {reqs : List BaseReq} (h : Inv cfg g) {i : Nat}
    (hcur : g.s.cur = .chunk i) (hs : step cfg g .reset resps = .ok (g', out, reqs)) :
    ∃ last, g.s.chunks.getLast? = some last ∧ g'.s.chunks = [last.resetPos cfg] ∧ g'.s.cur = .chunk 0 ∧
      reqs.Perm (g.s.chunks.dropLast.map (deallocReq cfg)) ∧ g'.s.live = [] := by
  obtain ⟨h1, _, rfl⟩ := step_ok hs
  obtain ⟨l, last, e1, e2, e3, e4, e5, _⟩ :=
    C05.reset_releases cfg (install g resps).s (i := i) hcur (h.geom.lt_length hcur)
  rw [(ok_reset h1).2.2.1]
  exact ⟨last, e1, e4, e5, (List.Perm.of_eq e2).trans e3, rfl⟩

end Arena.Hist
