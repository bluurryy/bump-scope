/-
  Lemmas/MemPlaced.lean — where a live block may lie: the predicates `Placed`, `LiveOK` (C01 for the ghost list of live
  blocks), `PlacedAt` (placement relative to a checkpoint) and what they are made of.  Definitions only, on the model
  alone: `Arena/Hist.lean` states the invariant of histories with `LiveOK` and `PlacedAt` and imports this file; the
  lemmas about them are in `Lemmas/MemLive.lean`.
-/
import BumpProof.Arena.Model

namespace Arena.Mem
open Rs

def InContent (cfg : Cfg) (c : Chunk) (addr size : Nat) : Prop :=
  c.contentStart cfg ≤ addr ∧ addr + size ≤ c.contentEnd cfg

def OnAllocatedSide (cfg : Cfg) (c : Chunk) (addr size : Nat) : Prop :=
  if cfg.up then addr + size ≤ c.pos else c.pos ≤ addr

/-- where a non-empty live block may lie: in the content range of a chunk that is not after the current
    one; if it is the current chunk, on the allocated side of its position -/
def Placed (cfg : Cfg) (s : State) (addr size : Nat) : Prop :=
  ∃ i j c, s.cur = .chunk i ∧ j ≤ i ∧ s.chunks[j]? = some c ∧ InContent cfg c addr size ∧
    (j = i → OnAllocatedSide cfg c addr size)

def BlocksDisjoint (a b : Block) : Prop :=
  a.size = 0 ∨ b.size = 0 ∨ a.addr + a.size ≤ b.addr ∨ b.addr + b.size ≤ a.addr

def RangesDisjoint (a1 s1 a2 s2 : Nat) : Prop := s1 = 0 ∨ s2 = 0 ∨ a1 + s1 ≤ a2 ∨ a2 + s2 ≤ a1

/-- C01 for the ghost state: every live block is aligned and placed, live blocks are pairwise disjoint -/
structure LiveOK (cfg : Cfg) (s : State) : Prop where
  aligned : ∀ b ∈ s.live, b.align ∣ b.addr
  placed : ∀ b ∈ s.live, 0 < b.size → Placed cfg s b.addr b.size
  disjoint : s.live.Pairwise BlocksDisjoint

def CurPosOK (cfg : Cfg) (s : State) : Prop :=
  ∀ i c, s.cur = .chunk i → s.chunks[i]? = some c → c.contentStart cfg ≤ c.pos ∧ c.pos ≤ c.contentEnd cfg

/-- the block was placed relative to the checkpoint: in a chunk not after the checkpoint's chunk and,
    inside that chunk, on the allocated side of the checkpoint's address -/
def PlacedAt (cfg : Cfg) (s : State) (cp : Checkpoint) (addr size : Nat) : Prop :=
  ∃ i j c, cp.cur = .chunk i ∧ j ≤ i ∧ s.chunks[j]? = some c ∧ InContent cfg c addr size ∧
    (j = i → if cfg.up then addr + size ≤ cp.addr else cp.addr ≤ addr)

end Arena.Mem
