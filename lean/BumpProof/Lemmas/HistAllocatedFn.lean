/-
  Lemmas/HistAllocatedFn.lean — `stats().allocated()` never decreases across the allocation paths of the model
  (`tryCur`, the slow path, `allocGeneric`, `alloc`) nor when the position moves towards the free side.  The reason is
  structural and is what the allocation paths are proved to satisfy: `Fwd`, the bump pointer did not move back (same
  chunk and a position on the free side, or a later chunk, with the chunks left behind in place); `Fwd.adv` turns it into
  the inequality `Adv`.
-/
import BumpProof.Lemmas.CtrlPrep
import BumpProof.Lemmas.HistRegionStack
import BumpProof.Lemmas.LedgerScope
import BumpProof.Props.C07

set_option linter.unusedSimpArgs false
set_option linter.unusedVariables false

namespace Arena.Hist
open Rs Ledger

variable {cfg : Cfg}

/-- sum of the capacities of a list of chunks, as `stats` computes it -/
def capL (cfg : Cfg) (l : List Chunk) : Nat := (l.map (Chunk.capacity cfg)).foldl (· + ·) 0

theorem foldl_add (l : List Nat) (a : Nat) : l.foldl (· + ·) a = a + l.foldl (· + ·) 0 := by
  induction l generalizing a with
  | nil => simp
  | cons x xs ih =>
    simp only [List.foldl_cons]
    rw [ih (a + x), ih (0 + x)]; omega

theorem capL_nil : capL cfg [] = 0 := rfl

theorem capL_append (l1 l2 : List Chunk) : capL cfg (l1 ++ l2) = capL cfg l1 + capL cfg l2 := by
  unfold capL
  rw [List.map_append, List.foldl_append, foldl_add]

theorem capL_take_le (l : List Chunk) {i j : Nat} (h : i ≤ j) : capL cfg (l.take i) ≤ capL cfg (l.take j) := by
  have : l.take j = l.take i ++ (l.take j).drop i := by
    have := (List.take_append_drop i (l.take j)).symm
    rw [List.take_take, Nat.min_eq_left h] at this
    exact this
  rw [this, capL_append]; omega

theorem capL_take_succ {l : List Chunk} {i : Nat} {c : Chunk} (hc : l[i]? = some c) :
    capL cfg (l.take (i+1)) = capL cfg (l.take i) + c.capacity cfg := by
  rw [List.take_succ, hc, capL_append]
  simp [capL]

theorem stats_allocated_eq {s : State} {i : Nat} {c : Chunk} (hcur : s.cur = .chunk i) (hc : s.chunks[i]? = some c) :
    (stats cfg s).allocated = c.allocated cfg + capL cfg (s.chunks.take i) := by
  unfold stats capL
  simp only [hcur, hc]

theorem allocated_le_capacity {c : Chunk} (hw : ChunkWF cfg c) : c.allocated cfg ≤ c.capacity cfg := by
  have h1 := hw.pos_ge
  have h2 := hw.pos_le
  unfold Chunk.allocated Chunk.capacity
  cases cfg.up <;> simp only [Bool.false_eq_true, ↓reduceIte] <;> omega

theorem sgp_of_cov {s s' : State} (h : ChunksCov s s') (n : Nat) : SameGeometryPrefix n s s' := fun j _ c hc => h j c hc

theorem capL_take_congr {s s' : State} {n : Nat} (h : SameGeometryPrefix n s s') (hn : n ≤ s.chunks.length) :
    capL cfg (s'.chunks.take n) = capL cfg (s.chunks.take n) := by
  unfold capL; rw [take_map_capacity_congr cfg h hn]

def Adv (cfg : Cfg) (s s' : State) : Prop := (stats cfg s).allocated ≤ (stats cfg s').allocated

theorem Adv.refl (s : State) : Adv cfg s s := Nat.le_refl _
theorem Adv.trans {a b c : State} (h1 : Adv cfg a b) (h2 : Adv cfg b c) : Adv cfg a c := Nat.le_trans h1 h2
theorem Adv.of_eq {s s' : State} (h : (stats cfg s').allocated = (stats cfg s).allocated) : Adv cfg s s' := Nat.le_of_eq h.symm
theorem Adv.of_zero {s s' : State} (h : s.cur = .claimed ∨ s.cur = .unallocated) : Adv cfg s s' := by
  unfold Adv; rw [C10.stats_zero h]; exact Nat.zero_le _

theorem Adv.of_chunks {s s' : State} (h1 : s'.chunks = s.chunks) (h2 : s'.cur = s.cur) : Adv cfg s s' := by
  unfold Adv stats; rw [h1, h2]; exact Nat.le_refl _

def Chunk.FreeSide (cfg : Cfg) (c c' : Chunk) : Prop := if cfg.up then c.pos ≤ c'.pos else c'.pos ≤ c.pos

theorem Chunk.FreeSide.refl (c : Chunk) : Chunk.FreeSide cfg c c := by unfold Chunk.FreeSide; split <;> exact Nat.le_refl _

theorem Chunk.FreeSide.trans {a b c : Chunk} (h1 : Chunk.FreeSide cfg a b) (h2 : Chunk.FreeSide cfg b c) :
    Chunk.FreeSide cfg a c := by
  unfold Chunk.FreeSide at *
  cases hup : cfg.up <;> simp only [hup, Bool.false_eq_true, ↓reduceIte] at h1 h2 ⊢
  · exact Nat.le_trans h2 h1
  · exact Nat.le_trans h1 h2

theorem Chunk.FreeSide.allocated_le {c c' : Chunk} (h : Chunk.FreeSide cfg c c') (hb : c'.base = c.base)
    (hs : c'.size = c.size) : c.allocated cfg ≤ c'.allocated cfg := by
  unfold Chunk.allocated Chunk.contentStart Chunk.contentEnd
  unfold Chunk.FreeSide at h
  rw [hb, hs]
  cases hup : cfg.up <;> simp only [hup, Bool.false_eq_true, ↓reduceIte] at h ⊢ <;> omega

/-- the bump pointer did not move back: if `s` has a current chunk `i`, the chunks up to `i` are in place in `s'` and the
    current chunk of `s'` is `i` with its position on the free side of the old one, or a later chunk.  Unlike the
    inequality `Adv` it composes with a later change of the position (`Fwd.setCurPos`). -/
def Fwd (cfg : Cfg) (s s' : State) : Prop :=
  ∀ i c, s.cur = .chunk i → s.chunks[i]? = some c → SameGeometryPrefix (i+1) s s' ∧
    ∃ j c', s'.cur = .chunk j ∧ s'.chunks[j]? = some c' ∧ i ≤ j ∧ (j = i → Chunk.FreeSide cfg c c')

theorem Fwd.refl (s : State) : Fwd cfg s s := fun i c hcur hc =>
  ⟨SameGeometryPrefix.refl _ _, i, c, hcur, hc, Nat.le_refl i, fun _ => Chunk.FreeSide.refl c⟩

theorem Fwd.trans {a b c : State} (h1 : Fwd cfg a b) (h2 : Fwd cfg b c) : Fwd cfg a c := by
  intro i x hcur hx
  obtain ⟨p1, j, y, hj, hy, hij, d1⟩ := h1 i x hcur hx
  obtain ⟨p2, k, z, hk, hz, hjk, d2⟩ := h2 j y hj hy
  refine ⟨fun n hn u hu => ?_, k, z, hk, hz, Nat.le_trans hij hjk, fun e => ?_⟩
  · obtain ⟨v, hv, e1, e2⟩ := p1 n hn u hu
    obtain ⟨w, hw, f1, f2⟩ := p2 n (by omega) v hv
    exact ⟨w, hw, f1.trans e1, f2.trans e2⟩
  · have hji : j = i := by omega
    exact (d1 hji).trans (d2 (by omega))

theorem adv_same {s s' : State} {i : Nat} {c c' : Chunk} (hcur : s.cur = .chunk i) (hc : s.chunks[i]? = some c)
    (hcur' : s'.cur = .chunk i) (hc' : s'.chunks[i]? = some c') (hb : c'.base = c.base) (hs : c'.size = c.size)
    (hp : Chunk.FreeSide cfg c c') (hpre : SameGeometryPrefix i s s') : Adv cfg s s' := by
  unfold Adv
  rw [stats_allocated_eq hcur hc, stats_allocated_eq hcur' hc',
    capL_take_congr hpre (Nat.le_of_lt (List.getElem?_eq_some_iff.1 hc).1)]
  have := hp.allocated_le hb hs
  omega

/-- a chunk left behind counts with its whole capacity, which is at least what was allocated in it -/
theorem Fwd.adv {s s' : State} (hg : GeomInv cfg s) (h : Fwd cfg s s') : Adv cfg s s' := by
  cases hcu : s.cur with
  | claimed => exact Adv.of_zero (Or.inl hcu)
  | unallocated => exact Adv.of_zero (Or.inr hcu)
  | chunk i =>
    obtain ⟨c, hci, hw, _⟩ := hg.curChunk hcu
    obtain ⟨hpre, j, c', hj, hc', hij, hd⟩ := h i c hcu hci
    have hlt : i < s.chunks.length := (List.getElem?_eq_some_iff.1 hci).1
    rcases Nat.lt_or_ge i j with hlt' | hge
    · unfold Adv
      rw [stats_allocated_eq hcu hci, stats_allocated_eq hj hc']
      have h1 := capL_take_le (cfg := cfg) s'.chunks (show i + 1 ≤ j from hlt')
      rw [capL_take_congr hpre hlt, capL_take_succ hci] at h1
      have h2 := allocated_le_capacity hw
      omega
    · have hji : j = i := by omega
      subst hji
      obtain ⟨c2, hc2, hb, hs⟩ := hpre j (by omega) c hci
      rw [hc'] at hc2; cases hc2
      exact adv_same hcu hci hj hc' hb hs (hd rfl) fun k hk => hpre k (by omega)

theorem Fwd.setCurPos {s s' : State} (h : Fwd cfg s s') {p : Nat}
    (hp : ∀ i c, s.cur = .chunk i → s.chunks[i]? = some c → s'.cur = .chunk i → if cfg.up then c.pos ≤ p else p ≤ c.pos) :
    Fwd cfg s (Arena.setCurPos s' p) := by
  intro i c hcur hc
  obtain ⟨hpre, j, c', hj, hc', hij, _⟩ := h i c hcur hc
  have e : Arena.setCurPos s' p = setPos s' j p := by unfold Arena.setCurPos; rw [hj]
  rw [e]
  refine ⟨fun n hn u hu => ?_, j, _, hj, Mem.setPos_getElem?_self hc' p, hij, fun e => hp i c hcur hc (e ▸ hj)⟩
  obtain ⟨v, hv, e1, e2⟩ := hpre n hn u hu
  obtain ⟨v', hv', f1, f2⟩ := ChunksCov.setPos s' j p n v hv
  exact ⟨v', hv', f1.trans e1, f2.trans e2⟩

theorem Fwd.ghost {s t s' : State} (h : Fwd cfg s t) (h1 : s'.chunks = t.chunks) (h2 : s'.cur = t.cur) : Fwd cfg s s' := by
  intro i c hcur hc
  obtain ⟨hpre, j, c', hj, hc', r⟩ := h i c hcur hc
  exact ⟨fun n hn u hu => by rw [h1]; exact hpre n hn u hu, j, c', h2.trans hj, by rw [h1]; exact hc', r⟩

theorem Fwd.of_later {s s' : State} (hcov : ChunksCov s s') {j : Nat} {c' : Chunk} (hj : s'.cur = .chunk j)
    (hc' : s'.chunks[j]? = some c') (h : ∀ i, s.cur = .chunk i → i < j) : Fwd cfg s s' := fun i c hcur hc =>
  ⟨sgp_of_cov hcov _, j, c', hj, hc', Nat.le_of_lt (h i hcur), fun e => absurd e (Nat.ne_of_gt (h i hcur))⟩

theorem adv_setPos {s : State} {i : Nat} {c : Chunk} (hcur : s.cur = .chunk i) (hc : s.chunks[i]? = some c) {p : Nat}
    (hp : if cfg.up then c.pos ≤ p else p ≤ c.pos) : Adv cfg s (setPos s i p) :=
  adv_same hcur hc hcur (Mem.setPos_getElem?_self hc p) rfl rfl hp (sgp_of_cov (ChunksCov.setPos s i p) i)

theorem adv_setCurPos {s : State} {i : Nat} {c : Chunk} (hcur : s.cur = .chunk i) (hc : s.chunks[i]? = some c) {p : Nat}
    (hp : if cfg.up then c.pos ≤ p else p ≤ c.pos) : Adv cfg s (setCurPos s p) := by
  have : setCurPos s p = setPos s i p := by unfold Arena.setCurPos; rw [hcur]
  rw [this]; exact adv_setPos hcur hc hp

theorem adv_onlyData {s s' : State} (h : Mem.OnlyDataChanged s s') : Adv cfg s s' := by
  obtain ⟨h1, h2⟩ := h
  have hcur : s'.cur = s.cur := by rw [h1]
  cases hc : s.cur with
  | claimed => exact Adv.of_zero (Or.inl hc)
  | unallocated => exact Adv.of_zero (Or.inr hc)
  | chunk i =>
    cases hi : s.chunks[i]? with
    | none =>
      unfold Adv stats
      simp only [hc, hi]; exact Nat.zero_le _
    | some c =>
      obtain ⟨c', hc', hg⟩ := Mem.getElem?_geom h2 hi
      have hg' : c'.base = c.base ∧ c'.size = c.size ∧ c'.pos = c.pos := by
        unfold Chunk.memGeom at hg
        simp only [Prod.mk.injEq] at hg
        exact ⟨hg.1, hg.2.1, hg.2.2.1⟩
      exact adv_same hc hi (hcur.trans hc) hc' hg'.1 hg'.2.1
        (by unfold Chunk.FreeSide; rw [hg'.2.2]; split <;> exact Nat.le_refl _) (sgp_of_cov (ChunksCov.of_geom h2) i)

/-- a request that is not an allocation (`prepare`, `range`) leaves the chunks up to the current one untouched
    (`Ctrl.Keeps`): the bump pointer did not move back, whatever the state, the layout and the hints -/
theorem _root_.Ctrl.Keeps.fwd {i : Nat} {s s' : State} (h : Ctrl.Keeps cfg i s s') (hcur : s.cur = .chunk i) :
    Fwd cfg s s' := by
  intro i' c hcur' hc
  cases hcur.symm.trans hcur'
  obtain ⟨j, hij, hj, hl⟩ := h.cur
  refine ⟨fun n hn x hx => ⟨x, (h.upto n (by omega)).trans hx, rfl, rfl⟩, j, _, hj, List.getElem?_eq_getElem hl, hij,
    fun e => ?_⟩
  subst e
  have := (h.upto j (Nat.le_refl j)).trans hc
  rw [List.getElem?_eq_getElem hl] at this
  exact Option.some.inj this ▸ Chunk.FreeSide.refl _

theorem allocGeneric_fwd_of_ne {k : Kind} (hk : k ≠ .alloc) {s s' : State} {L : Layout} {hints hSlow : Hints}
    {r : Except AErr (Nat × Nat)} (he : allocGeneric cfg k s L hints hSlow = .ok (s', r)) : Fwd cfg s s' :=
  fun i c hcur hc => (Ctrl.allocGeneric_keeps hk ⟨hcur, hc⟩ he).1.fwd hcur i c hcur hc

theorem tryCur_fwd (hc : CfgOK cfg) {s : State} (h : GeomInv cfg s) {L : Layout} {hints : Hints} (hL : L.Valid)
    (hh : hints.sma = true → L.align ∣ L.size) {v : Nat × Nat} {s' : State}
    (he : tryCur cfg .alloc s L hints = .ok (some (v, s'))) : Fwd cfg s s' := by
  obtain ⟨i, c, np, hcur, hi, rfl, _, _, _, _, _, hside⟩ := C10.tryCur_alloc_block hc h hL hh he
  refine (Fwd.refl s).setCurPos fun i' c' hcur' hc' _ => ?_
  rw [hcur] at hcur'; cases hcur'
  rw [hi] at hc'; cases hc'
  cases hup : cfg.up <;> simp only [hup, Bool.false_eq_true, ↓reduceIte] at hside ⊢
  · exact hside.2.2
  · exact hside.2.2.2

theorem Fwd.of_intact {s s' : State} (h : Intact s s') : Fwd cfg s s' := by
  intro i c hcur hc
  obtain ⟨c', hc', _, _⟩ := h.sameGeometryPrefix (i+1) i (Nat.lt_succ_self i) c hc
  have hp := h.pos i hcur i (Nat.le_refl i)
  rw [hc, hc'] at hp
  simp only [Option.map_some, Option.some.injEq] at hp
  exact ⟨h.sameGeometryPrefix _, i, c', h.sameCur.trans hcur, hc', Nat.le_refl i,
    fun _ => by unfold Chunk.FreeSide; rw [hp]; split <;> exact Nat.le_refl _⟩

theorem allocated_of_intact {s s' : State} (hg : GeomInv cfg s) (hi : Intact s s') :
    (stats cfg s').allocated = (stats cfg s).allocated := by
  have hgeoP := hi.sameGeometryPrefix
  cases hcu : s.cur with
  | unallocated =>
    have : s'.cur = .unallocated := hi.sameCur.trans hcu
    unfold stats; simp only [hcu, this]
  | claimed =>
    have : s'.cur = .claimed := hi.sameCur.trans hcu
    unfold stats; simp only [hcu, this]
  | chunk i =>
    obtain ⟨c, hci, _⟩ := hg.cur i hcu
    obtain ⟨c', hci', hb, hsz⟩ := hgeoP (i+1) i (Nat.lt_succ_self i) c hci
    have hp := hi.pos i hcu i (Nat.le_refl i)
    rw [hci, hci'] at hp
    simp only [Option.map_some, Option.some.injEq] at hp
    exact stats_allocated_congr hcu (hi.sameCur.trans hcu) hci hci' hb hsz hp (hgeoP i)

theorem inAnotherChunk_fwd (hc : CfgOK cfg) {s : State} (h : GeomInv cfg s) (hr : RespsOK cfg s)
    {L : Layout} {hints : Hints} (hL : L.Valid) (hh : hints.sma = true → L.align ∣ L.size)
    {s' : State} {r : Except AErr (Nat × Nat)}
    (he : inAnotherChunk cfg .alloc s L hints = .ok (s', r)) : Fwd cfg s s' := by
  cases r with
  | error e => exact Fwd.of_intact (C07.inAnotherChunk_error_intact he).1
  | ok v =>
    obtain ⟨post, hfrom⟩ := (inAnotherChunk_ok hc h hr .alloc hL hh nofun).1 _ he
    obtain ⟨sx, hgx, _, hspec, hcase⟩ := hfrom v rfl
    have hcur' := (tryCurSpec_inv hc hgx hL hspec).2.1
    have hcov := (Trail.of_path (Fn.inAnotherChunk_path he)).cov
    -- the block came from a later chunk `j` that already existed, or from a chunk appended at the end
    rcases hcase with ⟨_, i', j, hi', hj, hlt⟩ | ⟨p, g, rest, c, _, _, _, _, hcurx⟩
    · obtain ⟨cj, hcj, _⟩ := post.inv.cur j (hcur'.trans hj)
      exact Fwd.of_later hcov (hcur'.trans hj) hcj fun i hi => by rw [hi'] at hi; cases hi; exact hlt
    · obtain ⟨cj, hcj, _⟩ := post.inv.cur _ (hcur'.trans hcurx)
      exact Fwd.of_later hcov (hcur'.trans hcurx) hcj fun i hi => h.lt_length hi

theorem allocGeneric_fwd (hc : CfgOK cfg) {s : State} (h : GeomInv cfg s) (hr : RespsOK cfg s)
    {L : Layout} {hints hSlow : Hints} (hL : L.Valid) (hh : hints.sma = true → L.align ∣ L.size)
    (hhs : hSlow.sma = true → L.align ∣ L.size)
    {s' : State} {r : Except AErr (Nat × Nat)} (he : allocGeneric cfg .alloc s L hints hSlow = .ok (s', r)) :
    Fwd cfg s s' := by
  rcases Fn.allocGeneric_cases he with ⟨v, rfl, ht⟩ | ⟨_, hs⟩
  · exact tryCur_fwd hc h hL hh ht
  · exact inAnotherChunk_fwd hc h hr hL hhs hs

theorem alloc_fwd (hc : CfgOK cfg) {s : State} (h : GeomInv cfg s) (hr : RespsOK cfg s) {L : Layout} (hL : L.Valid)
    {s' : State} {r : Except AErr Nat} (he : alloc cfg s L = .ok (s', r)) : Fwd cfg s s' := by
  obtain ⟨r', h1, _⟩ := Mem.alloc_eq_ok he
  exact allocGeneric_fwd hc h hr hL (custom_sma L) (custom_sma L) h1

theorem alloc_adv (hc : CfgOK cfg) {s : State} (h : GeomInv cfg s) (hr : RespsOK cfg s) {L : Layout} (hL : L.Valid)
    {s' : State} {r : Except AErr Nat} (he : alloc cfg s L = .ok (s', r)) : Adv cfg s s' :=
  (alloc_fwd hc h hr hL he).adv h

end Arena.Hist
