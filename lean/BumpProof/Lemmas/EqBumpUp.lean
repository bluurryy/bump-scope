/-
  Lemmas/EqBumpUp.lean — `bump_up` computes `Spec.bumpUp`.

  `extract_lets` makes the join points of the translated `do` block local definitions.  Each is
  characterised once, innermost first, by its value under the conditions that hold at its call
  sites; the hints only enter there.  What remains is to show that each of the three ways of
  computing the block address yields `Spec.upAlign start align`.

  `clear_value` turns the components of `p` into plain variables, so the facts of `Valid.facts`
  and the code speak of the same terms.  Order facts are proved by `Nat` lemmas: with this many
  hypotheses in scope every `omega` call is slow to check.
-/
import BumpProof.Lemmas.RsOps
namespace Lemmas
open Gen.Bumping Rs C11

theorem bump_up_eq (p : BumpProps) (h : Valid true p) :
    bump_up p = .ok ((Spec.bumpUp p.start p.«end» p.layout.size p.layout.align p.min_align).map
      fun r => { new_pos := r.2, ptr := r.1 }) := by
  unfold bump_up
  rw [debug_assert_valid_eq h, ok_bind, min_chunk_align_eq]
  extract_lets s e L m aic sic smoa s0 np0 tt ff tail fit
  have hf : Facts true s e m L.size L.align smoa := Valid.facts h
  show _ = Except.ok ((Spec.bumpUp s e L.size L.align m).map _)
  clear_value s e L m aic sic smoa
  clear h np0
  have he16 := hf.end16
  have hme := hf.min_dvd_end
  have hms := hf.min_dvd_start
  have hsz' := hf.size_lt
  have hrange := hf.range_upAlign
  obtain ⟨hm, hm16, hm16d, ha, ha64, hap, hmp, hs0, he0, hs64, he64, hsz, htr, hr⟩ := hf
  rw [if_pos rfl] at hr
  have heM : e + 16 ≤ 2 ^ 64 := add_sixteen_le he16 he64
  have hm64 : m < 2 ^ 64 := Nat.lt_of_le_of_lt hm16 (by decide)
  have hm15 : m - 1 < 16 := Nat.lt_of_lt_of_le (Nat.sub_lt hmp Nat.one_pos) hm16
  -- from a block `[X, X + size)` that fits: round the new position up to `min_align` unless a
  -- hint says it is aligned already, then the closing assertions
  have htail : ∀ X, L.align ∣ X → m ∣ X → s ≤ X → X + L.size ≤ e →
      tail () X (X + L.size) = .ok (some { new_pos := Spec.upAlign (X + L.size) m, ptr := X }) := by
    intro X haX hmX hsX hfit
    have hX0 : 0 < X := Nat.lt_of_lt_of_le hs0 hsX
    have hXe : X ≤ e := Nat.le_trans (Nat.le_add_right X _) hfit
    simp -zeta only [tail]
    extract_lets asserts realign realign'
    have h1 : ∀ N, m ∣ N → X + L.size ≤ N → N ≤ e → asserts () N = .ok (some { new_pos := N, ptr := X }) := by
      intro N hmN hN hNe
      have hNX' : N ≥ X := Nat.le_trans (Nat.le_add_right X _) hN
      have hN0 : N ≠ 0 := Nat.pos_iff_ne_zero.1 (Nat.lt_of_lt_of_le hX0 hNX')
      have hNX : N - X ≥ L.size := Nat.le_sub_of_add_le' hN
      simp only [asserts, s0, assert_p2 ha, assert_p2 hm, sub_one_ok hap, sub_one_ok hmp, assert_band ha haX,
        assert_band hm hmX, assert_band hm hmN, assert_decide hN0, assert_decide (Nat.pos_iff_ne_zero.1 hX0),
        assert_decide hXe, assert_decide hsX, sub_ok hNX', assert_decide hNX, assert_decide hNe, assert_decide hNX', ok_bind,
        pure_eq_ok]
    have h2 : ∀ skip, (skip = true → m ∣ X + L.size) →
        realign () skip = .ok (some { new_pos := Spec.upAlign (X + L.size) m, ptr := X }) := by
      intro skip hskip
      cases skip
      · simp only [realign, Bool.false_eq_true, ↓reduceIte]
        rw [up_align_unchecked_eq hm hm64 (Nat.lt_of_lt_of_le (Nat.add_lt_add_of_le_of_lt hfit hm15) heM), ok_bind]
        exact h1 _ (upAlign_dvd _ _) (le_upAlign _ hmp) (upAlign_le_of_dvd hmp hme hfit)
      · simp only [realign, ↓reduceIte]
        rw [upAlign_eq_self hmp (hskip rfl)]
        exact h1 _ (hskip rfl) (Nat.le_refl _) hfit
    by_cases c : (!(aic && smoa && decide (L.align ≥ m))) = true
    · rw [if_pos c]
      cases sic
      · exact h2 false (fun h => nomatch h)
      · rw [if_pos rfl, rem_ok (Nat.pos_iff_ne_zero.1 hmp), ok_bind]
        exact h2 (decide (L.size % m = 0)) fun h =>
          (Nat.dvd_add_right hmX).2 (Nat.dvd_of_mod_eq_zero (of_decide_eq_true h))
    · rw [if_neg c]
      simp only [Bool.not_eq_true', Bool.not_eq_false, Bool.and_eq_true, decide_eq_true_eq] at c
      exact h2 true fun _ => (Nat.dvd_add_right hmX).2 (Nat.dvd_trans (hm.dvd_of_le ha c.2) (htr c.1.2))
  -- the two fit tests of the fast paths, from a block address `X`
  have hfit : ∀ X, L.align ∣ X → m ∣ X → s ≤ X → X + 16 ≤ 2 ^ 64 → ((X ≤ e ∧ e - X < 2 ^ 63) ∨ X = e + 16) →
      fit () X = .ok (if X + L.size ≤ e then some { new_pos := Spec.upAlign (X + L.size) m, ptr := X } else none) := by
    intro X haX hmX hsX hX16 hrX
    simp only [fit, remaining_test hsz' he64 (Nat.lt_of_lt_of_le (Nat.lt_add_of_pos_right (by decide)) hX16) hrX]
    by_cases hfit : X + L.size ≤ e
    · simp only [hfit, Nat.not_lt.2 hfit, add_ok' (Nat.lt_of_le_of_lt hfit he64), ok_bind, decide_false, Bool.false_eq_true,
        ↓reduceIte, htail X haX hmX hsX hfit, ite_self]
    · have hlt : e < X + L.size := Nat.lt_of_not_le hfit
      by_cases hb : (sic && decide (L.size < 16)) = true
      · rw [if_pos hb, if_neg hfit]
        simp only [Bool.and_eq_true, decide_eq_true_eq] at hb
        rw [add_ok' (Nat.lt_of_lt_of_le (Nat.add_lt_add_left hb.2 X) hX16), ok_bind, decide_eq_true hlt, if_pos rfl,
          pure_eq_ok]
      · rw [if_neg hb, if_neg hfit, decide_eq_true hlt, if_pos rfl, pure_eq_ok]
  have hspec : ∀ X, X = Spec.upAlign s L.align →
      (.ok (if X + L.size ≤ e then some { new_pos := Spec.upAlign (X + L.size) m, ptr := X } else none) :
        M (Option BumpUp)) =
      .ok ((Spec.bumpUp s e L.size L.align m).map fun r => { new_pos := r.2, ptr := r.1 }) := by
    rintro X rfl
    unfold Spec.bumpUp
    by_cases hfit : Spec.upAlign s L.align + L.size ≤ e
    · simp only [if_pos hfit, Option.map_some]
    · simp only [if_neg hfit, Option.map_none]
  have hS1 := upAlign_dvd s L.align
  have hS2 := le_upAlign s hap
  by_cases b0 : (aic && decide (L.align ≤ 16)) = true
  · rw [if_pos b0]
    simp only [Bool.and_eq_true, decide_eq_true_eq] at b0
    have hX := hrange (ha.dvd_of_le P2.sixteen b0.2)
    have := hfit _ hS1 (hm.dvd_upAlign ha hms) hS2 hX.2 hX.1
    by_cases bam : L.align ≤ m
    · have hXs := upAlign_eq_self hap (Nat.dvd_trans (ha.dvd_of_le hm bam) hms)
      rw [hXs] at this
      rw [decide_eq_true bam, if_pos rfl, this]
      exact hspec s hXs.symm
    · rw [decide_eq_false bam, if_neg Bool.false_ne_true, up_align_unchecked_eq ha ha64
        (Nat.lt_of_lt_of_le (Nat.add_lt_add_of_le_of_lt hS2 (Nat.lt_of_lt_of_le (Nat.sub_lt hap Nat.one_pos) b0.2)) hX.2),
        ok_bind, this]
      exact hspec _ rfl
  · rw [if_neg b0, sub_one_ok hs0, ok_bind, sub_one_ok hap, ok_bind, add_ok' (by omega), ok_bind]
    have hD := band_pred_add ha ha64 hs0 hs64
    generalize band (s - 1) (bnot (L.align - 1)) = D at hD ⊢
    have hD' : D + (L.align + L.size) = Spec.upAlign s L.align + L.size := by rw [← Nat.add_assoc, hD]
    simp only [saturating_add_gt (Nat.lt_of_lt_of_le (Nat.add_lt_add_left (by decide) e) heM), hD']
    refine Eq.trans ?_ (hspec _ rfl)
    by_cases hfit : Spec.upAlign s L.align + L.size ≤ e
    · have hU : Spec.upAlign s L.align < 2 ^ 64 := Nat.lt_of_le_of_lt (Nat.le_trans (Nat.le_add_right _ _) hfit) he64
      rw [decide_eq_false (Nat.not_lt.2 hfit), if_neg Bool.false_ne_true, if_pos hfit,
        saturating_add_ok (hD' ▸ Nat.lt_of_le_of_lt hfit he64), add_ok' (hD ▸ hU), ok_bind, hD, hD']
      exact htail _ hS1 (hm.dvd_upAlign ha hms) hS2 hfit
    · rw [decide_eq_true (Nat.lt_of_not_le hfit), if_pos rfl, if_neg hfit, pure_eq_ok]

syntax "bump_up_leaf" " [" Lean.Parser.Tactic.simpLemma,* "]" : tactic

/- fast path (`align ≤ 16` known at compile time), for the block address `X` -/
set_option hygiene false in
local macro "bump_up_fast_true" X:term : tactic => `(tactic| (
  rcases hr with ⟨h1, h2, h3, h4⟩ | ⟨h1, h2, h3⟩
  · have hXe : $X ≤ e := hS4 e (Nat.dvd_trans ha16 he16) h1
    by_cases b1 : sz < 16
    · by_cases hlt : e < $X + sz
      · have hfit : ¬ ($X + sz ≤ e) := by omega
        bump_up_leaf [b1, hlt, hfit]
      · have hfit : $X + sz ≤ e := by omega
        have hU1 := hUd ($X + sz)
        have hU2 := hUge ($X + sz)
        have hU3 := hUle _ hfit
        bump_up_leaf [b1, hlt, hfit]
    · by_cases hcmp : (sz : Int) > ((e - $X : Nat) : Int)
      · have hfit : ¬ ($X + sz ≤ e) := by omega
        bump_up_leaf [b1, hcmp, hfit]
      · have hfit : $X + sz ≤ e := by omega
        have hU1 := hUd ($X + sz)
        have hU2 := hUge ($X + sz)
        have hU3 := hUle _ hfit
        bump_up_leaf [b1, hcmp, hfit]
  · have hXs : $X = s := hXd h3
    have hrem : as_isize (wrapping_sub e $X) = -16 := by
      rw [hXs, h1]; exact remaining_dummy (by omega)
    have hfit : ¬ ($X + sz ≤ e) := by omega
    by_cases b1 : sz < 16
    · have hlt : e < $X + sz := by omega
      bump_up_leaf [b1, hlt, hfit]
    · have h5 : (sz : Int) > -16 := by omega
      bump_up_leaf [b1, hrem, h5, hfit]))

/- fast path, `size_is_const = false`: the size is always checked against the remaining capacity -/
set_option hygiene false in
local macro "bump_up_fast_false" X:term : tactic => `(tactic| (
  rcases hr with ⟨h1, h2, h3, h4⟩ | ⟨h1, h2, h3⟩
  · have hXe : $X ≤ e := hS4 e (Nat.dvd_trans ha16 he16) h1
    by_cases hcmp : (sz : Int) > ((e - $X : Nat) : Int)
    · have hfit : ¬ ($X + sz ≤ e) := by omega
      bump_up_leaf [hcmp, hfit]
    · have hfit : $X + sz ≤ e := by omega
      have hU1 := hUd ($X + sz)
      have hU2 := hUge ($X + sz)
      have hU3 := hUle _ hfit
      bump_up_leaf [hcmp, hfit]
  · have hXs : $X = s := hXd h3
    have hrem : as_isize (wrapping_sub e $X) = -16 := by
      rw [hXs, h1]; exact remaining_dummy (by omega)
    have hfit : ¬ ($X + sz ≤ e) := by omega
    have h5 : (sz : Int) > -16 := by omega
    bump_up_leaf [hrem, h5, hfit]))

end Lemmas
