/-
  Lemmas/HistNoFault.lean — the NO-FAULT companion of the preservation of `Arena.Hist.Inv` (part of
  property C10): from a state satisfying `Inv`, with a correct base allocator, `stepCore` of an operation in
  `Op.noFaultCovered` never returns `.error (.rs _)` (overflow / failed debug assertion) or `.error (.ub _)` (undefined
  behaviour); the only errors left are `.contract` (the caller broke the documented contract) and `.noResp` (the trace
  supplied no base-allocator response).  Outside `Op.noFaultCovered` the statement is false: an untruthful layout hint
  on the claimed handle faults (`Arena.Targets.dummyOps_fault_hint`), and `grow / deallocate / shrink` of a block through
  the claimed handle need `DummyApart` besides `Inv` (`C10.reachable_noFault_target_fails`, `noFault_onClaimed_block`).

  A computation is walked forwards: `NoBug x` says that `x` succeeds or ends in a fault that is no bug;
  `NoBug.bind` looks at the rest only where the first part succeeded, `NoBug.guard` passes an
  `if … then throw (.contract _)`, `NoBug.of_ensures` takes the `Ensures` statement of a model function (its `_ok` theorem of the
  geometry tower) where the pre-condition holds, `NoBug.of_ok` a bare no-fault statement.

  Here: `Fault.isBug`, `Answered`, `NoBug`, the guards, and the operations that do not allocate.  The allocating ones are
  in HistNoFaultAlloc.lean, the reallocating ones and the main theorem `noFault_stepCore_partial` in HistNoFaultRealloc.lean.
-/
import BumpProof.Lemmas.InvBasic
set_option linter.unusedSimpArgs false
set_option linter.unusedVariables false
namespace Arena.Hist
open Rs
variable {cfg : Cfg}

/-- faults that would be bugs of the crate (as opposed to contract violations of the caller / a missing response) -/
def Fault.isBug : Fault → Prop
  | .rs _ => True
  | .ub _ => True
  | _ => False

/-- the base allocator answers the request(s) the operation may make correctly (`BaseOK`/`HeadOK` of
    Arena/Inv.lean: a response is pending and is large enough for the size the slow path will ask for);
    `True` for the operations that never ask.  Typed `reserve` asks for what is left of `n` after the capacities
    of the later chunks are subtracted (`walkReserve`), an amount not known statically: hence every `rest ≤ n`. -/
def Answered (cfg : Cfg) (s : State) : Op → Prop
  | .newWithSize n =>
    ∀ size, Spec.calcSize cfg.up cfg.hdr (Nat.max n cfg.minChunk) = some size → HeadOK cfg s size
  | .newWithCapacity L => BaseOK cfg s L
  | .allocate L _ _ => BaseOK cfg s L
  | .allocLayout L _ => BaseOK cfg s L
  | .grow _ L _ _ => BaseOK cfg s L
  | .shrink _ L _ => BaseOK cfg s L
  | .prepare L => BaseOK cfg s L
  | .prepareSlice esize ealign minCap _ => BaseOK cfg s { size := esize * minCap, align := ealign }
  | .reserve n dyn =>
    if dyn then BaseOK cfg s { size := n, align := 1 }
    else ∀ rest, rest ≤ n → BaseOK cfg s { size := rest, align := 1 }
  | .allocTryWith L _ _ _ inner mut_ =>
    BaseOK cfg s L ∧
    -- the closure's own allocation asks from the state the first allocation left
    ∀ Li, inner = some Li → ∀ s1 r,
      allocGeneric cfg (if mut_ then .prepare else .alloc) s L Hints.sized Hints.custom = .ok (s1, r) → BaseOK cfg s1 Li
  | _ => True

/-! ## `NoBug`: a computation of the model that does not end in a bug fault -/

def NoBug {α : Type} (x : R α) : Prop := ∀ f, x = .error f → ¬ Fault.isBug f

namespace NoBug
variable {α β : Type}

theorem of_ok {x : R α} (h : ∃ a, x = .ok a) : NoBug x := by
  intro f hf
  obtain ⟨a, ha⟩ := h
  rw [ha] at hf; cases hf

theorem pure (a : α) : NoBug (Pure.pure a : R α) := of_ok ⟨a, rfl⟩

theorem of_ensures {x : R α} {Q : Prop} {P : α → Prop} (h : Ensures x Q P) (hq : Q) : NoBug x := of_ok (h.2 hq)

theorem contract (m : String) : NoBug (throw (.contract m) : R α) := by
  intro f hf; cases hf; exact fun hb => hb

theorem bind {x : R α} {k : α → R β} (hx : NoBug x) (hk : ∀ a, x = .ok a → NoBug (k a)) : NoBug (x >>= k) := by
  intro f hf
  cases hxa : x with
  | error e => rw [hxa] at hf; cases hf; exact hx _ hxa
  | ok a => rw [hxa] at hf; exact hk a hxa f hf

theorem guard {c : Prop} [Decidable c] {m : String} {f : α → R β} {k : R β} (hk : ¬c → NoBug k) :
    NoBug (if c then throw (.contract m) >>= f else k) := by
  by_cases hc : c
  · rw [if_pos hc]; intro e he; cases he; exact fun hb => hb
  · rw [if_neg hc]; exact hk hc

theorem ite {c : Prop} [Decidable c] {t e : R α} (ht : c → NoBug t) (he : ¬c → NoBug e) :
    NoBug (if c then t else e) := by
  by_cases hc : c
  · rw [if_pos hc]; exact ht hc
  · rw [if_neg hc]; exact he hc

end NoBug

theorem step_bug {g : GState} {op : Op} {resps : List BaseResp} {f : Fault}
    (h : step cfg g op resps = .error f) (hb : Fault.isBug f) : stepCore cfg (install g resps) op = .error f := by
  unfold step at h
  simp only [bind, Except.bind, pure, Except.pure] at h
  split at h
  · rename_i f' hf
    cases h
    exact hf
  · rename_i x hx
    split at h
    · cases h; exact (hb).elim
    · cases h

/-! ## the guards of `stepCore` only throw `.contract` -/

/-- `validLayout`, `noPrepared`, `noFrames`: each is a test that throws `.contract` -/
theorem check_err {c : Prop} [Decidable c] {m : String} {f : Fault}
    (h : (if c then pure () else throw (.contract m) : R Unit) = .error f) : ¬ Fault.isBug f :=
  NoBug.ite (fun _ => .pure _) (fun _ => .contract _) f h

theorem findBlock_err {s : State} {id : Nat} {f : Fault} (h : findBlock s id = .error f) : ¬ Fault.isBug f := by
  unfold findBlock at h
  split at h
  · cases h
  · cases h; exact fun hb => hb

/-! ## operations without a failing model function -/

theorem noFault_newUnallocated {g : GState} : NoBug (stepCore cfg g .newUnallocated) :=
  .ite (fun _ => .contract _) fun _ => .pure _

theorem noFault_scopeEnter {g : GState} : NoBug (stepCore cfg g .scopeEnter) :=
  .bind (fun _ => check_err) fun _ _ => .pure _

theorem noFault_checkpoint {g : GState} {k : Nat} : NoBug (stepCore cfg g (.checkpoint k)) :=
  .bind (fun _ => check_err) fun _ _ => .guard fun _ => .pure _

theorem noFault_claim {g : GState} : NoBug (stepCore cfg g .claim) :=
  .bind (fun _ => check_err) fun _ _ => .guard fun _ => .pure _

theorem noFault_claimEnd {g : GState} : NoBug (stepCore cfg g .claimEnd) := by
  refine .bind (fun _ => check_err) fun _ _ => ?_
  split
  · exact .pure _
  · exact .contract _

theorem noFault_abandonPrepared {g : GState} : NoBug (stepCore cfg g .abandonPrepared) := by
  conv => arg 1; whnf
  split
  · exact .pure _
  · exact .contract _

theorem noFault_split {g : GState} {b at_ : Nat} : NoBug (stepCore cfg g (.split b at_)) :=
  .bind (fun _ => findBlock_err) fun _ _ => .guard fun _ => .pure _

/-- `drop`, `reset`, `reset_to_start` (the shape of `ok_wholeArena`) -/
theorem noFault_wholeArena {g : GState} {f : State → State} :
    NoBug (do noFrames g.s; noPrepared g.s
              pure ({ g with s := { f g.s with live := [], userCps := [] } }, Out.unit) : R (GState × Out)) :=
  .bind (fun _ => check_err) fun _ _ => .bind (fun _ => check_err) fun _ _ => .pure _

/-- `reset_to` on a geometrically sound checkpoint: either it succeeds, or (checkpoint of an unallocated
    arena used with `GUARANTEED_ALLOCATED`) the model reports a contract violation -/
theorem resetTo_noBug (hc : CfgOK cfg) {s : State} (hg : GeomInv cfg s) {ma : Nat} (hma : MinAlignOK ma)
    {cp : Checkpoint} (hcp : CpGeom cfg s cp) : NoBug (resetTo cfg { s with minAlign := ma } cp) := by
  intro f hf
  have hok : CheckpointOK cfg s cp → ¬ Fault.isBug f := by
    intro hck
    obtain ⟨s1, e1⟩ := (resetTo_ok_min hc hg hma hck).2 trivial
    rw [e1] at hf; cases hf
  cases hk : cp.cur with
  | chunk i =>
    apply hok
    unfold CheckpointOK; unfold CpGeom at hcp; rw [hk] at hcp ⊢; exact hcp
  | claimed => unfold CpGeom at hcp; rw [hk] at hcp; exact hcp.elim
  | unallocated =>
    cases hga : cfg.ga
    · apply hok
      unfold CheckpointOK; rw [hk]; exact hga
    · unfold resetTo at hf
      simp only [hk, hga, Bool.not_true, Bool.false_and, Bool.false_eq_true, ↓reduceIte] at hf
      cases hf; exact fun hb => hb

theorem noFault_scopeExit {g : GState} (h : Inv cfg g) : NoBug (stepCore cfg g .scopeExit) := by
  refine .bind (fun _ => check_err) fun _ _ => ?_
  split
  · rename_i cp rest m ms hfr hmk
    have hfo := h.frames
    rw [hfr, hmk] at hfo
    exact .bind (resetTo_noBug h.cfgOK h.geom h.geom.minAlign hfo.1.geom) fun _ _ => .pure _
  · exact .contract _

theorem noFault_scopedAlignedExit {g : GState} (h : Inv cfg g) : NoBug (stepCore cfg g .scopedAlignedExit) := by
  refine .bind (fun _ => check_err) fun _ _ => ?_
  split
  · rename_i cp outer rest m ms hfr hmk
    have hfo := h.frames
    rw [hfr, hmk] at hfo
    exact .bind (resetTo_noBug h.cfgOK h.geom hfo.1 hfo.2.1.geom) fun _ _ => .pure _
  · exact .contract _

theorem noFault_resetTo {g : GState} {k : Nat} (h : Inv cfg g) : NoBug (stepCore cfg g (.resetTo k)) := by
  refine .bind (fun _ => check_err) fun _ _ => ?_
  split
  · exact .contract _
  · rename_i k' cp mark hfind
    exact .guard fun _ => .guard fun _ =>
      .bind (resetTo_noBug h.cfgOK h.geom h.geom.minAlign (h.cps _ (List.mem_of_find?_eq_some hfind)).geom) fun _ _ => .pure _

theorem noFault_alignedEnter {g : GState} {n : Nat} (h : Inv cfg g) : NoBug (stepCore cfg g (.alignedEnter n)) :=
  .bind (fun _ => check_err) fun _ _ => .guard fun hn => .ite (fun _ => .pure _) fun _ =>
    .bind (.of_ok (C10.alignTo_noFault h.cfgOK h.geom (minAlignOK_of_not_check hn))) fun _ _ => .pure _

theorem noFault_alignedExit {g : GState} (h : Inv cfg g) : NoBug (stepCore cfg g .alignedExit) := by
  refine .bind (fun _ => check_err) fun _ _ => ?_
  split
  · rename_i outer start rest hfr
    have hfo := h.frames
    rw [hfr] at hfo
    exact .bind (.of_ok (C10.alignGuardDrop_noFault h.cfgOK h.geom hfo.1)) fun s1 hs1 =>
      .bind (.of_ok (C10.alignChunkAt_noFault h.cfgOK (C10.alignGuardDrop_inv h.cfgOK h.geom hfo.1 hs1).1 hfo.1 start))
        fun _ _ => .pure _
  · exact .pure _
  · exact .contract _

theorem noFault_scopedAlignedEnter {g : GState} {n : Nat} (h : Inv cfg g) :
    NoBug (stepCore cfg g (.scopedAlignedEnter n)) :=
  .bind (fun _ => check_err) fun _ _ => .guard fun hn =>
    .bind (.of_ok (C10.alignTo_noFault h.cfgOK h.geom (minAlignOK_of_not_check hn))) fun _ _ => .pure _

theorem noFault_withSettings {g : GState} {n : Nat} {ga cl : Bool} (h : Inv cfg g) :
    NoBug (stepCore cfg g (.withSettings n ga cl)) :=
  .bind (fun _ => check_err) fun _ _ => .bind (fun _ => check_err) fun _ _ => .guard fun hn =>
    .ite (fun _ => .pure _) fun _ => .ite (fun _ => .pure _) fun _ =>
      .bind (.of_ok (C10.alignTo_noFault h.cfgOK h.geom (minAlignOK_of_not_check hn))) fun _ _ => .pure _

theorem noFault_deallocate {g : GState} {b : Nat} {via : Via} (h : Inv cfg g) :
    NoBug (stepCore cfg g (.deallocate b via)) :=
  .bind (fun _ => check_err) fun _ _ => .bind (fun _ => findBlock_err) fun blk hblk =>
    .ite (fun _ => .pure _) fun _ =>
      .bind (.of_ok (C10.deallocate_noFault h.cfgOK h.geom (h.blockInCur (Mem.findBlock_ok hblk).1))) fun _ _ => .pure _

/-- a range that is empty or placed in a chunk is writable -/
theorem placed_writable {s : State} (hg : GeomInv cfg s) (hd : ChunksDisjoint s) {a n : Nat}
    (hp : 0 < n → Mem.Placed cfg s a n) (f : Nat → UInt8) : ∃ s', writeRange cfg s a (a + n) f = .ok s' := by
  apply writeRange_noFault hd
  by_cases hs : 0 < n
  · obtain ⟨i, j, c, _, _, hcj, hin, _⟩ := hp hs
    exact Or.inr ⟨j, c, hcj, hg.chunks j c hcj, hin.1, hin.2⟩
  · left; omega

theorem noFault_write {g : GState} {b seed : Nat} (h : Inv cfg g) : NoBug (stepCore cfg g (.write b seed)) :=
  .bind (fun _ => findBlock_err) fun blk hblk =>
    .bind (.of_ok (placed_writable h.geom h.disj (h.live.placed blk (Mem.findBlock_ok hblk).1) _)) fun _ _ => .pure _

theorem noFault_fillPrepared {g : GState} {len seed : Nat} (h : Inv cfg g) :
    NoBug (stepCore cfg g (.fillPrepared len seed)) := by
  conv => arg 1; whnf
  split
  · rename_i p hp
    obtain ⟨i, c, hcur, hc, h1, h2, h3⟩ := (h.prep p hp).inCur h.geom
    refine .guard fun hchk => .bind (.of_ok ?_) fun _ _ => .pure _
    exact writeRange_noFault (cfg := cfg) h.disj _
      (Or.inr ⟨i, c, hc, h.geom.chunks i c hc, by split <;> omega, by split <;> omega⟩)
  · exact .contract _

end Arena.Hist
