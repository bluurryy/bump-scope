/-
  Lemmas/MemTry.lean — what a successful `tryCur .alloc` (the fast path `RawChunk::alloc`) returns: the block is
  `Carved` from the current chunk (`tryCurSpec_alloc` of `Lemmas/FnTry.lean`, for a valid request).
-/
import BumpProof.Lemmas.FnTry

set_option linter.unusedSimpArgs false

namespace Arena.Mem
open Rs

theorem liftM_ok_iff {α} {x : Rs.M α} {v : α} : liftM x = .ok v ↔ x = .ok v :=
  ⟨Fn.liftM_eq_ok, fun h => by rw [h]; rfl⟩

theorem tryCur_alloc_carved {cfg : Cfg} {s s' : State} {L : Layout} {h : Hints} {p x : Nat}
    (hv : C11.Valid cfg.up (bumpProps cfg s L h))
    (hr : tryCur cfg .alloc s L h = .ok (some ((p, x), s'))) :
    ∃ i c np, s.cur = .chunk i ∧ s.chunks[i]? = some c ∧ L.align ∣ p ∧ s.minAlign ∣ np ∧
      Carved cfg c p L.size np ∧ s' = setPos s i np := by
  rw [tryCur_eq_of_valid hv] at hr
  obtain ⟨i, c, np, a1, a2, a3, a4, _, a6, a7, _⟩ := tryCurSpec_alloc hv (Except.ok.inj hr)
  exact ⟨i, c, np, a1, a2, a4, a6, a7, a3⟩

end Arena.Mem
