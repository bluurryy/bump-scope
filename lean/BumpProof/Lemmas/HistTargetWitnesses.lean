/-
  Lemmas/HistTargetWitnesses.lean — helper lemmas and concrete witnesses for `Props/Targets.lean`: counting grants (C05), the
  states that refute the `…_target` statements of C07 and C13, the bridge from `RespsSane` to `EnvOK` (C01, C02), and
  the histories that refute `C10.reachable_noFault_target` / show its zero-sized case non-vacuous.
-/
import BumpProof.Lemmas.HistClaimedHandle

namespace Arena.Targets
open Arena Arena.Hist Rs Ledger

variable {cfg : Cfg}

/-! ## C05: counting grants -/

theorem grantsOf_length_le (rq : List BaseReq) (used : List BaseResp) :
    (grantsOf rq used).length ≤ (allocsOf rq).length := by
  fun_induction grantsOf rq used <;>
    simp only [allocsOf, isDealloc, List.filter_cons, Bool.not_false, Bool.not_true, ↓reduceIte, List.length_cons,
      List.filter_nil, Bool.false_eq_true] at * <;> omega

/-! ## C07: a refusing base allocator, `grow` -/

/-- an ill-formed state (two OVERLAPPING chunks, downwards): chunk 0 is `[0xFE20, 0x10010)`, its header the last 32
    bytes `[0xFFF0, 0x10010)`; chunk 1 — the current one — is `[0x10000, 0x101F0)` with 8 free bytes below the
    position `0x10008`.  No reachable state looks like this (`C10.reachable_chunks_wellformed`: chunks are disjoint). -/
def c07Chunk0 : Chunk := { base := 0xFE20, size := 496, pos := 0xFE20, granted := 496, reqSize := 496, data := #[] }
def c07Chunk1 : Chunk := { base := 0x10000, size := 496, pos := 0x10008, granted := 496, reqSize := 496, data := #[] }
def c07State : State :=
  { chunks := [c07Chunk0, c07Chunk1], cur := .chunk 1, minAlign := 8, frames := [], live := [], nextId := 0,
    userCps := [], prepared := none, resps := [.fail], reqs := [], dropped := false }
def c07L : Layout := { size := 24, align := 8 }

theorem c07_fast : tryCur exCfgDown .alloc c07State c07L Hints.custom = .ok none := rfl

/-- growing the newest block `[0x10008, 0x10018)` of chunk 1 in place moves it to `0x10000`; the model looks the
    destination up in the chunk list, finds the overlapping chunk 0 first, and the destination lies in ITS header:
    undefined behaviour -/
theorem c07_grow_faults : (grow exCfgDown c07State 0x10008 16 c07L).toBool = false := rfl

/-- a concrete call is shown to succeed by evaluating `toBool`; its (large) result is then named, not computed -/
theorem exists_ok_pair {α β : Type} {x : R (α × β)} (h : x.toBool = true) : ∃ a b, x = .ok (a, b) := by
  cases x with
  | error e => cases h
  | ok v => exact ⟨v.1, v.2, rfl⟩

/-! ## C13: an ill-formed state on which `WithoutShrink::shrink` lowers `allocated` -/

/-- chunk 0 (current) has its position 16 bytes PAST its end — the shape of a dummy chunk, impossible for a chunk
    of a reachable state (`C10.reachable_pos_aligned`: the position lies in the content range) -/
def c13Chunk0 : Chunk := { base := 0x10000, size := 496, pos := 0x10000 + 512, granted := 496, reqSize := 496, data := #[] }
def c13Chunk1 : Chunk := { base := 0x20000, size := 976, pos := 0x20000 + 32, granted := 976, reqSize := 976, data := #[] }
def c13State : State :=
  { chunks := [c13Chunk0, c13Chunk1], cur := .chunk 0, minAlign := 8, frames := [], live := [], nextId := 0,
    userCps := [], prepared := none, resps := [], reqs := [], dropped := false }

/-- `allocated` is 480 before (more than the 464 bytes of capacity of chunk 0) and 464 after the call, which
    moves to chunk 1 -/
theorem c13_witness : ∃ s' r, shrinkWithoutShrink exCfg c13State 1 0 { size := 0, align := 2 } = .ok (s', r) ∧
    (stats exCfg s').allocated < (stats exCfg c13State).allocated := ⟨_, _, rfl, by decide⟩

/-! ## C01 / C02: `RespsSane` (the environment predicate of the `…_target` statements) and `EnvOK` -/

/-- sane responses that lie in the user half of the address space (`2^63` instead of `RespsSane`'s `2^64`) are a
    correct environment -/
theorem envOK_of_sane {g : GState} {resps : List BaseResp} (h : Mem.RespsSane cfg g.s resps)
    (hlow : ∀ p k, BaseResp.granted p k ∈ resps → p + k < 2 ^ 63) : EnvOK cfg g resps := by
  obtain ⟨h1, h2⟩ := h
  refine ⟨?_, ?_, ?_⟩
  · intro r hr
    cases r with
    | fail => trivial
    | granted p k =>
      have hr' : BaseResp.granted p k ∈ resps := hr
      obtain ⟨a1, _, a3, _, _⟩ := h1 p k hr'
      exact ⟨a3, a1, hlow p k hr'⟩
  · show resps.Pairwise _
    refine h2.imp ?_
    intro a b hab
    cases a with
    | fail => cases b <;> trivial
    | granted p k => cases b with
      | fail => trivial
      | granted q l => exact hab
  · intro p k hm i c hc
    have hm' : BaseResp.granted p k ∈ resps := hm
    have hc' : g.s.chunks[i]? = some c := hc
    exact (h1 p k hm').2.2.2.2 c (List.mem_of_getElem? hc')

/-! ## C10: a history after which a (non-empty) live block passes the `is_last` test of the CLAIMED dummy chunk -/

/-- the base allocator grants the first chunk at `2^62` — inside the user half of the address space, so `EnvOK`
    holds, but covering the address `dummyAddr = 2^62 + 80` the model uses for the static dummy chunk header; a
    64-byte allocation then ends exactly at `dummyAddr + 16`, the bump position of the upwards dummy chunk;
    the arena is claimed -/
def dummyOps : List (Op × List BaseResp) :=
  [(.newWithSize 512, [.granted (2 ^ 62) 496]), (.allocate { size := 64, align := 1 } false .plain, []), (.claim, [])]

theorem dummyOps_covered : AllCovered dummyOps := coveredCheck_sound (by decide)

theorem dummyOps_env : RunEnvOK exCfg (initG exCfg) dummyOps := runEnvCheck_sound _ _ (by decide +kernel)

/-- … and `deallocate` of that block through the claimed (original) handle runs into `as_non_dummy_unchecked` on the
    dummy chunk; the last conjunct is `dummyOps_fault_hint`, stated here so that the history is run once for both -/
theorem dummyOps_fault : ∃ g, runOps exCfg (initG exCfg) dummyOps = .ok g ∧
    step exCfg g (.onClaimed (.deallocate 0 .plain)) [] = .error (.ub "as_non_dummy_unchecked on a dummy chunk") ∧
    step exCfg g (.onClaimed (.allocLayout { size := 1, align := 2 } Hints.sized)) [] = .error (.rs .assertion) :=
  ⟨_, rfl, rfl, rfl⟩

/-- a second, independent way to fault on the claimed handle: an UNTRUTHFUL layout hint (`SizedLayout` for a size
    that is not a multiple of the alignment) — the model checks this contract only for the active handle -/
theorem dummyOps_fault_hint : ∃ g, runOps exCfg (initG exCfg) dummyOps = .ok g ∧
    step exCfg g (.onClaimed (.allocLayout { size := 1, align := 2 } Hints.sized)) [] = .error (.rs .assertion) :=
  let ⟨g, h, _, h2⟩ := dummyOps_fault
  ⟨g, h, h2⟩

/-- non-vacuity for the zero-sized case: a chunk at `0x10000`, a ZERO-SIZED allocation, the arena is claimed; the
    empty block is then deallocated through the claimed handle (no fault) -/
def zstOps : List (Op × List BaseResp) :=
  [(.newWithSize 512, [.granted 0x10000 496]), (.allocate { size := 0, align := 1 } false .plain, []), (.claim, [])]

theorem zstOps_low : ∃ g, ReachableLow exCfg g ∧ (∃ blk, findBlock g.s 0 = .ok blk ∧ blk.size = 0) ∧
    ∃ g' out reqs, step exCfg g (.onClaimed (.deallocate 0 .plain)) [] = .ok (g', out, reqs) :=
  ⟨_, ⟨zstOps, coveredCheck_sound (by decide), runEnvCheck_sound _ _ (by decide +kernel), lowCheck_sound (by decide), rfl⟩,
    ⟨_, rfl, rfl⟩, _, _, _, rfl⟩

end Arena.Targets
