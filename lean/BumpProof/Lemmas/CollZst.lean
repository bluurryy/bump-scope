/-
  Lemmas/CollZst.lean — accounting lemmas for the counting model of zero-sized elements (`Coll/Zst.lean`).
-/
import BumpProof.Coll.Zst

namespace Coll.Zst

theorem pulls_eq (k : Nat) : ∀ (v : ZVec) (d : ZDrain),
    pulls k v d = ({ v with escaped := v.escaped + min k d.iterLen }, { d with iterLen := d.iterLen - k }) := by
  induction k with
  | zero => intro v d; simp [pulls]
  | succ k ih =>
    rintro v ⟨t, _ | m⟩
    · simp only [pulls, pull, ↓reduceIte, ih, Nat.min_zero, Nat.zero_sub]
    · simp only [pulls, pull, Nat.succ_ne_zero, ↓reduceIte, ih, Nat.add_sub_cancel, Nat.succ_min_succ,
        Nat.add_sub_add_right, Nat.add_assoc, Nat.add_comm 1]

theorem truncate_spec (v : ZVec) (len : Nat) (bomb : Option Nat) :
    (truncate v len bomb).1.len = min len v.len ∧ (truncate v len bomb).1.drops = v.drops + (v.len - len) ∧
    (truncate v len bomb).1.escaped = v.escaped := by
  unfold truncate
  by_cases h : len ≥ v.len
  · rw [if_pos h, Nat.min_eq_right h, Nat.sub_eq_zero_of_le h]; exact ⟨rfl, rfl, rfl⟩
  · rw [if_neg h, Nat.min_eq_left (Nat.le_of_not_ge h)]; exact ⟨rfl, rfl, rfl⟩

theorem drainDrop_spec (v : ZVec) (d : ZDrain) (bomb : Option Nat) :
    (drainDrop v d bomb).1.len = v.len + d.tailLen ∧ (drainDrop v d bomb).1.drops = v.drops + d.iterLen ∧
    (drainDrop v d bomb).1.escaped = v.escaped := by
  unfold drainDrop
  have ⟨t1, t2, t3⟩ := truncate_spec { v with len := v.len + d.iterLen + d.tailLen } (v.len + d.tailLen) bomb
  refine ⟨t1.trans (Nat.min_eq_left ?_), t2.trans ?_, t3⟩
  · show v.len + d.tailLen ≤ v.len + d.iterLen + d.tailLen
    exact Nat.add_le_add_right (Nat.le_add_right ..) _
  · show v.drops + (v.len + d.iterLen + d.tailLen - (v.len + d.tailLen)) = _
    rw [Nat.add_right_comm v.len, Nat.add_sub_cancel_left]

theorem drain_spec (v : ZVec) (start end_ k : Nat) (keep : Bool) (bomb : Option Nat) (hse : start ≤ end_) (hel : end_ ≤ v.len) :
    ∃ v' p, drain v start end_ k keep bomb = some (v', p) ∧
      v'.escaped = v.escaped + min k (end_ - start) ∧
      v'.len = v.len - (end_ - start) + (if keep then end_ - start - k else 0) ∧
      v'.drops = v.drops + (if keep then 0 else end_ - start - k) := by
  unfold drain
  rw [if_neg (not_or.2 ⟨Nat.not_lt.2 hse, Nat.not_lt.2 hel⟩)]
  obtain ⟨m, rfl⟩ := Nat.exists_eq_add_of_le hse
  obtain ⟨n, hn⟩ := Nat.exists_eq_add_of_le hel
  have e : start + m + n - m = start + n := by rw [Nat.add_right_comm, Nat.add_sub_cancel]
  simp only [pulls_eq, hn, Nat.add_sub_cancel_left, e]
  cases keep with
  | true => exact ⟨_, _, rfl, rfl, Nat.add_right_comm .., rfl⟩
  | false =>
    obtain ⟨t1, t2, t3⟩ := drainDrop_spec ⟨start, v.drops, v.escaped + min k m⟩ ⟨n, m - k⟩ bomb
    exact ⟨(drainDrop _ _ bomb).1, (drainDrop _ _ bomb).2, rfl, t3, t1, t2⟩
end Coll.Zst
