/-
  Lemmas/HistPreparedLife.lean — the life of an exclusive-borrow collection in a history: any number of `prepare` /
  `prepareSlice` (creation, growth) / `fillPrepared` steps keep the positions of all chunks up to the one that
  was current at the start, the live blocks and their bytes.
-/
import BumpProof.Lemmas.HistBytes
import BumpProof.Lemmas.InvStep
import BumpProof.Props.C15

set_option linter.unusedSimpArgs false
set_option linter.unusedVariables false

namespace Arena
/-- the operations of an unfinished exclusive-borrow collection / `prepare_allocation`: create, grow, fill -/
def Op.isPrepFill : Op → Bool
  | .prepare _ => true
  | .prepareSlice _ _ _ _ => true
  | .fillPrepared _ _ => true
  | _ => false
end Arena

namespace Arena.Hist
open Rs Ledger

variable {cfg : Cfg}

/-- relative to a start state `s` whose current chunk was `i`: positions of chunks `≤ i`, live blocks, regions and
    minimum alignment are the same; every chunk is still in place; the current chunk is `i` or a later one -/
structure PrepKept (i : Nat) (s s' : State) : Prop where
  pos : ∀ j, j ≤ i → (s'.chunks[j]?).map (·.pos) = (s.chunks[j]?).map (·.pos)
  live : s'.live = s.live
  frames : s'.frames = s.frames
  minAlign : s'.minAlign = s.minAlign
  cov : ChunksCov s s'
  cur : ∃ j, i ≤ j ∧ s'.cur = .chunk j

theorem PrepKept.refl {i : Nat} {s : State} (h : s.cur = .chunk i) : PrepKept i s s :=
  ⟨fun _ _ => rfl, rfl, rfl, rfl, ChunksCov.refl s, i, Nat.le_refl i, h⟩

theorem PrepKept.of_effect {i : Nat} {s s' : State} (h : C15.PrepareEffect cfg i s s') : PrepKept i s s' := by
  refine ⟨fun j hj => by rw [h.upto j hj], h.live, h.frames, h.minAlign, fun j c hc => ?_, ?_⟩
  · obtain ⟨c', h1, h2, h3, _⟩ := h.later j c hc
    exact ⟨c', h1, h2, h3⟩
  · obtain ⟨j, h1, h2, _⟩ := h.cur
    exact ⟨j, h1, h2⟩

theorem PrepKept.trans {i j : Nat} {a b c : State} (h1 : PrepKept i a b) (hcur : b.cur = .chunk j)
    (h2 : PrepKept j b c) : PrepKept i a c := by
  obtain ⟨j', hij, hj'⟩ := h1.cur
  have : j' = j := by rw [hcur] at hj'; cases hj'; rfl
  subst this
  refine ⟨fun k hk => (h2.pos k (Nat.le_trans hk hij)).trans (h1.pos k hk), h2.live.trans h1.live,
    h2.frames.trans h1.frames, h2.minAlign.trans h1.minAlign, h1.cov.trans h2.cov, ?_⟩
  obtain ⟨k, hk1, hk2⟩ := h2.cur
  exact ⟨k, Nat.le_trans hij hk1, hk2⟩

theorem prepKept_stepCore {g g' : GState} {op : Op} {out : Out} {i : Nat} {c : Chunk}
    (hcur : g.s.cur = .chunk i) (hget : g.s.chunks[i]? = some c) (hop : op.isPrepFill = true)
    (hs : stepCore cfg g op = .ok (g', out)) : PrepKept i g.s g'.s ∧ g'.marks = g.marks := by
  cases op <;> simp only [Op.isPrepFill] at hop <;> try (cases hop; done)
  case prepare L =>
    obtain ⟨h1, h2⟩ := C15.step_prepare_effect cfg g g' L out i c hcur hget hs
    exact ⟨PrepKept.of_effect h1, h2⟩
  case prepareSlice esize ealign minCap rev =>
    obtain ⟨h1, h2⟩ := C15.step_prepareSlice_effect cfg g g' esize ealign minCap rev out i c hcur hget hs
    exact ⟨PrepKept.of_effect h1, h2⟩
  case fillPrepared len seed =>
    obtain ⟨p, _, _, s', hw, rfl, _⟩ := ok_fillPrepared hs
    have ho := Mem.writeRange_onlyData hw
    obtain ⟨e1, e2⟩ := ho
    refine ⟨⟨fun j _ => ?_, by rw [e1], by rw [e1], by rw [e1], ChunksCov.of_geom e2, i, Nat.le_refl i, by rw [e1]; exact hcur⟩, rfl⟩
    exact (C15.step_fillPrepared_positions cfg g _ len seed out hs j).1

/-- the history consists of the operations of an unfinished collection only -/
def AllPrepFill (w : List (Op × List BaseResp)) : Prop := ∀ x ∈ w, x.1.isPrepFill = true

theorem prepKept_runOps {i : Nat} {s0 : State} {m0 : List Nat} :
    ∀ (w : List (Op × List BaseResp)) (g g2 : GState), Inv cfg g → AllCovered w → RunEnvOK cfg g w → AllPrepFill w →
      runOps cfg g w = .ok g2 → PrepKept i s0 g.s → g.marks = m0 →
      (∀ b ∈ s0.live, ∀ k, k < b.size → readByte g.s (b.addr + k) = readByte s0 (b.addr + k)) →
      Inv cfg g2 ∧ PrepKept i s0 g2.s ∧ g2.marks = m0 ∧
      (∀ b ∈ s0.live, ∀ k, k < b.size → readByte g2.s (b.addr + k) = readByte s0 (b.addr + k)) := by
  intro w g g2 hi hc he hp hr hk hm hb
  refine runOps_preserves (Q := fun x => x.1.isPrepFill = true)
    (P := fun g => PrepKept i s0 g.s ∧ g.marks = m0 ∧
      ∀ b ∈ s0.live, ∀ k, k < b.size → readByte g.s (b.addr + k) = readByte s0 (b.addr + k))
    ?_ hi ⟨hk, hm, hb⟩ hc hp he hr
  intro g g1 op resps out reqs hcov hop hi he1 ⟨hk, hm, hb⟩ hs
  obtain ⟨j, hij, hj⟩ := hk.cur
  obtain ⟨cj, hcj, _⟩ := hi.geom.cur j hj
  obtain ⟨k1, k2⟩ := prepKept_stepCore (g := install g resps) (i := j) (c := cj) hj hcj hop (step_ok hs).1
  -- `PrepKept` mentions neither `reqs` nor `resps`: its fields for `(install g resps).s` are those for `g.s`
  have k1' : PrepKept j g.s g1.s := ⟨k1.pos, k1.live, k1.frames, k1.minAlign, k1.cov, k1.cur⟩
  refine ⟨hk.trans hj k1', (show g1.marks = g.marks from k2).trans hm, fun b hb0 k hkk => ?_⟩
  have hbg : b ∈ g.s.live := by rw [hk.live]; exact hb0
  have hbg1 : b ∈ g1.s.live := by rw [k1'.live]; exact hbg
  have hnw : ∀ seed, op ≠ .write b.id seed := by
    intro seed e
    rw [e] at hop; cases hop
  rw [bytes_step hi he1 hs b hbg hbg1 hnw k hkk]
  exact hb b hb0 k hkk

end Arena.Hist
