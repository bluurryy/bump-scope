/-
  Lemmas/LedgerAlloc.lean — frames of the allocation slow path (`walkNext`, `inAnotherChunk`,
  `allocGeneric`, `alloc`, `reserve`): what a call may change, for every outcome (`SlowFrame`);
  an error of `grow` / `shrink` is the error of the allocation attempt they make.
-/
import BumpProof.Lemmas.Ledger
import BumpProof.Lemmas.FnRealloc

namespace Ledger
open Arena Rs

export Arena.Fn (enterChunk)

theorem Ext.enter (cfg : Cfg) (s : State) {j : Nat} {c : Chunk} (hc : s.chunks[j]? = some c) :
    Ext j s (enterChunk cfg s j c) :=
  ⟨rfl, rfl, rfl, rfl, rfl, rfl, rfl, fun k x hx => by
    refine ⟨if j = k then c.resetPos cfg else x, ?_, ?_, fun hk => by rw [if_neg (by omega)]⟩
    · show (s.chunks.set j _)[k]? = _
      rw [List.getElem?_set]
      split
      · next hjk => rw [if_pos (hjk ▸ (List.getElem?_eq_some_iff.1 hc).1)]
      · exact hx
    · split
      · next hjk => rw [hjk, hx] at hc; cases hc; exact SamePlace.refl _
      · exact SamePlace.refl x⟩

theorem Walk.frame {cfg : Cfg} {k : Kind} {L : Layout} {h : Hints} {i : Nat} {s s' : State}
    {o : Option ((Nat × Nat) × State)} (hw : Fn.Walk cfg k L h i s o s') :
    s'.reqs = s.reqs ∧ s'.resps = s.resps ∧ s'.chunks.length = s.chunks.length ∧ Ext (i+1) s s' ∧
    (s'.cur = s.cur ∨ ∃ j, i < j ∧ j < s.chunks.length ∧ s'.cur = .chunk j) := by
  induction hw with
  | stop => exact ⟨rfl, rfl, rfl, Ext.refl _ _, Or.inl rfl⟩
  | @hit i s c v s' hc ht =>
    have hlt := (List.getElem?_eq_some_iff.1 hc).1
    obtain ⟨f1, f2, f3, f4, f5⟩ := tryCur_frame ht
    exact ⟨f2, f3, f4.trans List.length_set,
      (Ext.enter cfg s hc).trans (f5 (i+1) fun _ hj => by cases hj; exact Nat.le_refl _),
      Or.inr ⟨i+1, Nat.lt_succ_self i, hlt, f1⟩⟩
  | @miss i s c o s' hc _ _ ih =>
    have hlt := (List.getElem?_eq_some_iff.1 hc).1
    obtain ⟨g1, g2, g3, g4, g5⟩ := ih
    refine ⟨g1, g2, g3.trans List.length_set, (Ext.enter cfg s hc).trans (g4.mono (Nat.le_succ _)), Or.inr ?_⟩
    rcases g5 with g5 | ⟨j, hj1, hj2, hj3⟩
    · exact ⟨i+1, Nat.lt_succ_self i, hlt, g5⟩
    · exact ⟨j, Nat.lt_of_succ_lt hj1, (show (enterChunk cfg s (i+1) c).chunks.length = _ from List.length_set) ▸ hj2, hj3⟩

def CurAdv (s s' : State) : Prop :=
  s'.cur = s.cur ∨ ∃ i j, s.cur = .chunk i ∧ i < j ∧ j < s.chunks.length ∧ s'.cur = .chunk j

/-- the chunk created from state `s0` is entered and the block taken from it: the new chunk is not a chunk of `s0`,
    so no position of `s0` changes -/
theorem fresh_frame {cfg : Cfg} {k : Kind} {L : Layout} {h : Hints} {s0 s1 s' : State} {i : Nat} {v : Nat × Nat}
    (hc : CreateFrame cfg s0 s1 (.ok i)) (ht : tryCur cfg k { s1 with cur := .chunk i } L h = .ok (some (v, s'))) :
    (∀ n, Ext n s0 s') ∧
    (s'.reqs = s0.reqs ∨ ∃ size, s'.reqs = s0.reqs ++ [BaseReq.alloc size cfg.hdr.align]) ∧
    (s'.resps = s0.resps ∨ ∃ x, s0.resps = x :: s'.resps) := by
  obtain ⟨_, f2, f3, _, f5⟩ := tryCur_frame ht
  obtain ⟨_, c2, _, c4, _, c6, c7⟩ := hc
  refine ⟨fun n => ?_, f2 ▸ c6, f3 ▸ c7⟩
  have h1 : Ext i s0 s' := ((c2 i).trans (Ext.setCur i s1 _)).trans (f5 i fun _ hj => by cases hj; exact Nat.le_refl _)
  exact h1.clamp fun j _ hj => (c4 i rfl).1 ▸ hj

/-- frame of the allocation slow path, for every outcome.  `n` bounds the chunks whose position is
    guaranteed unchanged: all chunks up to AND including the current one. -/
structure SlowFrame (cfg : Cfg) (s s' : State) {α : Type} (r : Except AErr α) : Prop where
  ext : ∀ n, (∀ i, s.cur = .chunk i → n ≤ i + 1) → Ext n s s'
  reqs : s'.reqs = s.reqs ∨ ∃ size, s'.reqs = s.reqs ++ [BaseReq.alloc size cfg.hdr.align]
  resps : s'.resps = s.resps ∨ ∃ x, s.resps = x :: s'.resps
  err : ∀ e, r = .error e → s'.chunks.length = s.chunks.length ∧ s'.cur = s.cur ∧
    (e ≠ .alloc → s'.reqs = s.reqs ∧ s'.resps = s.resps) ∧ (e = .claimed ↔ s.cur = .claimed)
  claimed : s.cur = .claimed → s' = s

theorem SlowFrame.same (cfg : Cfg) (s : State) {α : Type} {r : Except AErr α}
    (h : ∀ e, r = .error e → e ≠ .alloc ∧ (e = .claimed ↔ s.cur = .claimed)) : SlowFrame cfg s s r :=
  ⟨fun n _ => Ext.refl n s, Or.inl rfl, Or.inl rfl,
   fun e he => ⟨rfl, rfl, fun _ => ⟨rfl, rfl⟩, (h e he).2⟩, fun _ => rfl⟩

theorem SlowFrame.refused (cfg : Cfg) {s : State} {α : Type} (hcur : s.cur = .claimed) :
    SlowFrame cfg s s (.error .claimed : Except AErr α) :=
  .same cfg s fun _ he => by cases he; exact ⟨nofun, fun _ => hcur, fun _ => rfl⟩

theorem SlowFrame.overflow (cfg : Cfg) {s : State} {α : Type} (hncl : s.cur ≠ .claimed) :
    SlowFrame cfg s s (.error .capacityOverflow : Except AErr α) :=
  .same cfg s fun _ he => by cases he; exact ⟨nofun, nofun, fun h => absurd h hncl⟩

theorem SlowFrame.ok {cfg : Cfg} {s s' : State} {α : Type} (v : α) (hncl : s.cur ≠ .claimed)
    (hx : ∀ n, (∀ i, s.cur = .chunk i → n ≤ i + 1) → Ext n s s')
    (hq : s'.reqs = s.reqs ∨ ∃ size, s'.reqs = s.reqs ++ [BaseReq.alloc size cfg.hdr.align])
    (hp : s'.resps = s.resps ∨ ∃ x, s.resps = x :: s'.resps) : SlowFrame cfg s s' (.ok v : Except AErr α) :=
  ⟨hx, hq, hp, nofun, fun h => absurd h hncl⟩

/-- `sw`: the state after the walk, in which the chunk creation failed; the chunk current in `s` is
    made current again (crate commit c107ca6) -/
theorem CreateFrame.slowError {cfg : Cfg} {s sw s1 : State} {e : AErr} {α : Type}
    (hc : CreateFrame cfg sw s1 (.error e)) (hncl : s.cur ≠ .claimed)
    (hw : ∀ n, (∀ i, s.cur = .chunk i → n ≤ i + 1) → Ext n s sw)
    (hq : sw.reqs = s.reqs) (hp : sw.resps = s.resps) (hl : sw.chunks.length = s.chunks.length) :
    SlowFrame cfg s { s1 with cur := s.cur } (.error e : Except AErr α) := by
  obtain ⟨_, c2, c3, _, c5, c6, c7⟩ := hc
  obtain ⟨d1, d2⟩ := c3 e rfl
  refine ⟨fun n hn => ((hw n hn).trans (c2 n)).trans (Ext.setCur n s1 _), hq ▸ c6, hp ▸ c7, fun _ he => ?_,
    fun h => absurd h hncl⟩
  cases he
  refine ⟨(congrArg List.length d1).trans hl, rfl, fun hne => ?_, fun h => ?_, fun h => absurd h hncl⟩
  · rcases d2 with rfl | rfl
    · exact absurd rfl hne
    · rw [c5 rfl]; exact ⟨hq, hp⟩
  · rcases d2 with rfl | rfl <;> cases h

theorem CreateFrame.slowError' {cfg : Cfg} {s s1 : State} {e : AErr} {α : Type}
    (hc : CreateFrame cfg s s1 (.error e)) (hncl : s.cur ≠ .claimed) :
    SlowFrame cfg s s1 (.error e : Except AErr α) := by
  have := hc.slowError (α := α) hncl (fun n _ => Ext.refl n s) rfl rfl rfl
  rwa [← hc.1] at this

theorem CreateFrame.slowOk {cfg : Cfg} {s s1 : State} {j : Nat} {α : Type} (hc : CreateFrame cfg s s1 (.ok j))
    (hncl : s.cur ≠ .claimed) (cu : Cur) (v : α) :
    (∀ n, Ext n s { s1 with cur := cu }) ∧ SlowFrame cfg s { s1 with cur := cu } (.ok v : Except AErr α) :=
  have ⟨_, c2, _, _, _, c6, c7⟩ := hc
  have hx : ∀ n, Ext n s { s1 with cur := cu } := fun n => (c2 n).trans (Ext.setCur n s1 cu)
  ⟨hx, .ok v hncl (fun n _ => hx n) c6 c7⟩

theorem inAnotherChunk_frame {cfg : Cfg} {k : Kind} {s : State} {L : Layout} {h : Hints}
    {s' : State} {r : Except AErr (Nat × Nat)}
    (e : inAnotherChunk cfg k s L h = .ok (s', r)) : SlowFrame cfg s s' r := by
  cases Fn.inAnotherChunk_slow e with
  | claimed hcur => exact .refused cfg hcur
  | firstRefused hcur hn => exact (newChunkForCapacity_frame hn).slowError' (hcur ▸ nofun)
  | first hcur hn ht =>
    obtain ⟨g1, g2, g3⟩ := fresh_frame (newChunkForCapacity_frame hn) ht
    exact .ok _ (hcur ▸ nofun) (fun n _ => g1 n) g2 g3
  | @next i _ _ hcur hw =>
    obtain ⟨w1, w2, _, w4, _⟩ := Walk.frame hw
    exact .ok _ (hcur ▸ nofun) (fun n hn => w4.mono (hn i hcur)) (Or.inl w1) (Or.inl w2)
  | @appendRefused i _ _ _ hcur hw hn =>
    obtain ⟨w1, w2, w3, w4, _⟩ := Walk.frame hw
    exact hcur ▸ (appendFor_frame hn).slowError (hcur ▸ nofun) (fun n hn => w4.mono (hn i hcur)) w1 w2 w3
  | @append i _ _ _ _ _ hcur hw hn ht =>
    obtain ⟨w1, w2, _, w4, _⟩ := Walk.frame hw
    obtain ⟨g1, g2, g3⟩ := fresh_frame (appendFor_frame hn) ht
    exact .ok _ (hcur ▸ nofun) (fun n hn => (w4.mono (hn i hcur)).trans (g1 n)) (w1 ▸ g2) (w2 ▸ g3)

theorem SlowFrame.map {cfg : Cfg} {s s' : State} {α β : Type} {r : Except AErr α} (f : α → β)
    (h : SlowFrame cfg s s' r) : SlowFrame cfg s s' (r.map f) :=
  ⟨h.ext, h.reqs, h.resps, fun e he => (by
    cases r with
    | error e' => cases he; exact h.err _ rfl
    | ok v => cases he), h.claimed⟩

theorem allocGeneric_frame {cfg : Cfg} {k : Kind} {s : State} {L : Layout} {h hs : Hints}
    {s' : State} {r : Except AErr (Nat × Nat)}
    (e : allocGeneric cfg k s L h hs = .ok (s', r)) :
    (∀ n, (∀ i, s.cur = .chunk i → n ≤ i) → Ext n s s') ∧
    (s'.reqs = s.reqs ∨ ∃ size, s'.reqs = s.reqs ++ [BaseReq.alloc size cfg.hdr.align]) ∧
    (s'.resps = s.resps ∨ ∃ x, s.resps = x :: s'.resps) ∧
    (∀ er, r = .error er → tryCur cfg k s L h = .ok none ∧ SlowFrame cfg s s' r) := by
  rcases Fn.allocGeneric_cases e with ⟨v, rfl, ht⟩ | ⟨ht, e⟩
  · obtain ⟨_, f2, f3, _, f5⟩ := tryCur_frame ht
    exact ⟨f5, Or.inl f2, Or.inl f3, nofun⟩
  · have hf := inAnotherChunk_frame e
    exact ⟨fun n hn => hf.ext n fun i hi => Nat.le_succ_of_le (hn i hi), hf.reqs, hf.resps, fun _ _ => ⟨ht, hf⟩⟩

theorem alloc_frame {cfg : Cfg} {s : State} {L : Layout} {s' : State} {r : Except AErr Nat}
    (e : alloc cfg s L = .ok (s', r)) :
    (∀ n, (∀ i, s.cur = .chunk i → n ≤ i) → Ext n s s') ∧
    (s'.reqs = s.reqs ∨ ∃ size, s'.reqs = s.reqs ++ [BaseReq.alloc size cfg.hdr.align]) ∧
    (s'.resps = s.resps ∨ ∃ x, s.resps = x :: s'.resps) ∧
    (∀ er, r = .error er → tryCur cfg .alloc s L Hints.custom = .ok none ∧ SlowFrame cfg s s' r) := by
  obtain ⟨r1, h1, rfl⟩ := Fn.alloc_eq_ok e
  obtain ⟨a1, a2, a3, a4⟩ := allocGeneric_frame h1
  refine ⟨a1, a2, a3, fun er he => ?_⟩
  cases r1 with
  | ok v => cases he
  | error e1 => exact ⟨(a4 e1 rfl).1, (a4 e1 rfl).2.map _⟩

theorem reserve_frame {cfg : Cfg} {s : State} {add : Nat} {s' : State} {r : Except AErr Unit}
    (e : reserve cfg s add = .ok (s', r)) :
    (∀ n, Ext n s s') ∧ SlowFrame cfg s s' r ∧ (∀ er, r = .error er → s'.cur = s.cur) := by
  suffices h : (∀ n, Ext n s s') ∧ SlowFrame cfg s s' r from ⟨h.1, h.2, fun er he => (h.2.err er he).2.1⟩
  cases Fn.reserve_reserved e with
  | claimed hcur => exact ⟨(Ext.refl · s), .refused cfg hcur⟩
  | enough hncl => exact ⟨(Ext.refl · s), .same cfg s nofun⟩
  | overflow hncl => exact ⟨(Ext.refl · s), .overflow cfg hncl⟩
  | firstRefused hcur _ hn =>
    exact ⟨(newChunkForCapacity_frame hn).2.1, (newChunkForCapacity_frame hn).slowError' (hcur ▸ nofun)⟩
  | first hcur _ hn => exact (newChunkForCapacity_frame hn).slowOk (hcur ▸ nofun) _ ()
  | appendRefused hcur _ hn => exact ⟨(appendFor_frame hn).2.1, (appendFor_frame hn).slowError' (hcur ▸ nofun)⟩
  | append hcur _ hn => exact (appendFor_frame hn).slowOk (hcur ▸ nofun) _ ()

/-- the closure `moveTo` of `grow` -/
def moveTo (cfg : Cfg) (ptr oldSize : Nat) (r : State × Except AErr Nat) : R (State × Except AErr Nat) :=
  match r with
  | (s', .error e) => pure (s', .error e)
  | (s', .ok np) => do
    let s'' ← copyBytes cfg s' ptr np oldSize true
    pure (s'', .ok np)

theorem grow_eq (cfg : Cfg) (s : State) (ptr oldSize : Nat) (newL : Layout) :
    grow cfg s ptr oldSize newL = (do
  Arena.liftM (Rs.assert (decide (newL.size ≥ oldSize)))
  if cfg.up then
    if isLast cfg s ptr oldSize && alignFits ptr newL.align then
      match curChunk? s with
      | none => throw (.ub "as_non_dummy_unchecked on a dummy chunk")
      | some c =>
        let remaining ← Arena.liftM (Rs.sub (c.contentEnd cfg) ptr)
        if newL.size ≤ remaining then
          let t ← Arena.liftM (Rs.add ptr newL.size)
          let np ← Arena.liftM (Gen.LibArith.up_align_usize_unchecked t s.minAlign)
          pure (setCurPos s np, .ok ptr)
        else
          let (s', r) ← inAnotherChunk cfg .alloc s newL Hints.custom
          moveTo cfg ptr oldSize (s', r.map (·.1))
    else
      moveTo cfg ptr oldSize (← alloc cfg s newL)
  else
    if isLast cfg s ptr oldSize then
      match curChunk? s with
      | none => throw (.ub "as_non_dummy_unchecked on a dummy chunk")
      | some c =>
        let additional ← Arena.liftM (Rs.sub newL.size oldSize)
        let newAddr ← Arena.liftM (Gen.LibArith.bump_down ptr additional (Rs.max newL.align s.minAlign))
        if newAddr ≥ c.contentStart cfg then
          let newEnd ← Arena.liftM (Rs.add newAddr newL.size)
          let s' ← copyBytes cfg s ptr newAddr oldSize (decide (newEnd < ptr))
          pure (setCurPos s' newAddr, .ok newAddr)
        else
          let (s', r) ← inAnotherChunk cfg .alloc s newL Hints.custom
          moveTo cfg ptr oldSize (s', r.map (·.1))
    else
      moveTo cfg ptr oldSize (← alloc cfg s newL)) := by
  unfold grow moveTo
  rfl

theorem AllocVia.error {cfg : Cfg} {s s1 : State} {L : Layout} {e : AErr} (h : Hist.AllocVia cfg s L s1 (.error e)) :
    inAnotherChunk cfg .alloc s L Hints.custom = .ok (s1, .error e) ∨ alloc cfg s L = .ok (s1, .error e) := by
  rcases h with h | ⟨_ | _, h, hr⟩
  · exact .inr h
  · cases hr; exact .inl h
  · cases hr

theorem grow_error {cfg : Cfg} {s s' : State} {ptr oldSize : Nat} {newL : Layout} {e : AErr}
    (h : grow cfg s ptr oldSize newL = .ok (s', .error e)) :
    inAnotherChunk cfg .alloc s newL Hints.custom = .ok (s', .error e) ∨
    alloc cfg s newL = .ok (s', .error e) := by
  rcases (Hist.grow_cases h).2 with ⟨_, _, _, _, _, _, _, _, _, _, _, _, _, hr⟩ |
    ⟨_, _, _, _, _, _, _, _, _, _, _, _, _, hr⟩ | ⟨s1, ha, hm⟩
  · cases hr
  · cases hr
  · cases (show s' = s1 from hm); exact AllocVia.error ha

export Arena.Fn (deallocAssumeLast_cases)

theorem shrink_error {cfg : Cfg} {s s' : State} {ptr oldSize : Nat} {newL : Layout} {e : AErr}
    (h : shrink cfg s ptr oldSize newL = .ok (s', .error e)) :
    inAnotherChunk cfg .alloc s newL Hints.custom = .ok (s', .error e) ∨
    alloc cfg s newL = .ok (s', .error e) := by
  -- the attempt failed (`r1` is an error), so nothing was moved (`s' = s1`)
  have fin : ∀ {t s1 : State} {r1 : Except AErr Nat}, Hist.AllocVia cfg t newL s1 r1 →
      Hist.Moved cfg s1 r1 ptr newL.size s' → Except.error e = r1.map (·, newL.size) →
      inAnotherChunk cfg .alloc t newL Hints.custom = .ok (s', .error e) ∨ alloc cfg t newL = .ok (s', .error e) := by
    intro t s1 r1 ha hm hr
    cases r1 with
    | ok _ => cases hr
    | error e1 => cases hr; cases (show s' = s1 from hm); exact AllocVia.error ha
  rcases (Hist.shrink_cases h).2 with ⟨_, ⟨_, hr⟩ | ⟨_, _, hr⟩⟩ | ⟨s1, r1, ha, hm, hr⟩ |
    ⟨_, sd, hd, ⟨_, _, _, _, _, hr⟩ | ⟨s3, r1, ha, hm, hr⟩⟩
  · cases hr
  · cases hr
  · exact fin ha hm hr
  · cases hr
  · -- the position that `deallocAssumeLast` moved was put back
    exact fin (Fn.deallocAssumeLast_restore hd ▸ ha) hm hr

end Ledger
