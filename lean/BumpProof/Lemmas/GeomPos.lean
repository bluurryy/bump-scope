/-
  Lemmas/GeomPos.lean — operations that only move the position of a chunk (possibly after a copy inside it) or
  select another existing chunk: deallocate, reset_to, reset, reset_to_start, align_to, BumpAlignGuard::drop, the
  commits of prepared allocations (`allocate_prepared(_rev)`, `allocate_prepared_slice(_rev)`), `shrink_slice`; the
  position computations (`align_pos`, and the two in-place ones of grow / shrink) by value.
-/
import BumpProof.Lemmas.GeomCopy
import BumpProof.Lemmas.GeomTry

set_option linter.unusedSimpArgs false
set_option linter.unusedVariables false

namespace Arena
open Rs Lemmas

section
variable {cfg : Cfg} {s : State}

/-! ## the run-time conditions of `with_settings` (used by `Props/C18`) -/

theorem not_and_beq {b : Bool} {c d : Cur} : (!b && c == d) = true ↔ b = false ∧ c = d := by simp

theorem and_beq {b : Bool} {c d : Cur} : (b && c == d) = true ↔ b = true ∧ c = d := by simp

/-! ## the invariant under a change of the current chunk / of the minimum alignment; `align_pos` by value -/

theorem GeomInv.withCur (h : GeomInv cfg s) {i : Nat} {c : Chunk} (hi : s.chunks[i]? = some c) (hd : s.minAlign ∣ c.pos) :
    GeomInv cfg { s with cur := .chunk i } := by
  refine ⟨h.chunks, h.minAlign, ?_⟩
  intro j hj
  simp only [Cur.chunk.injEq] at hj
  subst hj
  exact ⟨c, hi, hd⟩

theorem GeomInv.withMinAlign (h : GeomInv cfg s) {n : Nat} (hn : MinAlignOK n)
    (hd : ∀ i c, s.cur = .chunk i → s.chunks[i]? = some c → n ∣ c.pos) :
    GeomInv cfg { s with minAlign := n } := by
  refine ⟨h.chunks, hn, ?_⟩
  intro j hj
  obtain ⟨c, hc, _⟩ := h.cur j hj
  exact ⟨c, hc, hd j c hj hc⟩

/-- a switch to a LOWER minimum alignment needs no re-alignment -/
theorem GeomInv.lowerMinAlign (h : GeomInv cfg s) {m : Nat} (hm : MinAlignOK m) (hle : m ≤ s.minAlign) :
    GeomInv cfg { s with minAlign := m } := by
  apply h.withMinAlign hm
  intro i c hi hci
  obtain ⟨c', hc', hd⟩ := h.cur i hi
  rw [hci] at hc'; cases hc'
  exact Nat.dvd_trans (hm.p2.dvd_of_le h.minAlign.p2 hle) hd

theorem GeomInv.withDummyCur (h : GeomInv cfg s) {k : Cur} (hk : ∀ i, k ≠ .chunk i) :
    GeomInv cfg { s with cur := k } := by
  refine ⟨h.chunks, h.minAlign, ?_⟩
  intro j hj
  exact absurd hj (hk j)

/-- overwriting chunk `j` by its reset copy is a position update -/
theorem set_resetPos {j : Nat} {c : Chunk} (hj : s.chunks[j]? = some c) :
    s.chunks.set j (c.resetPos cfg) = (setPos s j (c.resetPos cfg).pos).chunks := by
  unfold setPos; rw [List.modify_eq_set, hj]; rfl

/-- resetting chunk `j` and making it current (`m`: the minimum alignment of the handle that does it) -/
theorem GeomInv.resetCur (hc : CfgOK cfg) (h : GeomInv cfg s) {m : Nat} (hm : MinAlignOK m) {j : Nat} {c : Chunk}
    (hj : s.chunks[j]? = some c) :
    GeomInv cfg { s with chunks := s.chunks.set j (c.resetPos cfg), cur := .chunk j, minAlign := m } := by
  have hw := h.chunks j c hj
  rw [set_resetPos hj]
  exact h.setPosCurMin hm hj hw.resetPos.pos_ge hw.resetPos.pos_le (hm.dvd_of_16 (resetPos_pos16 hc hw))

/-- aligning a position inside the content range does not overflow: the content end is 16-aligned -/
theorem ChunkWF.add_lt64 (hc : CfgOK cfg) {c : Chunk} (hw : ChunkWF cfg c) {m x : Nat} (hm : MinAlignOK m)
    (h2 : x ≤ c.contentEnd cfg) : x + (m - 1) < 2 ^ 64 := by
  have h3 := hw.end_lt64
  have h4 := hw.end16 hc
  have h5 := hm.le
  rw [two_pow_64] at h3 ⊢
  omega

theorem ChunkWF.align_pos_eq (hc : CfgOK cfg) {c : Chunk} (hw : ChunkWF cfg c) {m x : Nat} (hm : MinAlignOK m)
    (h2 : x ≤ c.contentEnd cfg) (up : Bool) :
    Gen.LibArith.align_pos up m x = .ok (alignPos up m x) := by
  apply Arena.align_pos_eq hm.p2 hm.lt64
  split
  · exact hw.add_lt64 hc hm h2
  · exact Nat.lt_of_le_of_lt h2 hw.end_lt64

/-- aligning an address of the content range: no overflow, it stays in the range, it is aligned -/
theorem ChunkWF.alignPos_ok (hc : CfgOK cfg) {c : Chunk} (hw : ChunkWF cfg c) {m x : Nat} (hm : MinAlignOK m)
    (h1 : c.contentStart cfg ≤ x) (h2 : x ≤ c.contentEnd cfg) (up : Bool) :
    Gen.LibArith.align_pos up m x = .ok (alignPos up m x) ∧
      c.contentStart cfg ≤ alignPos up m x ∧ alignPos up m x ≤ c.contentEnd cfg ∧ m ∣ alignPos up m x :=
  have hmem := Arena.alignPos_mem (up := up) hm.pos (hm.dvd_of_16 (hw.start16 hc)) (hm.dvd_of_16 (hw.end16 hc)) h1 h2
  ⟨hw.align_pos_eq hc hm h2 up, hmem.1, hmem.2, alignPos_dvd _ _ _⟩

/-! ## the two in-place position computations of `grow` / `shrink` / `shrink_slice`, by value -/

/-- upwards the position moves to just past the block, aligned up -/
theorem ChunkWF.up_align_val (hc : CfgOK cfg) {c : Chunk} (hw : ChunkWF cfg c) {m x : Nat} (hm : MinAlignOK m)
    (h2 : x ≤ c.contentEnd cfg) :
    Gen.LibArith.up_align_usize_unchecked x m = .ok (Spec.upAlign x m) ∧
      x ≤ Spec.upAlign x m ∧ Spec.upAlign x m ≤ c.contentEnd cfg ∧ m ∣ Spec.upAlign x m :=
  ⟨Fn.lib_up_align_eq hm.p2 hm.lt64 (hw.add_lt64 hc hm h2),
    le_upAlign _ hm.pos, upAlign_le_of_dvd hm.pos (hm.dvd_of_16 (hw.end16 hc)) h2, upAlign_dvd _ _⟩

/-- where a block of `sz` bytes goes that is to end at `x` or below: the greatest address that is aligned for the layout
    and for the minimum alignment and leaves room for it -/
def downTo (x sz al m : Nat) : Nat := Spec.downAlign (x - sz) (Nat.max al m)

theorem bump_down_val {al m x sz : Nat} (hal : P2 al) (hal64 : al < 2 ^ 64) (hm : MinAlignOK m) (hx : x < 2 ^ 64) :
    Gen.LibArith.bump_down x sz (Rs.max al m) = .ok (downTo x sz al m) ∧
      al ∣ downTo x sz al m ∧ m ∣ downTo x sz al m ∧ downTo x sz al m ≤ x - sz ∧
      ∀ q, al ∣ q → m ∣ q → q ≤ x - sz → q ≤ downTo x sz al m := by
  obtain ⟨f1, f2, f3, f4⟩ := max_dvd_facts hal.pos hm.pos (hal.dvd_or_dvd hm.p2)
  refine ⟨?_, Nat.dvd_trans f1 (downAlign_dvd _ _), Nat.dvd_trans f2 (downAlign_dvd _ _), downAlign_le _ _,
    fun q hq1 hq2 hq3 => le_downAlign_of_dvd f3 (f4 q hq1 hq2) hq3⟩
  rw [rs_max_eq]; exact lib_bump_down_eq (hal.max hm.p2) (Nat.max_lt.2 ⟨hal64, hm.lt64⟩) hx

theorem deallocAssumeLast_ok (hc : CfgOK cfg) (h : GeomInv cfg s) {ptr size : Nat} (hb : BlockInCur cfg s ptr size) :
    Ensures (deallocAssumeLast cfg s ptr size) True fun s' => MovePost cfg s s' ∧ s'.cur = s.cur := by
  unfold deallocAssumeLast
  refine .branch (fun _ => .ok ⟨.refl h, rfl⟩) fun _ => ?_
  obtain ⟨i, c, hcur, hi, hb1, hb2, hb3⟩ := hb
  have hw := h.chunks i c hi
  have ht : c.contentStart cfg ≤ (if cfg.up then ptr else ptr + size) ∧ (if cfg.up then ptr else ptr + size) ≤ c.contentEnd cfg := by
    split
    · exact ⟨hb1, Nat.le_trans (Nat.le_add_right _ _) hb2⟩
    · exact ⟨Nat.le_trans hb1 (Nat.le_add_right _ _), hb2⟩
  obtain ⟨e1, e2, e3, e4⟩ := hw.alignPos_ok hc h.minAlign ht.1 ht.2 cfg.up
  rw [hcur]
  refine .branch (fun hgt => absurd (hw.addr_ok ht.1 ht.2).2 ?_) fun _ => .lift e1 (.ok ?_)
  · rw [MAX_eq] at hgt; rw [two_pow_64]; omega
  · exact ⟨h.moveCur hcur hi e2 e3 e4, (setCurPos_cur _ _).trans hcur⟩

theorem deallocate_ok (hc : CfgOK cfg) (h : GeomInv cfg s) {ptr size : Nat}
    (hb : isLast cfg s ptr size = true → BlockInCur cfg s ptr size) :
    Ensures (deallocate cfg s ptr size) True fun s' => MovePost cfg s s' ∧ s'.cur = s.cur := by
  unfold deallocate
  refine .branch (fun _ => .ok ⟨.refl h, rfl⟩) fun _ => .branch (fun hl => ?_) fun _ => .ok ⟨.refl h, rfl⟩
  exact deallocAssumeLast_ok hc h (hb hl)

/-! ## reset_to_start, reset, reset_to -/

theorem resetToStart_shape (s : State) : SameShape s (resetToStart cfg s) := by
  unfold resetToStart
  split
  · split
    · exact SameShape.refl _
    · rename_i i c rest hch
      unfold SameShape
      rw [hch]
      rfl
  · exact SameShape.refl _

theorem resetToStart_minAlign (s : State) : (resetToStart cfg s).minAlign = s.minAlign := by
  unfold resetToStart; split
  · split <;> rfl
  · rfl

theorem resetToStart_resps (s : State) : (resetToStart cfg s).resps = s.resps := by
  unfold resetToStart; split
  · split <;> rfl
  · rfl

/-- `reset_to_start` executed by a handle whose minimum alignment is `m` -/
theorem resetToStart_inv_min (hc : CfgOK cfg) (h : GeomInv cfg s) {m : Nat} (hm : MinAlignOK m) :
    GeomInv cfg (resetToStart cfg { s with minAlign := m }) := by
  unfold resetToStart
  cases hcur : s.cur with
  | chunk i =>
    simp only [hcur]
    cases hch : s.chunks with
    | nil =>
      have := h.lt_length hcur
      rw [hch] at this; cases this
    | cons c rest =>
      have := h.resetCur hc hm (j := 0) (c := c) (by rw [hch]; rfl)
      rw [hch] at this
      exact this
  | _ => simp only [hcur]; exact ⟨h.chunks, hm, fun i hi => by cases hi⟩

theorem reset_inv (hc : CfgOK cfg) (h : GeomInv cfg s) : GeomInv cfg (reset cfg s) := by
  unfold reset
  split
  · split
    · exact h
    · rename_i i last hl
      have hw : ChunkWF cfg last := by
        rw [List.getLast?_eq_getElem?] at hl
        exact h.chunks _ last hl
      refine ⟨?_, h.minAlign, ?_⟩
      · intro j d hj
        cases j with
        | zero =>
          simp only [List.getElem?_cons_zero, Option.some.injEq] at hj
          subst hj; exact hw.resetPos
        | succ n => simp at hj
      · intro j hj
        simp only [Cur.chunk.injEq] at hj
        subst hj
        exact ⟨_, rfl, h.minAlign.dvd_of_16 (resetPos_pos16 hc hw)⟩
  · exact h

/-- `reset` leaves a single chunk, so nothing can overlap -/
theorem reset_disjoint {s : State} (hd : ChunksDisjoint s) : ChunksDisjoint (reset cfg s) := by
  unfold reset
  split
  · split
    · exact hd
    · intro i j a b hij ha hb
      cases i with
      | zero =>
        cases j with
        | zero => exact absurd rfl hij
        | succ n => simp at hb
      | succ n => simp at ha
  · exact hd

theorem reset_sizesIncreasing (hs : SizesIncreasing s) : SizesIncreasing (reset cfg s) := by
  unfold reset
  split
  · split
    · exact hs
    · intro j a b ha hb
      simp at hb
  · exact hs

/-- `reset_to` executed by a handle whose minimum alignment is `m` (the arena itself may currently be in a
    region with another minimum alignment, as at the exit of `scoped_aligned`) -/
theorem resetTo_ok_min (hc : CfgOK cfg) (h : GeomInv cfg s) {m : Nat} (hm : MinAlignOK m) {cp : Checkpoint}
    (hcp : CheckpointOK cfg s cp) :
    Ensures (resetTo cfg { s with minAlign := m } cp) True fun s' => MovePost cfg { s with minAlign := m } s' ∧
      ∀ i, cp.cur = .chunk i → s'.cur = .chunk i ∧ curPos cfg s' = alignPos cfg.up m cp.addr := by
  unfold CheckpointOK at hcp
  cases hk : cp.cur with
  | unallocated =>
    rw [hk] at hcp
    rw [Fn.resetTo_unallocated hk hcp]
    exact .ok ⟨⟨resetToStart_inv_min hc h hm, resetToStart_shape (cfg := cfg) { s with minAlign := m },
      resetToStart_minAlign _, resetToStart_resps _⟩, fun i hi => by cases hi⟩
  | claimed => rw [hk] at hcp; exact hcp.elim
  | chunk i =>
    rw [hk] at hcp
    obtain ⟨c, hi, h1, h2⟩ := hcp
    obtain ⟨e1, e2, e3, e4⟩ := (h.chunks i c hi).alignPos_ok hc hm h1 h2 cfg.up
    rw [Fn.resetTo_chunk (s := { s with minAlign := m }) hk hi ⟨h1, h2⟩ e1]
    refine .ok ⟨⟨h.setPosCurMin hm hi e2 e3 e4, setPos_shape s _ _, rfl, rfl⟩, ?_⟩
    intro j hj
    cases hj
    exact ⟨rfl, curPos_chunk (s := { setPos { s with minAlign := m } i _ with cur := .chunk i }) rfl (setPos_getElem?_self hi _)⟩

theorem resetTo_ok (hc : CfgOK cfg) (h : GeomInv cfg s) {cp : Checkpoint} (hcp : CheckpointOK cfg s cp) :
    Ensures (resetTo cfg s cp) True fun s' => MovePost cfg s s' ∧
      ∀ i, cp.cur = .chunk i → s'.cur = .chunk i ∧ curPos cfg s' = alignPos cfg.up s.minAlign cp.addr :=
  resetTo_ok_min hc h h.minAlign hcp

/-! ## align_to, BumpAlignGuard::drop -/

/-- `BumpAlignGuard::drop`, first half: never faults; afterwards the position is aligned for the inner AND the
    outer minimum alignment -/
theorem alignGuardDrop_ok (hc : CfgOK cfg) (h : GeomInv cfg s) {outer : Nat} (hn : MinAlignOK outer) :
    Ensures (alignGuardDrop cfg s outer) True fun s' => MovePost cfg s s' ∧ GeomInv cfg { s' with minAlign := outer } ∧
      s'.cur = s.cur ∧ (∀ i c, s.cur = .chunk i → s.chunks[i]? = some c → s' = setPos s i (alignPos cfg.up outer c.pos)) := by
  unfold alignGuardDrop
  cases hcur : s.cur with
  | chunk i =>
    obtain ⟨c, hi, hw, hd⟩ := h.curChunk hcur
    obtain ⟨e1, e2, e3, e4⟩ := hw.alignPos_ok hc hn hw.pos_ge hw.pos_le cfg.up
    have hd1 : s.minAlign ∣ alignPos cfg.up outer c.pos := by
      rcases h.minAlign.p2.dvd_or_dvd hn.p2 with hx | hx
      · exact Nat.dvd_trans hx e4
      · rw [alignPos_eq_self hn.pos (Nat.dvd_trans hx hd)]; exact hd
    simp only [hi]
    refine .lift e1 (.ok ⟨h.move hi e2 e3 fun _ => hd1, hcur ▸ h.setPosCurMin hn hi e2 e3 e4, hcur, fun j d hj hdj => ?_⟩)
    cases hj
    cases hi.symm.trans hdj
    rfl
  | _ =>
    exact .ok ⟨.refl h, h.withMinAlign hn (fun i c hi => by rw [hcur] at hi; cases hi), hcur.symm ▸ rfl, fun i c hi => by cases hi⟩

/-- after `BumpAlignGuard::drop` (first half) the position of the current chunk is a multiple of `outer`, inside
    the content range, moved by less than `outer` bytes towards the free side only -/
theorem alignGuardDrop_position (hc : CfgOK cfg) (h : GeomInv cfg s) {outer : Nat} (hn : MinAlignOK outer)
    {s' : State} (he : alignGuardDrop cfg s outer = .ok s') {i : Nat} (hcur : s.cur = .chunk i) :
    ∃ c, s.chunks[i]? = some c ∧ s'.cur = .chunk i ∧ outer ∣ curPos cfg s' ∧
      c.contentStart cfg ≤ curPos cfg s' ∧ curPos cfg s' ≤ c.contentEnd cfg ∧
      (if cfg.up then c.pos ≤ curPos cfg s' ∧ curPos cfg s' < c.pos + outer
       else curPos cfg s' ≤ c.pos ∧ c.pos < curPos cfg s' + outer) := by
  obtain ⟨c, hi, hw, _⟩ := h.curChunk hcur
  rw [((alignGuardDrop_ok hc h hn).1 _ he).2.2.2 i c hcur hi]
  have hp : curPos cfg (setPos s i (alignPos cfg.up outer c.pos)) = alignPos cfg.up outer c.pos :=
    curPos_chunk (s := setPos s i _) hcur (setPos_getElem?_self hi _)
  obtain ⟨_, e2, e3, e4⟩ := hw.alignPos_ok hc hn hw.pos_ge hw.pos_le cfg.up
  rw [hp]
  exact ⟨c, hi, hcur, e4, e2, e3, alignPos_near c.pos hn.pos⟩

/-- `alignTo` to a supported alignment never faults; afterwards the position is aligned for the old
    AND the new minimum alignment -/
theorem alignTo_ok (hc : CfgOK cfg) (h : GeomInv cfg s) {n : Nat} (hn : MinAlignOK n) :
    Ensures (alignTo cfg s n) True fun s' => MovePost cfg s s' ∧ GeomInv cfg { s' with minAlign := n } ∧ s'.cur = s.cur := by
  rw [Fn.alignTo_eq]
  exact .branch (fun _ => (alignGuardDrop_ok hc h hn).mono id fun _ p => ⟨p.1, p.2.1, p.2.2.1⟩)
    fun hle => .ok ⟨.refl h, h.lowerMinAlign hn (Nat.le_of_not_lt hle), rfl⟩

/-- `BumpAlignGuard::drop`, second half, on a chunk that exists: nothing when it is the current one, else its
    position is re-aligned -/
theorem alignChunkAt_eq (hc : CfgOK cfg) {outer : Nat} (hn : MinAlignOK outer) {j : Nat} {c : Chunk}
    (hj : s.chunks[j]? = some c) (hw : ChunkWF cfg c) :
    alignChunkAt cfg s outer (.chunk j) =
      .ok (if s.cur = .chunk j then s else setPos s j (alignPos cfg.up outer c.pos)) := by
  unfold alignChunkAt
  simp only [hj, r_ok_bind, hw.align_pos_eq hc hn hw.pos_le, liftM_ok]
  split <;> rfl

/-- `BumpAlignGuard::drop`, second half: re-aligning the chunk the guard started in (when it is not the
    current one) never faults, keeps the geometry invariant under the inner and under the outer minimum
    alignment, and does not touch the current chunk -/
theorem alignChunkAt_ok (hc : CfgOK cfg) (h : GeomInv cfg s) {outer : Nat} (hn : MinAlignOK outer) (st : Cur) :
    Ensures (alignChunkAt cfg s outer st) True fun s' => MovePost cfg s s' ∧
      (GeomInv cfg { s with minAlign := outer } → GeomInv cfg { s' with minAlign := outer }) ∧ s'.cur = s.cur ∧
      (∀ i, s.cur = .chunk i → s'.chunks[i]? = s.chunks[i]?) := by
  have hsame : MovePost cfg s s ∧ (GeomInv cfg { s with minAlign := outer } → GeomInv cfg { s with minAlign := outer }) ∧
      s.cur = s.cur ∧ (∀ i, s.cur = .chunk i → s.chunks[i]? = s.chunks[i]?) := ⟨.refl h, id, rfl, fun _ _ => rfl⟩
  cases st with
  | chunk j =>
    cases hj : s.chunks[j]? with
    | none =>
      unfold alignChunkAt
      simp only [hj]
      exact .branch (fun _ => .ok hsame) fun _ => .ok hsame
    | some c =>
      have hw := h.chunks j c hj
      rw [alignChunkAt_eq hc hn hj hw]
      by_cases hcur : s.cur = .chunk j
      · rw [if_pos hcur]; exact .ok hsame
      · rw [if_neg hcur]
        obtain ⟨_, e2, e3, _⟩ := hw.alignPos_ok hc hn hw.pos_ge hw.pos_le cfg.up
        exact .ok ⟨h.move hj e2 e3 (fun e => absurd e hcur),
          fun h2 => GeomInv.setPos (s := { s with minAlign := outer }) h2 hj e2 e3 (fun e => absurd e hcur), rfl,
          fun i hi => setPos_getElem?_ne s _ (fun e => hcur (e ▸ hi))⟩
  | _ => exact .ok hsame

end

section
variable {cfg : Cfg}

/-! ## the run-time conditions of `allocator_impl.rs` (`is_last`, `align_fits`, the current chunk) -/

theorem curChunk?_eq_some {s : State} {c : Chunk} (h : curChunk? s = some c) :
    ∃ i, s.cur = .chunk i ∧ s.chunks[i]? = some c := by
  unfold curChunk? at h
  split at h
  · exact ⟨_, ‹_›, h⟩
  · cases h

theorem curChunk?_of {s : State} {i : Nat} {c : Chunk} (hcur : s.cur = .chunk i) (hi : s.chunks[i]? = some c) :
    curChunk? s = some c := by
  unfold curChunk?; rw [hcur]; exact hi

export Fn (isLast_pos)

theorem alignFits_dvd {ptr al : Nat} (h : alignFits ptr al = true) : al ∣ ptr := by
  unfold alignFits at h
  exact Nat.dvd_of_mod_eq_zero (by simpa using h)

/-- a copy inside the current chunk followed by a position update -/
theorem moveInCur_ok {s : State} (h : GeomInv cfg s) {i : Nat} {c : Chunk}
    (hcur : s.cur = .chunk i) (hi : s.chunks[i]? = some c) {Q : Prop} {β : Type} (src dst len : Nat) (no : Bool) {p : Nat} (b : β)
    (h1 : c.contentStart cfg ≤ p) (h2 : p ≤ c.contentEnd cfg) (h3 : s.minAlign ∣ p)
    (hq : Q → ChunksDisjoint s ∧ c.contentStart cfg ≤ src ∧ src + len ≤ c.contentEnd cfg ∧
      c.contentStart cfg ≤ dst ∧ dst + len ≤ c.contentEnd cfg ∧ (no = true → src + len ≤ dst ∨ dst + len ≤ src)) :
    Ensures (copyBytes cfg s src dst len no >>= fun s' => pure (setCurPos s' p, b)) Q fun x => MovePost cfg s x.1 ∧ x.2 = b :=
  (copyBytes_within hi (h.chunks i c hi) src dst len no hq).bind
    fun s' _ hg => .ok ⟨hg.setCurPos_post h hcur hi h1 h2 h3, rfl⟩

/-! ## committing prepared allocations: `allocate_prepared(_rev)`, `allocate_prepared_slice(_rev)` -/

/-- `allocate_prepared(_rev)`: the used part of the prepared range is moved to its final place (the start when
    bumping upwards, the end when bumping downwards) and the position is set just past it -/
theorem allocatePrepared_ok (hc : CfgOK cfg) {s : State} (h : GeomInv cfg s)
    {size rstart rend : Nat} (rev : Bool) (hrange : RangeInCur cfg s rstart rend) (hsz : size ≤ rend - rstart) :
    Ensures (allocatePrepared cfg s size rstart rend rev) (ChunksDisjoint s) fun x => MovePost cfg s x.1 := by
  obtain ⟨i, c, hcur, hi, r1, r2, r3⟩ := hrange
  have hw := h.chunks i c hi
  have hm := h.minAlign
  have hk : rstart + size ≤ rend := by omega
  have hsr : size ≤ rend := Nat.le_trans (Nat.le_add_left _ _) hk
  -- the used part at the end of the range / at its start
  have hd1 : c.contentStart cfg ≤ rend - size := Nat.le_trans r1 (Nat.le_sub_of_add_le hk)
  have hd2 : rend - size + size ≤ c.contentEnd cfg := by rw [Nat.sub_add_cancel hsr]; exact r3
  have hu1 : c.contentStart cfg ≤ rstart + size := Nat.le_trans r1 (Nat.le_add_right _ _)
  have hu2 : rstart + size ≤ c.contentEnd cfg := Nat.le_trans hk r3
  unfold allocatePrepared
  rw [hcur]
  refine .branch (fun hup => ?_) fun hup => ?_
  · obtain ⟨e1, e2, e3, e4⟩ := hw.alignPos_ok hc hm hu1 hu2 cfg.up
    refine Ensures.join (P' := fun s1 => SameGeom s s1) (.branch (fun _ => copyBytes_within hi hw _ _ _ false
      (fun q => ⟨q, hd1, hd2, r1, hu2, fun hx => by cases hx⟩)) fun _ => .ok (.refl s)) fun s1 hg => ?_
    exact .lift (add_ok' (Nat.lt_of_le_of_lt hu2 hw.end_lt64)) (.lift e1 (.ok (hg.setCurPos_post h hcur hi e2 e3 e4)))
  · obtain ⟨e1, e2, e3, e4⟩ := hw.alignPos_ok hc hm hd1 (Nat.le_trans (Nat.sub_le _ _) r3) cfg.up
    refine .lift (sub_ok hsr) (Ensures.join (P' := fun s1 => SameGeom s s1) (.branch (fun _ => .ok (.refl s)) fun _ =>
      copyBytes_within hi hw _ _ _ false (fun q => ⟨q, r1, hu2, hd1, hd2, fun hx => by cases hx⟩)) fun s1 hg => ?_)
    exact .lift e1 (.ok (hg.setCurPos_post h hcur hi e2 e3 e4))

/-- `set_pos_addr_and_align_from` on a state `s1` that differs from `s` in bytes only; `P2 posAlign` is needed for the
    invariant only -/
theorem setPosAlignFrom_ok (hc : CfgOK cfg) {s s1 : State} (h : GeomInv cfg s) (hg : SameGeom s s1) {i : Nat} {c : Chunk}
    (hcur : s.cur = .chunk i) (hi : s.chunks[i]? = some c) {pos posAlign : Nat}
    (h1 : c.contentStart cfg ≤ pos) (h2 : pos ≤ c.contentEnd cfg) :
    Ensures (setPosAlignFrom cfg s1 pos posAlign) (posAlign ∣ pos) fun s2 => P2 posAlign → MovePost cfg s s2 := by
  have hw := h.chunks i c hi
  have hm := h.minAlign
  unfold setPosAlignFrom
  refine .assert Nat.mod_eq_zero_of_dvd fun hd => ?_
  rw [hg.minAlign]
  have hd := Nat.dvd_of_mod_eq_zero hd
  obtain ⟨e1, e2, e3, e4⟩ := hw.alignPos_ok hc hm h1 h2 cfg.up
  exact .branch (fun _ => .lift e1 (.ok fun _ => hg.setCurPos_post h hcur hi e2 e3 e4))
    fun hlt => .ok fun hp2 =>
      hg.setCurPos_post h hcur hi h1 h2 (Nat.dvd_trans (hm.p2.dvd_of_le hp2 (Nat.le_of_not_lt hlt)) hd)

/-- `allocate_prepared_slice(_rev)`: `ptr` is the start (forward) or the end (rev) of the `cap` prepared slots -/
theorem allocatePreparedSlice_ok (hc : CfgOK cfg) {s : State} (h : GeomInv cfg s)
    {ptr len cap esize ealign : Nat} (rev : Bool)
    (hrange : RangeInCur cfg s (if rev then ptr - cap * esize else ptr) (if rev then ptr else ptr + cap * esize))
    (hrev : rev = true → cap * esize ≤ ptr) (hlen : len ≤ cap) :
    Ensures (allocatePreparedSlice cfg s ptr len cap esize ealign rev) (ChunksDisjoint s ∧ ealign ∣ esize ∧ ealign ∣ ptr)
      fun x => P2 ealign → MovePost cfg s x.1 := by
  obtain ⟨i, c, hcur, hi, r1, r2, r3⟩ := hrange
  have hw := h.chunks i c hi
  have hmul : len * esize ≤ cap * esize := Nat.mul_le_mul_right esize hlen
  -- the position update, possibly after a copy inside the chunk
  have key : ∀ {β : Type} (b : β) (pos : Nat) (x : R State), Ensures x (ChunksDisjoint s ∧ ealign ∣ esize ∧ ealign ∣ ptr)
      (fun s1 => SameGeom s s1) → c.contentStart cfg ≤ pos → pos ≤ c.contentEnd cfg →
      (ealign ∣ esize → ealign ∣ ptr → ealign ∣ pos) →
      Ensures (x >>= fun s1 => setPosAlignFrom cfg s1 pos ealign >>= fun s2 => pure (s2, b))
        (ChunksDisjoint s ∧ ealign ∣ esize ∧ ealign ∣ ptr) fun x => P2 ealign → MovePost cfg s x.1 := by
    intro β b pos x hx p1 p2 hd
    refine hx.bind fun s1 _ hg => ?_
    exact ((setPosAlignFrom_ok hc h hg hcur hi p1 p2).mono (fun q => hd q.2.1 q.2.2) (fun _ => id)).bind
      fun s2 _ p => Ensures.ok p
  have hnone : Ensures (.ok s : R State) (ChunksDisjoint s ∧ ealign ∣ esize ∧ ealign ∣ ptr) fun s1 => SameGeom s s1 :=
    Ensures.ok (SameGeom.refl s)
  have hdl : ealign ∣ esize → ealign ∣ len * esize := fun he1 => Nat.dvd_trans he1 (Nat.dvd_mul_left _ _)
  have hdc : ealign ∣ esize → ealign ∣ cap * esize := fun he1 => Nat.dvd_trans he1 (Nat.dvd_mul_left _ _)
  unfold allocatePreparedSlice
  rw [hcur]
  simp only
  cases rev
  · simp only [Bool.false_eq_true, ↓reduceIte, Bool.not_false] at r1 r2 r3 ⊢
    have hA : ptr + len * esize ≤ ptr + cap * esize := Nat.add_le_add_left hmul ptr
    cases hup : cfg.up
    · simp only [Bool.false_eq_true, ↓reduceIte]
      have d1 : c.contentStart cfg ≤ ptr + cap * esize - len * esize := Nat.le_trans r1 (Nat.le_sub_of_add_le hA)
      have d2 : ptr + cap * esize - len * esize + len * esize ≤ c.contentEnd cfg := by
        rw [Nat.sub_add_cancel (Nat.le_trans (Nat.le_add_left _ _) hA)]; exact r3
      exact key _ _ _ (copyBytes_within hi hw _ _ _ _ (fun q => ⟨q.1, r1, Nat.le_trans hA r3, d1, d2, fun hx => by cases hx⟩))
        d1 (Nat.le_trans (Nat.le_add_right _ _) d2) (fun he1 he2 => Nat.dvd_sub ((Nat.dvd_add_right he2).2 (hdc he1)) (hdl he1))
    · simp only [↓reduceIte]
      exact key _ _ _ hnone (Nat.le_trans r1 (Nat.le_add_right _ _)) (Nat.le_trans hA r3)
        (fun he1 he2 => (Nat.dvd_add_right he2).2 (hdl he1))
  · have hle := hrev rfl
    simp only [↓reduceIte, Bool.not_true, Bool.false_eq_true] at r1 r2 r3 ⊢
    have s1 : c.contentStart cfg ≤ ptr - len * esize := Nat.le_trans r1 (Nat.sub_le_sub_left hmul ptr)
    cases hup : cfg.up
    · simp only [Bool.false_eq_true, ↓reduceIte]
      exact key _ _ _ hnone s1 (Nat.le_trans (Nat.sub_le _ _) r3) (fun he1 he2 => Nat.dvd_sub he2 (hdl he1))
    · simp only [↓reduceIte]
      have s2 : ptr - len * esize + len * esize ≤ c.contentEnd cfg := by
        rw [Nat.sub_add_cancel (Nat.le_trans hmul hle)]; exact r3
      have d2 : ptr - cap * esize + len * esize ≤ c.contentEnd cfg := by
        refine Nat.le_trans (Nat.add_le_add_left hmul _) ?_
        rw [Nat.sub_add_cancel hle]; exact r3
      exact key _ _ _ (copyBytes_within hi hw _ _ _ _ (fun q => ⟨q.1, s1, s2, r1, d2, fun hx => by cases hx⟩))
        (Nat.le_trans r1 (Nat.le_add_right _ _)) d2 (fun he1 he2 => (Nat.dvd_add_right (Nat.dvd_sub he2 (hdc he1))).2 (hdl he1))

/-- `shrink_slice`: the element alignment divides the block address (it is a `NonNull<[T]>`).  Upwards the position
    moves back to just past the shrunk block; downwards the block moves up against its old end and the new
    position is its new start. -/
theorem shrinkSlice_ok (hc : CfgOK cfg) {s : State} (h : GeomInv cfg s)
    {ptr oldSize newSize ealign : Nat} (hal : P2 ealign) (hal64 : ealign < 2 ^ 64) (hap : ealign ∣ ptr)
    (hsz : newSize ≤ oldSize) (hb : isLast cfg s ptr oldSize = true → BlockInCur cfg s ptr oldSize) :
    Ensures (shrinkSlice cfg s ptr oldSize newSize ealign) (ChunksDisjoint s)
      fun x => MovePost cfg s x.1 ∧ ∀ np, x.2 = some np → np + newSize ≤ ptr + oldSize := by
  unfold shrinkSlice
  refine .branch (fun _ => .ok ⟨.refl h, nofun⟩) fun _ => .branch (fun _ => .ok ⟨.refl h, nofun⟩) fun hlast => ?_
  rw [Bool.not_eq_true, Bool.not_eq_false'] at hlast
  obtain ⟨i, c, hcur, hi, hb1, hb2, hb3⟩ := hb hlast
  have hw := h.chunks i c hi
  have hm := h.minAlign
  have hend := hw.end_lt64
  rw [hcur]
  refine .branch (fun hup => ?_) fun hup => ?_
  · have h2 : ptr + newSize ≤ c.contentEnd cfg := Nat.le_trans (Nat.add_le_add_left hsz ptr) hb2
    obtain ⟨e1, e2, e3, e4⟩ := hw.up_align_val hc hm h2
    exact .lift (add_ok' (Nat.lt_of_le_of_lt h2 hend)) (.lift e1
      (.ok ⟨h.moveCur hcur hi (Nat.le_trans hb1 (Nat.le_trans (Nat.le_add_right _ _) e2)) e3 e4, fun np hnp => by cases hnp; exact Nat.add_le_add_left hsz ptr⟩))
  · have hpos := isLast_pos hlast hcur hi
    rw [if_neg hup] at hpos
    have hlt : ptr + oldSize < 2 ^ 64 := Nat.lt_of_le_of_lt hb2 hend
    obtain ⟨e1, _, e2, e3, e4⟩ := bump_down_val (x := ptr + oldSize) (sz := newSize) hal hal64 hm hlt
    have hmp : s.minAlign ∣ ptr := by
      obtain ⟨c', hc', hd⟩ := h.cur i hcur
      cases hi.symm.trans hc'
      exact hpos ▸ hd
    have hge := e4 ptr hap hmp (Nat.le_sub_of_add_le (Nat.add_le_add_left hsz ptr))
    have h1 := Nat.le_trans hb1 hge
    have h2 : downTo (ptr + oldSize) newSize ealign s.minAlign + newSize ≤ c.contentEnd cfg := by omega
    refine .lift (add_ok' hlt) (.lift e1 ?_)
    refine (moveInCur_ok h hcur hi _ _ _ _ _ h1 (Nat.le_trans (Nat.le_add_right _ _) h2) e2
      (fun q => ⟨q, hb1, Nat.le_trans (Nat.add_le_add_left hsz ptr) hb2, h1, h2, fun hx => ?_⟩)).mono id
      fun x p => ⟨p.1, fun np hnp => by cases p.2.symm.trans hnp; omega⟩
    simp only [Bool.not_eq_true', decide_eq_false_iff_not] at hx
    exact Or.inl (Nat.not_lt.1 hx)

end
end Arena
