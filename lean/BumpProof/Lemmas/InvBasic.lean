/-
  Lemmas/InvBasic.lean — under the proof that the combined invariant `Arena.Hist.Inv` is preserved: `ChunksCov`
  (every chunk is still there, with its address range) and `LiveSub` (what may happen to the list of live blocks),
  under which the checkpoint and frame predicates are monotone (`CpOK.mono`, `FramesOK.mono'`); what a prepared
  range promises (`PrepOK.*`); the bridge from a live block that passes `is_last` to the `BlockInCur` the C10
  theorems ask for (`Inv.blockInCur`); `Inv` of the initial state and under `install`.
-/
import BumpProof.Arena.Hist
import BumpProof.Lemmas.MemSlow
import BumpProof.Props.C10

set_option linter.unusedSimpArgs false
set_option linter.unusedVariables false

namespace Arena.Hist
open Rs

variable {cfg : Cfg}

/-- the side condition `Op.covered` puts on `allocTryWith`: the `Result` layout is that of a Rust type -/
theorem _root_.Arena.Op.Covered.tryWith {L : Layout} {off vsize : Nat} {ok : Bool} {inner : Option Layout} {m : Bool}
    (h : (Op.allocTryWith L off vsize ok inner m).Covered) : L.align ∣ L.size :=
  Nat.dvd_of_mod_eq_zero (by simpa [Op.Covered, Op.covered] using h)

/-! ## Chunk covers: every chunk of `s` is still there (same index, same address range) -/

/-- the weakest of the "chunks are kept" relations: what `CpGeom`, `StartOK` and `Mem.Placed` need.  It is the field
    `chunk` of `Fn.Kept` (Lemmas/FnPath.lean), hence holds of every path, and `Hist.CovL` on the chunk lists (`covL_iff`). -/
def ChunksCov (s s' : State) : Prop :=
  ∀ (j : Nat) (c : Chunk), s.chunks[j]? = some c → ∃ c' : Chunk, s'.chunks[j]? = some c' ∧ c'.base = c.base ∧ c'.size = c.size

theorem ChunksCov.refl (s : State) : ChunksCov s s := fun j c h => ⟨c, h, rfl, rfl⟩

theorem ChunksCov.trans {a b c : State} (h1 : ChunksCov a b) (h2 : ChunksCov b c) : ChunksCov a c := by
  intro j x hx
  obtain ⟨y, hy, e1, e2⟩ := h1 j x hx
  obtain ⟨z, hz, f1, f2⟩ := h2 j y hy
  exact ⟨z, hz, f1.trans e1, f2.trans e2⟩

theorem ChunksCov.of_eq {s s' : State} (h : s'.chunks = s.chunks) : ChunksCov s s' :=
  fun j c hc => ⟨c, by rw [h]; exact hc, rfl, rfl⟩

theorem ChunksCov.of_shape {s s' : State} (h : SameShape s s') : ChunksCov s s' := by
  intro j c hc
  obtain ⟨c', hc', he⟩ := h.getElem?' hc
  obtain ⟨e1, e2⟩ := shape_base he
  exact ⟨c', hc', e1, e2⟩

theorem ChunksCov.of_memExt {s s' : State} (h : Mem.MemExt s s') : ChunksCov s s' :=
  fun j c hc => Mem.MemExt.getElem? h hc

theorem ChunksCov.of_geom {s s' : State} (h : s'.chunks.map Chunk.memGeom = s.chunks.map Chunk.memGeom) :
    ChunksCov s s' := by
  intro j c hc
  obtain ⟨c', hc', he⟩ := Mem.getElem?_geom h hc
  exact ⟨c', hc', congrArg (·.1) he, congrArg (·.2.1) he⟩

theorem ChunksCov.setPos (s : State) (i p : Nat) : ChunksCov s (setPos s i p) :=
  ChunksCov.of_shape (setPos_shape s i p)

/-! ## Monotonicity of the checkpoint predicates -/

theorem placedAt_mono {s s' : State} (hc : ChunksCov s s') {cp : Checkpoint} {a sz : Nat}
    (h : Mem.PlacedAt cfg s cp a sz) : Mem.PlacedAt cfg s' cp a sz := by
  obtain ⟨i, j, c, h1, h2, h3, h4, h5⟩ := h
  obtain ⟨c', hc', e1, e2⟩ := hc j c h3
  exact ⟨i, j, c', h1, h2, hc', Mem.InContent.of_same e1 e2 h4, h5⟩

theorem cpGeom_mono {s s' : State} (hc : ChunksCov s s') {cp : Checkpoint} (h : CpGeom cfg s cp) :
    CpGeom cfg s' cp := by
  unfold CpGeom at h ⊢
  split
  · rename_i i hi
    rw [hi] at h
    obtain ⟨c, h1, h2, h3⟩ := h
    obtain ⟨c', hc', e1, e2⟩ := hc i c h1
    exact ⟨c', hc', by rw [Chunk.contentStart_congr cfg e1]; exact h2, by rw [Chunk.contentEnd_congr cfg e1 e2]; exact h3⟩
  · trivial
  · rename_i hi
    rw [hi] at h
    exact h

/-- what may happen to the ghost list of live blocks: blocks disappear or are relabelled (id, address, size and
    alignment kept: `.write` changes `init`), new ones get fresh ids (and, as `Inv.aligns` asks of every live
    block, an alignment `2 ^ k` with `k < 64`) -/
def LiveSub (s s' : State) : Prop :=
  ∀ b ∈ s'.live, (∃ b0 ∈ s.live, b0.id = b.id ∧ b0.addr = b.addr ∧ b0.size = b.size ∧ b0.align = b.align) ∨
    (s.nextId ≤ b.id ∧ ∃ k, k < 64 ∧ b.align = 2 ^ k)

theorem LiveSub.of_mem {s s' : State} (h : ∀ b ∈ s'.live, b ∈ s.live) : LiveSub s s' :=
  fun b hb => Or.inl ⟨b, h b hb, rfl, rfl, rfl, rfl⟩

theorem LiveSub.of_eq {s s' : State} (h : s'.live = s.live) : LiveSub s s' :=
  LiveSub.of_mem fun _ hb => h ▸ hb

theorem CpOK.mono {s s' : State} {cp : Checkpoint} {m : Nat} (h : CpOK cfg s cp m) (hc : ChunksCov s s')
    (hl : LiveSub s s') (hn : s.nextId ≤ s'.nextId) : CpOK cfg s' cp m := by
  refine ⟨cpGeom_mono hc h.geom, Nat.le_trans h.mark hn, ?_⟩
  intro b hb hid hs
  rcases hl b hb with ⟨b0, hb0, e1, e2, e3, _⟩ | hb'
  · exact e2 ▸ e3 ▸ placedAt_mono hc (h.older b0 hb0 (e1 ▸ hid) (e3 ▸ hs))
  · have := h.mark; have := hb'.1; omega

theorem StartOK.mono {s s' : State} {st : Cur} (h : StartOK s st) (hc : ChunksCov s s') : StartOK s' st := by
  cases st with
  | chunk j =>
    obtain ⟨c, hj⟩ := h
    obtain ⟨c', hc', _⟩ := hc j c hj
    exact ⟨c', hc'⟩
  | unallocated => trivial
  | claimed => trivial

theorem FramesOK.mono' {s s' : State} {ma : Nat} {fs : List Frame} {ms : List Nat} (h : FramesOK cfg s ma fs ms)
    (hc : ChunksCov s s') (hl : LiveSub s s') (hn : s.nextId ≤ s'.nextId) : FramesOK cfg s' ma fs ms := by
  induction fs generalizing ma ms with
  | nil =>
    cases ms with
    | nil => simp only [FramesOK]
    | cons m ms => simp only [FramesOK] at h
  | cons f fs ih =>
    cases f with
    | scope cp =>
      cases ms with
      | nil => simp only [FramesOK] at h
      | cons m ms =>
        simp only [FramesOK] at h ⊢
        exact ⟨h.1.mono hc hl hn, ih h.2⟩
    | scopedAligned cp outer =>
      cases ms with
      | nil => simp only [FramesOK] at h
      | cons m ms =>
        simp only [FramesOK] at h ⊢
        exact ⟨h.1, h.2.1.mono hc hl hn, ih h.2.2⟩
    | alignedLower outer start =>
      simp only [FramesOK] at h ⊢
      exact ⟨h.1, h.2.1.mono hc, ih h.2.2⟩
    | alignedRaise outer =>
      simp only [FramesOK] at h ⊢
      exact ⟨h.1, h.2.1, ih h.2.2⟩
    | claim =>
      simp only [FramesOK] at h ⊢
      exact ih h

theorem FramesOK.nil_marks {s : State} {ma : Nat} {ms : List Nat} (h : FramesOK cfg s ma [] ms) : ms = [] := by
  cases ms with
  | nil => rfl
  | cons m ms => simp only [FramesOK] at h

/-! ## What a prepared range promises -/

theorem PrepOK.congr {s s' : State} {p : Prepared} (h : PrepOK cfg s p)
    (hcur : s'.cur = s.cur)
    (hch : ∀ i c, s.cur = .chunk i → s.chunks[i]? = some c →
      ∃ c', s'.chunks[i]? = some c' ∧ c'.base = c.base ∧ c'.size = c.size ∧ c'.pos = c.pos) : PrepOK cfg s' p := by
  refine ⟨?_, h.p2, h.start_al, h.end_al, h.typed⟩
  obtain ⟨i, c, h1, h2, h3, h4⟩ := h.range
  obtain ⟨c', hc', e1, e2, e3⟩ := hch i c h1 h2
  refine ⟨i, c', hcur.trans h1, hc', h3, ?_⟩
  rw [Chunk.contentStart_congr cfg e1, Chunk.contentEnd_congr cfg e1 e2, e3]
  exact h4

theorem PrepOK.same {s s' : State} {p : Prepared} (h : PrepOK cfg s p) (hcur : s'.cur = s.cur)
    (hch : s'.chunks = s.chunks) : PrepOK cfg s' p :=
  h.congr hcur fun _ c _ hc => ⟨c, hch ▸ hc, rfl, rfl, rfl⟩

theorem PrepOK.le {s : State} {p : Prepared} (h : PrepOK cfg s p) : p.rstart ≤ p.rend :=
  let ⟨_, _, _, _, hle, _⟩ := h.range; hle

theorem PrepOK.inCur {s : State} {p : Prepared} (hp : PrepOK cfg s p) (hg : GeomInv cfg s) :
    RangeInCur cfg s p.rstart p.rend := by
  obtain ⟨i, c, hcur, hc, hlh, hfree⟩ := hp.range
  have hw := hg.chunks i c hc
  split at hfree
  · exact ⟨i, c, hcur, hc, Nat.le_trans hw.pos_ge hfree.1, hlh, hfree.2⟩
  · exact ⟨i, c, hcur, hc, hfree.1, hlh, Nat.le_trans hfree.2 hw.pos_le⟩

theorem PrepOK.free {s : State} {p : Prepared} (hp : PrepOK cfg s p) :
    ∃ i c, s.cur = .chunk i ∧ s.chunks[i]? = some c ∧ if cfg.up then c.pos ≤ p.rstart else p.rend ≤ c.pos := by
  obtain ⟨i, c, hcur, hc, _, hfree⟩ := hp.range
  refine ⟨i, c, hcur, hc, ?_⟩
  by_cases hup : cfg.up = true
  · rw [if_pos hup] at hfree ⊢; exact hfree.1
  · rw [if_neg hup] at hfree ⊢; exact hfree.2

theorem PrepOK.cap {s : State} {p : Prepared} (hp : PrepOK cfg s p) (hty : p.typed = true) :
    (p.rend - p.rstart) / p.esize * p.esize = p.rend - p.rstart :=
  Nat.div_mul_cancel (hp.typed hty).2.2

/-- the arguments `stepCore` gives `allocatePreparedSlice` for a typed range (the pointer is `rend` when reversed, else
    `rstart`; the capacity is all of the range) describe that range and meet the hypotheses of the `C10` theorems -/
theorem PrepOK.sliceCall {s : State} {p : Prepared} (hp : PrepOK cfg s p) (hty : p.typed = true) :
    (if p.rev then (if p.rev then p.rend else p.rstart) - (p.rend - p.rstart) / p.esize * p.esize
      else (if p.rev then p.rend else p.rstart)) = p.rstart ∧
    (if p.rev then (if p.rev then p.rend else p.rstart)
      else (if p.rev then p.rend else p.rstart) + (p.rend - p.rstart) / p.esize * p.esize) = p.rend ∧
    (p.rev = true → (p.rend - p.rstart) / p.esize * p.esize ≤ (if p.rev then p.rend else p.rstart)) ∧
    p.ealign ∣ p.esize ∧ p.ealign ∣ (if p.rev then p.rend else p.rstart) := by
  rw [hp.cap hty]
  cases p.rev
  · exact ⟨rfl, Nat.add_sub_cancel' hp.le, (fun hx => by cases hx), (hp.typed hty).2.1, hp.start_al⟩
  · exact ⟨Nat.sub_sub_self hp.le, rfl, fun _ => Nat.sub_le _ _, (hp.typed hty).2.1, hp.end_al⟩

/-! ## Facts that follow from `Inv` -/

theorem curPosOK_of {s : State} (hg : GeomInv cfg s) : Mem.CurPosOK cfg s := by
  intro i c hcur hc
  have hw := hg.chunks i c hc
  exact ⟨hw.pos_ge, hw.pos_le⟩

theorem Inv.curPosOK {g : GState} (h : Inv cfg g) : Mem.CurPosOK cfg g.s := curPosOK_of h.geom

/-- the ghost placement of a non-empty live block, in the vocabulary of `Arena/Inv.lean` -/
theorem liveBlock_of_placed {s : State} {a sz : Nat} (h : Mem.Placed cfg s a sz) : LiveBlock cfg s a sz := by
  obtain ⟨i, j, c, h1, h2, h3, h4, h5⟩ := h
  exact ⟨i, j, c, h1, h2, h3, h4.1, h4.2, h5⟩

/-- a live block that passes the `is_last` test lies in the content range of the current
    chunk on the allocated side of the bump position — this is what the function-level theorems of
    C10 (`deallocate_inv`, `grow_inv`, `shrink_inv`, …) ask for -/
theorem Inv.blockInCur {g : GState} (h : Inv cfg g) {b : Block} (hb : b ∈ g.s.live)
    (hlast : isLast cfg g.s b.addr b.size = true) : BlockInCur cfg g.s b.addr b.size := by
  by_cases hs : 0 < b.size
  · exact (liveBlock_of_placed (h.live.placed b hb hs)).blockInCur h.cfgOK h.geom h.disj hlast
  · have hz : b.size = 0 := by omega
    cases hcur : g.s.cur with
    | claimed => exact absurd hcur h.notClaimed
    | unallocated =>
      have := h.liveCur hcur
      rw [this] at hb; cases hb
    | chunk i =>
      obtain ⟨c, hi, hw, _⟩ := h.geom.curChunk hcur
      have hpos := isLast_pos hlast hcur hi
      refine ⟨i, c, hcur, hi, ?_⟩
      have h1 := hw.pos_ge; have h2 := hw.pos_le
      rw [hz] at hpos ⊢
      cases hup : cfg.up
      · simp only [hup, Bool.false_eq_true, ↓reduceIte] at hpos ⊢; omega
      · simp only [hup, ↓reduceIte] at hpos ⊢; omega

/-! ## The invariant does not depend on the per-step base-allocator fields -/

theorem liveOK_congr {s s' : State} (hch : s'.chunks = s.chunks) (hcur : s'.cur = s.cur) (hl : s'.live = s.live)
    (h : Mem.LiveOK cfg s) : Mem.LiveOK cfg s' :=
  Mem.LiveOK.of_geom (by rw [hch]) hcur hl h

theorem geom_congr {s s' : State} (hch : s'.chunks = s.chunks) (hcur : s'.cur = s.cur)
    (hma : s'.minAlign = s.minAlign) (h : GeomInv cfg s) : GeomInv cfg s' :=
  ⟨fun i c hi => h.chunks i c (hch ▸ hi), hma ▸ h.minAlign, fun i hi => by
    obtain ⟨c, h1, h2⟩ := h.cur i (hcur ▸ hi)
    exact ⟨c, by rw [hch]; exact h1, by rw [hma]; exact h2⟩⟩

theorem disj_congr {s s' : State} (hch : s'.chunks = s.chunks) (h : ChunksDisjoint s) : ChunksDisjoint s' := by
  intro i j a b hij ha hb
  rw [hch] at ha hb
  exact h i j a b hij ha hb

theorem Inv.install {g : GState} (h : Inv cfg g) (resps : List BaseResp) : Inv cfg (install g resps) :=
  ⟨h.cfgOK, geom_congr (s := g.s) rfl rfl rfl h.geom, disj_congr (s := g.s) rfl h.disj,
   liveOK_congr (s := g.s) rfl rfl rfl h.live, h.unalloc,
   h.notClaimed, h.liveCur, h.ids, h.aligns,
   h.frames.mono' (s := g.s) (s' := (Hist.install g resps).s) (ChunksCov.of_eq rfl) (LiveSub.of_eq rfl) (Nat.le_refl _), h.marks,
   fun x hx => (h.cps x hx).mono (ChunksCov.of_eq rfl) (LiveSub.of_eq rfl) (Nat.le_refl _),
   fun p hp => (h.prep p hp).same rfl rfl⟩

theorem liveOK_nil {s : State} (h : s.live = []) : Mem.LiveOK cfg s :=
  ⟨fun b hb => (by rw [h] at hb; cases hb), fun b hb => (by rw [h] at hb; cases hb),
   (by rw [h]; exact List.Pairwise.nil)⟩

theorem inv_init (hc : CfgOK cfg) : Inv cfg (initG cfg) := by
  obtain ⟨h1, _, h3, h4⟩ := C10.initState_inv hc
  refine ⟨hc, h1, h4, liveOK_nil rfl, h3, by simp [initG, initState], fun _ => rfl, ?_, ?_, ?_, ?_, ?_, ?_⟩
  · intro b hb; simp [initG, initState] at hb
  · intro b hb; simp [initG, initState] at hb
  · simp only [initG, initState, FramesOK]
  · intro m hm; simp [initG] at hm
  · intro x hx; simp [initG, initState] at hx
  · intro p hp; simp [initG, initState] at hp

theorem step_ok {g g' : GState} {op : Op} {resps : List BaseResp} {out : Out} {reqs : List BaseReq}
    (hs : step cfg g op resps = .ok (g', out, reqs)) :
    stepCore cfg (install g resps) op = .ok (g', out) ∧ g'.s.resps = [] ∧ reqs = g'.s.reqs := by
  unfold step at hs
  simp only [bind, Except.bind, pure, Except.pure] at hs
  split at hs
  · cases hs
  · rename_i x hx
    obtain ⟨g1, o1⟩ := x
    simp only at hs
    split at hs
    · cases hs
    · rename_i hemp
      cases hs
      refine ⟨hx, ?_, rfl⟩
      simpa using hemp

end Arena.Hist
