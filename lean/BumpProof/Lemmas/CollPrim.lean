/-
  Lemmas/CollPrim.lean — what the primitive slot operations of `Coll/Prim.lean` do to a buffer that
  is given as a concatenation of segments (`A ++ x :: B`, `A ++ holes ++ M ++ T`, …).  `copy` is
  characterised once: it acts inside a window of the buffer (`copy_window`), and in the window that
  spans source and destination a move towards the front / back is `copied_back` / `copied_fwd`.
  Last section: the buffer of a compacting scan (`gap`) and what each step of `retain`, `dedup_by`, `extract_if` does to it.
-/
import BumpProof.Coll.Prim

namespace Coll

theorem getH (k j : Nat) : (H k)[j]? = if j < k then some Slot.hole else none := by
  simp [H, List.getElem?_replicate]

theorem getD_H (k j : Nat) : (H k)[j]?.getD .hole = .hole := by
  rw [getH]; split <;> rfl

@[simp] theorem I_nil : I [] = [] := rfl
@[simp] theorem I_cons (x : Id) (a : List Id) : I (x :: a) = Slot.init x :: I a := rfl
@[simp] theorem I_append (a b : List Id) : I (a ++ b) = I a ++ I b := by simp [I]
@[simp] theorem length_I (a : List Id) : (I a).length = a.length := by simp [I]
@[simp] theorem length_H (k : Nat) : (H k).length = k := by simp [H]
@[simp] theorem H_zero : H 0 = [] := rfl
@[simp] theorem H_succ (k : Nat) : H (k + 1) = Slot.hole :: H k := by simp [H, List.replicate_succ]
/-- holes commute to the front: normal form of a run of holes is `hole :: … :: hole :: H k ++ X` -/
@[simp] theorem H_comm (k : Nat) (X : List Slot) : H k ++ Slot.hole :: X = Slot.hole :: (H k ++ X) := by
  induction k with
  | zero => simp
  | succ k ih => simp [ih]
theorem H_add (a b : Nat) : H (a + b) = H a ++ H b := by
  simp [H, List.replicate_append_replicate]
@[simp] theorem I_take (xs : List Id) (n : Nat) : (I xs).take n = I (xs.take n) := by simp [I, List.map_take]
@[simp] theorem I_drop (xs : List Id) (n : Nat) : (I xs).drop n = I (xs.drop n) := by simp [I, List.map_drop]
@[simp] theorem H_take (m n : Nat) : (H m).take n = H (min n m) := by simp [H, List.take_replicate]
@[simp] theorem H_drop (m n : Nat) : (H m).drop n = H (m - n) := by simp [H, List.drop_replicate]

theorem Vec.ext' {v : Vec} {s : List Slot} (h : v.slots = s) :
    v = { v with slots := s } := by cases v; simp_all

theorem peek_mid {v : Vec} {A B : List Slot} {x i : Nat} (hs : v.slots = A ++ Slot.init x :: B) (hi : i = A.length) :
    peek v i = .ok x := by
  subst hi; simp [peek, hs]

theorem dropAt_mid {bombs u} {v : Vec} {A B : List Slot} {x i : Nat} (hs : v.slots = A ++ Slot.init x :: B)
    (hi : i = A.length) :
    dropAt bombs u v i =
      .ok ({ v with slots := A ++ Slot.hole :: B, dropLog := v.dropLog ++ [x] }, !u && bombs.contains x) := by
  subst hi; simp [dropAt, hs]

theorem readOut_mid {v : Vec} {A B : List Slot} {x i : Nat} (hs : v.slots = A ++ Slot.init x :: B) (hi : i = A.length) :
    readOut v i = .ok (x, { v with slots := A ++ Slot.hole :: B, escaped := v.escaped ++ [x] }) := by
  subst hi; simp [readOut, hs]

theorem write_mid {v : Vec} {A B : List Slot} {x i : Nat} (hs : v.slots = A ++ Slot.hole :: B) (hi : i = A.length) :
    write v i x = .ok { v with slots := A ++ Slot.init x :: B } := by
  subst hi; simp [write, hs]

theorem dropRange_seg (bombs : List Id) (xs : List Id) :
    ∀ (u : Bool) (v : Vec) (A B : List Slot) (i : Nat), v.slots = A ++ I xs ++ B → i = A.length →
      dropRange bombs u v i xs.length =
        .ok ({ v with slots := A ++ H xs.length ++ B, dropLog := v.dropLog ++ xs }, !u && xs.any bombs.contains) := by
  induction xs with
  | nil =>
    intro u v A B i hs hi
    simp only [List.length_nil, dropRange, List.any_nil, Bool.and_false, H_zero, List.append_nil]
    congr 2
    exact Vec.ext' (by simpa using hs)
  | cons x xs ih =>
    intro u v A B i hs hi
    have hs1 : v.slots = A ++ Slot.init x :: (I xs ++ B) := by simp [hs]
    simp only [List.length_cons, dropRange]
    rw [dropAt_mid hs1 hi]
    have hs2 : A ++ Slot.hole :: (I xs ++ B) = (A ++ [Slot.hole]) ++ I xs ++ B := by simp
    have := ih (u || (!u && bombs.contains x)) { v with slots := A ++ Slot.hole :: (I xs ++ B), dropLog := v.dropLog ++ [x] }
      (A ++ [Slot.hole]) B (i + 1) hs2 (by simp [hi])
    simp only [this]
    congr 2
    · simp
    · simp only [List.any_cons]
      generalize bombs.contains x = c
      generalize xs.any bombs.contains = a
      cases u <;> cases c <;> cases a <;> rfl

theorem copyClobbers_none_of {s : List Slot} {src dst n : Nat}
    (h : ∀ k, k < n → (src ≤ dst + k ∧ dst + k < src + n) ∨ s[dst + k]?.getD .hole = .hole) :
    copyClobbers s src dst n = none := by
  unfold copyClobbers
  simp only [Option.map_eq_none_iff, List.find?_eq_none, List.mem_range]
  intro k hk
  rcases h k hk with h | h
  · simp [h]
  · simp [h]

/-- the buffer after a `copy` that does not fault -/
def copied (s : List Slot) (src dst n : Nat) : List Slot :=
  (List.range s.length).map (copySlot s src dst n)

theorem copySlot_cons_succ (a : Slot) (s : List Slot) (src dst n j : Nat) :
    copySlot (a :: s) (src + 1) (dst + 1) n (j + 1) = copySlot s src dst n j := by
  have e : src + 1 + (j + 1 - (dst + 1)) = src + (j - dst) + 1 := by omega
  simp only [copySlot, e, List.getD_cons_succ, Nat.add_le_add_iff_right, Nat.add_right_comm _ 1 n,
    Nat.add_lt_add_iff_right]

theorem copied_cons (a : Slot) (s : List Slot) (src dst n : Nat) :
    copied (a :: s) (src + 1) (dst + 1) n = a :: copied s src dst n := by
  simp only [copied, List.length_cons, List.range_succ_eq_map, List.map_cons, List.map_map]
  refine List.cons_eq_cons.2 ⟨?_, List.map_congr_left fun j _ => copySlot_cons_succ a s src dst n j⟩
  simp [copySlot]

theorem copied_append_left (A s : List Slot) (src dst n : Nat) :
    copied (A ++ s) (A.length + src) (A.length + dst) n = A ++ copied s src dst n := by
  induction A with
  | nil => simp
  | cons a A ih =>
    simp only [List.cons_append, List.length_cons, Nat.add_right_comm _ 1]
    rw [copied_cons, ih]

theorem map_getD_range (T : List Slot) : (List.range T.length).map (T.getD · .hole) = T := by
  apply List.ext_getElem (by simp)
  intro i h _
  simp at h
  simp [h]

theorem copied_append_right (s T : List Slot) {src dst n : Nat} (hsrc : src + n ≤ s.length) (hdst : dst + n ≤ s.length) :
    copied (s ++ T) src dst n = copied s src dst n ++ T := by
  simp only [copied, List.length_append, List.range_add, List.map_append, List.map_map]
  congr 1
  · refine List.map_congr_left fun j hj => ?_
    have hj := List.mem_range.1 hj
    simp only [copySlot, List.getD_eq_getElem?_getD]
    split
    · rw [List.getElem?_append_left (by omega)]
    · rw [List.getElem?_append_left hj]
  · refine Eq.trans (List.map_congr_left fun j _ => ?_) (map_getD_range T)
    simp only [Function.comp, copySlot, List.getD_eq_getElem?_getD]
    rw [if_neg (by omega), if_neg (by omega), List.getElem?_append_right (by omega), Nat.add_sub_cancel_left]



theorem copied_zero (s : List Slot) (src dst : Nat) : copied s src dst 0 = s :=
  Eq.trans (List.map_congr_left fun j _ => by
    simp only [copySlot, Nat.add_zero]; rw [if_neg (by omega), if_neg (by omega)]) (map_getD_range s)

theorem getElem?_map_range {α} (f : Nat → α) (n j : Nat) :
    ((List.range n).map f)[j]? = if j < n then some (f j) else none := by
  by_cases h : j < n <;> simp [h]

/-- `memmove` towards the front, in the window that begins with the destination and ends with the
    source `M`: what was in front of `M` shifts behind it, followed by the moved-from slots -/
theorem copied_back (G M : List Slot) :
    copied (G ++ M) G.length 0 M.length = M ++ (G ++ H M.length).drop M.length := by
  apply List.ext_getElem?
  intro j
  rw [copied, getElem?_map_range, List.length_append]
  simp only [copySlot, List.getD_eq_getElem?_getD, Nat.zero_le, true_and, Nat.zero_add, Nat.sub_zero]
  by_cases h1 : j < M.length
  · rw [if_pos (by omega), if_pos h1, List.getElem?_append_right (Nat.le_add_right ..),
      Nat.add_sub_cancel_left, List.getElem?_append_left h1, List.getElem?_eq_getElem h1]
    rfl
  · rw [if_neg h1, List.getElem?_append_right (l₁ := M) (by omega), List.getElem?_drop,
      show M.length + (j - M.length) = j by omega]
    by_cases h2 : j < G.length
    · rw [if_pos (by omega), if_neg (by omega), List.getElem?_append_left h2, List.getElem?_append_left h2,
        List.getElem?_eq_getElem h2]
      rfl
    · rw [List.getElem?_append_right (l₂ := H _) (by omega), getH]
      by_cases h3 : j < G.length + M.length
      · rw [if_pos h3, if_pos (by omega), if_pos (by omega)]
      · rw [if_neg h3, if_neg (by omega)]

/-- `memmove` towards the back: the mirror image of `copied_back` -/
theorem copied_fwd (M G : List Slot) :
    copied (M ++ G) 0 G.length M.length = (H M.length ++ G).take G.length ++ M := by
  apply List.ext_getElem?
  intro j
  rw [copied, getElem?_map_range, List.length_append]
  simp only [copySlot, List.getD_eq_getElem?_getD, Nat.zero_le, true_and, Nat.zero_add]
  by_cases h1 : j < G.length
  · rw [if_pos (by omega), if_neg (by omega),
      List.getElem?_append_left (l₁ := List.take ..) (by rw [List.length_take, List.length_append, length_H]; omega),
      List.getElem?_take_of_lt h1]
    by_cases h2 : j < M.length
    · rw [if_pos h2, List.getElem?_append_left (by rw [length_H]; omega), getH, if_pos h2]
    · rw [if_neg h2, List.getElem?_append_right (by omega), List.getElem?_append_right (by rw [length_H]; omega),
        length_H, List.getElem?_eq_getElem (by omega)]
      rfl
  · rw [List.getElem?_append_right (l₁ := List.take ..) (by rw [List.length_take, List.length_append, length_H]; omega),
      List.length_take, List.length_append, length_H, show min G.length (M.length + G.length) = G.length by omega]
    by_cases h3 : j < M.length + G.length
    · rw [if_pos h3, if_pos (by omega), List.getElem?_append_left (by omega), List.getElem?_eq_getElem (by omega)]
      rfl
    · rw [if_neg h3, List.getElem?_eq_none (by omega)]

/-- `copy` acts inside a window `X` of the buffer: it succeeds when source and destination lie in the
    window and the destination slots outside the source hold no value -/
theorem copy_window {v : Vec} {A X T : List Slot} {src dst n : Nat} (hs : v.slots = A ++ X ++ T)
    (hsrc : src + n ≤ X.length) (hdst : dst + n ≤ X.length)
    (hclear : ∀ k, k < n → (src ≤ dst + k ∧ dst + k < src + n) ∨ X[dst + k]?.getD .hole = .hole) :
    copy v (A.length + src) (A.length + dst) n = .ok { v with slots := A ++ copied X src dst n ++ T } := by
  unfold copy
  split
  · subst n; rw [copied_zero, ← hs]
  · have hcap : v.cap = A.length + X.length + T.length := by simp [Vec.cap, hs, Nat.add_assoc]
    rw [if_neg (by omega), if_neg (by omega), copyClobbers_none_of]
    rw [show (List.range v.cap).map _ = copied v.slots _ _ n from rfl, hs,
      copied_append_right _ _ (by rw [List.length_append]; omega) (by rw [List.length_append]; omega),
      copied_append_left]
    intro k hk
    rw [hs, List.append_assoc, Nat.add_assoc, List.getElem?_append_right (Nat.le_add_right ..),
      Nat.add_sub_cancel_left, List.getElem?_append_left (by omega)]
    exact (hclear k hk).imp_left (by omega)


/-- `ptr::copy` towards the front: `M` moves over the gap `G` in front of it, whose slots under the
    destination must be free -/
theorem copy_back_gen {v : Vec} {A G M T : List Slot} (hs : v.slots = A ++ G ++ M ++ T)
    (hG : ∀ j, j < M.length → G[j]?.getD .hole = .hole) :
    copy v (A.length + G.length) A.length M.length =
      .ok { v with slots := A ++ (M ++ (G ++ H M.length).drop M.length) ++ T } := by
  rw [← copied_back]
  refine copy_window (dst := 0) (by rw [hs, List.append_assoc A]) (by rw [List.length_append]; omega)
    (by rw [List.length_append]; omega) ?_
  intro j hj
  by_cases h : j < G.length
  · right; rw [Nat.zero_add, List.getElem?_append_left h]; exact hG j hj
  · left; omega

/-- `ptr::copy` towards the back: `M` moves over the gap `G` behind it -/
theorem copy_fwd_gen {v : Vec} {A M G T : List Slot} (hs : v.slots = A ++ M ++ G ++ T)
    (hG : ∀ j, G.length ≤ j + M.length → G[j]?.getD .hole = .hole) :
    copy v A.length (A.length + G.length) M.length =
      .ok { v with slots := A ++ ((H M.length ++ G).take G.length ++ M) ++ T } := by
  rw [← copied_fwd]
  refine copy_window (src := 0) (by rw [hs, List.append_assoc A]) (by rw [List.length_append]; omega)
    (by rw [List.length_append]; omega) ?_
  intro j hj
  by_cases h : G.length + j < M.length
  · left; omega
  · right; rw [List.getElem?_append_right (by omega)]; exact hG _ (by omega)

theorem copy_back {v : Vec} {A M T : List Slot} {k src dst n : Nat} (hs : v.slots = A ++ H k ++ M ++ T)
    (hsrc : src = A.length + k) (hdst : dst = A.length) (hn : n = M.length) :
    copy v src dst n = .ok { v with slots := A ++ M ++ H k ++ T } := by
  subst hsrc hdst hn
  have := copy_back_gen hs fun j _ => getD_H k j
  rw [length_H] at this
  rw [this, ← H_add, H_drop, Nat.add_sub_cancel, ← List.append_assoc A]

theorem copy_fwd {v : Vec} {A M T : List Slot} {k src dst n : Nat} (hs : v.slots = A ++ M ++ H k ++ T)
    (hsrc : src = A.length) (hdst : dst = A.length + k) (hn : n = M.length) :
    copy v src dst n = .ok { v with slots := A ++ H k ++ M ++ T } := by
  subst hsrc hdst hn
  have := copy_fwd_gen hs fun j _ => getD_H k j
  rw [length_H] at this
  rw [this, ← H_add, H_take, Nat.min_eq_left (Nat.le_add_left ..), ← List.append_assoc A]

theorem copy_one_back {v : Vec} {A B T : List Slot} {x : Slot} {src dst : Nat}
    (hs : v.slots = A ++ [Slot.hole] ++ B ++ [x] ++ T) (hsrc : src = A.length + 1 + B.length) (hdst : dst = A.length) :
    copy v src dst 1 = .ok { v with slots := A ++ [x] ++ B ++ [Slot.hole] ++ T } := by
  subst hsrc hdst
  have := copy_back_gen (G := Slot.hole :: B) (M := [x]) (by simpa using hs) fun j hj => by
    rw [List.length_singleton, Nat.lt_one_iff] at hj; subst hj; rfl
  rw [List.length_cons, List.length_singleton, Nat.add_comm B.length, ← Nat.add_assoc] at this
  rw [this]
  simp [H]

theorem copy_one_fwd {v : Vec} {A B T : List Slot} {x : Slot} {src dst : Nat}
    (hs : v.slots = A ++ [x] ++ B ++ [Slot.hole] ++ T) (hsrc : src = A.length) (hdst : dst = A.length + 1 + B.length) :
    copy v src dst 1 = .ok { v with slots := A ++ [Slot.hole] ++ B ++ [x] ++ T } := by
  subst hsrc hdst
  have := copy_fwd_gen (M := [x]) (G := B ++ [Slot.hole]) (by simpa using hs) fun j hj => by
    rw [List.length_append, List.length_singleton, List.length_singleton, Nat.add_le_add_iff_right] at hj
    rw [List.getElem?_append_right hj]
    cases j - B.length <;> rfl
  rw [List.length_append, List.length_singleton, List.length_singleton, Nat.add_comm B.length, ← Nat.add_assoc] at this
  rw [this]
  simp [H, Nat.add_comm 1]

theorem copy_self {v : Vec} {i : Nat} (h : i < v.cap) : copy v i i 1 = .ok v := by
  unfold copy
  rw [if_neg (by omega), if_neg (by omega), if_neg (by omega), copyClobbers_none_of fun k hk => .inl (by omega)]
  refine (congrArg Except.ok (Vec.ext' (Eq.trans (List.map_congr_left fun j _ => ?_) (map_getD_range _)).symm)).symm
  unfold copySlot
  split
  · rw [show i + (j - i) = j by omega]
  · rfl

/-- the guards `if index != len { ptr::copy(…) }` of the crate skip a copy of nothing, which `copy` does not perform either -/
theorem copy_if {c : Prop} [Decidable c] {v : Vec} {i j m : Nat} (h : ¬ c → m = 0) :
    (if c then copy v i j m else .ok v) = copy v i j m := by
  split
  · rfl
  · rw [h ‹_›, copy, if_pos rfl]

theorem copyNonoverlapping_back {v : Vec} {A M T : List Slot} {k src dst n : Nat} (hs : v.slots = A ++ H k ++ M ++ T)
    (hsrc : src = A.length + k) (hdst : dst = A.length) (hn : n = M.length) (hk : M.length ≤ k) :
    copyNonoverlapping v src dst n = .ok { v with slots := A ++ M ++ H k ++ T } := by
  unfold copyNonoverlapping
  rw [if_neg (by omega)]
  exact copy_back hs hsrc hdst hn

/-! ## the buffer of a compacting scan

  `retain`, `dedup_by` and `extract_if` walk over the buffer with a read cursor and a write cursor; in between lie
  the slots vacated so far.  The lemmas say what each primitive step does to a buffer of this form; the cursors are
  variables tied to the segments by equations, so that a loop invariant is applied, not rewritten. -/

/-- the survivors `kept`, `k` vacated slots, the elements `rest` not yet looked at, and whatever follows -/
def gap (kept : List Id) (k : Nat) (rest : List Id) (T : List Slot) (n : Nat) (dl esc : List Id) : Vec :=
  ⟨I kept ++ H k ++ I rest ++ T, n, dl, esc⟩

section
variable {kept rest dl esc : List Id} {k n i j : Nat} {x : Id} {T : List Slot}

theorem gap_peek (hi : i = kept.length + k) : peek (gap kept k (x :: rest) T n dl esc) i = .ok x :=
  peek_mid (A := I kept ++ H k) (B := I rest ++ T) (by simp [gap]) (by simp [hi])

theorem gap_drop {bombs u} (hi : i = kept.length + k) :
    dropAt bombs u (gap kept k (x :: rest) T n dl esc) i =
      .ok (gap kept (k + 1) rest T n (dl ++ [x]) esc, !u && bombs.contains x) := by
  rw [dropAt_mid (A := I kept ++ H k) (x := x) (B := I rest ++ T) (by simp [gap]) (by simp [hi])]
  simp [gap]

theorem gap_take (hi : i = kept.length + k) :
    readOut (gap kept k (x :: rest) T n dl esc) i = .ok (x, gap kept (k + 1) rest T n dl (esc ++ [x])) := by
  rw [readOut_mid (A := I kept ++ H k) (x := x) (B := I rest ++ T) (by simp [gap]) (by simp [hi])]
  simp [gap]

/-- what the guard of every scan does: the unscanned elements move down over the vacated slots -/
theorem gap_close {m : Nat} (hi : i = kept.length + k) (hj : j = kept.length) (hm : m = rest.length) :
    copy (gap kept k rest T n dl esc) i j m = .ok ⟨I (kept ++ rest) ++ H k ++ T, n, dl, esc⟩ := by
  rw [copy_back (A := I kept) (k := k) (M := I rest) (T := T) rfl (by simp [hi]) (by simp [hj]) (by simp [hm])]
  simp [gap]

theorem gap_keep (hi : i = kept.length + k) (hj : j = kept.length) :
    copy (gap kept k (x :: rest) T n dl esc) i j 1 = .ok (gap (kept ++ [x]) k rest T n dl esc) := by
  rw [copy_back (A := I kept) (k := k) (M := [Slot.init x]) (T := I rest ++ T) (by simp [gap]) (by simp [hi]) (by simp [hj])
    (by simp)]
  simp [gap]

theorem gap_keep_nonoverlapping (hi : i = kept.length + k) (hj : j = kept.length) (hk : 0 < k) :
    copyNonoverlapping (gap kept k (x :: rest) T n dl esc) i j 1 = .ok (gap (kept ++ [x]) k rest T n dl esc) := by
  rw [copyNonoverlapping, if_neg (by omega)]
  exact gap_keep hi hj

/-- with no vacated slot the element under the cursor already sits where it belongs -/
theorem gap_zero_cons : gap kept 0 (x :: rest) T n dl esc = gap (kept ++ [x]) 0 rest T n dl esc := by simp [gap]

end

end Coll
