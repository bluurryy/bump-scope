/-
  Lemmas/StrBytes.lean — byte-level effect of the model operations (no UTF-8 yet): under
  `len ≤ capacity` no copy leaves the allocation and the contents change as the list
  specification says.

  The buffer is reasoned about as a concatenation of named segments
  (`contents ++ room ++ rest`, `x ++ y ++ z ++ spare`): `writeAt_seg`, `copyWithin_seg`, `moveTail` and
  `rotate*_append` say what the memory primitives do to such a buffer, so that no index arithmetic
  on `take`/`drop` is left in the operations' proofs.
-/
import BumpProof.Str.Model

namespace Str

/-- well-formed as to the length: `len ≤ capacity`.  With valid contents this is `WF`, with the contents `encode cs` it is
    `Holds s cs` (both in Lemmas/StrOps.lean; `wf_iff`) -/
def WFL (s : State) : Prop := s.len ≤ s.buf.length

theorem bytes_length {s : State} (h : WFL s) : s.bytes.length = s.len := List.length_take_of_le h

theorem bytes_setLen (s : State) (n : Nat) (h : n ≤ s.len) :
    ({ s with len := n } : State).bytes = s.bytes.take n := by
  simp only [State.bytes, List.take_take, Nat.min_eq_left h]

theorem wfl_ofBytes (l : Bytes) (cap : Nat) : WFL (State.ofBytes l cap) := by
  simp [WFL, State.ofBytes]

theorem bytes_ofBytes (l : Bytes) (cap : Nat) : (State.ofBytes l cap).bytes = l := by
  simp [State.bytes, State.ofBytes]

theorem buf_eq (s : State) : s.buf = s.bytes ++ s.buf.drop s.len := (List.take_append_drop _ _).symm

theorem wfl_bytes_mk {b out tail : Bytes} {m : Nat} (hb : b = out ++ tail) (hm : m = out.length) :
    WFL ⟨b, m⟩ ∧ State.bytes ⟨b, m⟩ = out := by
  subst hb hm
  exact ⟨by simp [WFL], List.take_left⟩

theorem writeAt_seg {buf : Bytes} {dst : Nat} {data : Bytes} (p q r : Bytes) (hb : buf = p ++ q ++ r)
    (hp : p.length = dst) (hq : q.length = data.length) :
    writeAt buf dst data = some (p ++ data ++ r) := by
  subst hb hp
  have hd : (p ++ q ++ r).drop (p.length + data.length) = r := List.drop_left' (by simp [hq])
  rw [writeAt, if_pos (by simp; omega), hd, List.append_assoc p q r, List.take_left]

theorem copyWithin_seg {buf : Bytes} {src dst n : Nat} (p m r : Bytes) (hb : buf = p ++ m ++ r)
    (hp : p.length = src) (hm : m.length = n) : copyWithin buf src dst n = writeAt buf dst m := by
  subst hb hp hm
  rw [copyWithin, if_pos (by simp), List.append_assoc, List.drop_left, List.take_left]

/-- `memmove` of the tail `z` of `x ++ w ++ z ++ v` to a place `dst` behind `x`, in either direction (or not at
    all): `z` lands there whole; what lies between `x` and `z` (`dst - x.length` bytes) and behind `z` is stale -/
theorem moveTail {buf : Bytes} {src dst n : Nat} (x w z v : Bytes) (hb : buf = x ++ w ++ z ++ v)
    (hs : src = x.length + w.length) (hn : z.length = n) (h1 : x.length ≤ dst)
    (h2 : dst ≤ x.length + w.length + v.length) :
    ∃ w' v', copyWithin buf src dst n = some (x ++ w' ++ z ++ v') ∧ x.length + w'.length = dst ∧
      w'.length + v'.length = w.length + v.length := by
  obtain ⟨k, rfl⟩ := Nat.exists_eq_add_of_le h1
  refine ⟨(w ++ z ++ v).take k, (w ++ z ++ v).drop (k + z.length), ?_,
    by rw [List.length_take_of_le (by simp; omega)], by simp; omega⟩
  rw [copyWithin_seg (x ++ w) z v hb (hs ▸ List.length_append) hn, writeAt, if_pos (by simp [hb]; omega), hb]
  simp only [List.append_assoc, List.take_length_add_append, List.drop_length_add_append, Nat.add_assoc]

/-- from one `if c then _ else _` statement to another with the same condition, branch by branch -/
theorem ite_mono {c : Prop} [Decidable c] {A B A' B' : Prop} (h : if c then A else B) (ha : A → A') (hb : B → B') :
    if c then A' else B' := by
  split <;> rename_i hc
  · exact ha (by rwa [if_pos hc] at h)
  · exact hb (by rwa [if_neg hc] at h)

theorem rotateRight_append (x y : Bytes) : rotateRight (x ++ y) y.length = y ++ x := by
  rw [rotateRight, List.length_append, Nat.add_sub_cancel, List.drop_left, List.take_left]

theorem rotateLeft_append (y z : Bytes) : rotateLeft (y ++ z) y.length = z ++ y := by
  rw [rotateLeft, List.drop_left, List.take_left]

theorem amortizedCap_ge (cap req : Nat) : req ≤ amortizedCap cap req ∧ cap * 2 ≤ amortizedCap cap req ∧
    minNonZeroCap ≤ amortizedCap cap req := by
  unfold amortizedCap; omega

/-- the capacity `c` after reserving `n` more bytes on `s`: unchanged — NO reallocation — while the
    spare room suffices; otherwise (growable strings only) the amortized capacity
    `max(2·cap, len + n, 8)`, or the arena's grant if that is larger (`MutBumpString`) -/
def CapAfter (a : Alloc) (s : State) (n : Nat) (c : Nat) : Prop :=
  (n ≤ s.cap - s.len → c = s.cap) ∧
  (s.cap - s.len < n →
    match a with
    | .fixed => False
    | .exact => c = amortizedCap s.cap (s.len + n)
    | .atLeast g => c = max g (amortizedCap s.cap (s.len + n)))

/-- the common part of `reserve` and `reserve_exact`: nothing happens while the room suffices; otherwise a
    FIXED string fails and a growable one grows (`ext` is appended) to `c` bytes, or to the arena's larger grant -/
theorem reserveTo_cases (a : Alloc) (s : State) (n c : Nat) (h : WFL s) (hc : s.len + n ≤ c) :
    if a.isFixed = true ∧ s.cap - s.len < n then
      (if n ≤ s.buf.length - s.len then some s else growTo a s c) = none
    else ∃ ext, (if n ≤ s.buf.length - s.len then some s else growTo a s c) = some { s with buf := s.buf ++ ext } ∧
      s.len + n ≤ (s.buf ++ ext).length ∧ (n ≤ s.cap - s.len → ext = []) ∧
      (s.cap - s.len < n → match a with
        | .fixed => False
        | .exact => (s.buf ++ ext).length = c
        | .atLeast g => (s.buf ++ ext).length = max g c) := by
  unfold WFL at h
  unfold State.cap
  by_cases hle : n ≤ s.buf.length - s.len
  · rw [if_neg (by omega), if_pos hle]
    exact ⟨[], by rw [List.append_nil], by rw [List.append_nil]; omega, fun _ => rfl, fun hlt => by omega⟩
  · have grown : ∀ c', c ≤ c' → s.len + n ≤ (s.buf ++ List.replicate (c' - s.buf.length) 0).length ∧
        (s.buf ++ List.replicate (c' - s.buf.length) 0).length = c' := fun c' hc' => by
      simp only [List.length_append, List.length_replicate]; omega
    rw [if_neg hle]
    cases a with
    | fixed => rw [if_pos ⟨rfl, by omega⟩]; rfl
    | exact =>
      rw [if_neg (by simp [Alloc.isFixed])]
      exact ⟨_, rfl, (grown c (Nat.le_refl _)).1, fun hle' => absurd hle' hle, fun _ => (grown c (Nat.le_refl _)).2⟩
    | atLeast g =>
      rw [if_neg (by simp [Alloc.isFixed])]
      exact ⟨_, rfl, (grown _ (Nat.le_max_right g c)).1, fun hle' => absurd hle' hle,
        fun _ => (grown _ (Nat.le_max_right g c)).2⟩

theorem reserve_cases (a : Alloc) (s : State) (n : Nat) (h : WFL s) :
    if a.isFixed = true ∧ s.cap - s.len < n then reserve a s n = none
    else ∃ ext, reserve a s n = some { s with buf := s.buf ++ ext } ∧ s.len + n ≤ (s.buf ++ ext).length ∧
      CapAfter a s n (s.buf ++ ext).length :=
  ite_mono (reserveTo_cases a s n _ h (amortizedCap_ge s.buf.length (s.len + n)).1) id
    fun ⟨ext, hr, hroom, h0, hg⟩ => ⟨ext, hr, hroom, fun hle => by rw [h0 hle, List.append_nil]; rfl, hg⟩

/-- outcome of an operation that may need `need` more bytes: a FIXED string without that room
    reports an allocation error and is unchanged; otherwise the contents become `out` and the
    capacity follows `CapAfter` (in particular: no reallocation while the room suffices).  The statement about characters,
    `GrowsToText al s need r cs` (Lemmas/StrOps.lean), unfolds to `GrowsTo al s need r (encode cs)`. -/
def GrowsTo (a : Alloc) (s : State) (need : Nat) (r : Res Unit) (out : Bytes) : Prop :=
  if a.isFixed = true ∧ s.cap - s.len < need then r = .err s
  else ∃ s', r = .ok () s' ∧ (WFL s' ∧ s'.bytes = out) ∧ CapAfter a s need s'.cap

theorem grows_not_panic {c : Prop} [Decidable c] {s : State} {r : Res Unit} {P : State → Prop}
    (h : if c then r = .err s else ∃ s', r = .ok () s' ∧ P s') : r.isPanic = false := by
  split at h
  · rw [h]; rfl
  · obtain ⟨s', hr, _⟩ := h; rw [hr]; rfl

/-- the common shape of the growing operations: `reserve(need)` fails with the string unchanged,
    or leaves the buffer `contents ++ room ++ rest` with `room` the `need` bytes asked for, from
    which the operation produces a buffer of the same size that starts with `out` -/
theorem GrowsTo.of_reserve {al : Alloc} {s : State} {need : Nat} {k : State → Res Unit} {out : Bytes} (h : WFL s)
    (hsome : ∀ room rest : Bytes, room.length = need →
      ∃ b m tail, k ⟨s.bytes ++ room ++ rest, s.len⟩ = .ok () ⟨b, m⟩ ∧ b = out ++ tail ∧ m = out.length ∧
        b.length = (s.bytes ++ room ++ rest).length) :
    GrowsTo al s need (match reserve al s need with | none => .err s | some s1 => k s1) out := by
  refine ite_mono (reserve_cases al s need h) (fun hn => by rw [hn]) fun ⟨ext, hr, hroom, hcap⟩ => ?_
  · have hbuf : s.buf ++ ext =
        s.bytes ++ (s.buf.drop s.len ++ ext).take need ++ (s.buf.drop s.len ++ ext).drop need := by
      rw [List.append_assoc, List.take_append_drop, ← List.append_assoc, ← buf_eq]
    rw [hbuf] at hr hcap
    rw [hr]
    obtain ⟨b, m, tail, hres, hb, hm, hlen⟩ := hsome ((s.buf.drop s.len ++ ext).take need)
      ((s.buf.drop s.len ++ ext).drop need) (List.length_take_of_le (by simp only [List.length_append, List.length_drop] at hroom ⊢; omega))
    obtain ⟨hw, hbytes⟩ := wfl_bytes_mk hb hm
    exact ⟨_, hres, ⟨hw, hbytes⟩, by rw [State.cap, hlen]; exact hcap⟩

theorem appendBytes_spec (al : Alloc) (s : State) (data : Bytes) (h : WFL s) :
    GrowsTo al s data.length (appendBytes al s data) (s.bytes ++ data) := by
  unfold appendBytes
  refine GrowsTo.of_reserve h fun room rest hroom => ?_
  rw [writeAt_seg s.bytes room rest rfl (bytes_length h) hroom]
  exact ⟨_, _, rest, rfl, rfl, by simp [bytes_length h], by simp [hroom]⟩

theorem insertBytes_spec (al : Alloc) (s : State) (data x z : Bytes) (h : WFL s) (hb : s.bytes = x ++ z) :
    GrowsTo al s data.length (insertBytes al s x.length data) (x ++ data ++ z) := by
  have hl : s.len = x.length + z.length := by rw [← bytes_length h, hb, List.length_append]
  unfold insertBytes
  refine GrowsTo.of_reserve h fun room rest hroom => ?_
  -- the tail `z` moves up by the length of the data, which is then written into the gap
  obtain ⟨w', v', hc, hw, hv⟩ := moveTail (buf := s.bytes ++ room ++ rest) (src := x.length)
    (dst := x.length + data.length) (n := s.len - x.length) x [] z (room ++ rest) (by simp [hb]) rfl (by omega)
    (by omega) (by simp; omega)
  rw [hc]
  simp only
  rw [writeAt_seg x w' (z ++ v') (by simp) rfl (by omega)]
  exact ⟨_, _, v', rfl, by simp, by simp; omega, by simp [hb] at hv ⊢; omega⟩

theorem sliceRange_some {sb eb : Bound} {len a b : Nat} (h : sliceRange sb eb len = some (a, b)) :
    a ≤ b ∧ b ≤ len := by
  unfold sliceRange at h
  split at h
  · split at h
    · cases h
    · split at h
      · cases h
      · cases h; omega
  · cases h

theorem sliceRange_incl_excl (a b len : Nat) :
    sliceRange (.incl a) (.excl b) len = if a ≤ b ∧ b ≤ len then some (a, b) else none := by
  simp only [sliceRange, Bound.start?, Bound.end?]
  by_cases h1 : a > b
  · rw [if_pos h1, if_neg (by omega)]
  · rw [if_neg h1]
    by_cases h2 : b > len
    · rw [if_pos h2, if_neg (by omega)]
    · rw [if_neg h2, if_pos (by omega)]

theorem len_eq_of_bytes {s : State} {x y z : Bytes} (h : WFL s) (hb : s.bytes = x ++ y ++ z) :
    s.len = x.length + y.length + z.length := by
  rw [← bytes_length h, hb, List.length_append, List.length_append]

/-- closing the gap `y` in the contents `x ++ y ++ z`: `copy(tail → start, tail_len)`, with the new length -/
theorem closeGap {s : State} {x y z : Bytes} (hb : s.bytes = x ++ y ++ z) {src n m : Nat}
    (hs : src = x.length + y.length) (hn : z.length = n) (hm : m = x.length + z.length) :
    ∃ b, copyWithin s.buf src x.length n = some b ∧ WFL ⟨b, m⟩ ∧ State.bytes ⟨b, m⟩ = x ++ z := by
  obtain ⟨spare, hbuf⟩ : ∃ spare, s.buf = x ++ y ++ z ++ spare := ⟨_, hb ▸ buf_eq s⟩
  obtain ⟨w', v', hc, hw, _⟩ := moveTail x y z spare hbuf hs hn (Nat.le_refl _) (by omega)
  obtain rfl : w' = [] := List.eq_nil_of_length_eq_zero (by omega)
  exact ⟨_, hc, wfl_bytes_mk (b := x ++ [] ++ z ++ v') (out := x ++ z) (tail := v') (by simp)
    (hm.trans List.length_append.symm)⟩

theorem vecDrainDrop_spec (s : State) (x y z : Bytes) (h : WFL s) (hb : s.bytes = x ++ y ++ z) :
    ∃ s', vecDrainDrop s x.length (x.length + y.length) = .ok () s' ∧ WFL s' ∧ s'.bytes = x ++ z := by
  have hl := len_eq_of_bytes h hb
  unfold vecDrainDrop
  rw [sliceRange_incl_excl, if_pos ⟨by omega, by omega⟩]
  simp only
  by_cases hz : z.length = 0
  · obtain rfl : z = [] := List.eq_nil_of_length_eq_zero hz
    rw [if_neg (by simp at hl; omega)]
    exact ⟨_, rfl, wfl_bytes_mk (out := x ++ []) (tail := y ++ s.buf.drop s.len) (m := x.length)
      ((buf_eq s).trans (by rw [hb]; simp)) (by simp)⟩
  · rw [if_pos (by omega)]
    by_cases hy : y.length = 0
    · obtain rfl : y = [] := List.eq_nil_of_length_eq_zero hy
      rw [if_neg (by simp)]
      exact ⟨_, rfl, wfl_bytes_mk (out := x ++ z) (m := x.length + (s.len - (x.length + [].length)))
        ((buf_eq s).trans (by rw [hb, List.append_nil])) (by simp; omega)⟩
    · obtain ⟨b, hc, hw⟩ := closeGap hb (n := s.len - (x.length + y.length))
        (m := x.length + (s.len - (x.length + y.length))) rfl (by omega) (by omega)
      rw [if_pos (by omega), hc]
      exact ⟨_, rfl, hw⟩

/-- the part of `replace_range` after the range check and the boundary assertions -/
theorem replaceRange_bytes (al : Alloc) (s : State) (sb eb : Bound) (str x y z : Bytes) (h : WFL s)
    (hb : s.bytes = x ++ y ++ z) (hr : sliceRange sb eb s.len = some (x.length, x.length + y.length))
    (hx : boundaryOk s x.length = true) (hy : boundaryOk s (x.length + y.length) = true) :
    GrowsTo al s (str.length - y.length) (replaceRange al s sb eb str) (x ++ str ++ z) := by
  have hl := len_eq_of_bytes h hb
  unfold replaceRange
  rw [hr]
  simp only [hx, hy, Bool.not_true, Bool.false_eq_true, ↓reduceIte, Nat.add_sub_cancel_left]
  refine GrowsTo.of_reserve h fun room rest hroom => ?_
  -- the tail `z` moves to where the new text will end (if it has to move), then the text is written over the gap
  obtain ⟨w', v', hmv, hw, hv⟩ : ∃ w' v',
      (if y.length ≠ str.length then
        copyWithin (s.bytes ++ room ++ rest) (x.length + y.length) (x.length + str.length) (s.len - (x.length + y.length))
       else some (s.bytes ++ room ++ rest)) = some (x ++ w' ++ z ++ v') ∧ x.length + w'.length = x.length + str.length ∧
      w'.length + v'.length = y.length + (room ++ rest).length := by
    by_cases hne : y.length = str.length
    · exact ⟨y, room ++ rest, by rw [if_neg (by omega), hb]; simp, by omega, rfl⟩
    · rw [if_pos hne]
      exact moveTail x y z (room ++ rest) (by simp [hb]) rfl (by omega) (by omega) (by simp; omega)
  have hnew : (s.len : Int) + ((str.length : Int) - (y.length : Int)) = ((x ++ str ++ z).length : Nat) := by
    simp only [List.length_append]; omega
  rw [hmv]
  simp only
  rw [writeAt_seg x w' (z ++ v') (by simp) rfl (by omega)]
  simp only
  rw [hnew, if_neg (Int.not_lt.2 (Int.natCast_nonneg _)), Int.toNat_natCast]
  exact ⟨_, _, v', rfl, by simp, rfl, by simp [hb] at hv ⊢; omega⟩

theorem extendFromWithin_bytes (al : Alloc) (s : State) (sb eb : Bound) (x y z : Bytes) (h : WFL s)
    (hb : s.bytes = x ++ y ++ z) (hr : sliceRange sb eb s.len = some (x.length, x.length + y.length))
    (hx : boundaryOk s x.length = true) (hy : boundaryOk s (x.length + y.length) = true) :
    GrowsTo al s y.length (extendFromWithin al s sb eb) (x ++ y ++ z ++ y) := by
  have hl := len_eq_of_bytes h hb
  unfold extendFromWithin
  rw [hr]
  simp only [hx, hy, Bool.not_true, Bool.false_eq_true, ↓reduceIte, Nat.add_sub_cancel_left]
  refine GrowsTo.of_reserve h fun room rest hroom => ?_
  rw [hb, copyWithin_seg x y (z ++ room ++ rest) (by simp) rfl rfl,
    writeAt_seg (x ++ y ++ z) room rest rfl (by simp; omega) hroom]
  exact ⟨_, _, rest, rfl, rfl, by simp; omega, by simp; omega⟩

theorem splitOff_bytes (f : Bool) (s : State) (sb eb : Bound) (x y z : Bytes) (h : WFL s)
    (hb : s.bytes = x ++ y ++ z) (hr : sliceRange sb eb s.len = some (x.length, x.length + y.length))
    (hx : boundaryOk s x.length = true) (hy : boundaryOk s (x.length + y.length) = true) :
    ∃ o s', splitOff f s sb eb = .ok o s' ∧ WFL o ∧ WFL s' ∧ o.bytes = y ∧ s'.bytes = x ++ z ∧
      o.cap + s'.cap = s.cap := by
  have hl := len_eq_of_bytes h hb
  obtain ⟨spare, hbuf⟩ : ∃ spare, s.buf = x ++ y ++ z ++ spare := ⟨_, hb ▸ buf_eq s⟩
  -- the two strings, given their buffers as `contents ++ tail`
  have fin : ∀ (to ts : Bytes) (r : Res State),
      r = .ok ⟨y ++ to, y.length⟩ ⟨x ++ (z ++ ts), x.length + z.length⟩ → to.length + ts.length = spare.length →
      ∃ o s', r = .ok o s' ∧ WFL o ∧ WFL s' ∧ o.bytes = y ∧ s'.bytes = x ++ z ∧ o.cap + s'.cap = s.cap := by
    rintro to ts _ rfl hsp
    have hs' := wfl_bytes_mk (List.append_assoc x z ts).symm (List.length_append (as := x)).symm
    exact ⟨_, _, rfl, (wfl_bytes_mk rfl rfl).1, hs'.1, (wfl_bytes_mk rfl rfl).2, hs'.2,
      by simp [State.cap, hbuf]; omega⟩
  have e1 : x.length + (y.length + z.length) - (x.length + y.length) = z.length := by omega
  have e2 : x.length + (y.length + z.length) - y.length = x.length + z.length := by omega
  unfold splitOff
  simp only [hr, hx, hy, Bool.not_true, Bool.false_eq_true, ↓reduceIte, Nat.add_sub_cancel_left]
  -- every buffer and length in terms of the segments
  simp only [hbuf, hl, List.append_assoc, Nat.add_assoc, e1, e2, Nat.add_sub_cancel_left, List.take_length_add_append,
    List.drop_length_add_append, List.take_left, List.drop_left, rotateRight_append, rotateLeft_append]
  by_cases h1 : x.length + y.length = x.length + (y.length + z.length)
  · obtain rfl : z = [] := List.eq_nil_of_length_eq_zero (by omega)
    rw [if_pos h1]
    exact fin spare [] _ (by simp) rfl
  rw [if_neg h1]
  by_cases h2 : x.length = 0
  · obtain rfl : x = [] := List.eq_nil_of_length_eq_zero h2
    rw [if_pos h2]
    exact fin [] spare _ (by simp) (Nat.zero_add _)
  rw [if_neg h2]
  by_cases h3 : y.length = 0
  · obtain rfl : y = [] := List.eq_nil_of_length_eq_zero h3
    have hs : s = ⟨x ++ (z ++ spare), x.length + z.length⟩ := by
      rw [show s = ⟨s.buf, s.len⟩ from rfl, hbuf, hl]; simp
    refine fin [] spare _ ?_ (Nat.zero_add _)
    rw [← hs]
    -- with both assertions passed the two orders of the checks return the same
    cases f <;> simp
  rw [if_neg (by simp [h3]), if_neg (by simp [h3])]
  by_cases h4 : x.length < z.length
  · rw [if_pos h4]
    exact fin [] spare _ (by simp) (Nat.zero_add _)
  · rw [if_neg h4]
    exact fin spare [] _ (by simp) rfl

end Str
