/-
  Lemmas/LedgerFail.lean — under a refusing base allocator the chunk-creating functions, and `inAnotherChunk`,
  `alloc`, `reserve` built on them, return an error value and never fault.  The size computations are the proved
  ones (`Lemmas/FnCreate`); that the walk over the later chunks and the fast path do not fault is a hypothesis here.
-/
import BumpProof.Lemmas.LedgerAlloc
import BumpProof.Lemmas.FnCreate

namespace Ledger
open Arena Rs

theorem newChunkForCapacity_fail {cfg : Cfg} {s : State} {L : Layout} {rest : List BaseResp}
    (hH : Spec.HeaderOK cfg.hdr) (hmin : cfg.minChunk < 2^64) (hL : L.Valid)
    (hr : s.resps = .fail :: rest) : ∃ s' e, newChunkForCapacity cfg s L = .ok (s', .error e) :=
  have _ := hmin
  Fn.newChunkForCapacity_eq hH hL ▸ Fn.sized_refused hr _

theorem appendFor_fail {cfg : Cfg} {s : State} {L : Layout} {rest : List BaseResp}
    (hH : Spec.HeaderOK cfg.hdr) (hmin : cfg.minChunk < 2^64) (hL : L.Valid)
    (hne : s.chunks ≠ []) (hr : s.resps = .fail :: rest) :
    ∃ s' e, appendFor cfg s L = .ok (s', .error e) :=
  have _ := hmin
  Fn.appendFor_eq hH hL (List.getLast?_eq_some_getLast hne) ▸ Fn.sized_refused hr _

theorem inAnotherChunk_fail {cfg : Cfg} {k : Kind} {s : State} {L : Layout} {h : Hints} {rest : List BaseResp}
    (hH : Spec.HeaderOK cfg.hdr) (hmin : cfg.minChunk < 2^64) (hL : L.Valid)
    (hr : s.resps = .fail :: rest)
    (hw : ∀ i, s.cur = .chunk i → i < s.chunks.length ∧
      ∃ s1, walkNext cfg k L h (s.chunks.length - (i+1)) i s = .ok (none, s1)) :
    ∃ s' e, inAnotherChunk cfg k s L h = .ok (s', .error e) := by
  cases hcur : s.cur with
  | claimed => exact ⟨_, _, (Fn.Slow.claimed hcur).run⟩
  | unallocated =>
    obtain ⟨s1, e1, h1⟩ := newChunkForCapacity_fail (s := s) hH hmin hL hr
    exact ⟨_, _, (Fn.Slow.firstRefused hcur h1).run⟩
  | chunk i =>
    obtain ⟨hi, s1, h1⟩ := hw i hcur
    have hw := (Fn.walkNext_iff _ _ _ (Fn.fuel_le s i)).1 h1
    obtain ⟨_, w2, w3, _⟩ := Walk.frame hw
    obtain ⟨s2, e2, h2⟩ := appendFor_fail (s := s1) hH hmin hL
      (List.ne_nil_of_length_pos (w3 ▸ Nat.zero_lt_of_lt hi)) (w2.trans hr)
    exact ⟨_, _, (Fn.Slow.appendRefused hcur hw h2).run⟩

theorem alloc_fail {cfg : Cfg} {s : State} {L : Layout} {rest : List BaseResp}
    (hH : Spec.HeaderOK cfg.hdr) (hmin : cfg.minChunk < 2^64) (hL : L.Valid)
    (hr : s.resps = .fail :: rest)
    (hfast : tryCur cfg .alloc s L Hints.custom = .ok none)
    (hw : ∀ i, s.cur = .chunk i → i < s.chunks.length ∧
      ∃ s1, walkNext cfg .alloc L Hints.custom (s.chunks.length - (i+1)) i s = .ok (none, s1)) :
    ∃ s' e, alloc cfg s L = .ok (s', .error e) := by
  unfold alloc allocGeneric
  obtain ⟨s', e, h1⟩ := inAnotherChunk_fail hH hmin hL hr hw
  exact ⟨_, _, by rw [hfast, bind_ok, h1]; rfl⟩

theorem reserve_fail {cfg : Cfg} {s : State} {add : Nat} {rest : List BaseResp}
    (hH : Spec.HeaderOK cfg.hdr) (hmin : cfg.minChunk < 2^64)
    (hr : s.resps = .fail :: rest)
    (hi : ∀ i, s.cur = .chunk i → i < s.chunks.length) :
    ∃ s' r, reserve cfg s add = .ok (s', r) ∧ (r = .ok () → s' = s) := by
  unfold reserve
  cases hcur : s.cur with
  | claimed => exact ⟨_, _, rfl, fun _ => rfl⟩
  | unallocated =>
    cases hl : layoutOk add 1 with
    | false => exact ⟨_, _, rfl, fun _ => rfl⟩
    | true =>
      obtain ⟨s1, e1, h1⟩ := newChunkForCapacity_fail (s := s) hH hmin (Fn.bytes_layout_valid hl) hr
      exact ⟨_, _, by simp only [Bool.not_true, Bool.false_eq_true, ↓reduceIte, h1]; rfl, fun h => by cases h⟩
  | chunk i =>
    have hlt := hi i hcur
    simp only [List.getElem?_eq_getElem hlt]
    split
    · exact ⟨_, _, rfl, fun _ => rfl⟩
    split
    · exact ⟨_, _, rfl, fun _ => rfl⟩
    next r2 _ =>
    by_cases h0 : r2 = 0
    · exact ⟨_, _, by rw [if_pos h0]; rfl, fun _ => rfl⟩
    rw [if_neg h0]
    cases hl : layoutOk r2 1 with
    | false => exact ⟨_, _, rfl, fun _ => rfl⟩
    | true =>
      obtain ⟨s1, e1, h1⟩ := appendFor_fail (s := s) hH hmin (Fn.bytes_layout_valid hl)
        (List.ne_nil_of_length_pos (Nat.zero_lt_of_lt hlt)) hr
      exact ⟨_, _, by simp only [Bool.not_true, Bool.false_eq_true, ↓reduceIte, h1]; rfl, fun h => by cases h⟩

end Ledger
