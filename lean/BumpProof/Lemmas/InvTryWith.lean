/-
  Lemmas/InvTryWith.lean — preservation of `Arena.Hist.Inv` by `alloc_try_with(_mut)`
  (`Op.allocTryWith`): `stepCore` is cut into the allocation of the `Result`, the closure (`tryInner`)
  and the end (`tryTail`); `RAt` says that the `Result` block is the last thing carved from the current
  chunk (what `canShrink` tests), `Room` that it can still be given back (after `alloc` and after `prepare`),
  `Mid` is the invariant of the intermediate states of the step, established by `Mid.start` and `Mid.closure`
  and used by `Mid.tail`; the no-fault, blocks-below and `allocated` proofs of the step read the same `Mid` (the last one
  together with `TryMid`, Lemmas/HistAllocatedTryWith.lean: how the state relates to the one the step started from).
-/
import BumpProof.Lemmas.InvReallocPost
import BumpProof.Lemmas.StepTryWith
import BumpProof.Lemmas.HistCheck
set_option linter.unusedSimpArgs false
set_option linter.unusedVariables false
namespace Arena.Hist
open Rs
variable {cfg : Cfg}

/-! ## where a successful allocation put its block -/

/-- `[ptr, ptr+size)` was the last thing carved from the current chunk `c` (index `i`): the position is just
    past it (upwards: up to padding for the minimum alignment), and no non-empty live block of this chunk
    lies on the free side of its start -/
structure RAt (cfg : Cfg) (s : State) (i : Nat) (c : Chunk) (ptr size : Nat) : Prop where
  cur : s.cur = .chunk i
  chunk : s.chunks[i]? = some c
  inC : Mem.InContent cfg c ptr size
  side : if cfg.up then ptr + size ≤ c.pos else c.pos = ptr
  beyond : ∀ b ∈ s.live, 0 < b.size → Mem.InContent cfg c b.addr b.size →
    if cfg.up then b.addr + b.size ≤ ptr else ptr + size ≤ b.addr

/-- the geometric facts about a successful `alloc`-kind allocation: the block lies in the (new) current chunk
    next to its position; that chunk is the old current chunk (the block then lies on the free side of the
    old position) or a later one -/
theorem allocWhere (hc : CfgOK cfg) {s : State} (h : GeomInv cfg s) (hr : RespsOK cfg s)
    {L : Layout} {hints hSlow : Hints} (hL : L.Valid)
    (hh : hints.sma = true → L.align ∣ L.size) (hhs : hSlow.sma = true → L.align ∣ L.size)
    {s' : State} {v : Nat × Nat} (he : allocGeneric cfg .alloc s L hints hSlow = .ok (s', .ok v)) :
    ∃ i c, s'.cur = .chunk i ∧ s'.chunks[i]? = some c ∧ Mem.InContent cfg c v.1 L.size ∧
      (if cfg.up then v.1 + L.size ≤ c.pos else c.pos = v.1) ∧
      ((∃ c0, s.cur = .chunk i ∧ s.chunks[i]? = some c0 ∧ c.base = c0.base ∧ c.size = c0.size ∧
          (if cfg.up then c0.pos ≤ v.1 ∧ c0.pos ≤ c.pos else v.1 + L.size ≤ c0.pos ∧ c.pos ≤ c0.pos)) ∨
       (∀ i0, s.cur = .chunk i0 → i0 < i)) := by
  rcases Fn.allocGeneric_cases he with ⟨v', hv', ht⟩ | ⟨_, hs⟩
  · cases hv'
    have hspec : tryCurSpec cfg .alloc s L = some (v, s') := by
      rw [tryCur_eq hc h .alloc hL hh] at ht; injection ht
    obtain ⟨i, c0, np, k1, k2, k3, k4, k7, k8, k9⟩ := tryCurSpec_alloc_where hc h hL hspec
    exact ⟨i, _, k3, k4, k7, k8, Or.inl ⟨c0, k1, k2, rfl, rfl, k9⟩⟩
  · obtain ⟨sp, sfrom⟩ := (inAnotherChunk_ok hc h hr .alloc hL hhs (fun hk => by cases hk)).1 (s', _) hs
    obtain ⟨sx, x1, x2, x3, x4⟩ := sfrom v rfl
    obtain ⟨i, c0, np, k1, k2, k3, k4, k7, k8, k9⟩ := tryCurSpec_alloc_where hc x1 hL x3
    refine ⟨i, _, k3, k4, k7, k8, Or.inr ?_⟩
    intro i0 hi0
    rcases x4 with ⟨_, i1, j, hi1, hj, hlt⟩ | ⟨p, g, rest, cc, _, _, _, _, hcx⟩
    · rw [hi0] at hi1; cases hi1
      rw [k1] at hj; cases hj
      exact hlt
    · rw [k1] at hcx; cases hcx
      exact h.lt_length hi0

theorem same_chunk_of_inContent {s : State} (hd : ChunksDisjoint s) {i j : Nat} {ci cj : Chunk}
    (hi : s.chunks[i]? = some ci) (hj : s.chunks[j]? = some cj) {a sz : Nat} (hs : 0 < sz)
    (h1 : Mem.InContent cfg ci a sz) (h2 : Mem.InContent cfg cj a sz) : j = i := by
  by_cases hji : j = i
  · exact hji
  · have := Mem.inContent_disjoint_chunks hd hi hj hji h2 h1
    unfold Mem.RangesDisjoint at this; omega

theorem rAt_of_alloc (hc : CfgOK cfg) {s : State} (h : GeomInv cfg s) (hr : RespsOK cfg s) (hl : Mem.LiveOK cfg s)
    {L : Layout} {hints hSlow : Hints} (hL : L.Valid)
    (hh : hints.sma = true → L.align ∣ L.size) (hhs : hSlow.sma = true → L.align ∣ L.size)
    {s' : State} {v : Nat × Nat} (he : allocGeneric cfg .alloc s L hints hSlow = .ok (s', .ok v))
    (hd' : ChunksDisjoint s') (hst : Stable s s') : ∃ i c, RAt cfg s' i c v.1 L.size := by
  obtain ⟨i, c, k1, k2, k3, k4, k5⟩ := allocWhere hc h hr hL hh hhs he
  refine ⟨i, c, k1, k2, k3, k4, ?_⟩
  intro b hb hs hin
  rw [hst.live] at hb
  obtain ⟨is, j, cj, g1, g2, g3, g4, g5⟩ := hl.placed b hb hs
  obtain ⟨cj', hcj', e1, e2⟩ := hst.cov j cj g3
  have hji : j = i := same_chunk_of_inContent hd' k2 hcj' hs hin (Mem.InContent.of_same e1 e2 g4)
  subst hji
  rcases k5 with ⟨c0, f1, f2, f3, f4, f5⟩ | hlt
  · rw [g1] at f1; cases f1
    rw [g3] at f2; cases f2
    have := g5 rfl
    unfold Mem.OnAllocatedSide at this
    cases hup : cfg.up
    · simp only [hup, Bool.false_eq_true, ↓reduceIte] at this f5 ⊢; omega
    · simp only [hup, ↓reduceIte] at this f5 ⊢; omega
  · have := hlt is g1; omega

theorem RAt.behind {s : State} {i : Nat} {c : Chunk} {ptr size : Nat} (hR : RAt cfg s i c ptr size)
    (hl : Mem.LiveOK cfg s) :
    Mem.Behind cfg s ⟨.chunk i, if cfg.up then ptr else ptr + size⟩ (fun _ => true) := by
  intro b hb _ hs
  obtain ⟨i', j, cj, h1, h2, h3, h4, _⟩ := hl.placed b hb hs
  cases hR.cur.symm.trans h1
  refine ⟨i, j, cj, rfl, h2, h3, h4, fun hji => ?_⟩
  subst hji
  cases hR.chunk.symm.trans h3
  have := hR.beyond b hb hs h4
  cases hup : cfg.up <;> simp only [hup, Bool.false_eq_true, ↓reduceIte] at this ⊢ <;> exact this

theorem RAt.outcome {s : State} {i : Nat} {c : Chunk} {ptr size : Nat} (hR : RAt cfg s i c ptr size)
    (hl : Mem.LiveOK cfg s) (hd : ChunksDisjoint s) :
    Mem.Placed cfg s ptr size ∧ ∀ b ∈ s.live, Mem.RangesDisjoint b.addr b.size ptr size := by
  have hside := hR.side
  have := (hR.behind hl).carve (s' := s) (p := ptr) (size := size) (np := c.pos) hl.aligned hl.disjoint
    hd rfl hR.chunk
    ⟨hR.inC, by cases hup : cfg.up <;> simp only [hup, Bool.false_eq_true, ↓reduceIte] at hside ⊢ <;> omega⟩
    hR.cur (by rw [Fn.setPos_self hR.chunk]) (Mem.filter_all _)
  exact ⟨this.placed, this.disj⟩

/-- giving back the part of the block on the free side of `[p, p+sz)` -/
theorem RAt.shrink {s : State} {i : Nat} {c : Chunk} {ptr size : Nat} (hR : RAt cfg s i c ptr size)
    (hl : Mem.LiveOK cfg s) (hd : ChunksDisjoint s) {p sz np : Nat}
    (hgeo : if cfg.up then ptr ≤ p ∧ p + sz ≤ np ∧ np ≤ c.contentEnd cfg
            else c.contentStart cfg ≤ np ∧ np ≤ p ∧ p + sz ≤ ptr + size) :
    Mem.AllocOutcome cfg (setPos s i np) p sz := by
  refine (hR.behind hl).carve hl.aligned hl.disjoint hd rfl hR.chunk (Mem.Between.of_chain ?_)
    hR.cur rfl (Mem.filter_all _)
  have hin := hR.inC
  unfold Mem.InContent at hin
  cases hup : cfg.up <;> simp only [hup, Bool.false_eq_true, ↓reduceIte] at hgeo ⊢ <;> omega

theorem RAt.canShrink {s : State} {i : Nat} {c : Chunk} {ptr size : Nat} (hR : RAt cfg s i c ptr size) :
    ((if cfg.up then curPos cfg s else ptr) == curPos cfg s) = true := by
  have := hR.side
  rw [beq_iff_eq, curPos_chunk hR.cur hR.chunk]
  cases hup : cfg.up <;> simp only [hup, Bool.false_eq_true, ↓reduceIte] at this ⊢
  exact this.symm

theorem RAt.same {s s' : State} {i : Nat} {c c' : Chunk} {ptr size : Nat} (hR : RAt cfg s i c ptr size)
    (hcur : s'.cur = s.cur) (hc' : s'.chunks[i]? = some c')
    (e1 : c'.base = c.base) (e2 : c'.size = c.size) (e3 : c'.pos = c.pos)
    (hlive : ∀ b ∈ s'.live, b ∈ s.live ∨ b.size = 0) : RAt cfg s' i c' ptr size := by
  refine ⟨hcur.trans hR.cur, hc', Mem.InContent.of_same e1 e2 hR.inC, by rw [e3]; exact hR.side, ?_⟩
  intro b hb hs hin
  rcases hlive b hb with hb' | hb'
  · exact hR.beyond b hb' hs (Mem.InContent.of_same e1.symm e2.symm hin)
  · omega

/-! ## intermediate states of the step -/

/-- the `Result` block can still be given back: it lies in the current chunk between a boundary `q` behind which all
    live blocks lie and an aligned bound `b` on the free side.  After `alloc`: `q` is the end of the block on the
    allocated side and `b` the position (`RAt.room`); after `prepare`: `q` is the position and `b` the end of the content
    range on the free side (`Mid.start`). -/
def Room (cfg : Cfg) (s : State) (ptr size : Nat) : Prop :=
  ∃ i c q b, s.cur = .chunk i ∧ s.chunks[i]? = some c ∧ Mem.Behind cfg s ⟨.chunk i, q⟩ (fun _ => true) ∧ s.minAlign ∣ b ∧
    if cfg.up then c.contentStart cfg ≤ q ∧ q ≤ ptr ∧ ptr + size ≤ b ∧ b ≤ c.contentEnd cfg
    else c.contentStart cfg ≤ b ∧ b ≤ ptr ∧ ptr + size ≤ q ∧ q ≤ c.contentEnd cfg

theorem RAt.room {s : State} {i : Nat} {c : Chunk} {ptr size : Nat} (hR : RAt cfg s i c ptr size)
    (hg : GeomInv cfg s) (hl : Mem.LiveOK cfg s) : Room cfg s ptr size := by
  have hw : ChunkWF cfg c := hg.chunks i c hR.chunk
  obtain ⟨c1, hc1, _, hdvd⟩ := hg.curChunk hR.cur
  cases hR.chunk.symm.trans hc1
  have hin := hR.inC
  have hside := hR.side
  have := hw.pos_le; have := hw.pos_ge
  unfold Mem.InContent at hin
  refine ⟨i, c, _, c.pos, hR.cur, hR.chunk, hR.behind hl, hdvd, ?_⟩
  cases hup : cfg.up <;> simp only [hup, Bool.false_eq_true, ↓reduceIte] at hside ⊢ <;> omega

/-- what the outcome `cs` of the test `canShrink` says about the `Result` block: it can still be given back, or it is an
    ordinary placed range that shares no byte with a live block -/
def Held (cfg : Cfg) (s : State) (ptr size : Nat) : Bool → Prop
  | true => Room cfg s ptr size
  | false => Mem.Placed cfg s ptr size ∧ ∀ b ∈ s.live, Mem.RangesDisjoint b.addr b.size ptr size

/-- an intermediate state of the step whose `Result` block is `[ptr, ptr+size)`; `cp`: the checkpoint taken at the
    start of the step is still sound, with the id counter of the start as its mark (what the `Err` path resets to) -/
structure Mid (cfg : Cfg) (g : GState) (ptr size : Nat) (s : State) : Prop where
  inv : Inv cfg ⟨s, g.marks⟩
  prep : s.prepared = none
  cp : CpOK cfg s (checkpoint cfg g.s) g.s.nextId
  resps : RespsOK cfg s
  fresh : RespsFresh s
  cur : ∃ i, s.cur = .chunk i
  inC : ∃ (j : Nat) (c : Chunk), s.chunks[j]? = some c ∧ Mem.InContent cfg c ptr size

/-- the `Result` block ends below the end of its chunk, a multiple of 16 below `2^64` -/
theorem Mid.end16 {g : GState} {ptr size : Nat} {s : State} (m : Mid cfg g ptr size s) :
    ∃ e, 16 ∣ e ∧ e < 2 ^ 64 ∧ ptr + size ≤ e := by
  obtain ⟨j, c, hj, hin⟩ := m.inC
  have hw := m.inv.geom.chunks j c hj
  exact ⟨c.contentEnd cfg, hw.end16 m.inv.cfgOK, hw.end_lt64, hin.2⟩

/-- the closure's allocation attempt, before its block (if any) is registered -/
theorem Mid.step {g : GState} {ptr size : Nat} {s s' : State} (m : Mid cfg g ptr size s) {k : Kind} {L : Layout}
    {r : Except AErr (Nat × Nat)} (p : AllocPost cfg k L s s' r) : Mid cfg g ptr size s' := by
  obtain ⟨j, c, hj, hin⟩ := m.inC
  obtain ⟨c', hc', e1, e2⟩ := p.stable.cov j c hj
  exact ⟨inv_of_allocPost m.inv p m.prep, p.stable.prepared.trans m.prep,
    m.cp.mono p.stable.cov p.stable.liveSub (Nat.le_of_eq p.stable.nextId.symm), p.resps, p.fresh,
    p.curKind.elim (fun h => m.cur.imp fun i hi => h.trans hi) id, j, c', hc', Mem.InContent.of_same e1 e2 hin⟩

/-- `Err` path: back to the checkpoint of the start, everything allocated since is dead -/
theorem Mid.reset {g : GState} {ptr size : Nat} {s s3 : State} (m : Mid cfg g ptr size s)
    (hr : resetTo cfg s (checkpoint cfg g.s) = .ok s3) : Inv cfg ⟨killFrom s3 g.s.nextId, g.marks⟩ :=
  inv_after_resetTo_same (g := ⟨s, g.marks⟩) m.inv m.cp m.prep hr

/-- `Ok` path, the `Result` block is kept: the value is a sub-range of it -/
theorem Mid.value {g : GState} {ptr size : Nat} {s : State} (m : Mid cfg g ptr size s) {a sz : Nat}
    (hpl : Mem.Placed cfg s ptr size)
    (hdj : ∀ b ∈ s.live, Mem.RangesDisjoint b.addr b.size ptr size) (h1 : ptr ≤ a) (h2 : a + sz ≤ ptr + size) :
    Inv cfg ⟨(addBlock s a sz 1 0).1, g.marks⟩ := by
  have hl := m.inv.live.addBlock (p := a) (size := sz) (align := 1) 0 (Nat.one_dvd _)
    (fun _ => placed_sub hpl h1 h2)
    (fun b hb => by
      have := hdj b hb
      unfold Mem.RangesDisjoint at this ⊢
      omega)
  exact m.inv.withBlock hl m.cur ⟨0, by decide, rfl⟩

theorem Mid.moved {g : GState} {ptr size : Nat} {s : State} (m : Mid cfg g ptr size s) {i : Nat} {c : Chunk}
    (hcur : s.cur = .chunk i)
    (hi : s.chunks[i]? = some c) {np a sz : Nat}
    (h1 : c.contentStart cfg ≤ np) (h2 : np ≤ c.contentEnd cfg) (h3 : s.minAlign ∣ np)
    (ho : Mem.AllocOutcome cfg (setPos s i np) a sz) :
    Inv cfg ⟨(addBlock (setCurPos s np) a sz 1 0).1, g.marks⟩ := by
  have e : setCurPos s np = setPos s i np := Mem.setCurPos_chunk hcur np
  have hg := (m.inv.geom.moveCur hcur hi h1 h2 h3).inv
  have inv1 : Inv cfg ⟨setCurPos s np, g.marks⟩ :=
    inv_of_stable (g := ⟨s, g.marks⟩) m.inv m.prep hg ((setCurPos_shape s np).disjoint m.inv.disj) (setCurPos_minAlign s np)
      (Stable.setCurPos s np) (fun hu => by rw [setCurPos_cur] at hu; rw [hcur] at hu; cases hu)
      (Or.inl (setCurPos_cur s np)) (by rw [e]; exact ho.live)
  exact inv1.withBlock (by rw [e]; exact ho.addBlock (Nat.one_dvd _) 0) ⟨i, by rw [setCurPos_cur]; exact hcur⟩
    ⟨0, by decide, rfl⟩

theorem tryTail_pos (hc : CfgOK cfg) {c : Chunk} (hw : ChunkWF cfg c) {m xu xd np : Nat} (hm : MinAlignOK m)
    (hu : xu ≤ c.contentEnd cfg) (hd : xd ≤ c.contentEnd cfg)
    (h : (if cfg.up then liftM (Gen.LibArith.up_align_usize_unchecked xu m) else liftM (Gen.LibArith.down_align_usize xd m))
      = .ok np) : np = alignPos cfg.up m (if cfg.up then xu else xd) := by
  unfold alignPos
  cases hup : cfg.up
  · simp only [hup, Bool.false_eq_true, ↓reduceIte] at h ⊢
    rw [Fn.lib_down_align_eq hm.p2 hm.lt64 (Nat.lt_of_le_of_lt hd hw.end_lt64)] at h
    exact (Except.ok.inj h).symm
  · simp only [hup, ↓reduceIte] at h ⊢
    rw [(hw.up_align_val hc hm hu).1] at h
    exact (Except.ok.inj h).symm

/-- `Ok` path, shrink to fit: the value `[a, a+sz)` is carved out of the room of the `Result` block; the position goes to
    the free end of the value, aligned: it stops at the bound `b` of the room (`alignPos_mem`) -/
theorem Mid.carveTo (hc : CfgOK cfg) {g : GState} {ptr size : Nat} {s : State} (m : Mid cfg g ptr size s)
    (hroom : Room cfg s ptr size) {a sz np : Nat} (h1 : ptr ≤ a) (h2 : a + sz ≤ ptr + size)
    (hnp : (if cfg.up then liftM (Gen.LibArith.up_align_usize_unchecked (a + sz) s.minAlign)
            else liftM (Gen.LibArith.down_align_usize a s.minAlign)) = .ok np) :
    Inv cfg ⟨(addBlock (setCurPos s np) a sz 1 0).1, g.marks⟩ := by
  obtain ⟨i, c, q, b, hcur, hi, hbeh, hb, hq⟩ := hroom
  have hw : ChunkWF cfg c := m.inv.geom.chunks i c hi
  have hm := m.inv.geom.minAlign
  have e := tryTail_pos hc hw hm (by split at hq <;> omega) (by split at hq <;> omega) hnp
  have hdir := alignPos_dir (up := cfg.up) (x := if cfg.up then a + sz else a) hm.pos
  have hmem := alignPos_mem (up := cfg.up) (x := if cfg.up then a + sz else a)
    (lo := if cfg.up then c.contentStart cfg else b) (hi := if cfg.up then b else c.contentEnd cfg) hm.pos
    (by split; exact hm.dvd_of_16 (hw.start16 hc); exact hb) (by split; exact hb; exact hm.dvd_of_16 (hw.end16 hc))
    (by cases hup : cfg.up <;> simp only [hup, Bool.false_eq_true, ↓reduceIte] at hq ⊢ <;> omega)
    (by cases hup : cfg.up <;> simp only [hup, Bool.false_eq_true, ↓reduceIte] at hq ⊢ <;> omega)
  rw [← e] at hdir hmem
  have hgeo : Mem.Between cfg c q a sz np ∧ c.contentStart cfg ≤ np ∧ np ≤ c.contentEnd cfg := by
    unfold Mem.Between Mem.InContent
    cases hup : cfg.up <;> simp only [hup, Bool.false_eq_true, ↓reduceIte] at hq hdir hmem ⊢ <;> omega
  exact m.moved hcur hi hgeo.2.1 hgeo.2.2 (e ▸ alignPos_dvd _ _ _)
    (hbeh.carve m.inv.live.aligned m.inv.live.disjoint m.inv.disj rfl hi hgeo.1 hcur rfl
      (Mem.filter_all _))

/-- the state in which the closure starts -/
theorem Mid.start {g : GState} (h : Inv cfg g) (hr : RespsOK cfg g.s) (hf : RespsFresh g.s) (hp : g.s.prepared = none)
    {L : Layout} (hL : L.Valid) (hsz : L.align ∣ L.size) {mut_ : Bool} {s1 : State} {ptr x : Nat}
    (ha : allocGeneric cfg (if mut_ then .prepare else .alloc) g.s L Hints.sized Hints.custom = .ok (s1, .ok (ptr, x))) :
    Mid cfg g ptr L.size s1 ∧ Room cfg s1 ptr L.size ∧ (mut_ = false → ∃ i c, RAt cfg s1 i c ptr L.size) := by
  have hc := h.cfgOK
  have p1 := allocGeneric_post hc h.geom hr h.disj hf _ hL (fun _ => hsz) (custom_sma L)
    (tryKind_ne_range mut_) ha
  have mk : (∃ (j : Nat) (c : Chunk), s1.chunks[j]? = some c ∧ Mem.InContent cfg c ptr L.size) → Mid cfg g ptr L.size s1 := fun hin =>
    ⟨inv_of_allocPost h p1 hp, p1.stable.prepared.trans hp,
      (cpOK_checkpoint h).mono p1.stable.cov p1.stable.liveSub (Nat.le_of_eq p1.stable.nextId.symm), p1.resps, p1.fresh,
      p1.cur_ok _ rfl, hin⟩
  cases mut_ with
  | true =>
    obtain ⟨_, i, c, f1, f2, f3⟩ := p1.found (ptr, x) rfl
    have hw : ChunkWF cfg c := p1.inv.chunks i c f2
    have := hw.pos_le; have := hw.pos_ge
    have hin : Mem.InContent cfg c ptr L.size := by
      unfold Mem.InContent
      cases hup : cfg.up <;> simp only [hup, Bool.false_eq_true, ↓reduceIte] at f3 <;> omega
    have m := mk ⟨i, c, f2, hin⟩
    -- the boundary is the position, the bound the end of the content range on the free side
    refine ⟨m, ⟨i, c, c.pos, if cfg.up then c.contentEnd cfg else c.contentStart cfg, f1, f2, m.inv.live.behind f1 f2 _, ?_, ?_⟩,
      fun e => by cases e⟩
    · split
      · exact p1.inv.minAlign.dvd_of_16 (hw.end16 hc)
      · exact p1.inv.minAlign.dvd_of_16 (hw.start16 hc)
    · cases hup : cfg.up <;> simp only [hup, Bool.false_eq_true, ↓reduceIte] at f3 ⊢ <;> omega
  | false =>
    obtain ⟨i, c, hR⟩ := rAt_of_alloc hc h.geom hr h.live hL (fun _ => hsz) (custom_sma L) ha p1.disj p1.stable
    have m := mk ⟨i, c, hR.chunk, hR.inC⟩
    exact ⟨m, hR.room m.inv.geom m.inv.live, fun _ => ⟨i, c, hR⟩⟩

/-- what the closure of the non-mut variant leaves behind: the Result block is still placed and disjoint from
    every live block (including the one the closure allocated); if the position test of `canShrink` succeeds
    the Result block is still the last thing carved from the current chunk -/
theorem tryInner_post (hc : CfgOK cfg) {g : GState} {s1 s2 : State} {inner : Option Layout} {io : Option (Nat × Layout)}
    {ptr size : Nat} (m : Mid cfg g ptr size s1) {i : Nat} {c : Chunk}
    (hR : RAt cfg s1 i c ptr size) (hi : tryInner cfg s1 inner false = .ok (s2, io)) :
    Mid cfg g ptr size (withInner s2 io) ∧ Mem.Placed cfg (withInner s2 io) ptr size ∧
    (∀ b ∈ (withInner s2 io).live, Mem.RangesDisjoint b.addr b.size ptr size) ∧
    (((if cfg.up then curPos cfg s1 else ptr) == curPos cfg s2) = true →
      ∃ c', RAt cfg (withInner s2 io) i c' ptr size) := by
  obtain ⟨o1, o2⟩ := hR.outcome m.inv.live m.inv.disj
  rcases tryInner_cases hi with ⟨rfl, rfl⟩ | ⟨_, Li, r, hLi, ha, rfl⟩
  · exact ⟨m, o1, o2, fun _ => ⟨c, hR⟩⟩
  · obtain ⟨r', he, hrr⟩ := Mem.alloc_eq_ok ha
    have hr := m.resps
    have p2 := allocGeneric_post hc m.inv.geom hr m.inv.disj m.fresh .alloc hLi (custom_sma Li) (custom_sma Li)
      (fun hk => by cases hk) he
    have hw : ChunkWF cfg c := m.inv.geom.chunks i c hR.chunk
    cases r' with
    | error e =>
      simp only [Except.map] at hrr
      subst hrr
      obtain ⟨hcur, hch⟩ := p2.cur_err e rfl
      obtain ⟨c', hc', e1, e2, e3⟩ := hch i c hR.cur hR.chunk
      have m2 : Mid cfg g ptr size s2 := m.step p2
      have hR2 : RAt cfg s2 i c' ptr size :=
        hR.same hcur hc' e1 e2 e3 (fun b hb => Or.inl (p2.stable.live ▸ hb))
      obtain ⟨q1, q2⟩ := hR2.outcome m2.inv.live m2.inv.disj
      exact ⟨m2, q1, q2, fun _ => ⟨c', hR2⟩⟩
    | ok v =>
      simp only [Except.map] at hrr
      subst hrr
      obtain ⟨i2, c2, k1, k2, k3, k4, k5⟩ := allocWhere hc m.inv.geom hr hLi (custom_sma Li) (custom_sma Li) he
      have hlive2 : ∀ b ∈ (addBlock s2 v.1 Li.size Li.align 0).1.live,
          b ∈ s1.live ∨ b = { id := s2.nextId, addr := v.1, size := Li.size, align := Li.align, depth := 0, init := 0 } := by
        intro b hb
        rcases List.mem_append.mp hb with hb | hb
        · exact Or.inl (p2.stable.live ▸ hb)
        · simp only [List.mem_singleton] at hb; exact Or.inr hb
      have ms := m.step p2
      have m2 : Mid cfg g ptr size (addBlock s2 v.1 Li.size Li.align 0).1 := by
        refine ⟨inv_alloc_success (g := ⟨s1, g.marks⟩) (z := false) (n := 0) m.inv p2 m.prep hLi rfl,
          ms.prep, m.cp.mono (p2.stable.cov.trans (ChunksCov.of_eq rfl)) ?_ ?_, ms.resps, ms.fresh, ms.cur, ms.inC⟩
        · intro b hb
          rcases hlive2 b hb with hb | hb
          · exact Or.inl ⟨b, hb, rfl, rfl, rfl, rfl⟩
          · subst hb
            exact Or.inr ⟨Nat.le_of_eq p2.stable.nextId.symm, hLi.1⟩
        · show s1.nextId ≤ s2.nextId + 1
          rw [p2.stable.nextId]; exact Nat.le_succ _
      have hw2 : ChunkWF cfg c2 := p2.inv.chunks i2 c2 k2
      have cp1 : curPos cfg s1 = c.pos := curPos_chunk hR.cur hR.chunk
      have cp2 : curPos cfg s2 = c2.pos := curPos_chunk k1 k2
      have hside := hR.side
      show Mid cfg g ptr size (addBlock s2 v.1 Li.size Li.align 0).1 ∧ Mem.Placed cfg (addBlock s2 v.1 Li.size Li.align 0).1 ptr size ∧
        (∀ b ∈ (addBlock s2 v.1 Li.size Li.align 0).1.live, Mem.RangesDisjoint b.addr b.size ptr size) ∧
        (((if cfg.up then curPos cfg s1 else ptr) == curPos cfg s2) = true →
          ∃ c', RAt cfg (addBlock s2 v.1 Li.size Li.align 0).1 i c' ptr size)
      rw [cp1, cp2]
      rcases k5 with ⟨c0, f1, f2, f3, f4, f5⟩ | slow
      · -- the closure's block came from the same chunk
        have hii : i2 = i := by rw [hR.cur] at f1; cases f1; rfl
        subst hii
        rw [hR.chunk] at f2; cases f2
        refine ⟨m2, ⟨i2, i2, c2, k1, Nat.le_refl _, k2, Mem.InContent.of_same f3 f4 hR.inC, fun _ => ?_⟩, ?_, ?_⟩
        · unfold Mem.OnAllocatedSide
          cases hup : cfg.up
          · simp only [hup, Bool.false_eq_true, ↓reduceIte] at hside f5 k4 ⊢; omega
          · simp only [hup, ↓reduceIte] at hside f5 k4 ⊢; omega
        · intro b hb
          rcases hlive2 b hb with hb | hb
          · exact o2 b hb
          · subst hb
            unfold Mem.RangesDisjoint
            cases hup : cfg.up
            · simp only [hup, Bool.false_eq_true, ↓reduceIte] at hside f5 k4 ⊢; omega
            · simp only [hup, ↓reduceIte] at hside f5 k4 ⊢; omega
        · intro htest
          simp only [beq_iff_eq] at htest
          have hz : Li.size = 0 ∧ c2.pos = c.pos := by
            cases hup : cfg.up
            · simp only [hup, Bool.false_eq_true, ↓reduceIte] at hside f5 k4 htest; omega
            · simp only [hup, ↓reduceIte] at hside f5 k4 htest; omega
          refine ⟨c2, hR.same (k1.trans hR.cur.symm) k2 f3 f4 hz.2 ?_⟩
          intro b hb
          rcases hlive2 b hb with hb | hb
          · exact Or.inl hb
          · subst hb; exact Or.inr hz.1
      · -- the closure's block came from a later chunk
        have hlt := slow i hR.cur
        obtain ⟨c', hc', e1, e2⟩ := p2.stable.cov i c hR.chunk
        have hin' : Mem.InContent cfg c' ptr size := Mem.InContent.of_same e1 e2 hR.inC
        refine ⟨m2, ⟨i2, i, c', k1, Nat.le_of_lt hlt, hc', hin', fun e => by omega⟩, ?_, ?_⟩
        · intro b hb
          rcases hlive2 b hb with hb | hb
          · exact o2 b hb
          · subst hb
            exact Mem.inContent_disjoint_chunks p2.disj hc' k2 (by omega) k3 hin'
        · intro htest
          simp only [beq_iff_eq] at htest
          exfalso
          have hw' : ChunkWF cfg c' := p2.inv.chunks i c' hc'
          have a1 := hw.pos_ge; have a2 := hw.pos_le
          have a3 := hw2.pos_ge; have a4 := hw2.pos_le
          have hx : c.pos = c2.pos := by
            cases hup : cfg.up
            · simp only [hup, Bool.false_eq_true, ↓reduceIte] at hside htest; omega
            · simp only [hup, ↓reduceIte] at htest; exact htest
          refine content_apart hc p2.disj (Nat.ne_of_lt hlt) hc' k2 hw' hw2 (x := c2.pos) ?_ ⟨a3, a4⟩
          rw [Chunk.contentStart_congr cfg e1, Chunk.contentEnd_congr cfg e1 e2]
          omega

/-- the state in which the closure returns -/
theorem Mid.closure (hc : CfgOK cfg) {g : GState} {ptr size : Nat} {s1 s2 : State} (m : Mid cfg g ptr size s1)
    (hroom : Room cfg s1 ptr size) {mut_ : Bool} (hR : mut_ = false → ∃ i c, RAt cfg s1 i c ptr size)
    {inner : Option Layout} {io : Option (Nat × Layout)} (hin : tryInner cfg s1 inner mut_ = .ok (s2, io)) :
    Mid cfg g ptr size (withInner s2 io) ∧
    Held cfg (withInner s2 io) ptr size (mut_ || (if cfg.up then curPos cfg s1 else ptr) == curPos cfg s2) := by
  cases mut_ with
  | true =>
    obtain ⟨rfl, rfl⟩ := tryInner_mut hin
    exact ⟨m, hroom⟩
  | false =>
    obtain ⟨i, c, hR⟩ := hR rfl
    obtain ⟨m2, q1, q2, q3⟩ := tryInner_post hc m hR hin
    refine ⟨m2, ?_⟩
    rw [Bool.false_or]
    cases e : (if cfg.up then curPos cfg s1 else ptr) == curPos cfg s2
    · exact ⟨q1, q2⟩
    · exact (q3 e).elim fun c' hR' => hR'.room m2.inv.geom m2.inv.live

theorem Mid.tail (hc : CfgOK cfg) {g g' : GState} {out : Out} {ptr size : Nat} {s : State} (m : Mid cfg g ptr size s)
    {cs : Bool} (hd : Held cfg s ptr size cs) {off vsize : Nat} (hov : off + vsize ≤ size) {ok : Bool}
    (ht : tryTail cfg g s ptr off vsize ok cs = .ok (g', out)) : Inv cfg g' := by
  -- the four outcomes of `tryTail_inv`
  rcases tryTail_inv ht with ⟨_, hcs, np, i', hcur, hnp, rfl⟩ | ⟨_, hcs, rfl⟩ | ⟨_, _, s3, hr3, rfl⟩ | ⟨_, _, rfl⟩
  · subst hcs; exact m.carveTo hc hd (Nat.le_add_right _ _) (by omega) hnp
  · subst hcs; exact m.value hd.1 hd.2 (Nat.le_add_right _ _) (by omega)
  · exact m.reset hr3
  · exact m.inv

theorem inv_allocTryWith {g g' : GState} {out : Out} {L : Layout} {off vsize : Nat} {ok : Bool} {inner : Option Layout}
    {mut_ : Bool} (hsz : L.align ∣ L.size) (h : Inv cfg g) (hr : RespsOK cfg g.s) (hf : RespsFresh g.s)
    (hs : stepCore cfg g (.allocTryWith L off vsize ok inner mut_) = .ok (g', out)) : Inv cfg g' := by
  obtain ⟨hL, hp, hov, hrun⟩ := tryWith_ok hs
  cases hrun with
  | refused ha =>
    exact inv_of_allocPost h (allocGeneric_post h.cfgOK h.geom hr h.disj hf _ hL (fun _ => hsz) (custom_sma L)
      (tryKind_ne_range mut_) ha) hp
  | ran ha hin htail =>
    obtain ⟨m1, room1, hR1⟩ := Mid.start h hr hf hp hL hsz ha
    obtain ⟨m2, held⟩ := m1.closure h.cfgOK room1 hR1 hin
    exact m2.tail h.cfgOK held hov htail

/-- the fresh arena about to be granted its first chunk (4000 bytes at `0x40000`): the state the examples of this
    layer start from -/
theorem exFresh_env : EnvOK exCfg (initG exCfg) [.granted 0x40000 4000] := envCheck_sound (by decide)

/-- non-vacuity of the hypotheses of `inv_allocTryWith`: on a fresh arena (upwards, `MIN_ALIGN = 8`, the base
    allocator is about to grant 4000 bytes at `0x40000`) `alloc_try_with` runs for a 24-byte `Result` whose 8-byte
    `Ok` value sits at offset 8 and whose closure allocates 8 bytes itself; also the `_mut` variant returning `Err` -/
example : ∃ g, Inv exCfg g ∧ RespsOK exCfg g.s ∧ RespsFresh g.s ∧
    (∃ g' out, stepCore exCfg g (.allocTryWith { size := 24, align := 8 } 8 8 true (some { size := 8, align := 8 }) false)
      = .ok (g', out)) ∧
    (∃ g' out, stepCore exCfg g (.allocTryWith { size := 24, align := 8 } 8 8 false none true) = .ok (g', out)) :=
  ⟨install (initG exCfg) [.granted 0x40000 4000], (inv_init exCfg_ok).install _, exFresh_env.1, exFresh_env.2,
    ⟨_, _, rfl⟩, ⟨_, _, rfl⟩⟩

end Arena.Hist
