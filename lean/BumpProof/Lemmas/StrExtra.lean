/-
  Lemmas/StrExtra.lean — what the theorems about extend_zeroed, fmt::Write and Extend<char> in Props/C09.lean
  rest on: the encoding of NUL characters and the push loop (`extendStrs_spec` for `Extend<&str>`; the loop over characters
  is that loop over their encodings, `pushAllChars_eq`); `write_str` / `write_char` are `push_str` / `push`.
-/
import BumpProof.Lemmas.StrOps

namespace Str

theorem encode_replicate_nul (n : Nat) : encode (List.replicate n (Char.ofNat 0)) = List.replicate n 0 := by
  induction n with
  | zero => rfl
  | succ n ih =>
    rw [List.replicate_succ, encode_cons, ih, List.replicate_succ]
    have : encodeChar (Char.ofNat 0) = [0] := by decide
    rw [this]; rfl

theorem writeStr_eq (al : Alloc) (s : State) (str : Bytes) : writeStr al s str = pushStr al s str := rfl
theorem writeChar_eq (al : Alloc) (s : State) (c : Char) : writeChar al s c = push al s c := rfl

/-- `Extend<&str>`: every piece is pushed, or — only a FIXED string — an allocation error after the first `k`
    pieces, which stay -/
theorem extendStrs_spec (al : Alloc) (ps : List (List Char)) (s : State) (cs : List Char) (h : Holds s cs) :
    ∃ k s', ((extendStrs al s (ps.map encode) = .ok () s' ∧ k = ps.length) ∨
             (extendStrs al s (ps.map encode) = .err s' ∧ al.isFixed = true ∧ k < ps.length)) ∧
            Holds s' (cs ++ (ps.take k).flatten) := by
  induction ps generalizing s cs with
  | nil => exact ⟨0, s, Or.inl ⟨rfl, rfl⟩, by simpa using h⟩
  | cons p ps ih =>
    have hp := pushStr_spec al s p cs h
    unfold GrowsToText at hp
    split at hp
    · rename_i hc
      refine ⟨0, s, Or.inr ⟨?_, hc.1, by simp⟩, by simpa using h⟩
      simp only [List.map_cons, extendStrs, hp]
    · obtain ⟨s1, hr, hh, _⟩ := hp
      obtain ⟨k, s', hk, hh'⟩ := ih s1 (cs ++ p) hh
      refine ⟨k + 1, s', ?_, by simpa using hh'⟩
      simp only [List.map_cons, extendStrs, hr]
      rcases hk with ⟨h1, h2⟩ | ⟨h1, h2, h3⟩
      · exact Or.inl ⟨h1, by simp [h2]⟩
      · exact Or.inr ⟨h1, h2, by simp; omega⟩

/-- the push loop of `Extend<char>` is that of `Extend<&str>` over the one-character texts -/
theorem pushAllChars_eq (al : Alloc) (s : State) (xs : List Char) :
    pushAllChars al s xs = extendStrs al s (xs.map encodeChar) := by
  induction xs generalizing s with
  | nil => rfl
  | cons x xs ih => simp only [pushAllChars, List.map_cons, extendStrs, push_eq_pushStr, ih]

/-- the push loop of `Extend<char>`: everything is pushed, or — only a FIXED string — an
    allocation error after the first `k` characters, which stay -/
theorem pushAllChars_spec (al : Alloc) (xs : List Char) (s : State) (cs : List Char) (h : Holds s cs) :
    ∃ k s', ((pushAllChars al s xs = .ok () s' ∧ k = xs.length) ∨
             (pushAllChars al s xs = .err s' ∧ al.isFixed = true ∧ k < xs.length)) ∧
            Holds s' (cs ++ xs.take k) := by
  have := extendStrs_spec al (xs.map fun c => [c]) s cs h
  simpa [pushAllChars_eq, Function.comp_def, encode_singleton, ← List.map_take, ← List.flatMap_def] using this

end Str
