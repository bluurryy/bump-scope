/-
  Lemmas/CollSplice.lean — the parts of `Splice::drop` (`Coll/Splice.lean`) on segmented buffers, its body as one
  lemma (`spliceBody_bump`), `Extend::extend` (`extendIter_bump`), the refinement of `splice` (`splice_holds`) and
  conservation for its list-level description (`spliceSpec_perm`).
  Two capacity bounds occur: `env.maxCap` makes `reserve` refuse, the argument `maxCap` drives `capOverflow` (the
  "capacity overflow" panic of a reservation for a claimed length).  The lemmas take `env.maxCap = none`, so that
  a `BumpVec` never refuses and only the overflow can interrupt `Splice::drop`.
-/
import BumpProof.Lemmas.CollDrain
import BumpProof.Lemmas.CollGrow

namespace Coll

/-- `Drain::fill` on `I head ++ H g ++ R`: the gap takes as many new values as it can hold -/
theorem spliceFill_seg (g : Nat) : ∀ (head src dl esc : List Id) (R : List Slot),
    spliceFill g ⟨I head ++ H g ++ R, head.length, dl, esc⟩ src =
      .ok (⟨I (head ++ src.take g) ++ H (g - src.length) ++ R, head.length + min g src.length, dl, esc⟩,
           src.drop g, decide (g ≤ src.length)) := by
  induction g with
  | zero => intro head src dl esc R; simp [spliceFill]
  | succ g ih =>
    intro head src dl esc R
    cases src with
    | nil => simp [spliceFill]
    | cons id src =>
      rw [spliceFill, write_mid (A := I head) (B := H g ++ R) (by simp) (by simp)]
      have := ih (head ++ [id]) src dl esc R
      simp only [I_append, List.append_assoc, List.length_append, List.length_singleton] at this
      simp only [setLen, I_cons, I_nil, List.cons_append, List.nil_append] at this ⊢
      rw [this]
      simp [Nat.add_assoc, Nat.add_comm 1]

/-- `Drain::move_tail(a)` once the gap is closed (`I head ++ I tail ++ H spare`): the tail moves `a` slots up,
    after a reallocation when the spare capacity does not suffice -/
theorem spliceMoveTail_seg (env : Env) {d : DrainSt} {head tail dl esc : List Id} {spare n : Nat} (a : Nat)
    (hts : d.tailStart = head.length) (htl : d.tailLen = tail.length) :
    ∃ spare', spliceMoveTail env ⟨I head ++ I tail ++ H spare, n, dl, esc⟩ d a =
        .ok (⟨I head ++ H a ++ I tail ++ H spare', n, dl, esc⟩, { d with tailStart := head.length + a }) ∧
      spare ≤ a + spare' := by
  unfold spliceMoveTail
  rw [hts, htl]
  simp only [Vec.cap, List.length_append, length_I, length_H, Nat.add_sub_cancel_left]
  have hnc := Nat.le_trans (Nat.le_max_right ((head.length + tail.length + spare) * 2) (head.length + tail.length + a))
    (Nat.le_max_left _ env.minCap)
  generalize max (max ((head.length + tail.length + spare) * 2) (head.length + tail.length + a)) env.minCap = newCap at hnc ⊢
  by_cases hg : a > spare
  · -- reallocation to `newCap = |head| + |tail| + a + e` slots, `a = spare + b`
    obtain ⟨e, rfl⟩ := Nat.exists_eq_add_of_le hnc
    obtain ⟨b, rfl⟩ := Nat.exists_eq_add_of_le (Nat.le_of_lt hg)
    have hsub : head.length + tail.length + (spare + b) + e - (head.length + (tail.length + spare)) = b + e := by
      rw [← Nat.add_assoc head.length, ← Nat.add_assoc (head.length + tail.length), Nat.add_assoc _ b e,
        Nat.add_sub_cancel_left]
    refine ⟨e, ?_, Nat.le_trans (Nat.le_add_right ..) (Nat.le_add_right ..)⟩
    rw [if_pos hg, copy_fwd (A := I head) (M := I tail) (k := spare + b) (T := H e)
      (by simp only [growTo, Vec.cap, List.length_append, length_I, length_H, List.append_assoc, hsub, H_add])
      (by simp) (by simp) (by simp)]
    rfl
  · obtain ⟨s', rfl⟩ := Nat.exists_eq_add_of_le (Nat.le_of_not_gt hg)
    refine ⟨s', ?_, Nat.le_refl _⟩
    rw [if_neg hg, copy_fwd (A := I head) (M := I tail) (k := a) (T := H s')
      (by simp only [List.append_assoc, H_add]) (by simp) (by simp) (by simp)]

/-- `for_each(drop)` over what the iterator of the `Drain` still covers: the values up to and including the first one
    whose `Drop` panics are gone -/
theorem spliceDropRest_at (bombs : List Id) {head tail esc : List Id} {b n : Nat} {T : List Slot} (u : List Id) :
    ∀ (a : Nat) (dl : List Id) (d : DrainSt), DrainAt d head a u b tail →
    ∃ pre post d', u = pre ++ post ∧
      spliceDropRest bombs u.length ⟨I head ++ H a ++ I u ++ H b ++ (I tail ++ T), n, dl, esc⟩ d =
        .ok (⟨I head ++ H (a + pre.length) ++ I post ++ H b ++ (I tail ++ T), n, dl ++ pre, esc⟩, d',
             u.any bombs.contains) ∧
      DrainAt d' head (a + pre.length) post b tail ∧ (u.any bombs.contains = false → post = []) := by
  induction u with
  | nil =>
    intro a dl d hd
    refine ⟨[], [], d, rfl, ?_, hd, fun _ => rfl⟩
    rw [List.length_nil, spliceDropRest]
    simp
  | cons x u ih =>
    intro a dl d hd
    have hd1 : DrainAt { d with ptr := d.ptr + 1 } head (a + 1) u b tail :=
      ⟨by simp only [hd.ptr]; omega, by simp only [hd.end_, List.length_cons]; omega,
        by simp only [hd.tailStart, List.length_cons]; omega, hd.tailLen⟩
    rw [List.length_cons, spliceDropRest, if_neg (by rw [hd.ptr, hd.end_, List.length_cons]; omega),
      dropAt_mid (A := I head ++ H a) (x := x) (B := I u ++ H b ++ (I tail ++ T)) (by simp) (by simp [hd.ptr])]
    have e : I head ++ H a ++ Slot.hole :: (I u ++ H b ++ (I tail ++ T)) = I head ++ H (a + 1) ++ I u ++ H b ++ (I tail ++ T) := by
      simp
    cases hb : bombs.contains x with
    | true =>
      refine ⟨[x], u, _, rfl, ?_, hd1, fun h => by rw [List.any_cons, hb] at h; cases h⟩
      simp only [Bool.not_false, Bool.true_and, ↓reduceIte, List.any_cons, hb, Bool.true_or, List.length_singleton, e]
    | false =>
      obtain ⟨pre, post, d', hu, heq, hd', hnil⟩ := ih (a + 1) (dl ++ [x]) _ hd1
      rw [Nat.add_right_comm] at hd' heq
      refine ⟨x :: pre, post, d', by rw [hu]; rfl, ?_, hd', fun h => hnil (by rwa [List.any_cons, hb, Bool.false_or] at h)⟩
      simp only [Bool.not_false, Bool.true_and, Bool.false_eq_true, ↓reduceIte, List.any_cons, hb, Bool.false_or]
      rw [e, heq]
      simp [Nat.add_assoc]

/-- `v` holds exactly `xs` in the standard shape, with the given logs -/
structure Holds (v : Vec) (xs dl esc : List Id) : Prop where
  slots : v.slots = I xs ++ H (v.cap - v.len)
  len : xs.length = v.len
  dropLog : v.dropLog = dl
  escaped : v.escaped = esc

theorem Holds.shape {v : Vec} {xs dl esc : List Id} (h : Holds v xs dl esc) : View.fwd.Shape v xs := ⟨h.slots, h.len⟩

theorem holds_seg (xs dl esc : List Id) (k : Nat) : Holds ⟨I xs ++ H k, xs.length, dl, esc⟩ xs dl esc :=
  ⟨(seg_shape ..).1, rfl, rfl, rfl⟩

theorem reserveOne_bump (env : Env) (v : Vec) (hk : env.kind = .bump) (hm : env.maxCap = none) :
    ∃ v', reserveOne env v = some v' := by
  unfold reserveOne growAmortized
  simp only [hk]
  split <;> simp [Env.fits, hm]

theorem reserve_bump (env : Env) (v : Vec) (n : Nat) (hk : env.kind = .bump) (hm : env.maxCap = none) :
    ∃ v', reserve env v n = some v' := by
  unfold reserve growAmortized
  split <;> simp [hk, Env.fits, hm]

/-- `vec.extend(replace_with)` on a `BumpVec`: every value is pushed -/
theorem spliceExtendLoop_bump (env : Env) (hk : env.kind = .bump) (hm : env.maxCap = none) (src : List Id) :
    ∀ (xs dl esc : List Id) (k : Nat),
      ∃ k', spliceExtendLoop env ⟨I xs ++ H k, xs.length, dl, esc⟩ src =
          .ok (⟨I (xs ++ src) ++ H k', (xs ++ src).length, dl, esc⟩, [], false) ∧ k ≤ src.length + k' := by
  induction src with
  | nil => intro xs dl esc k; exact ⟨k, by simp [spliceExtendLoop], Nat.le_add_left ..⟩
  | cons id src ih =>
    intro xs dl esc k
    obtain ⟨v1, hr⟩ := reserveOne_bump env ⟨I xs ++ H k, xs.length, dl, esc⟩ hk hm
    obtain ⟨k1, rfl, hk1⟩ := reserveOne_seg hr
    obtain ⟨k', h1, h2⟩ := ih (xs ++ [id]) dl esc k1
    refine ⟨k', ?_, by rw [List.length_cons]; omega⟩
    rw [spliceExtendLoop, push, hr]
    rw [List.length_append, List.length_singleton, List.append_assoc, List.singleton_append] at h1
    simp only [write_end, setLen, h1]


/-- the state of `Splice::drop` with the gap closed: `head` then the tail, `spare` unused slots -/
structure Closed (v : Vec) (d : DrainSt) (h tail dl esc : List Id) : Prop where
  slots : ∃ spare, v.slots = I h ++ I tail ++ H spare
  len : v.len = h.length
  tailStart : d.tailStart = h.length
  tailLen : d.tailLen = tail.length
  dropLog : v.dropLog = dl
  escaped : v.escaped = esc

/-- what the list level is told about the vector and the source -/
def capsOf (env : Env) (v : Vec) (hintCap : Nat) (lie : Option Nat) (maxCap : Nat) : SpliceCaps :=
  { cap := v.cap, minCap := env.minCap, maxCap := maxCap, hintCap := hintCap, lie := lie }

/-- what `Splice::drop` hands to `Drain::drop`: `h` in front of a gap of `k` holes, the tail and `sp` spare slots;
    the iterator of the `Drain` is empty; `rest` is what `replace_with` still owns; `lo` bounds the capacity -/
def SpliceOut (tail dl esc : List Id) (lo : Nat) (res : M (Vec × DrainSt × List Id × Bool)) (h rest : List Id)
    (flag : Bool) : Prop :=
  ∃ k sp d', res = .ok (⟨I h ++ H k ++ I tail ++ H sp, h.length, dl, esc⟩, d', rest, flag) ∧
    d'.ptr = d'.end_ ∧ (0 < d'.tailLen → d'.tailStart = h.length + k) ∧ d'.tailLen = tail.length ∧
    lo ≤ h.length + k + sp

theorem take_append_drop_len (k : Nat) (l : List Id) : l.take k ++ l.drop (l.take k).length = l := by
  rw [List.length_take]
  rcases Nat.le_total k l.length with h | h
  · rw [Nat.min_eq_left h, List.take_append_drop]
  · rw [Nat.min_eq_right h, List.take_of_length_le h, List.drop_length, List.append_nil]

/-- the last step of `Splice::drop`, with the gap closed (`h2` in place, `src2` left of `src`): the rest of the
    source is collected and moved in, unless the length it CLAIMS is beyond any layout -/
theorem spliceCollect_bump (env : Env) {d : DrainSt} {head src h2 tail dl esc : List Id} {sp lo : Nat} (src2 : List Id)
    (hint : Nat) (lie : Option Nat) (maxCap : Nat) (hpe : d.ptr = d.end_) (hts : d.tailStart = h2.length)
    (htl : d.tailLen = tail.length) (hlo : lo ≤ h2.length + sp) (hall : h2 ++ src2 = head ++ src)
    (hle : head.length ≤ h2.length) :
    SpliceOut tail dl esc lo
      (if spliceLower hint lie src2.length > maxCap then
          .ok (⟨I h2 ++ I tail ++ H sp, h2.length, dl, esc⟩, d, src2, true)
        else if src2.length > 0 then
          match spliceMoveTail env ⟨I h2 ++ I tail ++ H sp, h2.length, dl, esc⟩ d src2.length with
          | .error e => .error e
          | .ok (v, d) =>
            match spliceFill (d.tailStart - v.len) v src2 with
            | .error e => .error e
            | .ok (v, src, _) => .ok (v, d, src, false)
        else .ok (⟨I h2 ++ I tail ++ H sp, h2.length, dl, esc⟩, d, src2, false))
      (head ++ (if spliceLower hint lie src2.length > maxCap then (src.take (src.length - src2.length), true)
        else (src, false)).1)
      (src.drop (if spliceLower hint lie src2.length > maxCap then (src.take (src.length - src2.length), true)
        else (src, false)).1.length)
      (if spliceLower hint lie src2.length > maxCap then (src.take (src.length - src2.length), true)
        else (src, false)).2 := by
  have hl2 : head.length + src.length = h2.length + src2.length := by
    rw [← List.length_append, ← List.length_append, hall]
  by_cases hov : spliceLower hint lie src2.length > maxCap
  · obtain ⟨m, rfl, rfl⟩ := append_eq_append_of_le hall hle
    simp only [if_pos hov, List.length_append, Nat.add_sub_cancel, List.take_left, List.drop_left]
    exact ⟨0, sp, d, by simp, hpe, fun _ => by simp [hts], htl, by simpa using hlo⟩
  · simp only [if_neg hov, List.drop_length, ← hall]
    split
    · obtain ⟨sp', hmt, hsp⟩ := spliceMoveTail_seg env (n := h2.length) (dl := dl) (esc := esc) (spare := sp) src2.length hts htl
      rw [hmt]
      simp only [Nat.add_sub_cancel_left]
      rw [List.append_assoc (I h2 ++ H _), spliceFill_seg]
      exact ⟨0, sp', { d with tailStart := h2.length + src2.length }, by simp, hpe, fun _ => by simp, htl, by simp; omega⟩
    · obtain rfl : src2 = [] := List.eq_nil_of_length_eq_zero (by omega)
      exact ⟨0, sp, d, by simp, hpe, fun _ => by simp [hts], htl, by simpa using hlo⟩

/-- **the splicing part**: with the drained range empty (`g` holes between `head` and the tail), the body of
    `Splice::drop` on a `BumpVec` leaves `head ++ written` in front of the tail, where `written` is all of `src` —
    or, when a reservation for the number of items the source CLAIMS overflows, the prefix written before that
    panic; the rest of `src` stays with `replace_with`.  For every size hint, honest or lying. -/
theorem spliceBody_bump (env : Env) (hk : env.kind = .bump) (hm : env.maxCap = none) {d : DrainSt}
    {head tail dl esc : List Id} {g spare : Nat} (src : List Id) (hint : Nat) (lie : Option Nat) (maxCap : Nat)
    (c : SpliceCaps) (hc : c = ⟨head.length + g + tail.length + spare, env.minCap, maxCap, hint, lie⟩)
    (hpe : d.ptr = d.end_) (hts : d.tailStart = head.length + g) (htl : d.tailLen = tail.length) :
    SpliceOut tail dl esc (head.length + g + spare)
      (spliceBody env ⟨I head ++ H g ++ I tail ++ H spare, head.length, dl, esc⟩ d src hint lie maxCap)
      (head ++ (spliceWritten c head.length (head.length + g) (head.length + g + tail.length) src).1)
      (src.drop (spliceWritten c head.length (head.length + g) (head.length + g + tail.length) src).1.length)
      (spliceWritten c head.length (head.length + g) (head.length + g + tail.length) src).2 := by
  subst hc
  have hov : ∀ (w : Vec) (len add : Nat), w.cap = head.length + g + tail.length + spare →
      capOverflow env maxCap w len add =
        SpliceCaps.overflows ⟨head.length + g + tail.length + spare, env.minCap, maxCap, hint, lie⟩ len add := by
    intro w len add h; simp only [capOverflow, SpliceCaps.overflows, h]
  generalize hw : spliceWritten _ head.length (head.length + g) (head.length + g + tail.length) src = w
  unfold spliceWritten at hw
  unfold spliceBody
  simp only at hw ⊢
  by_cases ht : tail = []
  · -- nothing behind the range: `extend`
    subst ht
    rw [if_pos (by rw [List.length_nil, Nat.add_zero])] at hw
    rw [if_pos (by rw [htl]; rfl), hov _ _ _ (by simp only [Vec.cap, List.length_append, length_I, length_H])]
    cases hovf : SpliceCaps.overflows ⟨head.length + g + [].length + spare, env.minCap, maxCap, hint, lie⟩ head.length
        (spliceLower hint lie src.length) with
    | true =>
      rw [hovf, if_pos rfl] at hw
      subst hw
      exact ⟨g, spare, d, by simp, hpe, fun _ => by simp [hts], htl, by simp⟩
    | false =>
      rw [hovf, if_neg Bool.false_ne_true] at hw
      subst hw
      simp only [Bool.false_eq_true, ↓reduceIte]
      have e : (⟨I head ++ H g ++ I [] ++ H spare, head.length, dl, esc⟩ : Vec) = ⟨I head ++ H (g + spare), head.length, dl, esc⟩ := by
        simp [H_add]
      rw [e]
      obtain ⟨v1, hr⟩ := reserve_bump env ⟨I head ++ H (g + spare), head.length, dl, esc⟩ (spliceLower hint lie src.length) hk hm
      obtain ⟨k', rfl, hk'⟩ := reserve_seg hr
      obtain ⟨k'', h1, h2⟩ := spliceExtendLoop_bump env hk hm src head dl esc (spliceLower hint lie src.length + k')
      rw [hr]
      simp only [h1]
      exact ⟨0, k'', d, by simp, hpe, fun h => absurd h (by rw [htl]; simp), htl, by simp; omega⟩
  · have htp : 0 < tail.length := List.length_pos_iff.2 ht
    rw [if_neg (Nat.ne_of_lt (Nat.lt_add_of_pos_right htp)), Nat.add_sub_cancel_left] at hw
    rw [if_neg (by rw [htl]; exact Nat.ne_of_gt htp), hts, Nat.add_sub_cancel_left, List.append_assoc (I head ++ H g), spliceFill_seg]
    by_cases hn : g ≤ src.length
    · -- the range is filled; the rest goes in behind it
      have hh : (head ++ src.take g).length = head.length + g := by
        rw [List.length_append, List.length_take, Nat.min_eq_left hn]
      rw [if_neg (Nat.not_lt.2 hn)] at hw
      simp only [decide_eq_true hn, Nat.sub_eq_zero_of_le hn, Nat.min_eq_left hn, H_zero, List.append_nil]
      rw [← hh, ← List.append_assoc (I _)]
      have hall : (head ++ src.take g) ++ src.drop g = head ++ src := by rw [List.append_assoc, List.take_append_drop]
      have hrl : g + (src.drop g).length = src.length := by rw [List.length_drop, Nat.add_sub_cancel' hn]
      generalize hrest : src.drop g = rest at hw hall hrl ⊢
      generalize spliceLower hint lie rest.length = lower at hw ⊢
      generalize hh1 : head ++ src.take g = h1 at hh hall ⊢
      have hts1 : d.tailStart = h1.length := hts.trans hh.symm
      unfold spliceSecond
      by_cases h0 : lower > 0
      · rw [if_pos h0, hov _ _ _ (by simp only [Vec.cap, List.length_append, length_I, length_H, hh]), hts, htl]
        cases hovf : SpliceCaps.overflows ⟨head.length + g + tail.length + spare, env.minCap, maxCap, hint, lie⟩
            (head.length + g + tail.length) lower with
        | true =>
          -- "capacity overflow" in `move_tail(lower_bound)`: the filled range stays, the tail was not touched
          rw [if_pos ⟨h0, hovf⟩] at hw
          subst hw
          simp only [↓reduceIte, List.length_take, Nat.min_eq_left hn, hrest, hh1]
          exact ⟨0, spare, d, by simp, hpe, fun _ => by simp [hts1], htl, by simp⟩
        | false =>
          rw [if_neg (fun h => Bool.false_ne_true (hovf ▸ h.2))] at hw
          obtain ⟨sp', hmt, hsp⟩ := spliceMoveTail_seg env (n := h1.length) (dl := dl) (esc := esc) (spare := spare) lower hts1 htl
          simp only [Bool.false_eq_true, ↓reduceIte, hmt, Nat.add_sub_cancel_left]
          rw [List.append_assoc (I h1 ++ H _), spliceFill_seg]
          by_cases hl : lower ≤ rest.length
          · -- the gap is closed again
            rw [if_neg (Nat.not_lt.2 hl)] at hw
            simp only [decide_eq_true hl, Nat.sub_eq_zero_of_le hl, Nat.min_eq_left hl, H_zero, List.append_nil, ↓reduceIte]
            have hh2 : (h1 ++ rest.take lower).length = h1.length + lower := by
              rw [List.length_append, List.length_take, Nat.min_eq_left hl]
            have := spliceCollect_bump env (d := { d with tailStart := h1.length + lower }) (dl := dl) (esc := esc)
              (lo := h1.length + spare) (sp := sp') (rest.drop lower) hint lie maxCap hpe hh2.symm htl
              (by rw [hh2, Nat.add_assoc]; exact Nat.add_le_add_left hsp _)
              (show h1 ++ rest.take lower ++ rest.drop lower = head ++ src by rw [List.append_assoc, List.take_append_drop, hall])
              (by rw [hh2, hh, Nat.add_assoc]; exact Nat.le_add_right ..)
            rw [show src.length - (rest.drop lower).length = g + lower by
                rw [List.length_drop]; exact Nat.sub_eq_of_eq_add (by rw [Nat.add_assoc, Nat.add_sub_cancel' hl, hrl]), hw, hh2,
              List.append_assoc (I _)] at this
            exact this
          · -- the source over-reported: everything is written, a gap stays in front of the tail
            have hl' : rest.length < lower := Nat.lt_of_not_ge hl
            rw [if_pos hl'] at hw
            subst hw
            simp only [decide_eq_false hl, Bool.false_eq_true, ↓reduceIte, List.take_of_length_le (Nat.le_of_lt hl'),
              List.drop_eq_nil_of_le (Nat.le_of_lt hl'), Nat.min_eq_right (Nat.le_of_lt hl'), List.drop_length, hall]
            exact ⟨lower - rest.length, sp', { d with tailStart := h1.length + lower }, by rw [← hall]; simp, hpe,
              fun _ => by rw [← hall]; simp; omega, htl, by rw [← hall]; simp; omega⟩
      · obtain rfl : lower = 0 := Nat.eq_zero_of_not_pos h0
        rw [if_neg h0]
        rw [if_neg (fun h => h0 h.1), if_neg (Nat.not_lt_zero _), List.drop_zero, Nat.add_zero] at hw
        have := spliceCollect_bump env (dl := dl) (esc := esc) (sp := spare) rest hint lie maxCap hpe hts1 htl (Nat.le_refl _)
          hall (by rw [hh]; exact Nat.le_add_right ..)
        rw [show src.length - rest.length = g from Nat.sub_eq_of_eq_add hrl.symm, hw] at this
        exact this
    · -- `replace_with` ran dry inside the range: the guard of `Drain::drop` moves the tail back
      have hlt : src.length < g := Nat.lt_of_not_ge hn
      rw [if_pos hlt] at hw
      subst hw
      simp only [decide_eq_false hn, List.take_of_length_le (Nat.le_of_lt hlt), List.drop_eq_nil_of_le (Nat.le_of_lt hlt),
        Nat.min_eq_right (Nat.le_of_lt hlt), List.drop_length]
      exact ⟨g - src.length, spare, d, by simp, hpe, fun _ => by simp [hts]; omega, htl, by simp; omega⟩


/-- `Drain::drop` and the drop of `replace_with` after the body of `Splice::drop` -/
theorem spliceFinish_of {env : Env} {v : Vec} {d : DrainSt} {src : List Id} {hint : Nat} {lie : Option Nat} {maxCap : Nat}
    {tail dl esc h rest : List Id} {lo : Nat} {flag : Bool}
    (o : SpliceOut tail dl esc lo (spliceBody env v d src hint lie maxCap) h rest flag) :
    ∃ v', spliceFinish env v d src hint lie maxCap = .ok (v', flag, false) ∧
      Holds v' (h ++ tail) (dl ++ rest) esc ∧ lo + tail.length ≤ v'.cap := by
  obtain ⟨k, sp, d', e, hpe, hts, htl, hlo⟩ := o
  unfold spliceFinish spliceDrainDrop
  -- the iterator of the `Drain` is empty: only its guard acts
  rw [e]
  simp only
  rw [hpe, Nat.sub_self, dropRange]
  simp only
  rw [drainGuard_seg hts htl, List.append_assoc, ← H_add, ← List.length_append]
  exact ⟨⟨I (h ++ tail) ++ H (k + sp), (h ++ tail).length, dl ++ rest, esc⟩, by simp [dropArgs], holds_seg ..,
    by simp [Vec.cap]; omega⟩

/-- `Extend::extend` on a `BumpVec`: either the up-front reservation for the CLAIMED length overflows (nothing
    changes, the source is dropped), or every value is pushed -/
theorem extendIter_bump (env : Env) (hk : env.kind = .bump) (hm : env.maxCap = none) (v : Vec) (xs src : List Id) (hint : Nat) (lie : Option Nat)
    (maxCap : Nat) (h : View.fwd.Shape v xs) :
    if capOverflow env maxCap v v.len (spliceLower hint lie src.length) then
      extendIter env v src hint lie maxCap = .ok ⟨dropArgs v src, .panic false, []⟩
    else
      ∃ v', extendIter env v src hint lie maxCap = .ok ⟨v', .ret (), []⟩ ∧
        Holds v' (xs ++ src) v.dropLog v.escaped ∧ v.cap ≤ v'.cap := by
  revert v
  refine seg_cases fun k dl esc => ?_
  unfold extendIter
  simp only
  split
  · rfl
  · obtain ⟨v1, hr⟩ := reserve_bump env ⟨I xs ++ H k, xs.length, dl, esc⟩ (spliceLower hint lie src.length) hk hm
    obtain ⟨k', rfl, hk'⟩ := reserve_seg hr
    obtain ⟨k'', h1, h2⟩ := spliceExtendLoop_bump env hk hm src xs dl esc (spliceLower hint lie src.length + k')
    simp only [hr, h1]
    exact ⟨⟨I (xs ++ src) ++ H k'', (xs ++ src).length, dl, esc⟩, by simp [dropArgs], holds_seg ..,
      by simp [Vec.cap]; omega⟩


/-- **refinement** of `BumpVec::splice`: from the standard shape, for every range, source, size hint (honest,
    under- or OVER-reporting, up to "capacity overflow") and pull script, with any set of panicking
    destructors: no fault, and the vector afterwards holds exactly what the list-level `spliceSpec` says,
    with its drops and hand-outs -/
theorem splice_holds (env : Env) (hk : env.kind = .bump) (hm : env.maxCap = none) (v : Vec) (xs : List Id) (start end_ : Nat) (src : List Id)
    (hint : Nat) (lie : Option Nat) (maxCap : Nat) (script : List Pull)
    (h : View.fwd.Shape v xs) :
    ∃ v', splice env v start end_ src hint lie maxCap script =
        .ok ⟨v', (spliceSpec env.bombs (capsOf env v hint lie maxCap) xs start end_ src script).exit, []⟩ ∧
      Holds v' (spliceSpec env.bombs (capsOf env v hint lie maxCap) xs start end_ src script).final
        (v.dropLog ++ (spliceSpec env.bombs (capsOf env v hint lie maxCap) xs start end_ src script).dropped)
        (v.escaped ++ (spliceSpec env.bombs (capsOf env v hint lie maxCap) xs start end_ src script).escaped) ∧ v.cap ≤ v'.cap := by
  revert v
  refine seg_cases fun k dl esc => ?_
  generalize hc : capsOf env ⟨I xs ++ H k, xs.length, dl, esc⟩ hint lie maxCap = c
  replace hc : c = ⟨xs.length + k, env.minCap, maxCap, hint, lie⟩ := by rw [← hc]; simp [capsOf, Vec.cap]
  unfold splice spliceSpec
  by_cases hr : start > end_ ∨ end_ > xs.length
  · rw [if_pos hr, if_pos hr]
    exact ⟨_, rfl, by simpa [dropArgs] using holds_seg xs (dl ++ src) esc k, Nat.le_refl _⟩
  · obtain ⟨head, range, tail, rfl, rfl, rfl⟩ := exists_range_split (Nat.le_of_not_gt fun h => hr (.inl h))
      (Nat.le_of_not_gt fun h => hr (.inr h))
    obtain ⟨a', b', d', hp, hd, hab⟩ := drainOpen head range tail dl esc k script
    rw [if_neg hr, if_neg hr]
    simp only [setLen, List.take_left, range_mid, range_tail, hp]
    generalize (pullsSpec range script).2 = u at hab hd ⊢
    generalize (pullsSpec range script).1 = rs
    unfold spliceDrop
    obtain ⟨pre, post, d'', hu, hdr, hd', hpost⟩ := spliceDropRest_at env.bombs (n := head.length) (esc := esc ++ yielded rs)
      (T := H k) u a' dl d' hd
    rw [hd.end_, hd.ptr, Nat.add_sub_cancel_left, hdr]
    cases hb : u.any env.bombs.contains with
    | true =>
      -- a destructor of the range panicked
      simp only [↓reduceIte]
      rw [spliceDrainDrop_at env.bombs true hd']
      exact ⟨_, rfl, by simpa [dropArgs, hu, H_add] using (holds_seg (head ++ tail) (dl ++ (pre ++ post) ++ src) (esc ++ yielded rs)
          (a' + pre.length + post.length + b' + k)),
        by have := congrArg List.length hu; simp [dropArgs, Vec.cap] at this ⊢; omega⟩
    | false =>
      obtain rfl := hpost hb
      rw [List.append_nil] at hu
      subst hu
      simp only [Bool.false_eq_true, ↓reduceIte, List.length_append]
      rw [show I head ++ H (a' + u.length) ++ I [] ++ H b' ++ (I tail ++ H k)
          = I head ++ H range.length ++ I tail ++ H k by rw [← hab]; simp [H_add]]
      obtain ⟨v', e6, h6, c6⟩ := spliceFinish_of (spliceBody_bump env hk hm (head := head) (g := range.length) (tail := tail)
        (d := { d'' with ptr := d''.end_ }) (dl := dl ++ u) (esc := esc ++ yielded rs) (spare := k) src hint lie maxCap c
        (by rw [hc]; simp [Nat.add_assoc]) rfl
        (by show d''.tailStart = _; rw [hd'.tailStart, ← hab]; simp [Nat.add_assoc]) hd'.tailLen)
      rw [e6, ← Nat.add_assoc] at *
      refine ⟨v', by cases (spliceWritten c head.length (head.length + range.length) (head.length + range.length + tail.length) src).2 <;> rfl,
        by simpa [List.append_assoc] using h6, by have := c6; simp [Vec.cap] at this ⊢; omega⟩


theorem spliceWritten_prefix (c : SpliceCaps) (start end_ xsLen : Nat) (src : List Id) :
    (spliceWritten c start end_ xsLen src).1 ++ src.drop (spliceWritten c start end_ xsLen src).1.length = src := by
  unfold spliceWritten
  by_cases h1 : end_ = xsLen
  · simp only [h1, ↓reduceIte]
    by_cases h2 : c.overflows start (spliceLower c.hintCap c.lie src.length) = true <;> simp [h2]
  · simp only [h1, ↓reduceIte]
    by_cases h2 : src.length < end_ - start
    · simp [h2]
    · simp only [h2, ↓reduceIte]
      split
      · exact take_append_drop_len _ _
      · split
        · simp
        · split
          · exact take_append_drop_len _ _
          · simp

/-- `splice` only moves ids around: contents, drops and hand-outs together are the old contents plus `src` -/
theorem spliceSpec_perm (bombs : List Id) (c : SpliceCaps) (xs : List Id) (start end_ : Nat) (src : List Id) (script : List Pull) :
    ((spliceSpec bombs c xs start end_ src script).final ++ (spliceSpec bombs c xs start end_ src script).dropped ++
      (spliceSpec bombs c xs start end_ src script).escaped).Perm (xs ++ src) := by
  unfold spliceSpec
  split
  · simp
  · rename_i hr
    have hxs := range_split_eq xs (Nat.le_of_not_gt (not_or.1 hr).1)
    have hp := (pullsSpec_perm script ((xs.take end_).drop start)).count_eq
    simp only
    split <;>
    · simp only
      rw [List.perm_iff_count]
      intro a
      have h1 := hp a
      have h2 := congrArg (List.count a) hxs
      have h3 := congrArg (List.count a) (spliceWritten_prefix c start end_ xs.length src)
      simp only [List.count_append] at h1 h2 h3 ⊢
      omega
