/-
  Lemmas/MemAlloc.lean — the allocation paths read for memory: the graphs of `Lemmas/FnShape.lean` (`Created`, `Walk`,
  `Slow`) as `Moved` / `Grown` / `SlowPath` (with `SlowTry`: the state on which the slow path finally calls `tryCur`).
  Consequences: the paths never write a byte (existing chunks keep base, size and data; new chunks are appended) and
  keep the chunk list well-formed.
-/
import BumpProof.Lemmas.MemFresh

set_option linter.unusedSimpArgs false

namespace Arena.Mem
open Rs

theorem Created.error_same {cfg : Cfg} {s s1 : State} {e : AErr} (h : Fn.Created cfg s (s1, .error e)) :
    s1.chunks = s.chunks ∧ s1.live = s.live ∧ s1.minAlign = s.minAlign ∧ s1.cur = s.cur := by
  cases h <;> exact ⟨rfl, rfl, rfl, rfl⟩

theorem MemExt.of_chunks_eq {s s' : State} (h : s'.chunks = s.chunks) : MemExt s s' :=
  MemExt.of_eq (by unfold memOf; rw [h])

theorem Moved.length_eq {s s' : State} (h : Moved s s') : s'.chunks.length = s.chunks.length := by
  have := congrArg List.length h.mem
  unfold memOf at this
  rwa [List.length_map, List.length_map] at this

/-- `walkNext`, by induction on its graph.  Nothing found: positions of later chunks were reset, chunks up to `i` are
    untouched.  Found: the successful `tryCur` ran on a state `t` whose current chunk `i' > i` is a chunk
    of `s`, reset. -/
theorem Walk.spec {cfg : Cfg} {k : Kind} {L : Layout} {h : Hints} {i : Nat} {s s2 : State}
    {o : Option ((Nat × Nat) × State)} (hw : Fn.Walk cfg k L h i s o s2) :
    match o with
    | none => Moved s s2 ∧ ∀ j, j ≤ i → s2.chunks[j]? = s.chunks[j]?
    | some (v, s') => ∃ t i' c, i < i' ∧ s.chunks[i']? = some c ∧ t.cur = .chunk i' ∧
        t.chunks[i']? = some (c.resetPos cfg) ∧ tryCur cfg k t L h = .ok (some (v, s')) ∧ Moved s t := by
  induction hw with
  | stop => exact ⟨.refl _, fun _ _ => rfl⟩
  | @hit i s c v s' hc ht =>
    exact ⟨_, i+1, c, Nat.lt_succ_self i, hc, rfl, List.getElem?_set_self (List.getElem?_eq_some_iff.mp hc).1, ht,
      .of_path (Fn.Path.enter hc)⟩
  | @miss i s c o s' hc _ _ ih =>
    have hm : Moved s (Fn.enterChunk cfg s (i+1) c) := .of_path (Fn.Path.enter hc)
    cases o with
    | none =>
      refine ⟨hm.trans ih.1, fun j hj => ?_⟩
      rw [ih.2 j (by omega)]
      exact List.getElem?_set_ne (by omega)
    | some x =>
      obtain ⟨t, i', c', h1, h2, h3⟩ := ih
      rw [show (Fn.enterChunk cfg s (i+1) c).chunks[i']? = s.chunks[i']? from List.getElem?_set_ne (by omega)] at h2
      exact ⟨t, i', c', by omega, h2, h3.1, h3.2.1, h3.2.2.1, hm.trans h3.2.2.2⟩

/-- the state `t` on which the slow path finally calls `tryCur`: chunk `i'` (a later chunk of `s`, reset,
    or the chunk just obtained from the base allocator) is current; nothing else of interest changed -/
structure SlowTry (cfg : Cfg) (s t : State) (i' : Nat) (ct : Chunk) : Prop where
  cur : t.cur = .chunk i'
  chunk : t.chunks[i']? = some ct
  origin : (∃ c, s.chunks[i']? = some c ∧ ct = c.resetPos cfg) ∨
           (∃ p g rest size size', s.resps = .granted p g :: rest ∧
              Gen.SizeConfig.align_size (sizeCfg cfg) g = .ok size' ∧
              ct = freshChunk cfg p g size size' ∧ i' = s.chunks.length)
  /-- every chunk of `s` that is not after the current one precedes `i'` -/
  after : ∀ j, j < s.chunks.length → (∀ i, s.cur = .chunk i → j ≤ i) → j < i'
  ext : MemExt s t
  wf : WFPres s t
  ghost : SameGhost s t

/-- the chunk just granted becomes current (the `fresh` continuation of `inAnotherChunk`); `s0` is `s`
    after the walk over the later chunks -/
theorem slowTry_fresh {cfg : Cfg} {s s0 : State} (hm : Moved s s0) {p g size size' : Nat} {rest : List BaseResp}
    (hresp : s0.resps = .granted p g :: rest) (hal : Gen.SizeConfig.align_size (sizeCfg cfg) g = .ok size')
    (reqs : List BaseReq) :
    SlowTry cfg s { s0 with reqs := reqs, resps := rest, chunks := s0.chunks ++ [freshChunk cfg p g size size'],
                            cur := .chunk s0.chunks.length } s0.chunks.length (freshChunk cfg p g size size') := by
  have hg : Grown s { s0 with reqs := reqs, resps := rest, chunks := s0.chunks ++ [freshChunk cfg p g size size'],
                              cur := .chunk s0.chunks.length } :=
    .of_moved hm (.append_fresh hresp (align_size_le hal) rfl ⟨rfl, rfl⟩)
  refine ⟨rfl, List.getElem?_concat_length, .inr ⟨p, g, rest, size, size', hm.resps ▸ hresp, hal, rfl, hm.length_eq⟩,
    fun j hj _ => hm.length_eq ▸ hj, hg.ext, hg.wf, hg.ghost⟩

/-- the slow path returned an `AllocError`: bytes, ghost state and the current chunk are those of `s`; the
    chunks up to the current one are untouched (later ones may have been reset on the way) -/
structure Refused (s s' : State) : Prop where
  mem : memOf s' = memOf s
  ghost : SameGhost s s'
  cur : s'.cur = s.cur
  keep : ∀ i, s.cur = .chunk i → ∀ j, j ≤ i → s'.chunks[j]? = s.chunks[j]?

theorem Refused.grown {s s' : State} (h : Refused s s') : Grown s s' :=
  ⟨.of_eq h.mem, fun hw _ => MemWF.of_shape (shapeOf_of_memOf h.mem) hw, h.ghost⟩

/-- how `RawBump::in_another_chunk` ends: refused, or with a successful `tryCur` on a state `t` described by
    `SlowTry` (a later chunk, or the chunk just granted, is current) -/
inductive SlowPath (cfg : Cfg) (k : Kind) (L : Layout) (h : Hints) (s : State) : State → Except AErr (Nat × Nat) → Prop
  | refused {s' : State} {e : AErr} (hs : Refused s s') : SlowPath cfg k L h s s' (.error e)
  | served {s' t : State} {v : Nat × Nat} {i' : Nat} {ct : Chunk} (hst : SlowTry cfg s t i' ct)
      (ht : tryCur cfg k t L h = .ok (some (v, s'))) : SlowPath cfg k L h s s' (.ok v)

theorem inAnotherChunk_cases {cfg : Cfg} {k : Kind} {s s' : State} {L : Layout} {h : Hints}
    {r : Except AErr (Nat × Nat)} (hr : inAnotherChunk cfg k s L h = .ok (s', r)) : SlowPath cfg k L h s s' r := by
  cases Fn.inAnotherChunk_slow hr with
  | claimed => exact .refused ⟨rfl, .refl s, rfl, fun _ _ _ _ => rfl⟩
  | firstRefused _ hn =>
    obtain ⟨h1, h2, h3, h4⟩ := Created.error_same (Fn.newChunkForCapacity_created hn)
    exact .refused ⟨by unfold memOf; rw [h1], ⟨h2, h3⟩, h4, fun _ _ _ _ => by rw [h1]⟩
  | first _ hn ht =>
    cases Fn.newChunkForCapacity_created hn with
    | granted hresp hal => exact .served (slowTry_fresh (.refl s) hresp hal _) ht
  | @next i s' v hcur hw =>
    obtain ⟨t, i', c, a1, a2, a3, a4, a5, a6⟩ := Walk.spec hw
    exact .served ⟨a3, a4, .inl ⟨c, a2, rfl⟩, fun j _ hj => Nat.lt_of_le_of_lt (hj i hcur) a1,
      a6.memExt, a6.shapeSame.wfPres, a6.ghost⟩ a5
  | @appendRefused i sw s1 e hcur hw hn =>
    -- the refused request leaves the ORIGINAL chunk current (crate commit c107ca6)
    obtain ⟨hm, hkeep⟩ := Walk.spec hw
    obtain ⟨h1, h2, h3, _⟩ := Created.error_same (Fn.appendFor_created hn)
    exact .refused ⟨(show memOf _ = memOf sw by unfold memOf; rw [h1]).trans hm.mem,
      ⟨h2.trans hm.ghost.1, h3.trans hm.ghost.2⟩, hcur.symm,
      fun i0 hi0 j hj => by rw [hcur] at hi0; cases hi0; exact (congrArg (·[j]?) h1).trans (hkeep j hj)⟩
  | append _ hw hn ht =>
    cases Fn.appendFor_created hn with
    | granted hresp hal => exact .served (slowTry_fresh (Walk.spec hw).1 hresp hal _) ht

theorem inAnotherChunk_inv {cfg : Cfg} {k : Kind} {s s' : State} {L : Layout} {h : Hints} {v : Nat × Nat}
    (hr : inAnotherChunk cfg k s L h = .ok (s', .ok v)) :
    ∃ t i' ct, SlowTry cfg s t i' ct ∧ tryCur cfg k t L h = .ok (some (v, s')) := by
  cases inAnotherChunk_cases hr with
  | served hst ht => exact ⟨_, _, _, hst, ht⟩

theorem inAnotherChunk_grown {cfg : Cfg} {k : Kind} {s s' : State} {L : Layout} {h : Hints}
    {r : Except AErr (Nat × Nat)} (hr : inAnotherChunk cfg k s L h = .ok (s', r)) : Grown s s' := by
  cases inAnotherChunk_cases hr with
  | refused hs => exact hs.grown
  | served hst ht => exact .moved ⟨hst.ext, hst.wf, hst.ghost⟩ (.of_path (Fn.tryCur_path ht))

theorem allocGeneric_grown {cfg : Cfg} {k : Kind} {s s' : State} {L : Layout} {h hSlow : Hints}
    {r : Except AErr (Nat × Nat)} (hr : allocGeneric cfg k s L h hSlow = .ok (s', r)) : Grown s s' := by
  rcases Fn.allocGeneric_cases hr with ⟨v, _, hf⟩ | ⟨_, hs⟩
  · exact (Moved.of_path (Fn.tryCur_path hf)).grown
  · exact inAnotherChunk_grown hs

export Arena.Fn (alloc_eq_ok)

theorem alloc_ok {cfg : Cfg} {s s' : State} {L : Layout} {p : Nat} (hr : alloc cfg s L = .ok (s', .ok p)) :
    ∃ x, allocGeneric cfg .alloc s L Hints.custom Hints.custom = .ok (s', .ok (p, x)) := by
  obtain ⟨r', hg, he⟩ := alloc_eq_ok hr
  cases r' with
  | error e => cases he
  | ok v => cases he; exact ⟨v.2, hg⟩

theorem alloc_error {cfg : Cfg} {s s' : State} {L : Layout} {e : AErr} (hr : alloc cfg s L = .ok (s', .error e)) :
    allocGeneric cfg .alloc s L Hints.custom Hints.custom = .ok (s', .error e) := by
  obtain ⟨r', hg, he⟩ := alloc_eq_ok hr
  cases r' with
  | error e' => cases he; exact hg
  | ok v => cases he

theorem alloc_grown {cfg : Cfg} {s s' : State} {L : Layout} {r : Except AErr Nat}
    (hr : alloc cfg s L = .ok (s', r)) : Grown s s' :=
  let ⟨_, hg, _⟩ := alloc_eq_ok hr
  allocGeneric_grown hg

theorem alloc_memExt {cfg : Cfg} {s s' : State} {L : Layout} {r : Except AErr Nat}
    (hr : alloc cfg s L = .ok (s', r)) : MemExt s s' := .of_path (Fn.alloc_path hr)

theorem alloc_wfPres {cfg : Cfg} {s s' : State} {L : Layout} {r : Except AErr Nat}
    (hr : alloc cfg s L = .ok (s', r)) : WFPres s s' :=
  (alloc_grown hr).wf

export Arena.Fn (deallocAssumeLast_inv deallocate_inv resetTo_inv)

end Arena.Mem
