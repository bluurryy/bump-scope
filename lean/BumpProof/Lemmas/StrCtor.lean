/-
  Lemmas/StrCtor.lean — checked constructors: the UTF-16 encoding that specifies `from_utf16` (surrogate
  pairs) and the push loop of `from_utf16` / `from_utf16_lossy`; the theorems themselves are in Props/C09.lean.
-/
import BumpProof.Lemmas.StrOps

namespace Str

/-- specification: the UTF-16 encoding of a scalar value (one unit, or a surrogate pair) -/
def encodeUtf16Char (c : Char) : List UInt16 :=
  if c.toNat < 0x10000 then [UInt16.ofNat c.toNat]
  else [UInt16.ofNat (0xD800 + (c.toNat - 0x10000) / 1024), UInt16.ofNat (0xDC00 + (c.toNat - 0x10000) % 1024)]

def encodeUtf16 : List Char → List UInt16
  | [] => []
  | c :: cs => encodeUtf16Char c ++ encodeUtf16 cs

theorem decodeUtf16_unit {u : UInt16} (h : ¬ (0xD800 ≤ u.toNat ∧ u.toNat ≤ 0xDFFF)) (r : List UInt16) :
    decodeUtf16 (u :: r) = some (Char.ofNat u.toNat) :: decodeUtf16 r := by
  cases r <;> simp only [decodeUtf16, if_pos h]

theorem decodeUtf16_pair {a b : Nat} (ha : a < 1024) (hb : b < 1024) (r : List UInt16) :
    decodeUtf16 (UInt16.ofNat (0xD800 + a) :: UInt16.ofNat (0xDC00 + b) :: r) =
      some (Char.ofNat (0x10000 + a * 1024 + b)) :: decodeUtf16 r := by
  have h1 : (UInt16.ofNat (0xD800 + a)).toNat = 0xD800 + a := by simp; omega
  have h2 : (UInt16.ofNat (0xDC00 + b)).toNat = 0xDC00 + b := by simp; omega
  simp only [decodeUtf16, h1, h2]
  rw [if_neg (by omega), if_neg (by omega), if_neg (by omega),
    show (0xD800 + a) % 1024 * 1024 + (0xDC00 + b) % 1024 + 0x10000 = 0x10000 + a * 1024 + b by omega]

theorem pushDecoded_ok (al : Alloc) (hal : al.isFixed = false) (cs : List Char) (s : State) (pre : List Char)
    (h : Holds s pre) :
    ∃ s', pushDecoded al s (cs.map some) = some (.ok () s') ∧ Holds s' (pre ++ cs) := by
  induction cs generalizing s pre with
  | nil => exact ⟨s, rfl, by simpa using h⟩
  | cons c cs ih =>
    obtain ⟨s1, hp, hh, _⟩ := (push_spec al s c pre h).growable hal
    simp only [List.map_cons, pushDecoded, hp]
    obtain ⟨s', hr, hh'⟩ := ih s1 (pre ++ [c]) hh
    exact ⟨s', hr, by simpa using hh'⟩

theorem pushDecoded_fresh (al : Alloc) (hal : al.isFixed = false) (cs : List Char) (n : Nat) :
    ∃ s', pushDecoded al (withCapacity al n) (cs.map some) = some (.ok () s') ∧ Holds s' cs := by
  obtain ⟨s', hr, hh⟩ := pushDecoded_ok al hal cs _ [] (withCapacity_spec al n).1
  exact ⟨s', hr, by simpa using hh⟩

theorem pushDecoded_wf (al : Alloc) (l : List (Option Char)) (s : State) (h : WF s) (r : Res Unit)
    (hr : pushDecoded al s l = some r) : AllWF r := by
  induction l generalizing s with
  | nil => simp only [pushDecoded, Option.some.injEq] at hr; subst hr; exact h
  | cons o l ih =>
    cases o with
    | none => simp [pushDecoded] at hr
    | some c =>
      obtain ⟨cs, hc⟩ := (wf_iff s).1 h
      have hp := (push_spec al s c cs hc)
      simp only [pushDecoded] at hr
      have hall := hp.allWF h
      cases hpush : push al s c with
      | ok v s1 =>
        rw [hpush] at hr hall
        exact ih s1 hall hr
      | err s1 => rw [hpush] at hr hall; simp only [Option.some.injEq] at hr; subst hr; exact hall
      | panic s1 => rw [hpush] at hr hall; simp only [Option.some.injEq] at hr; subst hr; exact hall
      | fault => rw [hpush] at hall; exact absurd hall (by simp [AllWF])

end Str
