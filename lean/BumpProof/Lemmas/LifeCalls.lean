/-
  Lemmas/LifeCalls.lean — cases of the soundness proof of the region calculus: an accepted method call (`Call`,
  `Lemmas/LifeCheck.lean`), effect class by effect class.  Each case reads what the table promises about the entry the
  call creates (`Lemmas/LifeSig.lean`), computes `runCall`, and applies the successor lemma for the change the call makes.
-/
import BumpProof.Lemmas.LifeAdd

namespace Life

theorem call_alloc {t : Table} (hok : sigOK t = true) {Γ Γ1 Γ' : SEnv} {σ : DState} (inv : Inv Γ σ)
    {x : Var} {sig : Sig} {e : Entry} {res : Option Entry} (c : Call t Γ Γ1 Γ' x sig e res) (hop : sig.op = .alloc) :
    ∃ σ', runCall σ x e.var .alloc = .ok σ' ∧ Inv Γ' σ' := by
  rcases inv.typed e c.mem c.valid with ⟨r, hr, ht⟩
  rcases alloc_shape (sigOK_sig hok c.sig_mem) hop c.res_eq with ⟨R, rfl, hR, ho1, ho2⟩
  rcases declare_ok c.decl with ⟨hfresh, rfl⟩
  have hkinds := applicable_kinds (sigOK_impls hok) c.app
  have hfacts : e.kind.allocates = true ∧ e.isHandle = true := by
    by_cases hc : sig.ownerK = .coll
    · rw [hc] at hkinds
      simp [show e.kind = .coll from hkinds, Kind.allocates, Entry.isHandle]
    · rcases ownerKinds_scopes hkinds ⟨ho1, ho2, hc⟩ with ⟨hs, hH⟩
      revert hs; cases e.kind <;> simp [Kind.scopes, Kind.allocates, hH]
  rcases hfacts with ⟨hallocs, heH⟩
  refine ⟨σ.set x (Rt.val r.arena (σ.epochs r.arena).getLast?), by simp [runCall, hr, ht.kind, Entry.isHandle_iff.1 heH, ht.live heH, hallocs], ?_⟩
  rcases access_afterUse inv c.mem c.valid c.acc with ⟨inv1, hau, hkeepE, _, _⟩
  apply inv.addAlloc inv1 c.mem c.valid hr heH hau x R Γ.depth hfresh
  · exact hR.imp (fun h => ⟨h.1, hkeepE (effRecv_ne_value h.2)⟩) And.left
  · -- a receiver that can end epochs itself is reached through an owner without allocation lifetime: `'_` is returned
    intro hend
    rcases hR with hR | ⟨_, hp⟩
    · exact hR.1
    · rw [ender_owner_noParam hkinds hend] at hp; cases hp

/-- the common static + binding part of every call that creates a derived handle without touching the epochs -/
theorem call_derived {t : Table} (hok : sigOK t = true) {Γ Γ1 Γ' : SEnv} {σ : DState} (inv : Inv Γ σ)
    {x : Var} {sig : Sig} {e ne : Entry} (c : Call t Γ Γ1 Γ' x sig e (some ne))
    {r : Rt} (hr : σ.get e.var = some r) (heH : e.isHandle = true) (hnv : effRecv sig ≠ .value)
    (sh : DerivedShape e (effRecv sig).mode x sig.ownerK ne) {k : Kind} (hk : ne.kind = k)
    (hb : k = .bump → e.kind = .bump) :
    Inv Γ' (σ.set x (Rt.hdl k r.arena)) := by
  have hkinds := applicable_kinds (sigOK_impls hok) c.app
  rcases access_afterUse inv c.mem c.valid c.acc with ⟨inv1, hau, hkeepE, hmutacc, _⟩
  rcases declare_ok c.decl with ⟨hfresh, rfl⟩
  have haccm : (effRecv sig).mode = .mut → e.acc ≠ .shrRef := by
    intro hm
    cases hrv : effRecv sig <;> rw [hrv] at hm
    · cases hm
    · exact hmutacc hrv
    · exact absurd hrv hnv
  rw [sh.var] at hfresh ⊢
  apply inv1.addDerived (hkeepE hnv) c.valid heH hr hau.noConflict sh hfresh haccm (sh.ender_param hkinds)
    (Rt.hdl k r.arena) hk.symm rfl rfl (fun _ hn => by cases hn)
  -- a new exclusive `Bump` reference: the receiver is an exclusive `Bump`, every value of the arena borrowed from it
  intro hkb hacc' v hv1 hvv hvk rv hrv ex hex harena
  have hm := sh.excl hacc'
  rcases hau.sub v hv1 hvv with ⟨hvΓ, hno⟩
  rw [hm] at hno
  have hek := hb (hk ▸ hkb)
  exact inv.no_val_covered c.mem c.valid hr hvΓ hvv hvk hno hrv hex
    ⟨Or.inr (Or.inl ⟨hek, haccm hm, harena.symm⟩), fun hg => by rw [hek] at hg; cases hg⟩

theorem call_viewScope {t : Table} (hok : sigOK t = true) {Γ Γ1 Γ' : SEnv} {σ : DState} (inv : Inv Γ σ)
    {x : Var} {sig : Sig} {e : Entry} {res : Option Entry} (c : Call t Γ Γ1 Γ' x sig e res) (hop : sig.op = .viewScope) :
    ∃ σ', runCall σ x e.var .viewScope = .ok σ' ∧ Inv Γ' σ' := by
  rcases inv.typed e c.mem c.valid with ⟨r, hr, ht⟩
  rcases viewScope_shape (sigOK_sig hok c.sig_mem) hop c.res_eq with ⟨ne, rfl, sh, hk, hnv, ho⟩
  rcases ownerKinds_scopes (applicable_kinds (sigOK_impls hok) c.app) ho with ⟨hsc, heH⟩
  exact ⟨σ.set x (Rt.hdl .scope r.arena), by simp [runCall, hr, ht.kind, Entry.isHandle_iff.1 heH, ht.live heH, hsc],
    call_derived hok inv c hr heH hnv sh hk nofun⟩

theorem call_viewSame {t : Table} (hok : sigOK t = true) {Γ Γ1 Γ' : SEnv} {σ : DState} (inv : Inv Γ σ)
    {x : Var} {sig : Sig} {e : Entry} {res : Option Entry} (c : Call t Γ Γ1 Γ' x sig e res) (hop : sig.op = .viewSame) :
    ∃ σ', runCall σ x e.var .viewSame = .ok σ' ∧ Inv Γ' σ' := by
  rcases inv.typed e c.mem c.valid with ⟨r, hr, ht⟩
  rcases viewSame_shape (sigOK_sig hok c.sig_mem) hop c.res_eq with ⟨ne, rfl, sh, hnv, hcase⟩
  have hkinds := applicable_kinds (sigOK_impls hok) c.app
  rcases hcase with ⟨ho, hk⟩ | ⟨ho, hk⟩ <;> rw [ho] at hkinds <;> simp only [ownerKinds] at hkinds
  · -- on a `Bump`
    have heH : e.isHandle = true := by simp [Entry.isHandle, hkinds]
    exact ⟨σ.set x (Rt.hdl .bump r.arena), by simp [runCall, hr, ht.kind, ht.live heH, hkinds],
      call_derived hok inv c hr heH hnv sh hk fun _ => hkinds⟩
  · -- on a `BumpScope` (possibly through a claim guard / pool guard)
    have hfacts : e.kind.scopes = true ∧ e.isHandle = true ∧ e.kind ≠ .bump := by
      rcases hkinds with h | h | h <;> simp [h, Kind.scopes, Entry.isHandle]
    exact ⟨σ.set x (Rt.hdl .scope r.arena), by simp [runCall, hr, ht.kind, Entry.isHandle_iff.1 hfacts.2.1, ht.live hfacts.2.1, hfacts],
      call_derived hok inv c hr hfacts.2.1 hnv sh hk nofun⟩

theorem call_claim {t : Table} (hok : sigOK t = true) {Γ Γ1 Γ' : SEnv} {σ : DState} (inv : Inv Γ σ)
    {x : Var} {sig : Sig} {e : Entry} {res : Option Entry} (c : Call t Γ Γ1 Γ' x sig e res) (hop : sig.op = .claim) :
    ∃ σ', runCall σ x e.var .claim = .ok σ' ∧ Inv Γ' σ' := by
  rcases inv.typed e c.mem c.valid with ⟨r, hr, ht⟩
  rcases claim_shape (sigOK_sig hok c.sig_mem) hop (inv.closed e c.mem c.valid).1 c.res_eq with ⟨ne, rfl, sh, hk, hnv, ho⟩
  rcases ownerKinds_scopes (applicable_kinds (sigOK_impls hok) c.app) ho with ⟨hsc, heH⟩
  exact ⟨σ.set x (Rt.hdl .claim r.arena), by simp [runCall, hr, ht.kind, Entry.isHandle_iff.1 heH, ht.live heH, hsc],
    call_derived hok inv c hr heH hnv sh hk nofun⟩

theorem call_mkGuard {t : Table} (hok : sigOK t = true) {Γ Γ1 Γ' : SEnv} {σ : DState} (inv : Inv Γ σ)
    {x : Var} {sig : Sig} {e : Entry} {res : Option Entry} (c : Call t Γ Γ1 Γ' x sig e res) (hop : sig.op = .mkGuard) :
    ∃ σ', runCall σ x e.var .mkGuard = .ok σ' ∧ Inv Γ' σ' := by
  rcases inv.typed e c.mem c.valid with ⟨r, hr, ht⟩
  rcases mkGuard_shape (sigOK_sig hok c.sig_mem) hop c.res_eq with ⟨ne, rfl, sh, hk, heff, ho⟩
  have hkinds := applicable_kinds (sigOK_impls hok) c.app
  rcases ownerKinds_scopes hkinds ho with ⟨hsc, heH⟩
  refine ⟨(σ.push r.arena).2.set x ⟨.guard, r.arena, some σ.next, false, []⟩,
    by simp [runCall, hr, ht.kind, Entry.isHandle_iff.1 heH, ht.live heH, hsc], ?_⟩
  rcases access_afterUse inv c.mem c.valid c.acc with ⟨inv1, hau, hkeepE, hmutacc, _⟩
  rcases declare_ok c.decl with ⟨hfresh, rfl⟩
  rw [sh.var] at hfresh ⊢
  exact inv1.addGuard (hkeepE (by simp [heff])) c.valid heH hr hau.noConflict sh hfresh hk (hmutacc heff)
    (sh.ender_param hkinds)

theorem call_guardReset {t : Table} (hok : sigOK t = true) {Γ Γ1 Γ' : SEnv} {σ : DState} (inv : Inv Γ σ)
    {x : Var} {sig : Sig} {e : Entry} {res : Option Entry} (c : Call t Γ Γ1 Γ' x sig e res) (hop : sig.op = .guardReset) :
    ∃ σ', runCall σ x e.var .guardReset = .ok σ' ∧ Inv Γ' σ' := by
  rcases inv.typed e c.mem c.valid with ⟨r, hr, ht⟩
  rcases unit_shape (sigOK_sig hok c.sig_mem) (Or.inl hop) c.res_eq with ⟨rfl, heff, hog, _⟩
  have hk : e.kind = .guard := by
    have := applicable_kinds (sigOK_impls hok) c.app
    rwa [hog hop] at this
  have hacc := c.acc
  rw [heff] at hacc
  obtain rfl : Γ' = Γ1 := c.decl
  obtain rfl := (access_ok hacc).2
  exact ⟨σ.guardReset e.var r, by simp [runCall, hr, ht.kind, ht.live (e := e) (by simp [Entry.isHandle, hk]), hk],
    (guardReset_sound inv c.mem c.valid hk hr).1⟩

theorem call_guardScope {t : Table} (hok : sigOK t = true) {Γ Γ1 Γ' : SEnv} {σ : DState} (inv : Inv Γ σ)
    {x : Var} {sig : Sig} {e : Entry} {res : Option Entry} (c : Call t Γ Γ1 Γ' x sig e res) (hop : sig.op = .guardScope) :
    ∃ σ', runCall σ x e.var .guardScope = .ok σ' ∧ Inv Γ' σ' := by
  rcases inv.typed e c.mem c.valid with ⟨r, hr, ht⟩
  rcases guardScope_shape (sigOK_sig hok c.sig_mem) hop c.res_eq with ⟨ne, rfl, sh, hkn, hog, heff⟩
  have hkinds := applicable_kinds (sigOK_impls hok) c.app
  have hk : e.kind = .guard := by rwa [hog] at hkinds
  have heH : e.isHandle = true := by simp [Entry.isHandle, hk]
  have hacc := c.acc
  rw [heff] at hacc sh
  obtain ⟨hacc', rfl⟩ := access_ok hacc
  refine ⟨(σ.guardReset e.var r).set x (Rt.hdl .scope r.arena), by simp [runCall, hr, ht.kind, ht.live heH, hk], ?_⟩
  rcases guardReset_sound inv c.mem c.valid hk hr with ⟨inv2, r', hr', harena⟩
  rcases declare_ok c.decl with ⟨hfresh, rfl⟩
  rw [sh.var] at hfresh ⊢
  exact inv2.addDerived (inv.receiver_survives c.mem c.valid) c.valid heH hr' (noConflict_useMut Γ e.var) sh hfresh
    (fun _ => hacc') (sh.ender_param hkinds)
    (Rt.hdl .scope r.arena) hkn.symm harena.symm rfl (fun _ hn => by cases hn) (fun hb => by rw [hkn] at hb; cases hb)

theorem call_resetAll {t : Table} (hok : sigOK t = true) {Γ Γ1 Γ' : SEnv} {σ : DState} (inv : Inv Γ σ)
    {x : Var} {sig : Sig} {e : Entry} {res : Option Entry} (c : Call t Γ Γ1 Γ' x sig e res) (hop : sig.op = .resetAll) :
    ∃ σ', runCall σ x e.var .resetAll = .ok σ' ∧ Inv Γ' σ' := by
  rcases inv.typed e c.mem c.valid with ⟨r, hr, ht⟩
  rcases unit_shape (sigOK_sig hok c.sig_mem) (Or.inr hop) c.res_eq with ⟨rfl, heff, _, hown⟩
  have hkinds := applicable_kinds (sigOK_impls hok) c.app
  have hacc := c.acc
  rw [heff] at hacc
  obtain rfl : Γ' = Γ1 := c.decl
  obtain ⟨hacc', rfl⟩ := access_ok hacc
  -- after the exclusive use of the receiver no valid value is left in an arena it can reset
  have hnoVal : e.kind ≠ .guard → ∀ a, EnderOn σ e r a → ∀ v ∈ (Γ.useMut e.var).ents, v.valid = true → v.kind = .val →
      ∀ rv, σ.get v.var = some rv → ∀ ex, rv.epoch = some ex → rv.arena ≠ a := by
    intro hng a hon v hv1 hvv hvk rv hrv ex hex harena
    rcases mem_useMut_valid hv1 hvv with ⟨hvΓ, hno⟩
    exact inv.no_val_covered c.mem c.valid hr hvΓ hvv hvk hno hrv hex ⟨harena ▸ hon, fun hg => absurd hg hng⟩
  rcases hown hop with ho | ho <;> rw [ho] at hkinds <;> simp only [ownerKinds] at hkinds
  · -- `Bump::reset`
    have heH : e.isHandle = true := by simp [Entry.isHandle, hkinds]
    exact ⟨σ.resetArena r.arena, by simp [runCall, hr, ht.kind, ht.live heH, hkinds],
      (inv.useMut e.var).resetArena r.arena (DState.lt_of_epochs_ne_nil (ht.live heH))
        (hnoVal (by simp [hkinds]) _ (Or.inr (Or.inl ⟨hkinds, hacc', rfl⟩)))⟩
  · -- `BumpPool::reset`
    exact ⟨_, by simp [runCall, hr, ht.kind, hkinds], Inv.resetArenas r.arenas (inv.useMut e.var) (ht.pool hkinds).2
      fun v hv1 hvv hvk rv hrv ex hex hm =>
        hnoVal (by simp [hkinds]) _ (Or.inr (Or.inr ⟨hkinds, hm⟩)) v hv1 hvv hvk rv hrv ex hex rfl⟩

theorem call_poolGet {t : Table} (hok : sigOK t = true) {Γ Γ1 Γ' : SEnv} {σ : DState} (inv : Inv Γ σ)
    {x : Var} {sig : Sig} {e : Entry} {res : Option Entry} (c : Call t Γ Γ1 Γ' x sig e res) (hop : sig.op = .poolGet) :
    ∃ σ', runCall σ x e.var .poolGet = .ok σ' ∧ Inv Γ' σ' := by
  rcases inv.typed e c.mem c.valid with ⟨r, hr, ht⟩
  rcases poolGet_shape (sigOK_sig hok c.sig_mem) hop c.res_eq with ⟨rfl, ho, hnv⟩
  have hk : e.kind = .pool := by
    have := applicable_kinds (sigOK_impls hok) c.app
    rwa [ho] at this
  refine ⟨(σ.newArena.set e.var { r with arenas := σ.arenas.length :: r.arenas }).set x (Rt.hdl .poolGuard σ.arenas.length),
    by simp [runCall, hr, ht.kind, hk, DState.newArena], ?_⟩
  show Inv Γ' ((σ.newArena.set e.var { r with arenas := σ.arenas.length :: r.arenas }).set x (Rt.hdl .poolGuard σ.arenas.length))
  rcases access_afterUse inv c.mem c.valid c.acc with ⟨inv1, hau, hkeepE, _, _⟩
  rcases declare_ok c.decl with ⟨hfresh, rfl⟩
  have he1 : e ∈ Γ1.ents := hkeepE hnv
  have hr2 : σ.newArena.get e.var = some r := hr
  have hnk : ∀ {k : Kind}, k ≠ .pool → e.kind ≠ k := fun h h' => h (h'.symm.trans hk)
  -- the new arena; then the pool records it: what it can end in the old part of the arena table is what it could end before
  have inv2 := inv1.newArena
  have hold : ∀ a, a < σ.arenas.length → EnderOn σ.newArena e { r with arenas := σ.arenas.length :: r.arenas } a →
      EnderOn σ.newArena e r a := by
    rintro a ha (⟨hg, _⟩ | ⟨hb, _⟩ | ⟨_, hm⟩)
    · exact absurd hg (hnk (by decide))
    · exact absurd hb (hnk (by decide))
    · rcases List.mem_cons.1 hm with rfl | h
      · exact absurd ha (Nat.lt_irrefl _)
      · exact Or.inr (Or.inr ⟨hk, h⟩)
  have inv3 : Inv Γ1 (σ.newArena.set e.var { r with arenas := σ.arenas.length :: r.arenas }) := by
    apply inv2.rebind he1 c.valid hr2 { r with arenas := σ.arenas.length :: r.arenas } rfl _ (hnk (by decide))
    · intro v hv1 hvv hvk _ rv hrv ex hex hend
      exact (inv2.vals v hv1 hvv hvk rv hrv ex hex).2 e he1 c.valid r hr2
        ⟨hold _ (inv1.val_arena_lt hv1 hvv hvk hrv hex) hend.1, fun hg => absurd hg (hnk (by decide))⟩
    · intro h hh hvh hH hne rh hrh hon
      exact inv2.handles h hh hvh hH rh hrh e he1 c.valid (Ne.symm hne) r hr2 (hold _ (inv1.handle_arena_lt hh hvh hH hrh) hon)
    · refine ⟨ht.kind, fun h => absurd h (hnk (by decide)), fun _ => ⟨(ht.pool hk).1, fun a ha => ?_⟩,
        fun h => absurd (Entry.isHandle_iff.1 h).2 (fun h' => h' hk), fun h => absurd h (hnk (by decide)),
        fun ex hex => Nat.lt_succ_of_lt (ht.epoch_lt hex), fun h => absurd h (hnk (by decide))⟩
      simp only [DState.newArena, List.length_append, List.length_cons, List.length_nil]
      rcases List.mem_cons.1 ha with rfl | ha
      · omega
      · have := (ht.pool hk).2 a ha; omega
  -- the guard on the new arena: nothing that existed before lives there
  have hget3 : ∀ g ∈ Γ1.ents, g.var ≠ e.var →
      (σ.newArena.set e.var { r with arenas := σ.arenas.length :: r.arenas }).get g.var = σ.get g.var :=
    fun g _ hne => DState.get_set_ne _ _ hne
  have hnoHandle : ∀ h ∈ Γ1.ents, h.valid = true → h.isHandle = true → ∀ rh,
      (σ.newArena.set e.var { r with arenas := σ.arenas.length :: r.arenas }).get h.var = some rh →
      rh.arena ≠ σ.arenas.length := by
    intro h hh hvh hH rh hrh
    have hne : h.var ≠ e.var := fun heq => (Entry.isHandle_iff.1 hH).2 (inv1.eq_of_var_eq hh he1 heq ▸ hk)
    rw [hget3 h hh hne] at hrh
    exact Nat.ne_of_lt (inv1.handle_arena_lt hh hvh hH hrh)
  apply inv3.add _ (Rt.hdl .poolGuard σ.arenas.length) hfresh
  · simp [Typed, Entry.isHandle, Rt.hdl, DState.epochs_newArena_self]
  · apply inv3.closed_of_places
    intro p mo hp
    rcases List.mem_cons.1 hp with h | h
    · cases h
      exact ⟨e, he1, rfl, c.valid, hnk (by decide), fun l hl => List.mem_cons_of_mem _ hl⟩
    · rw [(ht.pool hk).1] at h; cases h
  · nofun
  · intro v _ _ _ rv _ ex _ hend; rcases hend.1 with ⟨h, _⟩ | ⟨h, _⟩ | ⟨h, _⟩ <;> cases h
  · -- the only ender of the new arena is the pool
    intro _ g hg hgv rg hrg hon
    by_cases hge : g.var = e.var
    · obtain rfl := inv1.eq_of_var_eq hg he1 hge
      exact Or.inl (Region.on_cons_self _ _ _)
    · rw [hget3 g hg hge] at hrg
      exact absurd (inv1.ender_arena_lt hg hgv hrg (EnderOn_of_newArena inv1 hg hgv hrg hon)) (Nat.lt_irrefl _)
  · intro h _ _ _ rh _ hon; rcases hon with ⟨h, _⟩ | ⟨h, _⟩ | ⟨h, _⟩ <;> cases h
  · intro _ _ h2 hh2 hv2 hH2 r2 hr2' har
    exact absurd har.symm (hnoHandle h2 hh2 hv2 hH2 r2 hr2')
  · intro _ h1 hh1 hv1 hH1 _ r1 hr1 har
    exact absurd har (hnoHandle h1 hh1 hv1 hH1 r1 hr1)

theorem call_convert {t : Table} (hok : sigOK t = true) {Γ Γ1 Γ' : SEnv} {σ : DState} (inv : Inv Γ σ)
    {x : Var} {sig : Sig} {e : Entry} {res : Option Entry} (c : Call t Γ Γ1 Γ' x sig e res) (hop : sig.op = .convert) :
    ∃ σ', runCall σ x e.var .convert = .ok σ' ∧ Inv Γ' σ' := by
  rcases inv.typed e c.mem c.valid with ⟨r, hr, ht⟩
  rcases convert_shape (sigOK_sig hok c.sig_mem) hop c.res_eq with ⟨heff, hcase⟩
  have hkinds := applicable_kinds (sigOK_impls hok) c.app
  rcases (access_afterUse inv c.mem c.valid c.acc).2.2.2.2 heff with ⟨hmv, hnclaim, hnpg, rfl⟩
  -- the receiver is an owned `Bump` or `BumpScope`
  have hk : e.kind = .bump ∨ e.kind = .scope := by
    rcases hcase with ⟨ho, _⟩ | ⟨ho, _⟩ <;> rw [ho] at hkinds
    · exact Or.inl hkinds
    · exact Or.inr (hkinds.resolve_right fun h => h.elim hnclaim hnpg)
  have hacc : e.acc = .own := by
    rcases (Bool.or_eq_true _ _).mp hmv with h | h
    · simpa using h
    · rcases hk with h' | h' <;> simp [h'] at h
  have heH : e.isHandle = true := by rcases hk with h | h <;> simp [Entry.isHandle, h]
  have hdecl : (Γ.remove e.var).declare ⟨x, e.kind, .own, e.param, e.param, true, Γ.depth⟩ = .ok Γ' := by
    rcases hcase with ⟨ho, rfl⟩ | ⟨ho, rfl⟩ <;> rw [ho] at hkinds
    · have hp : e.param = [] := List.eq_nil_iff_forall_not_mem.2 fun l hl => by
        have := (inv.closed e c.mem c.valid).1 l hl
        rw [(ht.bump hkinds).2 hacc] at this; cases this
      rw [show e.kind = .bump from hkinds, hp]; exact c.decl
    · rw [show e.kind = .scope from hk.resolve_left fun h => by
        rcases hkinds with h' | h' | h' <;> rw [h] at h' <;> cases h']
      exact c.decl
  rcases declare_ok hdecl with ⟨hfresh, rfl⟩
  exact ⟨σ.set x r, by rcases hk with h | h <;> simp [runCall, hr, ht.kind, ht.live heH, h],
    inv.moveHandle c.mem c.valid hr hk hacc hfresh Γ.depth⟩

end Life
