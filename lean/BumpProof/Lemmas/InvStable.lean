/-
  Lemmas/InvStable.lean — for `Arena.Hist.Inv`: the relation `Stable` (ghost state untouched, chunks
  covered; it holds of every path of a model function, `Stable.of_path`) and `GhostPost` (`Stable`, and the kind of
  the current chunk evolves as allowed), case analyses of the position-only model functions, `LiveOK` under
  position moves, and the checkpoint taken now (`cpOK_checkpoint`).
-/
import BumpProof.Lemmas.InvBasic
import BumpProof.Props.C01

set_option linter.unusedSimpArgs false
set_option linter.unusedVariables false

namespace Arena.Hist
open Rs

variable {cfg : Cfg}

/-! ## `Stable`: the ghost state is untouched and every chunk is still there -/

structure Stable (s s' : State) : Prop where
  live : s'.live = s.live
  frames : s'.frames = s.frames
  nextId : s'.nextId = s.nextId
  userCps : s'.userCps = s.userCps
  prepared : s'.prepared = s.prepared
  cov : ChunksCov s s'

theorem Stable.refl (s : State) : Stable s s := ⟨rfl, rfl, rfl, rfl, rfl, ChunksCov.refl s⟩

theorem Stable.trans {a b c : State} (h1 : Stable a b) (h2 : Stable b c) : Stable a c :=
  ⟨h2.live.trans h1.live, h2.frames.trans h1.frames, h2.nextId.trans h1.nextId, h2.userCps.trans h1.userCps,
   h2.prepared.trans h1.prepared, h1.cov.trans h2.cov⟩

theorem Stable.of_onlyData {s s' : State} (h : Mem.OnlyDataChanged s s') : Stable s s' := by
  obtain ⟨h1, h2⟩ := h
  refine ⟨by rw [h1], by rw [h1], by rw [h1], by rw [h1], by rw [h1], ChunksCov.of_geom h2⟩

/-- every function of the model leaves the ghost state alone and every chunk where it is -/
theorem Stable.of_path {s s' : State} (h : Fn.Path cfg true true s s') : Stable s s' :=
  have k := h.kept
  ⟨k.live, k.frames, k.nextId, k.userCps, k.prepared, k.chunk⟩

theorem Stable.setPos (s : State) (i p : Nat) : Stable s (setPos s i p) :=
  ⟨rfl, rfl, rfl, rfl, rfl, ChunksCov.setPos s i p⟩

theorem Stable.setCurPos (s : State) (p : Nat) : Stable s (setCurPos s p) := by
  unfold Arena.setCurPos
  split
  · exact Stable.setPos s _ p
  · exact Stable.refl s

theorem lv_setPos (s : State) (i p : Nat) : (Arena.setPos s i p).live = s.live := rfl

theorem lv_resetToStart (s : State) : (resetToStart cfg s).live = s.live :=
  (Stable.of_path (Fn.resetToStart_path cfg s)).live

theorem Stable.withCur (s : State) (c : Cur) : Stable s { s with cur := c } :=
  ⟨rfl, rfl, rfl, rfl, rfl, ChunksCov.refl s⟩

theorem Stable.liveSub {s s' : State} (h : Stable s s') : LiveSub s s' := LiveSub.of_eq h.live

/-! ## Case analyses of the position-only functions -/

theorem resetToStart_cases (cfg : Cfg) (s : State) :
    resetToStart cfg s = s ∨
    ∃ i c rest, s.cur = .chunk i ∧ s.chunks = c :: rest ∧
      resetToStart cfg s = { s with chunks := c.resetPos cfg :: rest, cur := .chunk 0 } := by
  unfold resetToStart
  split
  · rename_i i hi
    split
    · exact Or.inl rfl
    · rename_i c rest hc
      exact Or.inr ⟨i, c, rest, hi, hc, rfl⟩
  · exact Or.inl rfl

theorem resetToStart_cur (cfg : Cfg) (s : State) :
    (resetToStart cfg s).cur = s.cur ∨ ∃ j, (resetToStart cfg s).cur = .chunk j ∧ ∃ i, s.cur = .chunk i := by
  rcases resetToStart_cases cfg s with h | ⟨i, c, rest, hi, _, h⟩
  · rw [h]; exact Or.inl rfl
  · rw [h]; exact Or.inr ⟨0, rfl, i, hi⟩

theorem resetTo_cur {s s' : State} {cp : Checkpoint} (h : resetTo cfg s cp = .ok s') :
    (s'.cur = s.cur ∧ s'.chunks = s.chunks) ∨ ∃ j, s'.cur = .chunk j := by
  rcases Mem.resetTo_inv h with ⟨_, rfl⟩ | ⟨i, c, p, _, _, _, rfl⟩
  · rcases resetToStart_cases cfg s with h | ⟨i, c, rest, hi, _, h⟩
    · rw [h]; exact Or.inl ⟨rfl, rfl⟩
    · rw [h]; exact Or.inr ⟨0, rfl⟩
  · exact Or.inr ⟨i, rfl⟩

theorem checkpointOK_of {s s' : State} {cp : Checkpoint} (hg : CpGeom cfg s cp) (h : resetTo cfg s cp = .ok s') :
    CheckpointOK cfg s cp := by
  unfold CpGeom at hg
  unfold CheckpointOK
  cases hk : cp.cur with
  | chunk i => rw [hk] at hg; exact hg
  | claimed => rw [hk] at hg; exact hg
  | unallocated =>
    simp only
    unfold resetTo at h
    rw [hk] at h
    cases hga : cfg.ga
    · rfl
    · simp [hga] at h

theorem deallocate_cur {s s' : State} {ptr size : Nat} (h : deallocate cfg s ptr size = .ok s') : s'.cur = s.cur := by
  rcases Mem.deallocate_inv h with rfl | ⟨i, p, _, _, _, rfl⟩ <;> rfl

/-! ## `LiveOK` when the position of the current chunk moves further into the free part -/

theorem liveOK_movePos {s : State} {i p : Nat} {c : Chunk} (hl : Mem.LiveOK cfg s)
    (hcur : s.cur = .chunk i) (hc : s.chunks[i]? = some c)
    (hp : if cfg.up then c.pos ≤ p else p ≤ c.pos) : Mem.LiveOK cfg (setPos s i p) :=
  (hl.behind hcur hc _).liveOK hl.aligned hl.disjoint rfl hp hcur rfl (Mem.filter_all _)

/-- `alignTo` and `alignGuardDrop` (`Fn.alignTo_cases`, `Fn.alignGuardDrop_cases`): nothing, or the position of the
    current chunk is aligned -/
theorem liveOK_alignPos {s s' : State} {n : Nat} (hl : Mem.LiveOK cfg s) (hn : MinAlignOK n)
    (h : s' = s ∨ ∃ i c p, s.cur = .chunk i ∧ s.chunks[i]? = some c ∧
      liftM (Gen.LibArith.align_pos cfg.up n c.pos) = .ok p ∧ s' = setPos s i p) : Mem.LiveOK cfg s' := by
  rcases h with rfl | ⟨i, c, p, hcur, hc, hp, rfl⟩
  · exact hl
  · exact liveOK_movePos hl hcur hc (Mem.align_pos_free_side hn hp)

theorem liveOK_moveOther {s : State} {j p : Nat} (hl : Mem.LiveOK cfg s) (hne : s.cur ≠ .chunk j) :
    Mem.LiveOK cfg (setPos s j p) := by
  refine ⟨hl.aligned, ?_, hl.disjoint⟩
  intro b hb hs
  obtain ⟨i, k, ck, h1, h2, h3, h4, h5⟩ := hl.placed b hb hs
  by_cases hkj : k = j
  · subst hkj
    have hki : k ≠ i := fun e => hne (e ▸ h1)
    exact ⟨i, k, _, h1, h2, Mem.setPos_getElem?_self h3 p, h4, fun e => absurd e hki⟩
  · exact ⟨i, k, ck, h1, h2, (Fn.setPos_getElem?_ne _ p (Ne.symm hkj)).trans h3, h4, h5⟩

theorem liveOK_alignChunkAt {s s' : State} {n : Nat} {st : Cur} (hl : Mem.LiveOK cfg s)
    (h : alignChunkAt cfg s n st = .ok s') : Mem.LiveOK cfg s' := by
  rcases alignChunkAt_cases h with rfl | ⟨j, c, p, _, hne, _, _, rfl⟩
  · exact hl
  · exact liveOK_moveOther hl hne

theorem cpOK_checkpoint {g : GState} (h : Inv cfg g) : CpOK cfg g.s (checkpoint cfg g.s) g.s.nextId := by
  refine ⟨?_, Nat.le_refl _, fun b hb _ hs => C01.checkpoint_placedAt h.live hb hs⟩
  unfold CpGeom checkpoint
  simp only
  cases hcur : g.s.cur with
  | claimed => exact absurd hcur h.notClaimed
  | unallocated => trivial
  | chunk i =>
    obtain ⟨c, hi, hw, _⟩ := h.geom.curChunk hcur
    refine ⟨c, hi, ?_, ?_⟩
    · rw [curPos_chunk hcur hi]; exact hw.pos_ge
    · rw [curPos_chunk hcur hi]; exact hw.pos_le

/-- what a model function may do to the ghost state and to the kind of the current chunk: the ghost state is
    untouched, chunks are covered; the current chunk stays what it is or becomes some chunk, and an arena that is
    unallocated afterwards was so before, with the same chunk shapes -/
structure GhostPost (s s' : State) : Prop where
  stable : Stable s s'
  unalloc : s'.cur = .unallocated → s.cur = .unallocated ∧ SameShape s s'
  curKind : s'.cur = s.cur ∨ ∃ j, s'.cur = .chunk j

theorem GhostPost.refl (s : State) : GhostPost s s := ⟨Stable.refl s, fun h => ⟨h, SameShape.refl s⟩, Or.inl rfl⟩

theorem GhostPost.trans {a b c : State} (h1 : GhostPost a b) (h2 : GhostPost b c) : GhostPost a c := by
  refine ⟨h1.stable.trans h2.stable, ?_, ?_⟩
  · intro hu
    obtain ⟨u1, u2⟩ := h2.unalloc hu
    obtain ⟨u3, u4⟩ := h1.unalloc u1
    exact ⟨u3, u4.trans u2⟩
  · rcases h2.curKind with e | ⟨j, hj⟩
    · rcases h1.curKind with e1 | ⟨j, hj⟩
      · exact Or.inl (e.trans e1)
      · exact Or.inr ⟨j, e.trans hj⟩
    · exact Or.inr ⟨j, hj⟩

theorem GhostPost.setPos (s : State) (i p : Nat) : GhostPost s (setPos s i p) :=
  ⟨Stable.setPos s i p, fun h => ⟨h, setPos_shape s i p⟩, Or.inl rfl⟩

theorem GhostPost.wrote {s s' : State} (w : Fn.Wrote s s') : GhostPost s s' :=
  have hg := w.sameGeom
  ⟨Stable.of_onlyData w.onlyData, fun h => ⟨hg.cur ▸ h, hg.shape⟩, Or.inl hg.cur⟩

theorem GhostPost.resetTo {s s' : State} {cp : Checkpoint} (hr : resetTo cfg s cp = .ok s') : GhostPost s s' := by
  refine ⟨Stable.of_path (Fn.resetTo_path hr), ?_, (resetTo_cur hr).imp (·.1) id⟩
  rcases resetTo_cur hr with ⟨c1, c2⟩ | ⟨j, hj⟩
  · exact fun hu => ⟨c1 ▸ hu, congrArg (List.map Chunk.shape) c2⟩
  · intro hu; rw [hj] at hu; cases hu

end Arena.Hist
