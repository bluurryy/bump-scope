/-
  Lemmas/Ledger.lean — the base of the ledger tower: three rules for `liftM` / `>>=` / `pure` on `.ok`, the field
  equations of `setPos` / `setCurPos`, `SamePlace` (the same chunk up to its position), the relations `CovC` (chunk
  lists) and `Ext n` (states: ghost state and chunks kept, positions below index `n` too; `Ext.setPos`,
  `Ext.setCurPos`, `Ext.append`), what `tryCur` may change (`tryCur_frame`), and the frame (`CreateFrame`) of the
  chunk-creating functions, read off their graph `Fn.Created` (`Lemmas/FnShape`, where the functions of the model are
  taken apart).
-/
import BumpProof.Lemmas.FnShape

namespace Ledger
open Arena Rs

theorem liftM_ok {α} (v : α) : Arena.liftM (.ok v : Rs.M α) = .ok v := rfl

theorem bind_ok {ε α β} (v : α) (f : α → Except ε β) : ((Except.ok v : Except ε α) >>= f) = f v := rfl

theorem pure_eq_ok {ε α} (v : α) : (pure v : Except ε α) = .ok v := rfl

export Arena.Fn (liftM_eq_ok bind_eq_ok assert_eq_ok tryProps tryCur_eq)

@[simp] theorem setPos_reqs (s : State) (i p : Nat) : (setPos s i p).reqs = s.reqs := rfl
@[simp] theorem setPos_resps (s : State) (i p : Nat) : (setPos s i p).resps = s.resps := rfl
@[simp] theorem setPos_live (s : State) (i p : Nat) : (setPos s i p).live = s.live := rfl
@[simp] theorem setPos_cur (s : State) (i p : Nat) : (setPos s i p).cur = s.cur := rfl
@[simp] theorem setPos_minAlign (s : State) (i p : Nat) : (setPos s i p).minAlign = s.minAlign := rfl
@[simp] theorem setPos_chunks (s : State) (i p : Nat) :
    (setPos s i p).chunks = s.chunks.modify i (fun c => { c with pos := p }) := rfl
export Arena.Fn (setPos_length setCurPos_eq setCurPos_length setPos_setPos setCurPos_setCurPos setCurPos_self
  setCurPos_reqs setCurPos_resps setCurPos_cur)

@[simp] theorem setCurPos_live (s : State) (p : Nat) : (setCurPos s p).live = s.live := Fn.setCurPos_live s p
@[simp] theorem setCurPos_minAlign (s : State) (p : Nat) : (setCurPos s p).minAlign = s.minAlign :=
  Fn.setCurPos_minAlign s p

/-- `c'` is the chunk `c`, possibly with another bump position -/
def SamePlace (c c' : Chunk) : Prop :=
  c'.base = c.base ∧ c'.size = c.size ∧ c'.granted = c.granted ∧ c'.reqSize = c.reqSize ∧ c'.data = c.data

theorem SamePlace.refl (c : Chunk) : SamePlace c c := ⟨rfl, rfl, rfl, rfl, rfl⟩
theorem SamePlace.symm {a b : Chunk} (h : SamePlace a b) : SamePlace b a :=
  ⟨h.1.symm, h.2.1.symm, h.2.2.1.symm, h.2.2.2.1.symm, h.2.2.2.2.symm⟩
theorem SamePlace.trans {a b c : Chunk} (h1 : SamePlace a b) (h2 : SamePlace b c) : SamePlace a c :=
  ⟨h2.1.trans h1.1, h2.2.1.trans h1.2.1, h2.2.2.1.trans h1.2.2.1, h2.2.2.2.1.trans h1.2.2.2.1,
   h2.2.2.2.2.trans h1.2.2.2.2⟩

def CovC (a b : List Chunk) : Prop := ∀ (j : Nat) (c : Chunk), a[j]? = some c → ∃ c', b[j]? = some c' ∧ SamePlace c c'

theorem CovC.refl (a : List Chunk) : CovC a a := fun _ c h => ⟨c, h, SamePlace.refl c⟩
theorem CovC.trans {a b c : List Chunk} (h1 : CovC a b) (h2 : CovC b c) : CovC a c := fun j x hx => by
  obtain ⟨y, hy, s1⟩ := h1 j x hx
  obtain ⟨z, hz, s2⟩ := h2 j y hy
  exact ⟨z, hz, s1.trans s2⟩
theorem CovC.length_le {a b : List Chunk} (h : CovC a b) : a.length ≤ b.length := by
  refine Nat.le_of_not_lt fun hlt => ?_
  obtain ⟨_, h1, _⟩ := h b.length _ (List.getElem?_eq_getElem hlt)
  exact Nat.lt_irrefl _ (List.getElem?_eq_some_iff.1 h1).1

/-- `s'` extends `s`: the ghost state (live blocks, frames, ids, checkpoints) is the same, every chunk
    of `s` is still present at the same index with the same address range and the same bytes, and
    the chunks with index `< n` also kept their bump position. -/
structure Ext (n : Nat) (s s' : State) : Prop where
  live : s'.live = s.live
  minAlign : s'.minAlign = s.minAlign
  frames : s'.frames = s.frames
  nextId : s'.nextId = s.nextId
  userCps : s'.userCps = s.userCps
  prepared : s'.prepared = s.prepared
  dropped : s'.dropped = s.dropped
  chunk : ∀ j c, s.chunks[j]? = some c →
    ∃ c', s'.chunks[j]? = some c' ∧ SamePlace c c' ∧ (j < n → c'.pos = c.pos)

theorem Ext.covC {n : Nat} {s s' : State} (h : Ext n s s') : CovC s.chunks s'.chunks := fun j c hc => by
  obtain ⟨c', h1, sp, _⟩ := h.chunk j c hc
  exact ⟨c', h1, sp⟩

theorem Ext.same (n : Nat) (s : State) (cur : Cur) (reqs : List BaseReq) (resps : List BaseResp) :
    Ext n s { s with cur := cur, reqs := reqs, resps := resps } :=
  ⟨rfl, rfl, rfl, rfl, rfl, rfl, rfl, fun _ c h => ⟨c, h, SamePlace.refl c, fun _ => rfl⟩⟩

theorem Ext.refl (n : Nat) (s : State) : Ext n s s := Ext.same n s _ _ _

theorem Ext.setCur (n : Nat) (s : State) (c : Cur) : Ext n s { s with cur := c } := Ext.same n s c _ _

/-- positions are only compared for existing chunks, so bounds beyond the chunk count are equivalent -/
theorem Ext.clamp {n m : Nat} {s s' : State} (h : Ext m s s') (hm : ∀ j, j < n → j < s.chunks.length → j < m) :
    Ext n s s' :=
  ⟨h.live, h.minAlign, h.frames, h.nextId, h.userCps, h.prepared, h.dropped, fun j c hc => by
      obtain ⟨c', h1, h2, h3⟩ := h.chunk j c hc
      exact ⟨c', h1, h2, fun hj => h3 (hm j hj (List.getElem?_eq_some_iff.1 hc).1)⟩⟩

theorem Ext.mono {n m : Nat} {s s' : State} (h : Ext n s s') (hm : m ≤ n) : Ext m s s' :=
  h.clamp fun _ hj _ => Nat.lt_of_lt_of_le hj hm

theorem Ext.trans {n : Nat} {a b c : State} (h1 : Ext n a b) (h2 : Ext n b c) : Ext n a c :=
  ⟨h2.live.trans h1.live, h2.minAlign.trans h1.minAlign, h2.frames.trans h1.frames, h2.nextId.trans h1.nextId,
   h2.userCps.trans h1.userCps, h2.prepared.trans h1.prepared, h2.dropped.trans h1.dropped, fun j x hx => by
    obtain ⟨y, hy, sp1, p1⟩ := h1.chunk j x hx
    obtain ⟨z, hz, sp2, p2⟩ := h2.chunk j y hy
    exact ⟨z, hz, sp1.trans sp2, fun hj => (p2 hj).trans (p1 hj)⟩⟩

theorem Ext.setPos (s : State) {n i : Nat} (p : Nat) (h : n ≤ i) : Ext n s (setPos s i p) :=
  ⟨rfl, rfl, rfl, rfl, rfl, rfl, rfl, fun j c hc => by
    refine ⟨if i = j then { c with pos := p } else c, by rw [setPos_chunks, List.getElem?_modify, hc]; rfl,
      ?_, fun hj => by rw [if_neg (by omega)]⟩
    split <;> exact SamePlace.refl c⟩

theorem Ext.setCurPos (s : State) {n : Nat} (p : Nat) (h : ∀ i, s.cur = .chunk i → n ≤ i) :
    Ext n s (setCurPos s p) := by
  rcases setCurPos_eq s p with e | ⟨i, hi, e⟩ <;> rw [e]
  · exact Ext.refl n s
  · exact Ext.setPos s p (h i hi)

theorem Ext.append (n : Nat) (s : State) (c : Chunk) (reqs : List BaseReq) (resps : List BaseResp) :
    Ext n s { s with chunks := s.chunks ++ [c], reqs := reqs, resps := resps } :=
  ⟨rfl, rfl, rfl, rfl, rfl, rfl, rfl, fun _ x hx =>
    ⟨x, (List.getElem?_append_left (List.getElem?_eq_some_iff.1 hx).1).trans hx, SamePlace.refl x, fun _ => rfl⟩⟩

theorem tryCur_frame {cfg : Cfg} {k : Kind} {s : State} {L : Layout} {h : Hints} {v : Nat × Nat} {s' : State}
    (e : tryCur cfg k s L h = .ok (some (v, s'))) :
    s'.cur = s.cur ∧ s'.reqs = s.reqs ∧ s'.resps = s.resps ∧ s'.chunks.length = s.chunks.length ∧
    ∀ n, (∀ i, s.cur = .chunk i → n ≤ i) → Ext n s s' := by
  rcases Fn.tryCur_some e with rfl | ⟨_, p, rfl⟩
  · exact ⟨rfl, rfl, rfl, rfl, fun n _ => Ext.refl n _⟩
  · exact ⟨setCurPos_cur _ _, setCurPos_reqs _ _, setCurPos_resps _ _, setCurPos_length _ _,
      fun n hn => Ext.setCurPos s p hn⟩

/-- frame shared by the chunk-creating functions (`newChunk`, `newChunkForCapacity`, `appendFor`),
    for every outcome: at most one request (an `alloc` with the header alignment) and at most one
    response consumed; on an error no chunk is linked; a size overflow does nothing at all -/
def CreateFrame (cfg : Cfg) (s s' : State) (r : Except AErr Nat) : Prop :=
    s'.cur = s.cur ∧ (∀ n, Ext n s s') ∧
    (∀ e, r = .error e → s'.chunks = s.chunks ∧ (e = .alloc ∨ e = .capacityOverflow)) ∧
    (∀ i, r = .ok i → i = s.chunks.length ∧ s'.chunks.length = i + 1) ∧
    (r = .error .capacityOverflow → s' = s) ∧
    (s'.reqs = s.reqs ∨ ∃ size, s'.reqs = s.reqs ++ [BaseReq.alloc size cfg.hdr.align]) ∧
    (s'.resps = s.resps ∨ ∃ x, s.resps = x :: s'.resps)

theorem CreateFrame.overflow (cfg : Cfg) (s : State) : CreateFrame cfg s s (.error .capacityOverflow) :=
  ⟨rfl, fun n => Ext.refl n s, fun e he => ⟨rfl, by cases he; exact Or.inr rfl⟩, fun i hi => (by cases hi),
   fun _ => rfl, Or.inl rfl, Or.inl rfl⟩

theorem Created.frame {cfg : Cfg} {s s' : State} {r : Except AErr Nat} (h : Fn.Created cfg s (s', r)) :
    CreateFrame cfg s s' r := by
  cases h with
  | overflow => exact CreateFrame.overflow cfg _
  | refused hr =>
    exact ⟨rfl, fun n => Ext.same n s _ _ _, fun e he => ⟨rfl, by cases he; exact Or.inl rfl⟩,
      fun i hi => (by cases hi), fun he => (by cases he), Or.inr ⟨_, rfl⟩, Or.inr ⟨_, hr⟩⟩
  | granted hr =>
    exact ⟨rfl, fun n => Ext.append n s _ _ _, fun e he => (by cases he),
      fun i hi => (by cases hi; exact ⟨rfl, List.length_append⟩), fun he => (by cases he),
      Or.inr ⟨_, rfl⟩, Or.inr ⟨_, hr⟩⟩

theorem newChunk_frame {cfg : Cfg} {s s' : State} {size : Nat} {r : Except AErr Nat}
    (h : newChunk cfg s size = .ok (s', r)) : CreateFrame cfg s s' r := Created.frame (Fn.newChunk_created h)

theorem newChunkForCapacity_frame {cfg : Cfg} {s s' : State} {L : Layout} {r : Except AErr Nat}
    (h : newChunkForCapacity cfg s L = .ok (s', r)) : CreateFrame cfg s s' r :=
  Created.frame (Fn.newChunkForCapacity_created h)

theorem appendFor_frame {cfg : Cfg} {s s' : State} {L : Layout} {r : Except AErr Nat}
    (h : appendFor cfg s L = .ok (s', r)) : CreateFrame cfg s s' r := Created.frame (Fn.appendFor_created h)

end Ledger
