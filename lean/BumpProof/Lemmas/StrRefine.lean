/-
  Lemmas/StrRefine.lean — every operation of the byte model refines its `List Char` specification
  (`step_refines`); related outcomes continue from related strings and leave a well-formed string, which is what
  the theorems about histories in Props/C09.lean are built from; the outcome traces of a history.
-/
import BumpProof.Lemmas.StrRun

namespace Str

/-- a growing step refines `specGrow` (`P`: whatever else the operation promises about the new string) -/
theorem specGrow_rel {al : Alloc} {s : State} {need : Nat} {r : Res Unit} {out cs : List Char} {P : State → Prop}
    (h : Holds s cs)
    (hg : if al.isFixed = true ∧ s.cap - s.len < need then r = .err s else ∃ s', r = .ok () s' ∧ Holds s' out ∧ P s') :
    OutRel (specGrow al (s.cap - s.len) need cs out) (ofRes (fun _ => .unit) r) := by
  unfold specGrow
  split
  · rename_i hc; rw [if_pos hc] at hg; rw [hg]; exact h
  · rename_i hc; rw [if_neg hc] at hg
    obtain ⟨s', hr, hh, _⟩ := hg
    rw [hr]; exact ⟨hh, trivial⟩

/-- one operation (any arguments, any allocator kind; the repaired `split_off`): related outcomes -/
theorem step_refines (al : Alloc) (s : State) (cs : List Char) (op : Op) (h : Holds s cs) :
    OutRel (specStep al (s.cap - s.len) cs op) (stepOut al true s op) := by
  cases op with
  | push c => exact specGrow_rel h (push_spec al s c cs h)
  | pushStr t => exact specGrow_rel h (pushStr_spec al s t cs h)
  | insert i c =>
    simp only [specStep, stepOut]
    rcases splitAtByte_cases cs i with ⟨hs, hn⟩ | ⟨a, b, hs, rfl, hl⟩ <;> rw [hs]
    · rw [insert_panic al s i c cs h hn]; exact h
    · exact specGrow_rel h (insert_spec al s i c a b h hl)
  | insertStr i t =>
    simp only [specStep, stepOut]
    rcases splitAtByte_cases cs i with ⟨hs, hn⟩ | ⟨a, b, hs, rfl, hl⟩ <;> rw [hs]
    · rw [insertStr_panic al s i _ cs h hn]; exact h
    · exact specGrow_rel h (insertStr_spec al s i t a b h hl)
  | remove i =>
    simp only [specStep, stepOut]
    rcases splitAtByte_cases cs i with ⟨hs, hn⟩ | ⟨a, b, hs, rfl, hl⟩ <;> rw [hs]
    · rw [remove_panic s i cs h (Or.inl hn)]; exact h
    · cases b with
      | nil =>
        have : s.len ≤ i := by rw [h.len, ← hl]; simp
        rw [remove_panic s i _ h (Or.inr this)]; exact h
      | cons c b =>
        obtain ⟨s', hr, hh⟩ := remove_ok s i c a b h hl
        rw [hr]; exact ⟨hh, rfl⟩
  | pop =>
    simp only [specStep, stepOut]
    rcases eq_nil_or_snoc cs with rfl | ⟨cs', c, rfl⟩
    · rw [pop_nil s h]; exact ⟨h, rfl⟩
    · obtain ⟨s', hp, hh⟩ := pop_snoc s cs' c h
      rw [hp, List.dropLast_concat, List.getLast?_concat]
      exact ⟨hh, rfl⟩
  | truncate n =>
    simp only [specStep, stepOut]
    by_cases hle : n ≤ (encode cs).length
    · rw [if_pos hle]
      rcases splitAtByte_cases cs n with ⟨hs, hn⟩ | ⟨a, b, hs, rfl, hl⟩ <;> rw [hs]
      · rw [truncate_panic s n cs h (by rw [h.len]; exact hle) hn]; exact h
      · obtain ⟨s', ht, hh⟩ := truncate_ok s n a b h hl
        rw [ht]; exact ⟨hh, trivial⟩
    · rw [if_neg hle, truncate_beyond s n (by rw [h.len]; omega)]; exact ⟨h, trivial⟩
  | clear =>
    obtain ⟨s', hc, hh⟩ := clear_spec s
    simp only [specStep, stepOut, hc]
    exact ⟨hh, trivial⟩
  | retain o =>
    simp only [specStep, stepOut]
    obtain ⟨s', hr, hh⟩ := retain_spec s cs o h
    rw [hr]
    split
    · exact hh
    · exact ⟨hh, trivial⟩
  | drain sb eb k =>
    simp only [specStep, stepOut]
    rcases splitRange_cases h sb eb with ⟨hs, hb⟩ | ⟨a, b, c, i, j, hs, hr, rfl, h1, h2⟩ <;> rw [hs]
    · rw [drain_panic s sb eb k cs h hb]; exact h
    · obtain ⟨s', hd, hh⟩ := drain_ok s sb eb k i j a b c h hr h1 h2
      rw [hd]; exact ⟨hh, rfl⟩
  | replaceRange sb eb t =>
    simp only [specStep, stepOut]
    rcases splitRange_cases h sb eb with ⟨hs, hb⟩ | ⟨a, b, c, i, j, hs, hr, rfl, h1, h2⟩ <;> rw [hs]
    · rw [replaceRange_panic al s sb eb _ cs h hb]; exact h
    · exact specGrow_rel h (replaceRange_ok al s sb eb t i j a b c h hr h1 h2)
  | extendFromWithin sb eb =>
    simp only [specStep, stepOut]
    rcases splitRange_cases h sb eb with ⟨hs, hb⟩ | ⟨a, b, c, i, j, hs, hr, rfl, h1, h2⟩ <;> rw [hs]
    · rw [extendFromWithin_panic al s sb eb cs h hb]; exact h
    · exact specGrow_rel h (extendFromWithin_ok al s sb eb i j a b c h hr h1 h2)
  | splitOff sb eb other =>
    simp only [specStep, stepOut]
    rcases splitRange_cases h sb eb with ⟨hs, hb⟩ | ⟨a, b, c, i, j, hs, hr, rfl, h1, h2⟩ <;> rw [hs]
    · rw [splitOff_panic true h hb (fun hf => nomatch hf)]; exact h
    · obtain ⟨o, s', hsp, ho, hs', _⟩ := splitOff_ok true s sb eb i j a b c h hr h1 h2
      rw [hsp]
      cases other with
      | true => exact ⟨ho, hs'⟩
      | false => exact ⟨hs', ho⟩
  | reserve n => exact specGrow_rel h (reserveOp_spec al s n cs h)
  | reserveExact n => exact specGrow_rel h (reserveExactOp_spec al s n cs h)

theorem outRel_next {so : Out (List Char)} {mo : Out State} (h : OutRel so mo) :
    ∃ s' cs', mo.next = some s' ∧ so.next = some cs' ∧ Holds s' cs' := by
  cases so <;> cases mo <;> try exact h.elim
  · exact ⟨_, _, rfl, rfl, h.1⟩
  · exact ⟨_, _, rfl, rfl, h⟩
  · exact ⟨_, _, rfl, rfl, h⟩

theorem OutRel.allWF {α : Type} {g : α → Ret State} {so : Out (List Char)} {r : Res α}
    (h : OutRel so (ofRes g r)) : AllWF r := by
  obtain ⟨s', cs', h1, _, hh⟩ := outRel_next h
  cases r with
  | fault => cases h1
  | _ => cases h1; exact hh.wf

/-- validity from refinement: an operation of the history type leaves a well-formed string whatever its
    outcome, and does not fault.  `he` is `rfl` at every use: the history step of a constructor of `Op` is the
    model function of that operation; where the operation takes no allocator any `al` will do. -/
theorem allWF_of_step {al : Alloc} {s : State} (h : WF s) (op : Op) {α : Type} {g : α → Ret State} {r : Res α}
    (he : stepOut al true s op = ofRes g r) : AllWF r := by
  obtain ⟨cs, hc⟩ := (wf_iff s).1 h
  exact OutRel.allWF (he ▸ step_refines al s cs op hc)

/-- the outcomes of a history on the byte model -/
def modelRun (f : Bool) : State → List (Alloc × Op) → List (Out State)
  | _, [] => []
  | s, (al, op) :: ops =>
    stepOut al f s op ::
      (match (stepOut al f s op).next with
       | some s' => modelRun f s' ops
       | none => [])

/-- the outcomes of a history on the specification of a GROWABLE string (`String` itself) -/
def specRun : List Char → List Op → List (Out (List Char))
  | _, [] => []
  | cs, op :: ops =>
    specStep .exact 0 cs op ::
      (match (specStep .exact 0 cs op).next with
       | some cs' => specRun cs' ops
       | none => [])

/-- the two outcome traces have the same length and are related position by position -/
def TraceRel : List (Out (List Char)) → List (Out State) → Prop
  | [], [] => True
  | a :: as, b :: bs => OutRel a b ∧ TraceRel as bs
  | _, _ => False

theorem specStep_growable (al : Alloc) (spare : Nat) (cs : List Char) (op : Op) (hg : al.isFixed = false) :
    specStep al spare cs op = specStep .exact 0 cs op := by
  have he : Alloc.isFixed .exact = false := rfl
  cases op <;> simp [specStep, specGrow, hg, he]

end Str
