/-
  Lemmas/GeomTry.lean — `bumpProps` of a state that satisfies the invariant is a valid input of
  the bump computations (C11), hence `tryCur` equals its wide-integer specification and preserves
  the invariant.
-/
import BumpProof.Lemmas.FnTry
import BumpProof.Lemmas.GeomBasic

set_option linter.unusedSimpArgs false
set_option linter.unusedVariables false

namespace Arena
open Rs Lemmas

section
variable {cfg : Cfg} {s : State}

theorem freeRange_noChunk (hcur : ∀ i, s.cur ≠ .chunk i) : freeRange cfg s = (dummyAddr + 16, dummyAddr) :=
  freeRange_dummy fun ⟨i, _, h, _⟩ => hcur i h

export Fn (curPos_chunk)

/-- an address in the content range of a well-formed chunk is a non-null `usize` -/
theorem ChunkWF.addr_ok {c : Chunk} (hw : ChunkWF cfg c) {x : Nat} (h1 : c.contentStart cfg ≤ x) (h2 : x ≤ c.contentEnd cfg) :
    x ≠ 0 ∧ x < 2 ^ 64 :=
  ⟨Nat.ne_of_gt (Nat.lt_of_lt_of_le hw.start_pos h1), Nat.lt_of_le_of_lt h2 hw.end_lt64⟩

/-! ## Validity of `bumpProps` (the bridge to C11) -/

theorem bumpProps_regular (hc : CfgOK cfg) (h : GeomInv cfg s) {i : Nat} (hcur : s.cur = .chunk i) (L : Layout) (hints : Hints) :
    C11.Regular cfg.up (bumpProps cfg s L hints) := by
  obtain ⟨c, hi, hw, hd⟩ := h.curChunk hcur
  have hcap : c.contentEnd cfg - c.contentStart cfg ≤ Rs.IMAX := Nat.le_trans hw.cap_le hw.size_le
  unfold C11.Regular bumpProps
  rw [freeRange_chunk hcur hi]
  split
  · exact ⟨hw.pos_le, Nat.le_trans (Nat.sub_le_sub_left hw.pos_ge _) hcap, hd, hw.end16 hc⟩
  · exact ⟨hw.pos_ge, Nat.le_trans (Nat.sub_le_sub_right hw.pos_le _) hcap, hw.start16 hc, hd⟩

theorem bumpProps_dummy (hcur : ∀ i, s.cur ≠ .chunk i) (L : Layout) (hints : Hints) :
    C11.Dummy (bumpProps cfg s L hints) :=
  Fn.dummy_of_freeRange L hints (freeRange_noChunk hcur)

theorem bumpProps_common (h : GeomInv cfg s) {i : Nat} (hcur : s.cur = .chunk i) {L : Layout} {hints : Hints}
    (hL : L.Valid) (hh : hints.sma = true → L.align ∣ L.size) : C11.ValidCommon (bumpProps cfg s L hints) := by
  obtain ⟨c, hi, hw, _⟩ := h.curChunk hcur
  have hne : ((freeRange cfg s).1 ≠ 0 ∧ (freeRange cfg s).1 < 2 ^ 64) ∧ ((freeRange cfg s).2 ≠ 0 ∧ (freeRange cfg s).2 < 2 ^ 64) := by
    rw [freeRange_chunk hcur hi]
    split
    · exact ⟨hw.addr_ok hw.pos_ge hw.pos_le, hw.addr_ok hw.start_le_end (Nat.le_refl _)⟩
    · exact ⟨hw.addr_ok (Nat.le_refl _) hw.start_le_end, hw.addr_ok hw.pos_ge hw.pos_le⟩
  exact ⟨hne.1.1, hne.2.1, hne.1.2, hne.2.2, h.minAlign, hL, hh⟩

theorem bumpProps_valid (hc : CfgOK cfg) (h : GeomInv cfg s) {L : Layout} {hints : Hints} (hL : L.Valid)
    (hh : hints.sma = true → L.align ∣ L.size) : C11.Valid cfg.up (bumpProps cfg s L hints) := by
  by_cases hcur : ∃ i, s.cur = .chunk i
  · obtain ⟨i, hcur⟩ := hcur
    exact ⟨bumpProps_common h hcur hL hh, Or.inl (bumpProps_regular hc h hcur L hints)⟩
  · exact Fn.valid_of_dummy cfg.up (freeRange_noChunk fun i hi => hcur ⟨i, hi⟩) h.minAlign hL hh

/-! ## `tryCur` = its wide-integer specification -/

theorem tryCur_eq (hc : CfgOK cfg) (h : GeomInv cfg s) (k : Kind) {L : Layout} {hints : Hints} (hL : L.Valid)
    (hh : hints.sma = true → L.align ∣ L.size) :
    tryCur cfg k s L hints = .ok (tryCurSpec cfg k s L) :=
  tryCur_eq_of_valid (bumpProps_valid hc h hL hh)

/-! ## Facts about the specification of `tryCur` -/

/-- a claimed / unallocated arena never serves anything from its (dummy) current chunk -/
theorem tryCurSpec_dummy (hcur : ∀ i, s.cur ≠ .chunk i) (k : Kind) {L : Layout} (hL : L.Valid) :
    tryCurSpec cfg k s L = none :=
  Fn.tryCurSpec_dummy (by rw [freeRange_noChunk hcur]) hL.pos k

theorem tryCurSpec_isChunk {k : Kind} {L : Layout} (hL : L.Valid) {r : (Nat × Nat) × State}
    (hs : tryCurSpec cfg k s L = some r) : ∃ i, s.cur = .chunk i := by
  apply Classical.byContradiction
  intro hn
  rw [tryCurSpec_dummy (fun i hi => hn ⟨i, hi⟩) k hL] at hs
  cases hs

/-- `alloc`: the block is aligned and lies on the free side of the old position; the new position is
    aligned for the minimum alignment, inside the content range, just past the block -/
theorem tryCurSpec_alloc_some (hc : CfgOK cfg) (h : GeomInv cfg s) {L : Layout} (hL : L.Valid)
    {v : Nat × Nat} {s' : State} (hs : tryCurSpec cfg .alloc s L = some (v, s')) :
    ∃ i c np, s.cur = .chunk i ∧ s.chunks[i]? = some c ∧ s' = setCurPos s np ∧
      c.contentStart cfg ≤ np ∧ np ≤ c.contentEnd cfg ∧ s.minAlign ∣ np ∧ L.align ∣ v.1 ∧ v.2 = 0 ∧
      (if cfg.up then c.pos ≤ v.1 ∧ v.1 + L.size ≤ np ∧ np < v.1 + L.size + s.minAlign ∧ c.pos ≤ np
       else np = v.1 ∧ v.1 + L.size ≤ c.pos ∧ np ≤ c.pos) := by
  obtain ⟨i, c, np, hcur, hi, rfl, a1, a0, a2, hcv, hlt⟩ :=
    tryCurSpec_alloc (bumpProps_valid hc h hL (custom_sma L)) hs
  have hw := h.chunks i c hi
  refine ⟨i, c, np, hcur, hi, (Fn.setCurPos_chunk hcur np).symm, ?_⟩
  unfold Mem.Carved at hcv
  split at hcv
  · rename_i hup
    have a7 : c.pos ≤ np := Nat.le_trans hcv.1 (Nat.le_trans (Nat.le_add_right _ _) hcv.2.1)
    rw [if_pos hup]
    exact ⟨Nat.le_trans hw.pos_ge a7, hcv.2.2, a2, a1, a0, hcv.1, hcv.2.1, hlt hup, a7⟩
  · rename_i hup
    have a5 : np ≤ c.pos := hcv.2.1 ▸ Nat.le_trans (Nat.le_add_right _ _) hcv.2.2
    rw [if_neg hup]
    exact ⟨hcv.2.1 ▸ hcv.1, Nat.le_trans a5 hw.pos_le, a2, a1, a0, hcv.2.1, hcv.2.2, a5⟩

/-- the block of a successful `alloc` lies in the content range of the current chunk, on the free side of its
    old position -/
theorem tryCurSpec_alloc_block (hc : CfgOK cfg) (h : GeomInv cfg s) {L : Layout} (hL : L.Valid)
    {v : Nat × Nat} {s' : State} (hs : tryCurSpec cfg .alloc s L = some (v, s')) :
    ∃ i c, s.cur = .chunk i ∧ s.chunks[i]? = some c ∧ c.contentStart cfg ≤ v.1 ∧ v.1 + L.size ≤ c.contentEnd cfg ∧
      (if cfg.up then c.pos ≤ v.1 else v.1 + L.size ≤ c.pos) := by
  obtain ⟨i, c, np, hcur, hi, _, b1, b2, _, _, _, b6⟩ := tryCurSpec_alloc_some hc h hL hs
  have hw := h.chunks i c hi
  refine ⟨i, c, hcur, hi, ?_⟩
  split at b6
  · rename_i hup
    rw [if_pos hup]
    exact ⟨Nat.le_trans hw.pos_ge b6.1, Nat.le_trans b6.2.1 b2, b6.1⟩
  · rename_i hup
    rw [if_neg hup]
    exact ⟨b6.1 ▸ b1, Nat.le_trans b6.2.1 hw.pos_le, b6.2.1⟩

/-- `prepare`: the state is untouched; the block is aligned and lies in the free range -/
theorem tryCurSpec_prepare_some (hc : CfgOK cfg) (h : GeomInv cfg s) {L : Layout} (hL : L.Valid)
    {v : Nat × Nat} {s' : State} (hs : tryCurSpec cfg .prepare s L = some (v, s')) :
    s' = s ∧ ∃ i c, s.cur = .chunk i ∧ s.chunks[i]? = some c ∧ L.align ∣ v.1 ∧ v.2 = 0 ∧
      (if cfg.up then c.pos ≤ v.1 ∧ v.1 + L.size ≤ c.contentEnd cfg
       else c.contentStart cfg ≤ v.1 ∧ v.1 + L.size ≤ c.pos) := by
  rw [tryCurSpec_prepare_eq, Option.map_eq_some_iff] at hs
  obtain ⟨⟨v', s1⟩, ha, he⟩ := hs
  cases he
  obtain ⟨i, c, np, hcur, hi, _, b1, b2, _, b4, b5, b6⟩ := tryCurSpec_alloc_some hc h hL ha
  refine ⟨rfl, i, c, hcur, hi, b4, b5, ?_⟩
  split at b6
  · rw [if_pos ‹_›]; exact ⟨b6.1, Nat.le_trans b6.2.1 b2⟩
  · rw [if_neg ‹_›]; exact ⟨b6.1 ▸ b1, b6.2.1⟩

/-- `range` (for `align ∣ size`): both ends aligned, inside the free range, large enough -/
theorem tryCurSpec_range_some (hc : CfgOK cfg) (h : GeomInv cfg s) {L : Layout} (hL : L.Valid) (hsz : L.align ∣ L.size)
    {v : Nat × Nat} {s' : State} (hs : tryCurSpec cfg .range s L = some (v, s')) :
    s' = s ∧ ∃ i c, s.cur = .chunk i ∧ s.chunks[i]? = some c ∧ L.align ∣ v.1 ∧ L.align ∣ v.2 ∧ v.1 + L.size ≤ v.2 ∧
      (if cfg.up then c.pos ≤ v.1 ∧ v.2 ≤ c.contentEnd cfg else c.contentStart cfg ≤ v.1 ∧ v.2 ≤ c.pos) :=
  tryCurSpec_range (bumpProps_valid hc h hL (custom_sma L)) hsz hs

/-- whatever the kind, a successful `tryCur` at most moves the position of the current chunk -/
theorem tryCurSpec_inv (hc : CfgOK cfg) (h : GeomInv cfg s) {k : Kind} {L : Layout} (hL : L.Valid)
    {v : Nat × Nat} {s' : State} (hs : tryCurSpec cfg k s L = some (v, s')) :
    MovePost cfg s s' ∧ s'.cur = s.cur ∧ s'.reqs = s.reqs := by
  cases k
  · obtain ⟨i, c, np, hcur, hi, hs', h1, h2, h3, _⟩ := tryCurSpec_alloc_some hc h hL hs
    subst hs'
    exact ⟨h.moveCur hcur hi h1 h2 h3, setCurPos_cur _ _, setCurPos_reqs _ _⟩
  · obtain ⟨hs', _⟩ := tryCurSpec_prepare_some hc h hL hs
    subst hs'
    exact ⟨.refl h, rfl, rfl⟩
  · have hs' := tryCurSpec_range_state hs
    subst hs'
    exact ⟨.refl h, rfl, rfl⟩

/-- a successful `tryCur` touches only the current chunk -/
theorem tryCurSpec_other (hc : CfgOK cfg) (h : GeomInv cfg s) {k : Kind} {L : Layout} (hL : L.Valid)
    {v : Nat × Nat} {s' : State} (hs : tryCurSpec cfg k s L = some (v, s')) {c : Nat} (hcur : s.cur = .chunk c)
    {j : Nat} (hj : j ≠ c) : s'.chunks[j]? = s.chunks[j]? := by
  cases k
  · obtain ⟨i, ci, np, hcur', hi, hs', _⟩ := tryCurSpec_alloc_some hc h hL hs
    rw [hcur] at hcur'; cases hcur'
    subst hs'
    unfold setCurPos
    rw [hcur, setPos_getElem?, if_neg (fun hx => hj hx.symm)]
  · obtain ⟨hs', _⟩ := tryCurSpec_prepare_some hc h hL hs
    rw [hs']
  · rw [tryCurSpec_range_state hs]

end
end Arena
