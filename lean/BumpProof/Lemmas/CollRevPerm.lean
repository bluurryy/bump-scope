/-
  Lemmas/CollRevPerm.lean — conservation facts of the `MutBumpVecRev` descriptions (`Coll/RevSpec.lean`) and the
  bridge to the C06 / C08 statements (`View.bwd` of `Lemmas/CollView.lean` under the names of the reverse vector).
-/
import BumpProof.Lemmas.CollPerm
import BumpProof.Lemmas.CollRev

namespace Coll

theorem rgrown_grows {env : Env} {v : Vec} {n : Nat} (hv : v.RWF) :
    RGrows v (rgrown env v n) v.rabs ∧ (rroom env v n = true → v.len + n ≤ (rgrown env v n).cap) := by
  unfold rgrown rroom
  cases hr : rreserve env v n with
  | none => exact ⟨⟨hv.shape.1, rfl, rfl, rfl, Nat.le_refl _⟩, by simp⟩
  | some v' => have ⟨g, hc⟩ := rreserve_some hv.shape hr; exact ⟨g, fun _ => hc⟩

theorem rgrown_cap_le {env : Env} {v : Vec} {n m : Nat} (hv : v.RWF) (h : m ≤ v.len + (if rroom env v n then n else 0)) :
    m ≤ (rgrown env v n).cap :=
  View.cap_le (V := .bwd) hv (rgrown_grows hv).1.cap (rgrown_grows hv).2 h

theorem rfinal_le_of_perm {α} {v : Vec} {r : SpecOut α} (hv : v.RWF)
    (hperm : (r.final ++ r.dropped ++ r.escaped).Perm v.rabs) : r.final.length ≤ v.cap :=
  View.final_le (V := .bwd) hv hperm

theorem rwf_of_eq_inplace {α} {res : M (Out α)} {v : Vec} {r : SpecOut α} {rest : List Outcome} (hv : v.RWF)
    (hres : res = .ok ⟨v.rafter r, r.exit, rest⟩) (hperm : (r.final ++ r.dropped ++ r.escaped).Perm v.rabs) :
    ∃ out, res = .ok out ∧ out.vec.RWF ∧ out.vec.total.Perm (v.total ++ []) :=
  View.dropsOnce_inplace (V := .bwd) hv hres hperm

theorem rpushSpec_perm (room : Bool) (xs : List Id) (id : Id) :
    ((rpushSpec room xs id).final ++ (rpushSpec room xs id).dropped ++ (rpushSpec room xs id).escaped).Perm (xs ++ [id]) := by
  unfold rpushSpec; split
  · simpa using (List.perm_append_singleton id xs).symm
  · simp

theorem rpopSpec_perm (xs : List Id) :
    ((rpopSpec xs).final ++ (rpopSpec xs).dropped ++ (rpopSpec xs).escaped).Perm xs := by
  unfold rpopSpec; cases xs with
  | nil => simp
  | cons x rest => simpa using List.perm_append_singleton x rest

theorem rpopIfSpec_perm (xs : List Id) (o : List Outcome) :
    ((rpopIfSpec xs o).final ++ (rpopIfSpec xs o).dropped ++ (rpopIfSpec xs o).escaped).Perm xs := by
  unfold rpopIfSpec
  cases xs with
  | nil => simp
  | cons x rest =>
    match o with
    | [] => simp
    | .panic :: o => simp
    | .ret b :: o =>
      simp only
      split
      · simp
      · simp

theorem rtruncateSpec_final (bombs : List Id) (xs : List Id) (n : Nat) :
    (rtruncateSpec bombs xs n).final = xs.drop (xs.length - n) := by
  unfold rtruncateSpec; split
  · rw [Nat.sub_eq_zero_of_le ‹_›]; rfl
  · rfl

theorem rtruncateSpec_exit_nil (xs : List Id) (n : Nat) : (rtruncateSpec [] xs n).exit = .ret () := by
  unfold rtruncateSpec; split
  · rfl
  · exact dropExit_nil _

theorem rtruncateSpec_perm (bombs : List Id) (xs : List Id) (n : Nat) :
    ((rtruncateSpec bombs xs n).final ++ (rtruncateSpec bombs xs n).dropped ++ (rtruncateSpec bombs xs n).escaped).Perm xs := by
  unfold rtruncateSpec; split
  · simp
  · simp only [List.append_nil]
    have := List.take_append_drop (xs.length - n) xs
    conv => rhs; rw [← this]
    exact List.perm_append_comm

theorem rswapRemoveSpec_perm (xs : List Id) (i : Nat) :
    ((rswapRemoveSpec xs i).final ++ (rswapRemoveSpec xs i).dropped ++ (rswapRemoveSpec xs i).escaped).Perm xs := by
  unfold rswapRemoveSpec
  cases xs with
  | nil => simp
  | cons f rest =>
    by_cases h : i < (f :: rest).length
    · rw [List.getElem?_eq_getElem h]
      simp only [List.head?_cons, List.append_nil]
      cases i with
      | zero => simpa using List.perm_append_singleton f rest
      | succ j =>
        have hj : j < rest.length := by simpa using h
        simp only [List.set_cons_succ, List.tail_cons, List.getElem_cons_succ]
        -- rest.set j f ++ [rest[j]] ~ rest ++ [f] ~ f :: rest
        exact (set_perm rest j f hj).trans (List.perm_append_singleton f rest)
    · have : (f :: rest)[i]? = none := by simp at h ⊢; omega
      rw [this]; simp

theorem rextendCloneSpecR_perm (room : Bool) (xs : List Id) (n : Nat) (o : List Outcome) :
    ((rextendCloneSpecR room xs n o).final ++ (rextendCloneSpecR room xs n o).dropped ++
      (rextendCloneSpecR room xs n o).escaped).Perm (xs ++ (if room then clonedIds n o else [])) := by
  unfold rextendCloneSpecR
  cases room
  · simp
  · rw [if_pos rfl, rextendCloneSpec_closed]
    simpa using List.perm_append_comm.trans (List.Perm.append_left xs (List.reverse_perm _))

theorem rextendCloneSpecR_len (room : Bool) (xs : List Id) (n : Nat) (o : List Outcome) :
    (rextendCloneSpecR room xs n o).final.length ≤ xs.length + (if room then n else 0) := by
  unfold rextendCloneSpecR
  cases room
  · simp
  · have := clonedIds_length_le n o
    rw [if_pos rfl, rextendCloneSpec_closed]; simp; omega

theorem rextendWithSpecR_perm (room : Bool) (bombs : List Id) (xs : List Id) (n : Nat) (value : Id) (o : List Outcome) :
    ((rextendWithSpecR room bombs xs n value o).final ++ (rextendWithSpecR room bombs xs n value o).dropped ++
      (rextendWithSpecR room bombs xs n value o).escaped).Perm (xs ++ extendWithIns room n value o) := by
  unfold rextendWithSpecR extendWithIns
  cases room
  · simp
  · simp only [↓reduceIte]
    unfold rextendWithSpec
    cases n with
    | zero => simp [clonedIds]
    | succ m =>
      simp only [Nat.add_sub_cancel]
      have hf : ((clonedIds m o).reverse ++ xs).Perm (xs ++ clonedIds m o) :=
        List.perm_append_comm.trans (List.Perm.append_left xs (List.reverse_perm _))
      rw [rextendCloneSpec_closed m xs o]
      cases (extendCloneSpec [] m o).exit with
      | ret u =>
        simp only [List.append_nil]
        refine (List.Perm.cons value hf).trans ?_
        simpa [List.append_assoc] using (List.perm_append_singleton value (xs ++ clonedIds m o)).symm
      | panic d =>
        simp only [List.append_nil]
        rw [← List.append_assoc]
        exact List.Perm.append_right _ hf

theorem rextendWithSpecR_len (room : Bool) (bombs : List Id) (xs : List Id) (n : Nat) (value : Id) (o : List Outcome) :
    (rextendWithSpecR room bombs xs n value o).final.length ≤ xs.length + (if room then n else 0) := by
  unfold rextendWithSpecR
  cases room
  · simp
  · simp only [↓reduceIte]
    unfold rextendWithSpec
    cases n with
    | zero => simp
    | succ m =>
      have := clonedIds_length_le m o
      simp only
      rw [rextendCloneSpec_closed m xs o]
      split <;> simp <;> omega

theorem rresizeSpec_perm (room : Bool) (bombs : List Id) (xs : List Id) (newLen : Nat) (value : Id) (o : List Outcome) :
    ((rresizeSpec room bombs xs newLen value o).final ++ (rresizeSpec room bombs xs newLen value o).dropped ++
      (rresizeSpec room bombs xs newLen value o).escaped).Perm (xs ++ resizeIns room xs newLen value o) := by
  unfold rresizeSpec resizeIns
  split
  · exact rextendWithSpecR_perm ..
  · have := rtruncateSpec_perm bombs xs newLen
    rw [rtruncateSpec_escaped] at this
    simp only [List.append_nil] at this ⊢
    rw [← List.append_assoc]
    exact List.Perm.append_right _ this

theorem rresizeSpec_len (room : Bool) (bombs : List Id) (xs : List Id) (newLen : Nat) (value : Id) (o : List Outcome) :
    (rresizeSpec room bombs xs newLen value o).final.length ≤ xs.length + (if room then newLen - xs.length else 0) := by
  unfold rresizeSpec
  split
  · exact rextendWithSpecR_len ..
  · have := (rtruncateSpec_perm bombs xs newLen).length_eq
    simp only [List.length_append] at this ⊢
    omega

theorem rresizeWithSpec_perm (room : Bool) (bombs : List Id) (xs : List Id) (newLen : Nat) (o : List Outcome) :
    ((rresizeWithSpec room bombs xs newLen o).final ++ (rresizeWithSpec room bombs xs newLen o).dropped ++
      (rresizeWithSpec room bombs xs newLen o).escaped).Perm
      (xs ++ (if newLen > xs.length ∧ room then clonedIds (newLen - xs.length) o else [])) := by
  unfold rresizeWithSpec
  by_cases h : newLen > xs.length
  · simp only [if_pos h, h, true_and]
    exact rextendCloneSpecR_perm ..
  · simp only [if_neg h, h, false_and, ↓reduceIte, List.append_nil]
    exact rtruncateSpec_perm bombs xs newLen

theorem rresizeWithSpec_len (room : Bool) (bombs : List Id) (xs : List Id) (newLen : Nat) (o : List Outcome) :
    (rresizeWithSpec room bombs xs newLen o).final.length ≤ xs.length + (if room then newLen - xs.length else 0) := by
  unfold rresizeWithSpec
  split
  · exact rextendCloneSpecR_len ..
  · have := (rtruncateSpec_perm bombs xs newLen).length_eq
    simp only [List.length_append] at this ⊢
    omega

end Coll
