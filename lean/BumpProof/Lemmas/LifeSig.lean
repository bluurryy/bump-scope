/-
  Lemmas/LifeSig.lean — table facts of the region calculus: what `sigOK` (`Life/SigOK.lean`) says, conjunct by conjunct and
  effect class by effect class.  Which receivers a method of an owner applies to (`applicable_kinds`), what the auto-trait
  derivation may allow (`threads_sound`), and for every effect class the entry `mkResult` declares for an adequate
  signature (the `*_shape` lemmas; `DerivedShape` for the handles derived from the receiver).  Nothing here speaks of
  the dynamic state or of the invariant.
-/
import BumpProof.Life.SigOK

namespace Life

def Entry.isHandle (e : Entry) : Bool := e.kind != .val && e.kind != .pool

theorem Entry.isHandle_iff {e : Entry} : e.isHandle = true ↔ e.kind ≠ .val ∧ e.kind ≠ .pool := by
  simp [Entry.isHandle]

theorem sigOK_iff {t : Table} : sigOK t = true ↔
    t.sigs.all sigAdequate = true ∧ t.scopeImpls.all implAdequate = true ∧ derefAdequate t .claim = true ∧
    derefAdequate t .poolGuard = true ∧ settingsOK t = true ∧ threadsAdequate t = true ∧ convsAdequate t = true := by
  simp only [sigOK, Bool.and_eq_true, and_assoc]

theorem sigOK_convs {t : Table} (hok : sigOK t = true) : convsAdequate t = true := (sigOK_iff.1 hok).2.2.2.2.2.2

theorem sigOK_threads {t : Table} (hok : sigOK t = true) : threadsAdequate t = true := (sigOK_iff.1 hok).2.2.2.2.2.1

theorem sigOK_settings {t : Table} (hok : sigOK t = true) : settingsOK t = true := (sigOK_iff.1 hok).2.2.2.2.1

theorem sigOK_sig {t : Table} (hok : sigOK t = true) {s : Sig} (hs : s ∈ t.sigs) : sigAdequate s = true :=
  List.all_eq_true.1 (sigOK_iff.1 hok).1 s hs

theorem sigOK_conv {t : Table} (hok : sigOK t = true) {input name : String} {c : ValueConv}
    (hl : t.lookupConv input name = some c) : c.tied = true :=
  List.all_eq_true.1 (sigOK_convs hok) c (List.mem_of_find?_eq_some hl)

/-- an adequate table has no `&mut Bump` implementor of the scope traits -/
theorem sigOK_impls {t : Table} (hok : sigOK t = true) : t.implLt .refMutBump = none := by
  unfold Table.implLt
  cases hf : t.scopeImpls.find? (fun i => i.ty == ImplTy.refMutBump) with
  | none => rfl
  | some i =>
    have hty : i.ty = .refMutBump := by simpa using List.find?_some hf
    have := List.all_eq_true.1 (sigOK_iff.1 hok).2.1 i (List.mem_of_find?_eq_some hf)
    unfold implAdequate at this
    rw [hty] at this
    cases hlt : i.lt <;> rw [hlt] at this <;> cases this

theorem mem_allFlags (fl : Flags) : fl ∈ allFlags := by
  rcases fl with ⟨a, b⟩
  cases a <;> cases b <;> simp [allFlags]

theorem threads_sound {t : Table} (h : threadsAdequate t = true) (fl : Flags) (e : Entry) (hk : e.kind ≠ .val) :
    (shareOK t fl e = true → e.kind = .pool ∧ fl.allocSend = true ∧ fl.allocSync = true) ∧
    (e.acc = .own → sendOK t fl e = true →
      ((e.kind = .bump ∨ e.kind = .pool) ∧ fl.allocSend = true) ∨
      (e.kind = .poolGuard ∧ fl.allocSend = true ∧ fl.allocSync = true)) := by
  have hkm : e.kind ∈ [Kind.bump, .scope, .guard, .claim, .pool, .poolGuard, .coll] := by
    cases hke : e.kind <;> first | exact absurd hke hk | simp
  have h2 := List.all_eq_true.1 (List.all_eq_true.1 h fl (mem_allFlags fl)) e.kind hkm
  simp only [Bool.and_eq_true, Bool.or_eq_true, Bool.not_eq_true', beq_iff_eq, List.all_eq_true] at h2
  constructor
  · intro hs
    have hs' : shareOK t fl (probe e.kind e.acc) = true := hs
    rcases h2.1 e.acc (by cases e.acc <;> simp) with h3 | h3
    · rw [hs'] at h3; cases h3
    · exact ⟨h3.1.1, h3.1.2, h3.2⟩
  · intro ha hs
    have hs' : sendOK t fl (probe e.kind .own) = true := ha ▸ hs
    rcases h2.2 with (h3 | h3) | h3
    · rw [hs'] at h3; cases h3
    · exact Or.inl h3
    · exact Or.inr ⟨h3.1.1, h3.1.2, h3.2⟩

/-- with `convsAdequate`, the output of a conversion carries the region of its source: it is invalidated together with
    the source, in particular when the epoch of the source's memory ends -/
theorem convRegion_tied {c : ValueConv} (h : c.tied = true) (e : Entry) : convRegion c e = e.self := by
  unfold ValueConv.tied at h
  simp only [Bool.and_eq_true, bne_iff_ne, ne_eq] at h
  unfold convRegion
  rcases hl : c.lts with _ | ⟨l, rest⟩
  · exact absurd hl h.1
  · simp [List.all_eq_true.1 h.2 l (by rw [hl]; exact List.mem_cons_self)]

theorem effRecv_of_not_claim {s : Sig} (h : s.ret ≠ .claimGuard) : effRecv s = s.recv := by
  simp [effRecv, h]

theorem effRecv_refMut {s : Sig} (h : s.recv = .refMut) : effRecv s = .refMut := by
  unfold effRecv; split <;> simp [h]

theorem effRecv_ne_value {s : Sig} (h : s.recv ≠ .value) : effRecv s ≠ .value := by
  unfold effRecv; split <;> simp [h]

theorem mode_of_refMut {s : Sig} (h : s.recv = .refMut) : (effRecv s).mode = .mut := by
  rw [effRecv_refMut h]; rfl

/-- which receivers a method of the given owner applies to (given that no `&mut Bump` scope impl exists) -/
def ownerKinds (o : Owner) (e : Entry) : Prop :=
  match o with
  | .bump => e.kind = .bump
  | .scope => e.kind = .scope ∨ e.kind = .claim ∨ e.kind = .poolGuard
  | .guard => e.kind = .guard
  | .claim => e.kind = .claim
  | .pool => e.kind = .pool
  | .poolGuard => e.kind = .poolGuard
  | .trAllocator => e.kind = .bump ∨ e.kind = .scope
  | .trScope => e.kind = .scope
  | .coll => e.kind = .coll
  | .trTypedScope | .trMutTypedScope =>
      (e.kind = .bump ∧ e.acc = .shrRef) ∨ e.kind = .scope ∨ e.kind = .claim ∨ e.kind = .poolGuard

theorem applicable_kinds {t : Table} (himpl : t.implLt .refMutBump = none) {o : Owner} {e : Entry}
    (h : applicable t o e = true) : ownerKinds o e := by
  unfold applicable at h
  unfold ownerKinds
  cases o <;> cases hk : e.kind <;> rw [hk] at h <;> simp at h ⊢
  all_goals
    unfold scopeTraitOn at h
    rw [hk] at h
    cases ha : e.acc <;> rw [ha] at h <;> simp [himpl] at h ⊢

theorem ownerKinds_scopes {o : Owner} {e : Entry} (h : ownerKinds o e)
    (ho : o ≠ .pool ∧ o ≠ .guard ∧ o ≠ .coll) : e.kind.scopes = true ∧ e.isHandle = true := by
  have key : e.kind = .bump ∨ e.kind = .scope ∨ e.kind = .claim ∨ e.kind = .poolGuard := by
    cases o <;> simp only [ownerKinds] at h <;> simp only [ne_eq, not_true_eq_false, false_and, and_false] at ho
    · exact Or.inl h
    · exact Or.inr h
    · exact Or.inr (Or.inr (Or.inl h))
    · exact Or.inr (Or.inr (Or.inr h))
    · exact h.imp_right Or.inl
    · exact Or.inr (Or.inl h)
    · exact h.imp_left And.left
    · exact h.imp_left And.left
  rcases key with h | h | h | h <;> simp [h, Kind.scopes, Entry.isHandle]

/-- a receiver that can itself end epochs (a guard, an exclusive `Bump`) is only reached through owners without an
    allocation lifetime of their own, so whatever it hands out is tied to the borrow of the receiver -/
theorem ender_owner_noParam {o : Owner} {e : Entry} (h : ownerKinds o e)
    (he : e.kind = .guard ∨ (e.kind = .bump ∧ e.acc ≠ .shrRef)) : o.hasParam = false := by
  unfold ownerKinds at h
  cases o <;> simp only at h <;> simp [Owner.hasParam]
  all_goals (rcases he with he | ⟨he, ha⟩ <;> simp_all)

theorem collParam_cases {t : Table} (himpl : t.implLt .refMutBump = none) {k : Kind} {m : Mode} {b : Bool}
    (h : collParamIsSelf t k m = some b) : (k = .bump ∧ m = .shr ∧ b = true) ∨ (k = .scope ∧ b = false) := by
  unfold collParamIsSelf at h
  cases k <;> cases m <;> simp [himpl] at h
  · exact Or.inl ⟨rfl, rfl, h.2⟩
  · exact Or.inr ⟨rfl, h.2⟩
  · exact Or.inr ⟨rfl, h.2⟩

theorem evalLt_bounded {o : Owner} {l : Lt} (h : ltBounded o l = true) (e : Entry) (m : Mode) :
    ∃ R, evalLt e m l = some R ∧ (R = .borrow e.var m :: e.self ∨ (R = e.param ∧ o.hasParam = true)) := by
  simp only [ltBounded, Bool.or_eq_true, Bool.and_eq_true, beq_iff_eq] at h
  rcases h with rfl | ⟨rfl, hp⟩
  · exact ⟨_, rfl, Or.inl rfl⟩
  · exact ⟨_, rfl, Or.inr ⟨rfl, hp⟩⟩

@[simp] theorem evalLt_recv (e : Entry) (m : Mode) : evalLt e m .recv = some (.borrow e.var m :: e.self) := rfl

theorem alloc_shape {s : Sig} (had : sigAdequate s = true) (hop : s.op = .alloc) {x : Var} {d : Nat} {e : Entry} {m : Mode}
    {res : Option Entry} (h : mkResult x d e m s.ret s.lts = some res) :
    ∃ R, res = some ⟨x, .val, .own, R, R, true, d⟩ ∧
      ((R = .borrow e.var m :: e.self ∧ s.recv ≠ .value) ∨ (R = e.param ∧ s.ownerK.hasParam = true)) ∧
      s.ownerK ≠ .pool ∧ s.ownerK ≠ .guard := by
  unfold sigAdequate at had
  rw [hop] at had
  simp only [Bool.and_eq_true, Bool.or_eq_true, bne_iff_ne, ne_eq, beq_iff_eq] at had
  rcases had with ⟨⟨⟨⟨hval, hlts⟩, hvalue⟩, _⟩, hown⟩
  have ho : s.ownerK ≠ .pool ∧ s.ownerK ≠ .guard := by
    rcases hown with (((((h1 | h1) | h1) | h1) | h1) | h1) | h1 <;> simp [h1]
  split at hlts
  · rename_i l hl
    rw [hl] at h
    have hres : ∀ R, evalLt e m l = some R → res = some ⟨x, .val, .own, R, R, true, d⟩ := by
      intro R hR
      cases hr : s.ret <;> rw [hr] at hval h <;> cases hval <;> simp [mkResult, hR] at h <;> exact h.symm
    simp only [ltBounded, Bool.or_eq_true, Bool.and_eq_true, beq_iff_eq] at hlts
    rcases hlts with rfl | ⟨rfl, hp⟩
    · refine ⟨_, hres _ rfl, Or.inl ⟨rfl, fun hv => ?_⟩, ho⟩
      -- a by-value method returns the receiver's allocation region
      rcases hvalue with hne | ⟨_, hp⟩
      · exact hne hv
      · rw [hl] at hp; cases hp
    · exact ⟨_, hres _ rfl, Or.inr ⟨rfl, hp⟩, ho⟩
  · cases hlts

/-- what `sigOK` guarantees about the entry created by `scope_guard`, `guard.scope()`, the views and `claim`: its
    self region is the borrow of the receiver plus the receiver's loans (`self3` also admits closure tokens `.frame`,
    for the parameter of `scoped`); its allocation region either contains all of that, or is the receiver's own
    allocation region — then the owner has an allocation lifetime to hand out -/
structure DerivedShape (e : Entry) (m : Mode) (x : Var) (o : Owner) (ne : Entry) : Prop where
  var : ne.var = x
  valid : ne.valid = true
  handle : ne.isHandle = true
  self1 : Loan.borrow e.var m ∈ ne.self
  self2 : ∀ l ∈ e.self, l ∈ ne.self
  self3 : ∀ l ∈ ne.self, l = .borrow e.var m ∨ l ∈ e.self ∨ ∃ k, l = .frame k
  param : ((∀ l ∈ ne.param, l ∈ ne.self) ∧ Loan.borrow e.var m ∈ ne.param ∧ ∀ l ∈ e.self, l ∈ ne.param) ∨
          (ne.param = e.param ∧ o.hasParam = true)
  excl : ne.acc ≠ .shrRef → m = .mut
  ownScope : ne.kind = .scope → ne.acc = .own → ∀ l ∈ ne.self, l ∈ ne.param
  bumpRef : ne.kind = .bump → ne.acc ≠ .own
  guardOwn : ne.kind = .guard → ne.acc = .own

/-- the shape of an entry whose self region is exactly `borrow e m :: e.self` and whose allocation region `P` is that
    region or the receiver's (`hW`: an owned scope gets the former) -/
theorem DerivedShape.mk' {e : Entry} {m : Mode} {x : Var} {d : Nat} {o : Owner} (k : Kind) (a : Acc) (P : Region)
    (hk1 : k ≠ .val) (hk2 : k ≠ .pool)
    (hP : P = .borrow e.var m :: e.self ∨ (P = e.param ∧ o.hasParam = true))
    (hex : a ≠ .shrRef → m = .mut) (hW : k = .scope → a = .own → P = .borrow e.var m :: e.self)
    (hb : k = .bump → a ≠ .own) (hg : k = .guard → a = .own) :
    DerivedShape e m x o ⟨x, k, a, .borrow e.var m :: e.self, P, true, d⟩ :=
  ⟨rfl, rfl, by simp [Entry.isHandle, hk1, hk2], List.mem_cons_self, fun l hl => List.mem_cons_of_mem _ hl,
   fun l hl => (List.mem_cons.1 hl).imp_right Or.inl,
   by rcases hP with rfl | hP
      · exact Or.inl ⟨fun l hl => hl, List.mem_cons_self, fun l hl => List.mem_cons_of_mem _ hl⟩
      · exact Or.inr hP,
   hex, fun h1 h2 l hl => by rw [hW h1 h2]; exact hl, hb, hg⟩

theorem DerivedShape.ender_param {e : Entry} {m : Mode} {x : Var} {o : Owner} {ne : Entry} (sh : DerivedShape e m x o ne)
    (hk : ownerKinds o e) (hend : e.kind = .guard ∨ (e.kind = .bump ∧ e.acc ≠ .shrRef)) :
    Loan.borrow e.var m ∈ ne.param := by
  rcases sh.param with ⟨_, hp, _⟩ | ⟨_, hp⟩
  · exact hp
  · rw [ender_owner_noParam hk hend] at hp; cases hp

theorem mkGuard_shape {s : Sig} (had : sigAdequate s = true) (hop : s.op = .mkGuard) {x : Var} {d : Nat} {e : Entry}
    {res : Option Entry} (h : mkResult x d e (effRecv s).mode s.ret s.lts = some res) :
    ∃ ne, res = some ne ∧ DerivedShape e (effRecv s).mode x s.ownerK ne ∧ ne.kind = .guard ∧ effRecv s = .refMut ∧
      s.ownerK ≠ .pool ∧ s.ownerK ≠ .guard ∧ s.ownerK ≠ .coll := by
  unfold sigAdequate at had
  rw [hop] at had
  simp only [Bool.and_eq_true, Bool.or_eq_true, beq_iff_eq] at had
  rcases had with ⟨⟨⟨hrecv, hret⟩, hlts⟩, hown⟩
  rw [hret, hlts] at h
  simp [mkResult] at h
  subst h
  refine ⟨_, rfl, .mk' .guard .own _ (by decide) (by decide) (Or.inl rfl) (fun _ => mode_of_refMut hrecv)
    nofun nofun (fun _ => rfl), rfl, effRecv_refMut hrecv, ?_⟩
  rcases hown with (h1 | h1) | h1 <;> simp [h1]

theorem guardScope_shape {s : Sig} (had : sigAdequate s = true) (hop : s.op = .guardScope) {x : Var} {d : Nat} {e : Entry}
    {res : Option Entry} (h : mkResult x d e (effRecv s).mode s.ret s.lts = some res) :
    ∃ ne, res = some ne ∧ DerivedShape e (effRecv s).mode x s.ownerK ne ∧ ne.kind = .scope ∧ s.ownerK = .guard ∧
      effRecv s = .refMut := by
  unfold sigAdequate at had
  rw [hop] at had
  simp only [Bool.and_eq_true, beq_iff_eq] at had
  rcases had with ⟨⟨⟨hown, hrecv⟩, hret⟩, hlts⟩
  rw [hret, hlts] at h
  simp [mkResult] at h
  subst h
  exact ⟨_, rfl, .mk' .scope .mutRef _ (by decide) (by decide) (Or.inl rfl) (fun _ => mode_of_refMut hrecv)
    (fun _ => nofun) nofun nofun, rfl, hown, effRecv_refMut hrecv⟩

/-- a shared or exclusive reference to a `BumpScope` whose allocation lifetime is bounded: `&'_ (mut) BumpScope<'l1>` -/
theorem scopeRef_shape {o : Owner} {l1 : Lt} (hb : ltBounded o l1 = true) {x : Var} {d : Nat} {e : Entry} {m : Mode}
    {ret : Ret} {a : Acc} (hret : (ret = .scopeRef ∧ a = .shrRef) ∨ (ret = .scopeMut ∧ a = .mutRef ∧ m = .mut))
    {res : Option Entry} (h : mkResult x d e m ret [.recv, l1] = some res) :
    ∃ ne, res = some ne ∧ DerivedShape e m x o ne ∧ ne.kind = .scope := by
  rcases evalLt_bounded hb e m with ⟨P, hP, hPc⟩
  rcases hret with ⟨rfl, rfl⟩ | ⟨rfl, rfl, hm⟩ <;> simp [mkResult, hP] at h <;> subst h
  · exact ⟨_, rfl, .mk' .scope .shrRef P (by decide) (by decide) hPc (fun h => absurd rfl h) (fun _ => nofun) nofun nofun, rfl⟩
  · exact ⟨_, rfl, .mk' .scope .mutRef P (by decide) (by decide) hPc (fun _ => hm) (fun _ => nofun) nofun nofun, rfl⟩

theorem viewScope_shape {s : Sig} (had : sigAdequate s = true) (hop : s.op = .viewScope) {x : Var} {d : Nat} {e : Entry}
    {res : Option Entry} (h : mkResult x d e (effRecv s).mode s.ret s.lts = some res) :
    ∃ ne, res = some ne ∧ DerivedShape e (effRecv s).mode x s.ownerK ne ∧ ne.kind = .scope ∧ effRecv s ≠ .value ∧
      s.ownerK ≠ .pool ∧ s.ownerK ≠ .guard ∧ s.ownerK ≠ .coll := by
  unfold sigAdequate at had
  rw [hop] at had
  simp only [Bool.and_eq_true, bne_iff_ne, ne_eq] at had
  rcases had with ⟨⟨⟨⟨ho1, ho2⟩, ho3⟩, hnv⟩, hshape⟩
  split at hshape
  · rename_i l1 hr hl
    rw [hr, hl] at h
    rcases scopeRef_shape hshape (Or.inl ⟨rfl, rfl⟩) h with ⟨ne, h1, h2, h3⟩
    exact ⟨ne, h1, h2, h3, effRecv_ne_value hnv, ho1, ho2, ho3⟩
  · rename_i l1 hr hl
    rw [hr, hl] at h
    simp only [Bool.and_eq_true, beq_iff_eq] at hshape
    rcases scopeRef_shape hshape.2 (Or.inr ⟨rfl, rfl, mode_of_refMut hshape.1⟩) h with ⟨ne, h1, h2, h3⟩
    exact ⟨ne, h1, h2, h3, effRecv_ne_value hnv, ho1, ho2, ho3⟩
  · rename_i hr hl
    rw [hr, hl] at h
    simp [mkResult] at h
    subst h
    exact ⟨_, rfl, .mk' .scope .own _ (by decide) (by decide) (Or.inl rfl) (fun _ => mode_of_refMut (by simpa using hshape))
      (fun _ _ => rfl) nofun nofun, rfl, effRecv_ne_value hnv, ho1, ho2, ho3⟩
  · cases hshape

theorem viewSame_shape {s : Sig} (had : sigAdequate s = true) (hop : s.op = .viewSame) {x : Var} {d : Nat} {e : Entry}
    {res : Option Entry} (h : mkResult x d e (effRecv s).mode s.ret s.lts = some res) :
    ∃ ne, res = some ne ∧ DerivedShape e (effRecv s).mode x s.ownerK ne ∧ effRecv s ≠ .value ∧
      ((s.ownerK = .bump ∧ ne.kind = .bump) ∨ (s.ownerK = .scope ∧ ne.kind = .scope)) := by
  unfold sigAdequate at had
  rw [hop] at had
  simp only [Bool.and_eq_true, bne_iff_ne, ne_eq] at had
  rcases had with ⟨hnv, hshape⟩
  split at hshape
  · rename_i ho hr hl
    rw [hr, hl] at h
    simp [mkResult] at h
    subst h
    exact ⟨_, rfl, .mk' .bump .shrRef _ (by decide) (by decide) (Or.inl rfl) (fun h => absurd rfl h)
      nofun (fun _ => by decide) nofun, effRecv_ne_value hnv, Or.inl ⟨ho, rfl⟩⟩
  · rename_i ho hr hl
    rw [hr, hl] at h
    simp [mkResult] at h
    subst h
    exact ⟨_, rfl, .mk' .bump .mutRef _ (by decide) (by decide) (Or.inl rfl) (fun _ => mode_of_refMut (by simpa using hshape))
      nofun (fun _ => by decide) nofun, effRecv_ne_value hnv, Or.inl ⟨ho, rfl⟩⟩
  · rename_i l1 ho hr hl
    rw [hr, hl] at h
    rcases scopeRef_shape hshape (Or.inl ⟨rfl, rfl⟩) h with ⟨ne, h1, h2, h3⟩
    exact ⟨ne, h1, ho ▸ h2, effRecv_ne_value hnv, Or.inr ⟨ho, h3⟩⟩
  · rename_i l1 ho hr hl
    rw [hr, hl] at h
    simp only [Bool.and_eq_true, beq_iff_eq] at hshape
    rcases scopeRef_shape hshape.2 (Or.inr ⟨rfl, rfl, mode_of_refMut hshape.1⟩) h with ⟨ne, h1, h2, h3⟩
    exact ⟨ne, h1, ho ▸ h2, effRecv_ne_value hnv, Or.inr ⟨ho, h3⟩⟩
  · cases hshape

theorem claim_shape {s : Sig} (had : sigAdequate s = true) (hop : s.op = .claim) {x : Var} {d : Nat} {e : Entry}
    (hwf : ∀ l ∈ e.param, l ∈ e.self)
    {res : Option Entry} (h : mkResult x d e (effRecv s).mode s.ret s.lts = some res) :
    ∃ ne, res = some ne ∧ DerivedShape e (effRecv s).mode x s.ownerK ne ∧ ne.kind = .claim ∧ effRecv s ≠ .value ∧
      s.ownerK ≠ .pool ∧ s.ownerK ≠ .guard ∧ s.ownerK ≠ .coll := by
  unfold sigAdequate at had
  rw [hop] at had
  simp only [Bool.and_eq_true, Bool.or_eq_true, bne_iff_ne, ne_eq, beq_iff_eq] at had
  rcases had with ⟨⟨⟨hnv, hret⟩, hown⟩, hshape⟩
  have hmode : (effRecv s).mode = .mut := by simp [effRecv, hret, Recv.mode]
  split at hshape
  · rename_i l1 hl
    rcases evalLt_bounded hshape e (effRecv s).mode with ⟨P, hP, hPc⟩
    rw [hret, hl] at h
    simp [mkResult, hP] at h
    subst h
    -- the allocation region of the claim guard consists of loans of the receiver
    have hPsub : ∀ l ∈ P, l = .borrow e.var (effRecv s).mode ∨ l ∈ e.self := by
      rcases hPc with rfl | ⟨rfl, _⟩
      · exact fun l hl' => List.mem_cons.1 hl'
      · exact fun l hl' => Or.inr (hwf l hl')
    refine ⟨_, rfl, ?_, rfl, effRecv_ne_value hnv, by rcases hown with (h1 | h1) | h1 <;> simp [h1]⟩
    exact
      { var := rfl
        valid := rfl
        handle := rfl
        self1 := List.mem_cons_self
        self2 := fun l hl => List.mem_cons_of_mem _ (List.mem_append_left _ hl)
        self3 := fun l hl' => by
          rcases List.mem_cons.1 hl' with h1 | h1
          · exact Or.inl h1
          · exact (List.mem_append.1 h1).elim (fun h2 => Or.inr (Or.inl h2)) fun h2 => (hPsub l h2).imp_right Or.inl
        param := by
          rcases hPc with rfl | hP
          · refine Or.inl ⟨fun l hl => ?_, List.mem_cons_self, fun l hl => List.mem_cons_of_mem _ hl⟩
            exact (List.mem_cons.1 hl).elim (fun h => h ▸ List.mem_cons_self)
              fun h => List.mem_cons_of_mem _ (List.mem_append_left _ h)
          · exact Or.inr hP
        excl := fun _ => hmode
        ownScope := nofun
        bumpRef := nofun
        guardOwn := nofun }
  · cases hshape

theorem unit_shape {s : Sig} (had : sigAdequate s = true) (hop : s.op = .guardReset ∨ s.op = .resetAll) {x : Var} {d : Nat}
    {e : Entry} {m : Mode} {res : Option Entry} (h : mkResult x d e m s.ret s.lts = some res) :
    res = none ∧ effRecv s = .refMut ∧
    (s.op = .guardReset → s.ownerK = .guard) ∧ (s.op = .resetAll → s.ownerK = .bump ∨ s.ownerK = .pool) := by
  unfold sigAdequate at had
  rcases hop with hop | hop <;> rw [hop] at had <;>
    simp only [Bool.and_eq_true, Bool.or_eq_true, beq_iff_eq] at had <;>
    rcases had with ⟨⟨⟨ho, hrecv⟩, hret⟩, hlts⟩ <;> rw [hret, hlts] at h <;> simp [mkResult] at h
  · exact ⟨h.symm, effRecv_refMut hrecv, fun _ => ho, by simp [hop]⟩
  · exact ⟨h.symm, effRecv_refMut hrecv, by simp [hop], fun _ => ho⟩

theorem poolGet_shape {s : Sig} (had : sigAdequate s = true) (hop : s.op = .poolGet) {x : Var} {d : Nat} {e : Entry}
    {m : Mode} {res : Option Entry} (h : mkResult x d e m s.ret s.lts = some res) :
    res = some ⟨x, .poolGuard, .own, .borrow e.var m :: e.self, .borrow e.var m :: e.self, true, d⟩ ∧
    s.ownerK = .pool ∧ effRecv s ≠ .value := by
  unfold sigAdequate at had
  rw [hop] at had
  simp only [Bool.and_eq_true, bne_iff_ne, ne_eq, beq_iff_eq] at had
  rcases had with ⟨⟨⟨ho, hnv⟩, hret⟩, hlts⟩
  rw [hret, hlts] at h
  simp [mkResult] at h
  exact ⟨h.symm, ho, effRecv_ne_value hnv⟩

theorem convert_shape {s : Sig} (had : sigAdequate s = true) (hop : s.op = .convert) {x : Var} {d : Nat} {e : Entry}
    {m : Mode} {res : Option Entry} (h : mkResult x d e m s.ret s.lts = some res) :
    effRecv s = .value ∧
    ((s.ownerK = .bump ∧ res = some ⟨x, .bump, .own, [], [], true, d⟩) ∨
     (s.ownerK = .scope ∧ res = some ⟨x, .scope, .own, e.param, e.param, true, d⟩)) := by
  unfold sigAdequate at had
  rw [hop] at had
  simp only [Bool.and_eq_true, beq_iff_eq] at had
  rcases had with ⟨hrecv, hshape⟩
  split at hshape
  · rename_i ho hr hl
    rw [hr, hl] at h
    simp [mkResult] at h
    exact ⟨by rw [effRecv_of_not_claim (by simp [hr]), hrecv], Or.inl ⟨ho, h.symm⟩⟩
  · rename_i ho hr hl
    rw [hr, hl] at h
    simp [mkResult, evalLt] at h
    exact ⟨by rw [effRecv_of_not_claim (by simp [hr]), hrecv], Or.inr ⟨ho, h.symm⟩⟩
  · cases hshape

theorem enter_shape {s : Sig} (had : sigAdequate s = true) {op : Op} (hop : s.op = op) {opens realParam : Bool}
    (hcs : closureShape op s.cl = some (opens, realParam)) :
    s.recv = .refMut ∧ (s.ownerK ≠ .pool ∧ s.ownerK ≠ .guard ∧ s.ownerK ≠ .coll) ∧
    ((op = .enterScoped ∧ opens = true ∧ realParam = false) ∨
     (op = .enterAligned ∧ opens = false ∧ (realParam = true → s.ownerK.hasParam = true))) := by
  unfold sigAdequate at had
  rw [hop] at had
  cases op <;> try (simp [closureShape] at hcs)
  all_goals
    simp only [Bool.and_eq_true, Bool.or_eq_true, beq_iff_eq] at had
    rcases had with ⟨⟨⟨hrecv, _⟩, hcl⟩, hown⟩
    refine ⟨hrecv, by rcases hown with (h | h) | h <;> simp [h], ?_⟩
  · rw [hcl] at hcs
    simp at hcs
    exact Or.inl ⟨rfl, hcs.1, hcs.2⟩
  · rcases hcl with hcl | ⟨hcl, hp⟩ <;> rw [hcl] at hcs <;> simp at hcs
    · exact Or.inr ⟨rfl, hcs.1, fun h => by rw [hcs.2] at h; cases h⟩
    · exact Or.inr ⟨rfl, hcs.1, fun _ => hp⟩

end Life
