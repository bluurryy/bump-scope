/-
  Lemmas/HistBytes.lean — property C02 at the step level, for the invariant `Arena.Hist.Inv`:
  a step of the arena model leaves every byte of every block that stays live (same ghost block) and
  is not the target of a `.write` unchanged (`BytesKept`).

  An operation that never writes keeps every chunk with its bytes (`memExt_stepCore`).  One that writes does so inside
  a range in which no surviving block has a byte (`BytesKept.of_wroteIn`): the block it registers under a fresh id
  (`BytesKept.of_registered`), the target of a `.write`, or the prepared range, which is free memory.
  The step theorem is `bytes_stepCore_any` (`bytes_step` for `step`).
-/
import BumpProof.Lemmas.InvGrow
import BumpProof.Lemmas.InvPreparedOps
import BumpProof.Lemmas.InvShrink
import BumpProof.Lemmas.MemOps
import BumpProof.Lemmas.StepActs

section
set_option linter.unusedSimpArgs false
set_option linter.unusedVariables false
namespace Arena.Hist
open Rs
variable {cfg : Cfg}

/-- the bytes of every block that is live before AND after the step, as the same `Block` value, and is not the target
    of a `.write` are unchanged.  (Only `.write` changes a field of a block that stays, `init` of its target, which the
    third hypothesis excludes anyway; a reallocated block gets a new id.) -/
def BytesKept (g g' : GState) (op : Op) : Prop :=
  ∀ b ∈ g.s.live, b ∈ g'.s.live → (∀ seed, op ≠ .write b.id seed) →
    ∀ k, k < b.size → readByte g'.s (b.addr + k) = readByte g.s (b.addr + k)

theorem live_inChunks {g : GState} (h : Inv cfg g) {b : Block} (hb : b ∈ g.s.live) {k : Nat} (hk : k < b.size) :
    Mem.InChunks g.s (b.addr + k) :=
  (C01.liveOK_block_in_chunk h.live hb (by omega)).inChunks (by omega) (by omega)

theorem bytesKept_of_memExt {g g' : GState} {op : Op} (h : Inv cfg g) (hm : Mem.MemExt g.s g'.s) :
    BytesKept g g' op :=
  fun b hb _ _ k hk => hm.readByte (live_inChunks h hb hk)

theorem bytesKept_of_nil {g g' : GState} {op : Op} (hl : g'.s.live = []) : BytesKept g g' op := by
  intro b _ hb'
  rw [hl] at hb'
  cases hb'

theorem BytesKept.of_wroteIn {g g' : GState} {op : Op} (h : Inv cfg g) {lo hi : Nat} (hw : Mem.WroteIn g.s g'.s lo hi)
    (hout : ∀ b ∈ g.s.live, b ∈ g'.s.live → (∀ seed, op ≠ .write b.id seed) → ∀ k, k < b.size →
      b.addr + k < lo ∨ hi ≤ b.addr + k) :
    BytesKept g g' op := fun b hb hb' hne k hk => hw _ (hout b hb hb' hne k hk) (live_inChunks h hb hk)

theorem addBlock_new (s : State) (a sz al init : Nat) :
    ∃ nb ∈ (Arena.addBlock s a sz al init).1.live, nb.id = s.nextId ∧ nb.addr = a ∧ nb.size = sz :=
  ⟨_, List.mem_append_right _ (List.mem_singleton.mpr rfl), rfl, rfl, rfl⟩

/-- the step wrote only inside `[np, np+total)` and registers exactly this range under the id that was next when it
    began: the live blocks of the final state are pairwise disjoint, so no surviving block was touched -/
theorem BytesKept.of_registered {g : GState} {op : Op} (h : Inv cfg g) {s2 : State} {np total al init : Nat}
    (hl' : Mem.LiveOK cfg (addBlock s2 np total al init).1) (hn : s2.nextId = g.s.nextId)
    (hw : Mem.WroteIn g.s s2 np (np + total)) : BytesKept g ⟨(addBlock s2 np total al init).1, g.marks⟩ op := by
  refine .of_wroteIn h (lo := np) (hi := np + total) hw fun b hb hb' _ k hk => ?_
  obtain ⟨nb, hnb, e1, e2, e3⟩ := addBlock_new s2 np total al init
  have hne : b ≠ nb := fun e => Nat.lt_irrefl _ (by have := h.ids b hb; rwa [e, e1, hn] at this)
  have hd := Mem.pairwise_of_mem_ne (fun _ _ => Mem.BlocksDisjoint.symm) hl'.disjoint hb' hnb hne
  unfold Mem.BlocksDisjoint at hd
  rw [e2, e3] at hd
  omega

/-- a step of an operation that never writes (`Op.writes`, Lemmas/StepActs.lean) keeps every chunk with its bytes
    (new chunks may be appended): each path of a model function does, and bookkeeping does not touch the chunks -/
theorem memExt_stepCore {g g' : GState} {op : Op} {out : Out} (hw : op.writes = false) (hd : op ≠ .drop)
    (hr : op ≠ .reset) (hs : stepCore cfg g op = .ok (g', out)) : Mem.MemExt g.s g'.s := by
  have := stepCore_acts hd hr hs
  rw [hw] at this
  exact this.rel (R := Mem.MemExt) (fun b => .of_chunks_eq b.chunks) Mem.MemExt.trans
    (fun p => .of_path (p.mono (fun _ => rfl) id))

end Arena.Hist
end

section
set_option linter.unusedSimpArgs false
set_option linter.unusedVariables false
namespace Arena.Hist
open Rs
variable {cfg : Cfg}

theorem bytes_write {g g' : GState} {out : Out} {bid seed : Nat} (h : Inv cfg g)
    (hs : stepCore cfg g (.write bid seed) = .ok (g', out)) : BytesKept g g' (.write bid seed) := by
  obtain ⟨blk, hblk, s1, hw, rfl, _⟩ := ok_write hs
  obtain ⟨hmem, hid⟩ := Mem.findBlock_ok hblk
  intro b hb _ hne k hk
  have hbne : b ≠ blk := fun e => hne seed (by rw [e, hid])
  have hd := Mem.pairwise_of_mem_ne (fun _ _ => Mem.BlocksDisjoint.symm) h.live.disjoint hb hmem hbne
  unfold Mem.BlocksDisjoint at hd
  exact Mem.writeRange_read_out hw (by omega)

theorem prepared_apart {g : GState} (h : Inv cfg g) {p : Prepared} (hp : PrepOK cfg g.s p) {b : Block}
    (hb : b ∈ g.s.live) {a : Nat} (h1 : p.rstart ≤ a) (h2 : a < p.rend) : a < b.addr ∨ b.addr + b.size ≤ a := by
  by_cases hs : 0 < b.size
  · obtain ⟨i, c, hcur, hc, hlh, hfree⟩ := hp.range
    have hw := h.geom.chunks i c hc
    have hge := hw.pos_ge
    have hle := hw.pos_le
    -- the range is content of the current chunk on the free side of its position; the live blocks lie behind it
    have := (h.live.behind hcur hc (fun _ => true) b hb rfl hs).apart (p := p.rstart) (size := p.rend - p.rstart) rfl hc
      h.disj
      (by unfold Mem.InContent; cases hup : cfg.up <;> simp only [hup, Bool.false_eq_true, ↓reduceIte] at hfree <;> omega)
      (by cases hup : cfg.up <;> simp only [hup, Bool.false_eq_true, ↓reduceIte] at hfree ⊢ <;> omega)
    unfold Mem.RangesDisjoint at this
    omega
  · omega
theorem bytes_fillPrepared {g g' : GState} {out : Out} {len seed : Nat} (h : Inv cfg g)
    (hs : stepCore cfg g (.fillPrepared len seed) = .ok (g', out)) : BytesKept g g' (.fillPrepared len seed) := by
  obtain ⟨p, hp, hfit, s1, hw, rfl, _⟩ := ok_fillPrepared hs
  have hpo := h.prep p hp
  obtain ⟨_, _, _, _, hlh, _⟩ := hpo.range
  intro b hb _ _ k hk
  refine Mem.writeRange_read_out hw ?_
  apply Classical.byContradiction
  intro hcon
  have hin : p.rstart ≤ b.addr + k ∧ b.addr + k < p.rend := by
    split at hcon <;> omega
  have := prepared_apart h hpo hb hin.1 hin.2
  omega

/-! A reallocating operation writes only inside the block it registers: where the write goes is read off the graph of
the model function (`Mem.Relocated`, `Mem.Slid`); that no field but the chunks changed, off its path (`Fn.Path.kept`). -/

theorem zeroIf_wroteIn {s s1 s2 : State} {z : Bool} {p n lo hi : Nat} (h : Mem.WroteIn s s1 lo hi)
    (hz : (if z then zeroRange cfg s1 p n else pure s1) = .ok s2) (h1 : lo ≤ p) (h2 : p + n ≤ hi) :
    Mem.WroteIn s s2 lo hi := by
  cases z
  · cases hz; exact h
  · exact h.write (show zeroRange cfg s1 p n = .ok s2 from hz) h1 h2

theorem bytes_allocate {g g' : GState} {out : Out} {L : Layout} {z : Bool} {via : Via} (h : Inv cfg g)
    (hr : RespsOK cfg g.s) (hf : RespsFresh g.s)
    (hs : stepCore cfg g (.allocate L z via) = .ok (g', out)) : BytesKept g g' (.allocate L z via) := by
  have h' := inv_allocate h hr hf hs
  obtain ⟨_, _, s1, r, ha, hcase⟩ := ok_allocate hs
  cases r with
  | error e => rw [hcase.1]; exact bytesKept_of_memExt h (Mem.alloc_memExt ha)
  | ok p =>
    obtain ⟨s2, hz, rfl, _⟩ := hcase
    exact .of_registered h h'.live ((zeroIf_wrote hz).kept.nextId.trans (Fn.alloc_path (w := false) ha).kept.nextId)
      (zeroIf_wroteIn ((Mem.alloc_memExt ha).wroteIn _ _) hz (Nat.le_refl _) (Nat.le_refl _))

theorem bytes_grow {g g' : GState} {out : Out} {b : Nat} {L : Layout} {z : Bool} {via : Via} (h : Inv cfg g)
    (hr : RespsOK cfg g.s) (hf : RespsFresh g.s)
    (hs : stepCore cfg g (.grow b L z via) = .ok (g', out)) : BytesKept g g' (.grow b L z via) := by
  have h' := inv_grow h hr hf hs
  obtain ⟨_, _, blk, _, _, s1, r1, hx, hcase⟩ := ok_grow hs
  have hrel := Mem.grow_cases hx
  cases r1 with
  | error e => rw [hcase.1]; exact bytesKept_of_memExt h hrel.err_memExt
  | ok np =>
    obtain ⟨s2, hz, rfl, _⟩ := hcase
    obtain ⟨hw, hle⟩ := hrel.wroteIn
    -- the block is registered in `removeBlock s2 b`, which has the bytes of `s2`
    have hw2 : Mem.WroteIn g.s s2 np (np + L.size) := zeroIf_wroteIn hw hz (Nat.le_add_right _ _) (by omega)
    exact .of_registered h h'.live ((zeroIf_wrote hz).kept.nextId.trans (grow_path hx).kept.nextId) hw2

theorem bytes_shrink {g g' : GState} {out : Out} {b : Nat} {L : Layout} {via : Via} (h : Inv cfg g)
    (hr : RespsOK cfg g.s) (hf : RespsFresh g.s)
    (hs : stepCore cfg g (.shrink b L via) = .ok (g', out)) : BytesKept g g' (.shrink b L via) := by
  have h' := inv_shrink h hr hf hs
  obtain ⟨_, _, blk, _, _, s1, r1, hx, hcase⟩ := ok_shrink hs
  have hrel : Mem.Relocated cfg g.s s1 blk.addr L.size r1 ∧ Fn.Kept g.s s1 := by
    split at hx
    · exact ⟨(Mem.shrinkWithoutShrink_cases hx).1, (shrinkWithoutShrink_path hx).kept⟩
    · exact ⟨Mem.shrink_cases hx, (shrink_path hx).kept⟩
  cases r1 with
  | error e => rw [hcase.1]; exact bytesKept_of_memExt h hrel.1.err_memExt
  | ok v =>
    obtain ⟨rfl, _⟩ := hcase
    exact .of_registered h h'.live hrel.2.nextId hrel.1.wroteIn.1

theorem bytes_shrinkSlice {g g' : GState} {out : Out} {b newSize : Nat} (h : Inv cfg g)
    (hr : RespsOK cfg g.s) (hf : RespsFresh g.s)
    (hs : stepCore cfg g (.shrinkSlice b newSize) = .ok (g', out)) : BytesKept g g' (.shrinkSlice b newSize) := by
  have h' := inv_shrinkSlice h hr hf hs
  obtain ⟨_, blk, _, _, s1, r1, hx, hcase⟩ := ok_shrinkSlice hs
  cases r1 with
  | none => rw [hcase.1, (Mem.shrinkSlice_cases hx : s1 = _)]; exact bytesKept_of_memExt h (.refl _)
  | some np =>
    have hsl : Mem.Slid cfg g.s s1 blk.addr newSize np := Mem.shrinkSlice_cases hx
    obtain ⟨rfl, _⟩ := hcase
    exact .of_registered h h'.live (shrinkSlice_path (c := false) hx).kept.nextId
      (hsl.wroteIn (.refl _) (Nat.le_refl _))

theorem bytes_commits {g g' : GState} {out : Out} {op : Op} {p : Prepared} {size : Nat} {rev : Bool} (h : Inv cfg g)
    (hc : Commits cfg g g' out p size rev) : BytesKept g g' op := by
  have h' := inv_commits h hc
  obtain ⟨s1, addr, hcm, -, rfl, -⟩ := hc.run
  exact .of_registered h h'.live (hcm.copyThenPos.path (c := false)).kept.nextId hcm.wroteIn

/-- C02 at the step level, every constructor of `Op` (no coverage side condition is needed): `drop`, `reset`
    and `reset_to_start` leave nothing live, the writing operations write only into the block they register
    (or into free memory), every other operation never writes -/
theorem bytes_stepCore_any {g g' : GState} {op : Op} {out : Out} (h : Inv cfg g)
    (hr : RespsOK cfg g.s) (hf : RespsFresh g.s) (hs : stepCore cfg g op = .ok (g', out)) : BytesKept g g' op := by
  cases op with
  | drop => rw [(ok_drop hs).2.2.1]; exact bytesKept_of_nil rfl
  | reset => rw [(ok_reset hs).2.2.1]; exact bytesKept_of_nil rfl
  | resetToStart => rw [(ok_resetToStart hs).2.2.1]; exact bytesKept_of_nil rfl
  | allocate L z via => exact bytes_allocate h hr hf hs
  | grow b L z via => exact bytes_grow h hr hf hs
  | shrink b L via => exact bytes_shrink h hr hf hs
  | shrinkSlice b n => exact bytes_shrinkSlice h hr hf hs
  | commit size rev => obtain ⟨_, hc⟩ := h.commits_commit hs; exact bytes_commits h hc
  | fillPrepared len seed => exact bytes_fillPrepared h hs
  | commitSlice len => obtain ⟨_, hc⟩ := h.commits_commitSlice hs; exact bytes_commits h hc
  | write b seed => exact bytes_write h hs
  | _ => exact bytesKept_of_memExt h (memExt_stepCore rfl Op.noConfusion Op.noConfusion hs)

/-- the same with the signature of `inv_stepCore` (the coverage hypothesis is not used) -/
theorem bytes_stepCore {g g' : GState} {op : Op} {out : Out} (hcov : op.Covered) (h : Inv cfg g)
    (hr : RespsOK cfg g.s) (hf : RespsFresh g.s) (hs : stepCore cfg g op = .ok (g', out)) : BytesKept g g' op :=
  bytes_stepCore_any h hr hf hs

/-- C02 for `step` (third clause of `C02.live_bytes_preserved_target`): under a correct base allocator, a step
    that does not fault leaves every byte of every block that stays live, and is not the target of a `.write`,
    unchanged -/
theorem bytes_step {g g' : GState} {op : Op} {resps : List BaseResp} {out : Out} {reqs : List BaseReq}
    (h : Inv cfg g) (henv : EnvOK cfg g resps) (hs : step cfg g op resps = .ok (g', out, reqs)) :
    ∀ b ∈ g.s.live, b ∈ g'.s.live → (∀ seed, op ≠ .write b.id seed) →
      ∀ k, k < b.size → readByte g'.s (b.addr + k) = readByte g.s (b.addr + k) :=
  bytes_stepCore_any (g := install g resps) (h.install resps) henv.1 henv.2 (step_ok hs).1

end Arena.Hist
end
