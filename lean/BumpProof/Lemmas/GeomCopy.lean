/-
  Lemmas/GeomCopy.lean — memory writes and copies change bytes only: the geometry of every chunk
  (base, size, position, ghost sizes, number of bytes) stays the same; they do not fault when the
  chunks do not overlap (`ChunksDisjoint`) and the ranges lie inside chunks.
-/
import BumpProof.Lemmas.GeomBasic

set_option linter.unusedSimpArgs false
set_option linter.unusedVariables false

namespace Arena
open Rs Lemmas

/-- `s'` differs from `s` at most in the contents of chunk bytes (and ghost / trace fields) -/
structure SameGeom (s s' : State) : Prop where
  chunks : s'.chunks.map Chunk.geom = s.chunks.map Chunk.geom
  cur : s'.cur = s.cur
  minAlign : s'.minAlign = s.minAlign
  resps : s'.resps = s.resps

section
variable {cfg : Cfg}

theorem SameGeom.refl (s : State) : SameGeom s s := ⟨rfl, rfl, rfl, rfl⟩

theorem SameGeom.trans {a b c : State} (h1 : SameGeom a b) (h2 : SameGeom b c) : SameGeom a c :=
  ⟨h2.chunks.trans h1.chunks, h2.cur.trans h1.cur, h2.minAlign.trans h1.minAlign, h2.resps.trans h1.resps⟩

theorem SameGeom.symm {s s' : State} (h : SameGeom s s') : SameGeom s' s :=
  ⟨h.chunks.symm, h.cur.symm, h.minAlign.symm, h.resps.symm⟩

theorem SameGeom.getElem?' {s s' : State} (h : SameGeom s s') {j : Nat} {c : Chunk} (hj : s.chunks[j]? = some c) :
    ∃ c', s'.chunks[j]? = some c' ∧ c'.geom = c.geom :=
  getElem?_of_map_eq h.chunks hj

theorem geom_contentStart {c c' : Chunk} (h : c'.geom = c.geom) : c'.contentStart cfg = c.contentStart cfg :=
  Chunk.contentStart_congr cfg (congrArg (·.1) h)

theorem geom_contentEnd {c c' : Chunk} (h : c'.geom = c.geom) : c'.contentEnd cfg = c.contentEnd cfg :=
  Chunk.contentEnd_congr cfg (congrArg (·.1) h) (congrArg (·.2.1) h)

theorem geom_pos {c c' : Chunk} (h : c'.geom = c.geom) : c'.pos = c.pos := by
  simp only [Chunk.geom, Prod.mk.injEq] at h
  exact h.2.2.1

theorem ChunkWF.of_geom {c c' : Chunk} (h : c'.geom = c.geom) (hw : ChunkWF cfg c) : ChunkWF cfg c' := by
  have hs := geom_contentStart (cfg := cfg) h
  have he := geom_contentEnd (cfg := cfg) h
  simp only [Chunk.geom, Prod.mk.injEq] at h
  obtain ⟨h1, h2, h3, h4, h5, h6⟩ := h
  exact ⟨h2 ▸ hw.size16, h2 ▸ hw.hdr_le, h1 ▸ hw.base_al, h1 ▸ hw.base_ne, by rw [h1, h2]; exact hw.end_lt,
    h2 ▸ hw.size_le, by rw [hs, h3]; exact hw.pos_ge, by rw [he, h3]; exact hw.pos_le, by rw [h6, h2]; exact hw.data,
    fun hu => h2 ▸ hw.size_al hu, by rw [h5, h2]; exact hw.req_le, by rw [h2, h4]; exact hw.le_granted⟩

theorem SameGeom.inv {s s' : State} (hg : SameGeom s s') (h : GeomInv cfg s) : GeomInv cfg s' := by
  refine ⟨?_, hg.minAlign ▸ h.minAlign, ?_⟩
  · intro j c' hj
    obtain ⟨c, hc, hcc⟩ := hg.symm.getElem?' hj
    exact (h.chunks j c hc).of_geom hcc.symm
  · intro j hj
    rw [hg.cur] at hj
    obtain ⟨c, hc, hd⟩ := h.cur j hj
    obtain ⟨c', hc', hcc⟩ := hg.getElem?' hc
    exact ⟨c', hc', by rw [hg.minAlign, geom_pos hcc]; exact hd⟩

theorem SameGeom.shape {s s' : State} (hg : SameGeom s s') : SameShape s s' := by
  have := congrArg (List.map (fun x : Nat × Nat × Nat × Nat × Nat × Nat => (x.1, x.2.1, x.2.2.2.1, x.2.2.2.2.1, x.2.2.2.2.2))) hg.chunks
  simp only [List.map_map] at this
  exact this

theorem SameGeom.respsOK {s s' : State} (hg : SameGeom s s') (hr : RespsOK cfg s) : RespsOK cfg s' := by
  intro x hx; rw [hg.resps] at hx; exact hr x hx

theorem SameGeom.curPos {s s' : State} (hg : SameGeom s s') : curPos cfg s' = curPos cfg s :=
  Fn.curPos_congr cfg hg.cur fun i _ => by
    have := congrArg (fun l => (l[i]?).map fun x : Nat × Nat × Nat × Nat × Nat × Nat => x.2.2.1) hg.chunks
    simp only [List.getElem?_map, Option.map_map] at this
    exact this

theorem SameGeom.isLast {s s' : State} (hg : SameGeom s s') (ptr size : Nat) :
    isLast cfg s' ptr size = isLast cfg s ptr size := by
  unfold Arena.isLast
  rw [hg.curPos]

theorem _root_.Arena.Fn.Wrote.sameGeom {s s' : State} (h : Fn.Wrote s s') : SameGeom s s' :=
  ⟨h.geom, by rw [h.rest], by rw [h.rest], by rw [h.rest]⟩

theorem writeRange_geom {s s' : State} {lo hi : Nat} {f : Nat → UInt8} (he : writeRange cfg s lo hi f = .ok s') :
    SameGeom s s' := (Fn.writeRange_wrote he).sameGeom

theorem copyBytes_geom {s s' : State} {src dst len : Nat} {no : Bool} (he : copyBytes cfg s src dst len no = .ok s') :
    SameGeom s s' := (Fn.copyBytes_wrote he).sameGeom

/-! ## no fault: the model finds the chunk of a range by address, so the chunks must not overlap -/

theorem findChunk_eq_some {s : State} (hd : ChunksDisjoint s) {i : Nat} {c : Chunk} {lo hi : Nat}
    (hi' : s.chunks[i]? = some c) (hlt : lo < hi) (h1 : c.base ≤ lo) (h2 : hi ≤ c.base + c.size) :
    findChunk s.chunks lo hi = some i := by
  unfold findChunk
  cases hf : List.findIdx? (fun c => decide (c.base ≤ lo ∧ hi ≤ c.base + c.size)) s.chunks with
  | none =>
    rw [List.findIdx?_eq_none_iff] at hf
    have := hf c (List.mem_of_getElem? hi')
    simp only [decide_eq_false_iff_not] at this
    exact absurd ⟨h1, h2⟩ this
  | some j =>
    rw [List.findIdx?_eq_some_iff_getElem] at hf
    obtain ⟨hj, hp, _⟩ := hf
    simp only [decide_eq_true_eq] at hp
    by_cases hij : j = i
    · rw [hij]
    · exfalso
      have hcj : s.chunks[j]? = some s.chunks[j] := List.getElem?_eq_getElem hj
      rcases hd j i _ _ hij hcj hi' with h | h <;> omega

theorem writeRange_noFault {s : State} (hd : ChunksDisjoint s) {lo hi : Nat} (f : Nat → UInt8)
    (hb : hi ≤ lo ∨ ∃ (i : Nat) (c : Chunk), s.chunks[i]? = some c ∧ ChunkWF cfg c ∧ c.contentStart cfg ≤ lo ∧ hi ≤ c.contentEnd cfg) :
    ∃ s', writeRange cfg s lo hi f = .ok s' := by
  unfold writeRange
  by_cases hle : hi ≤ lo
  · rw [if_pos hle]; exact ⟨_, rfl⟩
  · rw [if_neg hle]
    rcases hb with hb | ⟨i, c, hi', hw, h1, h2⟩
    · exact absurd hb hle
    · have hf := findChunk_eq_some hd hi' (by omega) (Nat.le_trans hw.base_le_start h1) (Nat.le_trans h2 hw.end_le)
      simp only [hf, hi', h1, h2, and_self, ↓reduceIte]
      exact ⟨_, rfl⟩

/-- What a copy needs: the chunks do not overlap (the model finds the chunk of a range by address), the source lies
    in a chunk, the destination in the content range of a chunk, and the ranges are apart if that is claimed.
    (`CopyReady` of `GeomNoFault`, for the block an allocation returns, implies it: `CopyReady.copyOK`.) -/
structure CopyOK (cfg : Cfg) (s : State) (src dst len : Nat) (no : Bool) : Prop where
  disjoint : ChunksDisjoint s
  source : ∃ (i : Nat) (c : Chunk), s.chunks[i]? = some c ∧ c.base ≤ src ∧ src + len ≤ c.base + c.size
  dest : ∃ (i : Nat) (c : Chunk), s.chunks[i]? = some c ∧ ChunkWF cfg c ∧ c.contentStart cfg ≤ dst ∧ dst + len ≤ c.contentEnd cfg
  apart : no = true → src + len ≤ dst ∨ dst + len ≤ src

theorem copyBytes_noFault {s : State} {src dst len : Nat} {no : Bool} (h : CopyOK cfg s src dst len no) :
    ∃ s', copyBytes cfg s src dst len no = .ok s' := by
  unfold copyBytes
  by_cases h0 : len = 0
  · rw [if_pos h0]; exact ⟨_, rfl⟩
  · rw [if_neg h0]
    have hcond : ¬ (no = true ∧ src < dst + len ∧ dst < src + len) := by
      rintro ⟨hn, h1, h2⟩
      rcases h.apart hn with h | h <;> omega
    rw [if_neg hcond]
    obtain ⟨i, c, hi, h1, h2⟩ := h.source
    rw [findChunk_eq_some h.disjoint hi (by omega) h1 h2]
    exact writeRange_noFault h.disjoint _ (Or.inr h.dest)

/-- disjointness depends on the shapes only -/
theorem SameShape.disjoint {s s' : State} (h : SameShape s s') (hd : ChunksDisjoint s) : ChunksDisjoint s' := by
  intro i j a b hij ha hb
  obtain ⟨a', ha', ea⟩ := h.symm.getElem?' ha
  obtain ⟨b', hb', eb⟩ := h.symm.getElem?' hb
  rw [← (shape_base ea).1, ← (shape_base ea).2, ← (shape_base eb).1, ← (shape_base eb).2]
  exact hd i j a' b' hij ha' hb'

/-- both halves for `copyBytes`; nothing is asked of a copy of no bytes -/
theorem copyBytes_ok {s : State} {Q : Prop} (src dst len : Nat) (no : Bool) (hq : Q → len = 0 ∨ CopyOK cfg s src dst len no) :
    Ensures (copyBytes cfg s src dst len no) Q fun s' => SameGeom s s' :=
  ⟨fun _ he => copyBytes_geom he, fun q => (hq q).elim
    (fun h0 => ⟨s, by unfold copyBytes; rw [if_pos h0]; rfl⟩) copyBytes_noFault⟩

theorem copyBytes_within {s : State} {Q : Prop} {i : Nat} {c : Chunk} (hi : s.chunks[i]? = some c) (hw : ChunkWF cfg c)
    (src dst len : Nat) (no : Bool)
    (hq : Q → ChunksDisjoint s ∧ c.contentStart cfg ≤ src ∧ src + len ≤ c.contentEnd cfg ∧
      c.contentStart cfg ≤ dst ∧ dst + len ≤ c.contentEnd cfg ∧ (no = true → src + len ≤ dst ∨ dst + len ≤ src)) :
    Ensures (copyBytes cfg s src dst len no) Q fun s' => SameGeom s s' := by
  refine copyBytes_ok _ _ _ _ fun q => ?_
  obtain ⟨h0, h1, h2, h3, h4, h5⟩ := hq q
  exact .inr ⟨h0, ⟨i, c, hi, Nat.le_trans hw.base_le_start h1, Nat.le_trans h2 hw.end_le⟩, ⟨i, c, hi, hw, h3, h4⟩, h5⟩

/-- a position update of the current chunk, possibly after a copy -/
theorem SameGeom.setCurPos_post {s s' : State} (hg : SameGeom s s') (h : GeomInv cfg s) {i p : Nat} {c : Chunk}
    (hcur : s.cur = .chunk i) (hi : s.chunks[i]? = some c)
    (h1 : c.contentStart cfg ≤ p) (h2 : p ≤ c.contentEnd cfg) (h3 : s.minAlign ∣ p) :
    MovePost cfg s (setCurPos s' p) := by
  obtain ⟨c', hi', hcc⟩ := hg.getElem?' hi
  exact ⟨((hg.inv h).moveCur (hg.cur.trans hcur) hi' (by rw [geom_contentStart hcc]; exact h1)
    (by rw [geom_contentEnd hcc]; exact h2) (by rw [hg.minAlign]; exact h3)).inv,
    hg.shape.trans (setCurPos_shape _ _), (setCurPos_minAlign _ _).trans hg.minAlign,
    (setCurPos_resps _ _).trans hg.resps⟩

end
end Arena
