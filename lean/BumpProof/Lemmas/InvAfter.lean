/-
  Lemmas/InvAfter.lean — the successor states of `Arena.Hist.Inv` (`Inv.step_to`: the general assembly; `Inv.after`:
  model functions ran that leave the ghost state alone (`GhostPost`), then the step dropped live blocks and replaced
  frames, marks, user checkpoints and the prepared range; `Inv.ghost`, `Inv.of_stable` are its special cases), and
  preservation of `Inv` by the operations that do not allocate: scopes, checkpoints, `reset_to`, claims,
  `abandonPrepared`.
-/
import BumpProof.Lemmas.InvStable


namespace Arena.Hist
open Rs

variable {cfg : Cfg}

theorem Inv.step_to {g : GState} (h : Inv cfg g) {s' : State} {ms : List Nat}
    (hgeom : GeomInv cfg s') (hdisj : ChunksDisjoint s') (hlive : Mem.LiveOK cfg s')
    (hun : UnallocEmpty s') (hnc : s'.cur ≠ .claimed) (hlc : s'.cur = .unallocated → s'.live = [])
    (hcov : ChunksCov g.s s') (hsub : LiveSub g.s s') (hn : g.s.nextId ≤ s'.nextId)
    (hids : ∀ b ∈ s'.live, b.id < s'.nextId)
    (hfr : FramesOK cfg s' s'.minAlign s'.frames ms) (hms : ∀ m ∈ ms, m ≤ s'.nextId)
    (hcps : ∀ x ∈ s'.userCps, x ∈ g.s.userCps ∨ CpOK cfg s' x.2.1 x.2.2)
    (hprep : ∀ p, s'.prepared = some p → PrepOK cfg s' p) : Inv cfg ⟨s', ms⟩ :=
  ⟨h.cfgOK, hgeom, hdisj, hlive, hun, hnc, hlc, hids,
   fun b hb => (hsub b hb).elim (fun ⟨b0, hb0, _, _, _, e⟩ => e ▸ h.aligns b0 hb0) (fun hb' => hb'.2), hfr, hms,
   fun x hx => (hcps x hx).elim (fun hx' => (h.cps x hx').mono hcov hsub hn) id, hprep⟩

theorem mem_filter_sub {α} {p : α → Bool} {l : List α} {x : α} (h : x ∈ l.filter p) : x ∈ l :=
  (List.mem_filter.mp h).1

/-- Model functions ran that leave the ghost state alone and keep every chunk (`GhostPost`); then the step kept the
    live blocks `l` and installed frames `fs` with marks `ms`, user checkpoints `cps` and the prepared range `q'`.
    Frames, marks and checkpoints are judged in the OLD state (`FramesOK.mono'`, `CpOK.mono` carry them over); of `s'`
    itself the geometry, `LiveOK` of the survivors and `PrepOK` are asked: one hypothesis per tower. -/
theorem Inv.after {g : GState} (h : Inv cfg g) {s' : State}
    (hg : GeomInv cfg s') (hd : ChunksDisjoint s') (gp : GhostPost g.s s')
    {l : List Block} (hsub : ∀ b ∈ l, b ∈ s'.live) (hl : Mem.LiveOK cfg { s' with live := l })
    {fs : List Frame} {ms : List Nat} (hfr : FramesOK cfg g.s s'.minAlign fs ms) (hms : ∀ m ∈ ms, m ≤ g.s.nextId)
    {cps : List (Nat × Checkpoint × Nat)} (hcps : ∀ x ∈ cps, x ∈ g.s.userCps ∨ CpOK cfg g.s x.2.1 x.2.2)
    {q' : Option Prepared} (hq : ∀ q, q' = some q → PrepOK cfg s' q) :
    Inv cfg ⟨{ s' with live := l, frames := fs, userCps := cps, prepared := q' }, ms⟩ := by
  have hst := gp.stable
  have hls : LiveSub g.s { s' with live := l, frames := fs, userCps := cps, prepared := q' } :=
    LiveSub.of_mem fun b hb => hst.live ▸ hsub b hb
  have hn : g.s.nextId ≤ s'.nextId := Nat.le_of_eq hst.nextId.symm
  refine h.step_to (geom_congr (s := s') rfl rfl rfl hg) (disj_congr (s := s') rfl hd)
    (liveOK_congr (s := { s' with live := l }) rfl rfl rfl hl) ?_ ?_ ?_ hst.cov hls hn
    (fun b hb => Nat.lt_of_lt_of_le (h.ids b (hst.live ▸ hsub b hb)) hn) (hfr.mono' hst.cov hls hn)
    (fun x hx => Nat.le_trans (hms x hx) hn) (fun x hx => (hcps x hx).imp id (·.mono hst.cov hls hn))
    (fun q hq' => (hq q hq').congr rfl (fun i c _ hc => ⟨c, hc, rfl, rfl, rfl⟩))
  · intro hu
    obtain ⟨h1, h2⟩ := gp.unalloc hu
    have h3 := h2.length
    rw [h.unalloc h1] at h3
    exact List.eq_nil_of_length_eq_zero h3
  · rcases gp.curKind with hc | ⟨j, hj⟩
    · exact fun hx => h.notClaimed (hc ▸ hx)
    · intro hx; rw [show s'.cur = _ from hj] at hx; cases hx
  · intro hu
    refine List.eq_nil_iff_forall_not_mem.mpr fun b hb => ?_
    have := hst.live ▸ hsub b hb
    rw [h.liveCur (gp.unalloc hu).1] at this
    cases this

theorem Inv.ghost {g : GState} (h : Inv cfg g) {fs : List Frame} {ms : List Nat} {cps : List (Nat × Checkpoint × Nat)}
    {q' : Option Prepared} (hfr : FramesOK cfg g.s g.s.minAlign fs ms) (hms : ∀ m ∈ ms, m ≤ g.s.nextId)
    (hcps : ∀ x ∈ cps, x ∈ g.s.userCps ∨ CpOK cfg g.s x.2.1 x.2.2)
    (hprep : ∀ p, q' = some p → PrepOK cfg g.s p) :
    Inv cfg ⟨{ g.s with frames := fs, userCps := cps, prepared := q' }, ms⟩ :=
  h.after h.geom h.disj (GhostPost.refl _) (fun _ hb => hb) h.live hfr hms hcps hprep

/-- `Inv.after` with frames, marks and user checkpoints as they were.  Everything about `s'` that is not ghost is a
    hypothesis; the function-level theorems of C10 (`…_inv`, `…_trace` + `C10.trace_disjoint`) supply them. -/
theorem Inv.of_stable {g : GState} (h : Inv cfg g) {s' : State}
    (hg : GeomInv cfg s') (hd : ChunksDisjoint s') (hma : s'.minAlign = g.s.minAlign) (hst : Stable g.s s')
    (hun : s'.cur = .unallocated → g.s.cur = .unallocated ∧ SameShape g.s s')
    (hck : s'.cur = g.s.cur ∨ ∃ j, s'.cur = .chunk j)
    {l : List Block} (hsub : ∀ b ∈ l, b ∈ s'.live) (hl : Mem.LiveOK cfg { s' with live := l })
    {q' : Option Prepared} (hq : ∀ q, q' = some q → PrepOK cfg s' q) :
    Inv cfg ⟨{ s' with live := l, prepared := q' }, g.marks⟩ := by
  have := h.after hg hd ⟨hst, hun, hck⟩ hsub hl (hma ▸ h.frames) h.marks (fun x hx => Or.inl hx) hq
  rwa [← hst.frames, ← hst.userCps] at this

theorem inv_of_stable {g : GState} (h : Inv cfg g) {s' : State}
    (hprep : g.s.prepared = none)
    (hg : GeomInv cfg s') (hd : ChunksDisjoint s') (hma : s'.minAlign = g.s.minAlign) (hst : Stable g.s s')
    (hun : s'.cur = .unallocated → g.s.cur = .unallocated ∧ SameShape g.s s')
    (hck : s'.cur = g.s.cur ∨ ∃ j, s'.cur = .chunk j)
    (hl : Mem.LiveOK cfg s') : Inv cfg ⟨s', g.marks⟩ :=
  h.of_stable hg hd hma hst hun hck (l := s'.live) (fun _ hb => hb) hl (q' := s'.prepared)
    (fun q hq => by rw [hst.prepared, hprep] at hq; cases hq)

theorem inv_of_stable_drop {g : GState} (h : Inv cfg g) {s' : State} (id : Nat)
    (hprep : g.s.prepared = none)
    (hg : GeomInv cfg s') (hd : ChunksDisjoint s') (hma : s'.minAlign = g.s.minAlign) (hst : Stable g.s s')
    (hun : s'.cur = .unallocated → g.s.cur = .unallocated ∧ SameShape g.s s')
    (hck : s'.cur = g.s.cur ∨ ∃ j, s'.cur = .chunk j)
    (hl : Mem.LiveOK cfg (removeBlock s' id)) : Inv cfg ⟨removeBlock s' id, g.marks⟩ :=
  h.of_stable hg hd hma hst hun hck (fun _ => mem_filter_sub) hl (q' := s'.prepared)
    (fun q hq => by rw [hst.prepared, hprep] at hq; cases hq)

theorem Inv.dropBlock {g : GState} (h : Inv cfg g) (id : Nat) : Inv cfg ⟨removeBlock g.s id, g.marks⟩ :=
  h.of_stable h.geom h.disj rfl (Stable.refl _) (fun hu => ⟨hu, SameShape.refl _⟩) (Or.inl rfl)
    (fun _ => mem_filter_sub) (h.live.removeBlock id) h.prep

/-! ## operations that only touch the ghost state -/

theorem inv_newUnallocated {g g' : GState} {out : Out} (h : Inv cfg g)
    (hs : stepCore cfg g .newUnallocated = .ok (g', out)) : Inv cfg g' := by
  obtain ⟨rfl, _⟩ := ok_newUnallocated hs
  exact h

theorem inv_scopeEnter {g g' : GState} {out : Out} (h : Inv cfg g)
    (hs : stepCore cfg g .scopeEnter = .ok (g', out)) : Inv cfg g' := by
  obtain ⟨_, rfl, _⟩ := ok_scopeEnter hs
  refine h.ghost ?_ ?_ (fun x hx => Or.inl hx) h.prep
  · simp only [FramesOK]
    exact ⟨cpOK_checkpoint h, h.frames⟩
  · intro m hm
    rcases List.mem_cons.mp hm with rfl | hm
    · exact Nat.le_refl _
    · exact h.marks m hm

theorem inv_checkpoint {g g' : GState} {out : Out} {k : Nat} (h : Inv cfg g)
    (hs : stepCore cfg g (.checkpoint k) = .ok (g', out)) : Inv cfg g' := by
  obtain ⟨_, _, rfl, _⟩ := ok_checkpoint hs
  refine h.ghost h.frames h.marks ?_ h.prep
  intro x hx
  rcases List.mem_cons.mp hx with rfl | hx
  · exact Or.inr (cpOK_checkpoint h)
  · exact Or.inl (mem_filter_sub hx)

theorem inv_claim {g g' : GState} {out : Out} (h : Inv cfg g)
    (hs : stepCore cfg g .claim = .ok (g', out)) : Inv cfg g' := by
  obtain ⟨_, _, rfl, _⟩ := ok_claim hs
  exact h.ghost (by simp only [FramesOK]; exact h.frames) h.marks (fun x hx => Or.inl hx) h.prep

theorem inv_claimEnd {g g' : GState} {out : Out} (h : Inv cfg g)
    (hs : stepCore cfg g .claimEnd = .ok (g', out)) : Inv cfg g' := by
  obtain ⟨_, rest, hfr, rfl, _⟩ := ok_claimEnd hs
  have hf := h.frames
  rw [hfr] at hf
  exact h.ghost hf h.marks (fun x hx => Or.inl hx) h.prep

theorem Inv.clearPrepared {g : GState} (h : Inv cfg g) : Inv cfg ⟨{ g.s with prepared := none }, g.marks⟩ :=
  h.ghost h.frames h.marks (fun x hx => Or.inl hx) (fun p hp => by cases hp)

theorem inv_abandonPrepared {g g' : GState} {out : Out} (h : Inv cfg g)
    (hs : stepCore cfg g .abandonPrepared = .ok (g', out)) : Inv cfg g' := by
  obtain ⟨rfl, _⟩ := ok_abandonPrepared hs
  exact h.clearPrepared

/-! ## leaving a scope, `reset_to` -/

/-- the common core of scope exit / `reset_to` / `scoped_aligned` exit: the state after `resetTo` (run with
    minimum alignment `ma`) followed by `killFrom m`, with new frames `fs` / marks `ms` -/
theorem inv_after_resetTo {g : GState} (h : Inv cfg g) {ma : Nat} (hma : MinAlignOK ma) {cp : Checkpoint} {m : Nat}
    (hcp : CpOK cfg g.s cp m) (hprep : g.s.prepared = none) {s' : State}
    (hr : resetTo cfg { g.s with minAlign := ma } cp = .ok s') {fs : List Frame} {ms : List Nat}
    (hfr : FramesOK cfg g.s ma fs ms) (hms : ∀ x ∈ ms, x ≤ g.s.nextId) :
    Inv cfg ⟨killFrom { s' with frames := fs } m, ms⟩ := by
  have hck : CheckpointOK cfg g.s cp := checkpointOK_of (s := { g.s with minAlign := ma }) hcp.geom hr
  obtain ⟨⟨e2, e3, e4, _⟩, _⟩ := (resetTo_ok_min h.cfgOK h.geom hma hck).1 _ hr
  have gp0 := GhostPost.resetTo hr
  have gp : GhostPost g.s s' := ⟨⟨gp0.stable.live, gp0.stable.frames, gp0.stable.nextId, gp0.stable.userCps,
    gp0.stable.prepared, gp0.stable.cov⟩, gp0.unalloc, gp0.curKind⟩
  have hlive := Mem.liveOK_resetTo_killFrom (s := { g.s with minAlign := ma }) (liveOK_congr (s := g.s) rfl rfl rfl h.live) hma
    (fun b hb hid hs => placedAt_mono (ChunksCov.of_eq rfl) (hcp.older b hb hid hs)) hr
  exact h.after e2 (e3.disjoint h.disj) gp (l := s'.live.filter (·.id < m)) (fun _ => mem_filter_sub)
    (liveOK_congr (s := killFrom s' m) rfl rfl rfl hlive) (e4 ▸ hfr) hms
    (cps := s'.userCps.filter (·.2.2 < m)) (fun x hx => Or.inl (gp.stable.userCps ▸ mem_filter_sub hx))
    (q' := s'.prepared) (fun q hq => by rw [gp.stable.prepared, hprep] at hq; cases hq)

/-- … under the minimum alignment, frames and marks `g` has -/
theorem inv_after_resetTo_same {g : GState} (h : Inv cfg g) {cp : Checkpoint} {m : Nat} (hcp : CpOK cfg g.s cp m)
    (hprep : g.s.prepared = none) {s' : State} (hr : resetTo cfg g.s cp = .ok s') : Inv cfg ⟨killFrom s' m, g.marks⟩ := by
  have := inv_after_resetTo h h.geom.minAlign hcp hprep hr h.frames h.marks
  rwa [show ({ s' with frames := g.s.frames } : State) = s' by rw [← (Stable.of_path (Fn.resetTo_path hr)).frames]] at this

theorem minAlign_self (s : State) : ({ s with minAlign := s.minAlign } : State) = s := rfl

theorem inv_scopeExit {g g' : GState} {out : Out} (h : Inv cfg g)
    (hs : stepCore cfg g .scopeExit = .ok (g', out)) : Inv cfg g' := by
  obtain ⟨hp, cp, rest, m, ms, s1, hfr, hmk, hr, rfl, _⟩ := ok_scopeExit hs
  have hf := h.frames
  rw [hfr, hmk] at hf
  exact inv_after_resetTo h h.geom.minAlign hf.1 hp hr hf.2 (fun x hx => h.marks x (hmk ▸ List.mem_cons_of_mem _ hx))

theorem inv_scopedAlignedExit {g g' : GState} {out : Out} (h : Inv cfg g)
    (hs : stepCore cfg g .scopedAlignedExit = .ok (g', out)) : Inv cfg g' := by
  obtain ⟨hp, cp, outer, rest, m, ms, s1, hfr, hmk, hr, rfl, _⟩ := ok_scopedAlignedExit hs
  have hf := h.frames
  rw [hfr, hmk] at hf
  exact inv_after_resetTo h hf.1 hf.2.1 hp hr hf.2.2 (fun x hx => h.marks x (hmk ▸ List.mem_cons_of_mem _ hx))

theorem inv_resetTo {g g' : GState} {out : Out} {k : Nat} (h : Inv cfg g)
    (hs : stepCore cfg g (.resetTo k) = .ok (g', out)) : Inv cfg g' := by
  obtain ⟨hp, x, cp, mark, s1, hfind, _, _, hr, rfl, _⟩ := ok_resetTo hs
  exact inv_after_resetTo_same h (h.cps _ (List.mem_of_find?_eq_some hfind)) hp hr

end Arena.Hist
