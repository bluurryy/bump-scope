/-
  Lemmas/LedgerEx.lean — concrete configurations and states used by the non-vacuity `example`s of
  Props/C05, C07, C03 (all facts about them are checked by evaluation).
-/
import BumpProof.Arena.Step
import BumpProof.Spec.Size

namespace Ledger.Ex
open Arena Rs

/-- header of `Bump<Global>` -/
def H0 : Layout := { size := 32, align := 16 }
/-- upwards bumping, `MIN_ALIGN = 8`, not guaranteed allocated -/
def cfg0 : Cfg := { up := true, minAlign0 := 8, ga := false, claimable := true, deallocates := true,
                    shrinks := true, minChunk := 512, hdr := H0 }
def cfgDown : Cfg := { cfg0 with up := false }
/-- example chunks carry no bytes (`data := #[]`): enough for ledger and position facts; they are not
    `ChunkWF` (the well-formed example chunks are `Arena.exChunk…` in Arena/Inv.lean) -/
def ch (b sz pos : Nat) : Chunk := { base := b, size := sz, pos := pos, granted := sz, reqSize := sz, data := #[] }
/-- two chunks (content ranges `[4128,4592)` and `[8224,9200)`), the first one current with 72 bytes allocated -/
def s2 : State := { chunks := [ch 4096 496 4200, ch 8192 1008 8224], cur := .chunk 0, minAlign := 8, frames := [],
                    live := [], nextId := 0, userCps := [], prepared := none, resps := [], reqs := [], dropped := false }
/-- `s2` after more allocations: the second chunk is current -/
def s2later : State := { s2 with chunks := [ch 4096 496 4592, ch 8192 1008 8400], cur := .chunk 1 }
/-- one full chunk; the base allocator refuses the next request -/
def sFull : State := { s2 with chunks := [ch 4096 496 4592], resps := [.fail] }
def sUnalloc : State := { initState cfg0 with resps := [.fail] }
def sClaimed : State := { s2 with cur := .claimed }
def L100 : Layout := { size := 100, align := 8 }

theorem hH0 : Spec.HeaderOK cfg0.hdr := ⟨⟨4, by decide, by decide, by decide⟩, by decide, by decide, by decide⟩
theorem hL100 : L100.Valid := ⟨⟨3, by decide, rfl⟩, by decide⟩
theorem hmin0 : cfg0.minChunk < 2^64 := by decide

theorem sFull_fast : tryCur cfg0 .alloc sFull L100 Hints.custom = .ok none := rfl
theorem sFull_walk : ∀ i, sFull.cur = .chunk i → i < sFull.chunks.length ∧
    ∃ s1, walkNext cfg0 .alloc L100 Hints.custom (sFull.chunks.length - (i+1)) i sFull = .ok (none, s1) := by
  intro i hi
  cases hi
  exact ⟨by decide, sFull, rfl⟩
/-- the fast path of a claimed handle fails (dummy chunk) -/
theorem sClaimed_fast : tryCur cfg0 .alloc sClaimed L100 Hints.custom = .ok none := rfl

end Ledger.Ex
