/-
  Lemmas/CollMapVec.lean — `BumpVec::map` (`Coll/MapVec.lean`) refines `vecMapSpec`; `mapSpec` of `map_in_place` is
  `vecMapSpec false` (`mapSpec_eq_vecMapSpec`), so its list-level facts are those of `vecMapSpec`.
-/
import BumpProof.Coll.MapVec
import BumpProof.Lemmas.CollStd
import BumpProof.Lemmas.CollView

namespace Coll

/-- writing `U` number `k` (bytes `[k*su, (k+1)*su)`) when the first `k+1` slots of `T` have been read out:
    with `su ≤ st` no live `T` is touched -/
theorem uClobbers_none (lay : MapLay) (hle : lay.su ≤ lay.st) (k : Nat) (rest : List Id) (t : Nat) :
    uClobbers (H (k + 1) ++ I rest ++ H t) lay k = none := by
  unfold uClobbers
  rw [List.find?_eq_none]
  intro i _
  by_cases h1 : i < k + 1
  · rw [List.append_assoc, List.getElem?_append_left (by rw [length_H]; exact h1), getH, if_pos h1]
    simp
  · -- slot `i ≥ k + 1` begins at byte `i * st ≥ (k + 1) * su`, where the `U` being written ends
    have : ¬ (i * lay.st < (k + 1) * lay.su) :=
      Nat.not_lt.2 (Nat.le_trans (Nat.mul_le_mul_left _ hle) (Nat.mul_le_mul_right _ (Nat.le_of_not_gt h1)))
    simp [this]

/-- the owner after `map`: the new vector, or nothing (everything dropped, buffer freed) after a panic -/
def mapAfter (v : Vec) (newCap len : Nat) (r : SpecOut Unit) : Vec :=
  match r.exit with
  | .ret _ => { slots := I r.final ++ H (newCap - r.final.length), len := len,
                dropLog := v.dropLog ++ r.dropped, escaped := v.escaped ++ r.escaped }
  | .panic _ => { slots := [], len := 0, dropLog := v.dropLog ++ r.dropped, escaped := v.escaped ++ r.escaped }

theorem mapAfter_total (v : Vec) (newCap len : Nat) (r : SpecOut Unit) (hp : ∀ d, r.exit = .panic d → r.final = []) :
    (mapAfter v newCap len r).total = r.final ++ (v.dropLog ++ r.dropped) ++ (v.escaped ++ r.escaped) := by
  unfold mapAfter
  cases hx : r.exit with
  | ret a => simp [Vec.total]
  | panic d => rw [hp d hx]; simp [Vec.total, idsOf]

theorem mapAfter_escaped_cons (v : Vec) (newCap len : Nat) (r : SpecOut Unit) (x : Id) :
    mapAfter { v with escaped := v.escaped ++ [x] } newCap len r = mapAfter v newCap len { r with escaped := x :: r.escaped } := by
  unfold mapAfter
  cases r.exit <;> simp

/-- the in-place loop with `us` written and `rest` unread -/
theorem vecMapLoop_eq (bombs : List Id) (lay : MapLay) (hle : lay.su ≤ lay.st) (cap : Nat) (rest : List Id) :
    ∀ (us : List Id) (t : Nat) (v : Vec) (o : List Outcome) (end_ : Nat),
      v.slots = H us.length ++ I rest ++ H t → end_ = us.length + rest.length →
      vecMapLoop bombs lay cap end_ rest.length v us.length us o =
        .ok ⟨mapAfter v (cap * lay.st / lay.su) end_ (vecMapSpec false us rest o),
             (vecMapSpec false us rest o).exit, (vecMapSpec false us rest o).rest⟩ := by
  induction rest with
  | nil =>
    intro us t v o end_ hs he
    simp [vecMapLoop, vecMapSpec, mapAfter]
  | cons x rest ih =>
    intro us t v o end_ hs he
    simp only [List.length_cons] at he
    have hs1 : v.slots = H us.length ++ Slot.init x :: (I rest ++ H t) := by simp [hs]
    simp only [List.length_cons, vecMapLoop]
    rw [readOut_mid hs1 (by simp)]
    simp only
    have hguard : vecMapGuard bombs { v with slots := H us.length ++ Slot.hole :: (I rest ++ H t), escaped := v.escaped ++ [x] } us.length end_ us
        = .ok { slots := [], len := 0, dropLog := v.dropLog ++ (rest ++ us), escaped := v.escaped ++ [x] } := by
      unfold vecMapGuard
      have e1 : end_ - (us.length + 1) = rest.length := by omega
      have hsA : (H us.length ++ Slot.hole :: (I rest ++ H t)) = (H us.length ++ [Slot.hole]) ++ I rest ++ H t := by simp
      rw [e1, dropRange_seg bombs rest true { v with slots := _, escaped := _ } (H us.length ++ [Slot.hole]) (H t) (us.length + 1) hsA (by simp)]
      simp
    match o with
    | [] => rw [hguard]; simp [Except.map, vecMapSpec, mapAfter]
    | .panic :: o => rw [hguard]; simp [Except.map, vecMapSpec, mapAfter]
    | .ret id :: o =>
      simp only [vecMapSpec]
      have hs2 : H us.length ++ Slot.hole :: (I rest ++ H t) = H (us.length + 1) ++ I rest ++ H t := by simp
      rw [hs2, uClobbers_none lay hle us.length rest t]
      simp only
      have := ih (us ++ [id]) t { v with slots := H (us.length + 1) ++ I rest ++ H t, escaped := v.escaped ++ [x] } o end_
        (by simp) (by simp; omega)
      have e : us.length + 1 = (us ++ [id]).length := by simp
      rw [e] at this ⊢
      rw [this]
      congr 2
      exact mapAfter_escaped_cons { v with slots := _ } _ _ _ x

/-- the fallback loop with `us` pushed into the new vector and `rest` unread in the old one -/
theorem vecMapFallbackLoop_eq (bombs : List Id) (rest : List Id) :
    ∀ (us : List Id) (t : Nat) (v : Vec) (o : List Outcome) (end_ : Nat),
      v.slots = H us.length ++ I rest ++ H t → end_ = us.length + rest.length →
      vecMapFallbackLoop bombs end_ rest.length v us.length us o =
        .ok ⟨mapAfter v end_ (vecMapSpec true us rest o).final.length (vecMapSpec true us rest o),
             (vecMapSpec true us rest o).exit, (vecMapSpec true us rest o).rest⟩ := by
  induction rest with
  | nil =>
    intro us t v o end_ hs he
    simp [vecMapFallbackLoop, vecMapSpec, mapAfter]
  | cons x rest ih =>
    intro us t v o end_ hs he
    simp only [List.length_cons] at he
    have hs1 : v.slots = H us.length ++ Slot.init x :: (I rest ++ H t) := by simp [hs]
    simp only [List.length_cons, vecMapFallbackLoop]
    rw [readOut_mid hs1 (by simp)]
    simp only
    have e1 : end_ - (us.length + 1) = rest.length := by omega
    have hsA : (H us.length ++ Slot.hole :: (I rest ++ H t)) = (H us.length ++ [Slot.hole]) ++ I rest ++ H t := by simp
    have hdrop := dropRange_seg bombs rest true
      { v with slots := H us.length ++ Slot.hole :: (I rest ++ H t), dropLog := v.dropLog ++ us, escaped := v.escaped ++ [x] }
      (H us.length ++ [Slot.hole]) (H t) (us.length + 1) hsA (by simp)
    match o with
    | [] => rw [e1, hdrop]; simp [vecMapSpec, mapAfter]
    | .panic :: o => rw [e1, hdrop]; simp [vecMapSpec, mapAfter]
    | .ret id :: o =>
      simp only [vecMapSpec]
      have hs2 : H us.length ++ Slot.hole :: (I rest ++ H t) = H (us.length + 1) ++ I rest ++ H t := by simp
      rw [hs2]
      have := ih (us ++ [id]) t { v with slots := H (us.length + 1) ++ I rest ++ H t, escaped := v.escaped ++ [x] } o end_
        (by simp) (by simp; omega)
      have e : us.length + 1 = (us ++ [id]).length := by simp
      rw [e] at this ⊢
      rw [this]
      congr 2
      exact mapAfter_escaped_cons { v with slots := _ } _ _ _ x

/-- **refinement** of `BumpVec::map`: from the standard shape, for both code paths (the layout decides), every
    behaviour of the closure and every set of panicking destructors: no fault — in particular no `U` is
    ever written over a `T` that has not been read — and the outcome is the list-level `vecMapSpec` -/
theorem vecMap_eq (bombs : List Id) (lay : MapLay) (v : Vec) (xs : List Id) (o : List Outcome)
    (h : View.fwd.Shape v xs) :
    vecMap bombs lay v o =
      if lay.inPlace then
        .ok ⟨mapAfter v (v.cap * lay.st / lay.su) v.len (vecMapSpec false [] xs o),
             (vecMapSpec false [] xs o).exit, (vecMapSpec false [] xs o).rest⟩
      else
        .ok ⟨mapAfter v v.len (vecMapSpec true [] xs o).final.length (vecMapSpec true [] xs o),
             (vecMapSpec true [] xs o).exit, (vecMapSpec true [] xs o).rest⟩ := by
  have hs : v.slots = I xs ++ H (v.cap - v.len) := h.1
  have hl := h.2
  unfold vecMap
  by_cases hip : lay.inPlace = true
  · simp only [hip, ↓reduceIte]
    have hle : lay.su ≤ lay.st := by
      simp only [MapLay.inPlace, Bool.and_eq_true, decide_eq_true_eq] at hip
      exact hip.2
    have := vecMapLoop_eq bombs lay hle v.cap xs [] (v.cap - v.len) (setLen v 0) o v.len (by simp [setLen, hs]) (by simp [hl])
    rw [← hl] at this ⊢
    simp only [List.length_nil] at this
    rw [this]
    rfl
  · simp only [hip, Bool.false_eq_true, ↓reduceIte]
    have := vecMapFallbackLoop_eq bombs xs [] (v.cap - v.len) (setLen v 0) o v.len (by simp [setLen, hs]) (by simp [hl])
    rw [← hl] at this ⊢
    simp only [List.length_nil] at this
    rw [this]
    rfl

theorem vecMapSpec_perm (usFirst : Bool) (xs : List Id) : ∀ (done : List Id) (o : List Outcome),
    ((vecMapSpec usFirst done xs o).final ++ (vecMapSpec usFirst done xs o).dropped ++ (vecMapSpec usFirst done xs o).escaped).Perm
      (xs ++ (done ++ mapIns xs o)) := by
  induction xs with
  | nil => intro done o; simp [vecMapSpec, mapIns]
  | cons x xs ih =>
    intro done o
    have hd : (if usFirst = true then done ++ xs else xs ++ done).Perm (xs ++ done) := by
      cases usFirst
      · exact .refl _
      · exact List.perm_append_comm
    match o with
    | [] =>
      simp only [vecMapSpec, mapIns, List.nil_append, List.append_nil, List.cons_append]
      exact (List.perm_append_singleton _ _).trans (hd.cons x)
    | .panic :: o =>
      simp only [vecMapSpec, mapIns, List.nil_append, List.append_nil, List.cons_append]
      exact (List.perm_append_singleton _ _).trans (hd.cons x)
    | .ret id :: o =>
      have := ih (done ++ [id]) o
      simp only [vecMapSpec, mapIns, List.cons_append]
      rw [List.append_assoc done, List.singleton_append] at this
      exact List.perm_middle.trans (this.cons x)

theorem vecMapSpec_final (usFirst : Bool) (xs : List Id) : ∀ (done : List Id) (o : List Outcome),
    (∃ a, (vecMapSpec usFirst done xs o).exit = .ret a) →
      (vecMapSpec usFirst done xs o).final.length = done.length + xs.length := by
  induction xs with
  | nil => intro done o _; simp [vecMapSpec]
  | cons x xs ih =>
    intro done o h
    match o with
    | [] => simp [vecMapSpec] at h
    | .panic :: o => simp [vecMapSpec] at h
    | .ret id :: o =>
      simp only [vecMapSpec] at h ⊢
      have := ih (done ++ [id]) o h
      simp at this ⊢; omega

theorem vecMapSpec_final_panic (usFirst : Bool) (xs : List Id) : ∀ (done : List Id) (o : List Outcome) (d : Bool),
    (vecMapSpec usFirst done xs o).exit = .panic d → (vecMapSpec usFirst done xs o).final = [] := by
  induction xs with
  | nil => intro done o d h; simp [vecMapSpec] at h
  | cons x xs ih =>
    intro done o d h
    match o with
    | [] => simp [vecMapSpec]
    | .panic :: o => simp [vecMapSpec]
    | .ret id :: o =>
      simp only [vecMapSpec] at h ⊢
      exact ih (done ++ [id]) o d h

theorem vecMapSpec_rets (usFirst : Bool) (xs : List Id) : ∀ (done ids : List Id) (o : List Outcome), ids.length = xs.length →
    vecMapSpec usFirst done xs (rets ids ++ o) = { final := done ++ ids, escaped := xs, exit := .ret (), rest := o } := by
  induction xs with
  | nil =>
    intro done ids o h
    have : ids = [] := List.eq_nil_of_length_eq_zero (by simpa using h)
    subst this
    simp [vecMapSpec, rets]
  | cons x xs ih =>
    intro done ids o h
    match ids, h with
    | id :: ids, h =>
      simp only [List.length_cons, Nat.add_right_cancel_iff] at h
      simp only [rets, List.map_cons, List.cons_append, vecMapSpec]
      have := ih (done ++ [id]) ids o h
      simp only [rets] at this
      rw [this]; simp

/-- `map_in_place` drops like the in-place path of `BumpVec::map`: the two descriptions are one function -/
theorem mapSpec_eq_vecMapSpec (xs : List Id) : ∀ (done : List Id) (o : List Outcome),
    mapSpec done xs o = vecMapSpec false done xs o := by
  induction xs with
  | nil => intro done o; rfl
  | cons x xs ih =>
    intro done o
    match o with
    | [] => rfl
    | .panic :: o => rfl
    | .ret id :: o => simp only [mapSpec, vecMapSpec, ih]

theorem mapSpec_rets (xs done ids : List Id) (o : List Outcome) (h : ids.length = xs.length) :
    mapSpec done xs (rets ids ++ o) = { final := done ++ ids, escaped := xs, exit := .ret (), rest := o } := by
  rw [mapSpec_eq_vecMapSpec, vecMapSpec_rets false xs done ids o h]

theorem mapSpec_perm (rest done : List Id) (o : List Outcome) :
    ((mapSpec done rest o).final ++ (mapSpec done rest o).dropped ++ (mapSpec done rest o).escaped).Perm
      (done ++ rest ++ mapIns rest o) := by
  rw [mapSpec_eq_vecMapSpec]
  exact (vecMapSpec_perm false rest done o).trans (by rw [← List.append_assoc]; exact List.perm_append_comm.append_right _)

theorem mapSpec_final_length (rest done : List Id) (o : List Outcome) :
    (mapSpec done rest o).final.length = done.length + rest.length ∨ (mapSpec done rest o).final = [] := by
  rw [mapSpec_eq_vecMapSpec]
  cases h : (vecMapSpec false done rest o).exit with
  | ret a => exact .inl (vecMapSpec_final false rest done o ⟨a, h⟩)
  | panic d => exact .inr (vecMapSpec_final_panic false rest done o d h)
