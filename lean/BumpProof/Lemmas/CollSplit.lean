/-
  Lemmas/CollSplit.lean — `take` / `drop` / rotation on segmented buffers and the shape of the parts
  produced by `Coll.splitOff`, `splitAt`, `merge` (`Coll/Split.lean`); `partition_in_place` only swaps (`PartitionPost`);
  the buffer of `into_flattened` (`Coll/Flatten.lean`) in the layout of either `View` (`intoFlattened_shape`).
-/
import BumpProof.Coll.Flatten
import BumpProof.Coll.Split
import BumpProof.Lemmas.CollView

namespace Coll

/-- a part described by its contents -/
def Part.Holds (p : Part) (xs : List Id) : Prop :=
  p.vec.slots = I xs ++ H (p.vec.cap - p.vec.len) ∧ xs.length = p.vec.len

theorem Part.Holds.shape {p : Part} {xs : List Id} (h : p.Holds xs) : View.fwd.Shape p.vec xs := h

theorem Part.Holds.abs {p : Part} {xs : List Id} (h : p.Holds xs) : p.vec.abs = xs := h.shape.abs

theorem Part.Holds.len_le_cap {p : Part} {xs : List Id} (h : p.Holds xs) : p.vec.len ≤ p.vec.cap := h.shape.len_le_cap

/-- cutting a buffer `I (l ++ r) ++ H m` behind `l`: the left part is exactly full, the right part gets
    the spare capacity -/
theorem cut_append (lay : Lay) (base : Nat) {slots : List Slot} {l r : List Id} {m k c n : Nat}
    (hs : slots = I (l ++ r) ++ H m) (hk : k = l.length) (hc : c = r.length + m) (hn : n = r.length) :
    (subPart lay base slots 0 k k).Holds l ∧ (subPart lay base slots k c n).Holds r ∧
      (subPart lay base slots 0 k k).vec.cap = k ∧ (subPart lay base slots k c n).vec.cap = c := by
  subst hs hk hc hn
  have e1 : ((I (l ++ r) ++ H m).drop 0).take l.length = I l := by
    rw [List.drop_zero, I_append, List.append_assoc, List.take_left' (length_I l)]
  have e2 : ((I (l ++ r) ++ H m).drop l.length).take (r.length + m) = I r ++ H m := by
    rw [I_append, List.append_assoc, List.drop_left' (length_I l),
      List.take_of_length_le (by rw [List.length_append, length_I, length_H]; omega)]
  simp only [Part.Holds, subPart, Vec.cap, e1, e2, List.length_append, length_I, length_H, Nat.sub_self, H_zero,
    List.append_nil, Nat.add_sub_cancel_left, and_self]

/-- what `split_off` promises: the returned part `o` holds `lo`, `self` afterwards (`s`) holds `ls`, the capacities
    add up, the logs stay with `self`, and the two buffers are adjacent (or `o` is the empty vector) -/
def SplitOffPost (lay : Lay) (p s o : Part) (ls lo : List Id) : Prop :=
  o.Holds lo ∧ s.Holds ls ∧ s.vec.cap + o.vec.cap = p.vec.cap ∧
    s.vec.dropLog = p.vec.dropLog ∧ s.vec.escaped = p.vec.escaped ∧ o.vec.dropLog = [] ∧ o.vec.escaped = [] ∧
    ((o.vec.cap = 0 ∧ s = p) ∨ (s.addr = p.addr ∧ o.addr = p.addr + s.vec.cap * lay.esize) ∨
      (o.addr = p.addr ∧ s.addr = p.addr + o.vec.cap * lay.esize))

/-- `split_off` cuts the (rotated) buffer `I (l ++ r) ++ spare` behind `l` and hands the logs to the part that stays
    `self`: either `self` keeps the front `l` and `r` (with the spare capacity) is returned, or the front is returned -/
theorem splitOff_cut (lay : Lay) {p : Part} {slots : List Slot} {l r : List Id} {k c n : Nat}
    (hs : slots = I (l ++ r) ++ H (p.vec.cap - p.vec.len)) (hk : k = l.length) (hn : n = r.length)
    (hl : k + n = p.vec.len) (hcap : p.vec.len ≤ p.vec.cap) (hc : c = p.vec.cap - k) :
    SplitOffPost lay p
        { subPart lay p.addr slots 0 k k with
          vec := { (subPart lay p.addr slots 0 k k).vec with dropLog := p.vec.dropLog, escaped := p.vec.escaped } }
        (subPart lay p.addr slots k c n) l r ∧
      SplitOffPost lay p
        { subPart lay p.addr slots k c n with
          vec := { (subPart lay p.addr slots k c n).vec with dropLog := p.vec.dropLog, escaped := p.vec.escaped } }
        (subPart lay p.addr slots 0 k k) r l := by
  have hkn : k + n ≤ p.vec.cap := hl ▸ hcap
  have hkc : k ≤ p.vec.cap := Nat.le_trans (Nat.le_add_right k n) hkn
  obtain ⟨hL, hR, cL, cR⟩ := cut_append lay p.addr hs hk (show c = r.length + (p.vec.cap - p.vec.len) by
    rw [hc, ← hl, Nat.sub_add_eq, ← hn, Nat.add_sub_cancel' (Nat.le_sub_of_add_le' hkn)]) hn
  have h0 : p.addr + 0 * lay.esize = p.addr := by rw [Nat.zero_mul, Nat.add_zero]
  have hk' : p.addr + k * lay.esize = p.addr + (subPart lay p.addr slots 0 k k).vec.cap * lay.esize := by rw [cL]
  refine ⟨⟨hR, hL, ?_, rfl, rfl, rfl, rfl, .inr (.inl ⟨h0, hk'⟩)⟩, ⟨hL, hR, ?_, rfl, rfl, rfl, rfl, .inr (.inr ⟨h0, hk'⟩)⟩⟩
  · show (subPart lay p.addr slots 0 k k).vec.cap + _ = _
    rw [cL, cR, hc, Nat.add_sub_cancel' hkc]
  · show (subPart lay p.addr slots k c n).vec.cap + _ = _
    rw [cL, cR, hc, Nat.sub_add_cancel hkc]

theorem splitOff_holds (lay : Lay) (p : Part) (xs : List Id) (h : p.Holds xs) (start end_ : Nat)
    (hse : start ≤ end_) (hel : end_ ≤ xs.length) :
    ∃ s o, splitOff lay p start end_ = some (s, o) ∧
      SplitOffPost lay p s o (xs.take start ++ xs.drop end_) ((xs.take end_).drop start) := by
  have hcap := h.len_le_cap
  obtain ⟨hs, hl⟩ := h
  -- `xs` is `pre ++ mid ++ post`; `mid` is returned, `self` keeps `pre ++ post`
  have hpre : (xs.take start).length = start := by rw [List.length_take, Nat.min_eq_left (Nat.le_trans hse hel)]
  have hmid : ((xs.take end_).drop start).length = end_ - start := by
    rw [List.length_drop, List.length_take, Nat.min_eq_left hel]
  have hel' : end_ ≤ p.vec.len := hl ▸ hel
  have hrl : end_ - start ≤ p.vec.len := Nat.le_trans (Nat.sub_le ..) hel'
  have hrest : (xs.take start ++ xs.drop end_).length = p.vec.len - (end_ - start) := by
    rw [List.length_append, List.length_drop, hpre, hl]
    exact Nat.eq_sub_of_add_eq (by rw [Nat.add_right_comm, Nat.add_sub_cancel' hse, Nat.add_sub_cancel' hel'])
  have hx := range_split_eq xs hse
  have hdef := splitOff.eq_1 lay p start end_
  simp only at hdef
  replace hdef := hdef.trans (if_neg (not_or.2 ⟨Nat.not_lt.2 hse, Nat.not_lt.2 hel'⟩))
  by_cases h1 : end_ = p.vec.len
  · -- suffix (or everything): self keeps the front
    have hnil : xs.drop end_ = [] := List.drop_eq_nil_of_le (Nat.le_of_eq (hl.trans h1.symm))
    rw [hnil, List.append_nil]
    refine ⟨_, _, hdef.trans (if_pos h1), (splitOff_cut lay (hs.trans ?_) hpre.symm (by rw [hmid, h1])
      (Nat.add_sub_cancel' (h1 ▸ hse)) hcap rfl).1⟩
    conv => lhs; rw [hx, hnil, List.append_nil]
  replace hdef := hdef.trans (if_neg h1); clear h1
  by_cases h2 : start = 0
  · -- prefix: the front is returned, self keeps the rest (and the spare capacity)
    refine ⟨_, _, hdef.trans (if_pos h2), (splitOff_cut lay (hs.trans ?_) (by rw [hmid, h2]; rfl) (by rw [hrest, h2]; rfl)
      (Nat.add_sub_cancel' hel') hcap rfl).2⟩
    conv => lhs; rw [hx]
    subst start; rfl
  replace hdef := hdef.trans (if_neg h2); clear h2
  by_cases h3 : start = end_
  · -- empty interior range: nothing moves, an empty vector is returned
    subst end_
    have hnil : (xs.take start).drop start = [] := List.drop_eq_nil_of_le (Nat.le_of_eq hpre)
    rw [hnil, List.take_append_drop]
    exact ⟨_, _, hdef.trans (if_pos rfl), ⟨rfl, rfl⟩, ⟨hs, hl⟩, rfl, rfl, rfl, rfl, rfl, .inl ⟨rfl, rfl⟩⟩
  replace hdef := hdef.trans (if_neg h3); clear h3
  by_cases h4 : start < p.vec.len - end_
  · -- the range is rotated to the front
    refine ⟨_, _, hdef.trans (if_pos h4), (splitOff_cut lay ?_ hmid.symm hrest.symm (Nat.add_sub_cancel' hrl) hcap rfl).2⟩
    rw [hs, List.take_append_of_le_length (by rw [length_I]; exact hel),
      List.drop_append_of_le_length (by rw [length_I]; exact hel), rotateRight]
    simp only [I_take, I_drop, length_I, List.length_take]
    rw [Nat.min_eq_left hel, Nat.sub_sub_self hse, List.take_take, Nat.min_eq_left hse]
    simp only [I_append, List.append_assoc]
  · -- the range is rotated to the end of the initialised part
    refine ⟨_, _, hdef.trans (if_neg h4), (splitOff_cut lay ?_ hrest.symm hmid.symm (Nat.sub_add_cancel hrl) hcap rfl).1⟩
    rw [hs, List.take_append_of_le_length (by rw [length_I]; exact Nat.le_trans hse hel),
      List.drop_append_of_le_length (by rw [length_I]; exact Nat.le_trans hse hel),
      List.take_append_of_le_length (by rw [List.length_drop, length_I, hl]; exact Nat.le_refl _),
      ← hl, List.drop_left' (length_I xs), rotateLeft]
    simp only [I_take, I_drop]
    rw [List.take_of_length_le (i := xs.length - start) (by rw [List.length_drop]; exact Nat.le_refl _),
      List.drop_drop, Nat.add_sub_cancel' hse, ← List.drop_take]
    simp only [I_append, List.append_assoc]

/-- `split_at(at)` of a boxed slice (`cap = len`): `(xs[..at], xs[at..])`, both exactly full -/
theorem splitAt_holds (lay : Lay) (p : Part) (xs : List Id) (h : p.Holds xs) (hbox : p.vec.cap = p.vec.len) (at_ : Nat)
    (hat : at_ ≤ xs.length) :
    ∃ l r, splitAt lay p at_ = some (l, r) ∧ l.Holds (xs.take at_) ∧ r.Holds (xs.drop at_) ∧
      l.vec.cap = at_ ∧ r.vec.cap = xs.length - at_ ∧ l.addr = p.addr ∧ r.addr = p.addr + at_ * lay.esize ∧
      l.vec.len = at_ ∧ r.vec.len = xs.length - at_ := by
  obtain ⟨hs, hl⟩ := h
  unfold splitAt
  simp only
  rw [if_neg (Nat.not_lt.2 (hl ▸ hat))]
  obtain ⟨hL, hR, cL, cR⟩ := cut_append lay p.addr (l := xs.take at_) (r := xs.drop at_) (k := at_)
    (c := p.vec.len - at_) (n := p.vec.len - at_) (hs.trans (by rw [List.take_append_drop]))
    (by rw [List.length_take, Nat.min_eq_left hat]) (by rw [List.length_drop, hbox, Nat.sub_self, Nat.add_zero, hl])
    (by rw [List.length_drop, hl])
  exact ⟨_, _, rfl, hL, hR, cL, by rw [cR, hl], by simp [subPart], rfl, rfl, by rw [hl]; rfl⟩

/-- `merge` of two adjacent parts keeps the initialised slots of both: an exactly full part -/
theorem merge_holds (lay : Lay) (a b : Part) (xs ys : List Id) (ha : a.Holds xs) (hb : b.Holds ys)
    (hadj : a.addr + a.vec.len * lay.esize = b.addr) :
    ∃ m, merge lay a b = some m ∧ m.Holds (xs ++ ys) ∧ m.vec.cap = a.vec.len + b.vec.len ∧ m.addr = a.addr := by
  have e1 : a.vec.slots.take a.vec.len = I xs := by rw [ha.1, ← ha.2, take_I_H]
  have e2 : b.vec.slots.take b.vec.len = I ys := by rw [hb.1, ← hb.2, take_I_H]
  have hc : (I xs ++ I ys).length = a.vec.len + b.vec.len := by rw [List.length_append, length_I, length_I, ha.2, hb.2]
  unfold merge
  rw [if_neg (not_not_intro hadj), e1, e2]
  refine ⟨_, rfl, ⟨?_, ?_⟩, hc, rfl⟩
  · show I xs ++ I ys = I (xs ++ ys) ++ H ((I xs ++ I ys).length - (a.vec.len + b.vec.len))
    rw [hc, Nat.sub_self, H_zero, List.append_nil, I_append]
  · rw [List.length_append, ha.2, hb.2]

theorem swapSlots_seg {v : Vec} {ys : List Id} {i j : Nat} (hs : v.slots = I ys) (hij : i < j) (hj : j < ys.length) :
    swapSlots v i j = .ok { v with slots := I ((ys.set i ys[j]).set j (ys[i]'(by omega))) } := by
  unfold swapSlots
  have hi : i < ys.length := by omega
  have h1 : v.slots[i]? = some (Slot.init (ys[i])) := by rw [hs]; simp [I, hi]
  have h2 : v.slots[j]? = some (Slot.init (ys[j])) := by rw [hs]; simp [I, hj]
  rw [h1, h2]
  simp only
  congr 2
  rw [hs]; simp [I, List.map_set]

/-- what `partition_in_place` leaves of a full buffer holding `ys`: it only swaps values, so the buffer is full of a
    permutation of `ys`, length and logs are untouched, and the count it returns is within bounds -/
def PartitionPost (v : Vec) (ys : List Id) (res : M (Vec × Option Nat × List Outcome)) : Prop :=
  ∃ v' r o' ys', res = .ok (v', r, o') ∧ v'.slots = I ys' ∧ ys'.Perm ys ∧
    v'.len = v.len ∧ v'.dropLog = v.dropLog ∧ v'.escaped = v.escaped ∧ (∀ t, r = some t → t ≤ ys.length)

/-- a panicking (or exhausted) predicate leaves the buffer as it is -/
theorem PartitionPost.stop {v : Vec} {ys : List Id} (hs : v.slots = I ys) (o : List Outcome) :
    PartitionPost v ys (.ok (v, none, o)) :=
  ⟨v, none, o, ys, rfl, hs, .refl _, rfl, rfl, rfl, by intro t ht; cases ht⟩

theorem PartitionPost.of_swapped {v : Vec} {ys zs : List Id} {res : M (Vec × Option Nat × List Outcome)}
    (h : PartitionPost { v with slots := I zs } zs res) (hp : zs.Perm ys) : PartitionPost v ys res := by
  obtain ⟨v', r, o', ys', h1, h2, h3, h4, h5, h6, h7⟩ := h
  exact ⟨v', r, o', ys', h1, h2, h3.trans hp, h4, h5, h6, hp.length_eq ▸ h7⟩

theorem partitionLoop_perm (fuel : Nat) :
    ∀ (v : Vec) (f b tc : Nat) (seek : Seek) (o : List Outcome) (ys : List Id),
      v.slots = I ys → f + fuel = b → b ≤ ys.length → (∀ h, seek = .lastTrue h → h < f) →
      tc + b ≤ f + ys.length → PartitionPost v ys (partitionLoop fuel v f b tc seek o) := by
  induction fuel with
  | zero =>
    intro v f b tc seek o ys hs hf hb _ htc
    exact ⟨v, some tc, o, ys, by rw [partitionLoop], hs, .refl _, rfl, rfl, rfl, by intro t ht; cases ht; omega⟩
  | succ fuel ih =>
    intro v f b tc seek o ys hs hf hb hhead htc
    obtain ⟨b, rfl⟩ : ∃ b', b = b' + 1 := ⟨f + fuel, hf.symm⟩
    have hfb : f + fuel = b := Nat.succ.inj hf
    have hpeek : ∀ i (h : i < ys.length), peek v i = .ok ys[i] := by
      intro i h; unfold peek; rw [hs]; simp [I, h]
    cases seek with
    | firstFalse =>
      simp only [partitionLoop, hpeek f (show f < ys.length by omega)]
      match o with
      | [] => exact .stop hs _
      | .panic :: o => exact .stop hs _
      | .ret p :: o =>
        simp only
        split
        · exact ih v (f + 1) (b + 1) (tc + 1) .firstFalse o ys hs (by omega) hb (by intro h hh; cases hh) (by omega)
        · exact ih v (f + 1) (b + 1) tc (.lastTrue f) o ys hs (by omega) hb (by intro h hh; cases hh; omega) (by omega)
    | lastTrue head =>
      have hh := hhead head rfl
      simp only [partitionLoop, Nat.add_sub_cancel, hpeek b hb]
      match o with
      | [] => exact .stop hs _
      | .panic :: o => exact .stop hs _
      | .ret p :: o =>
        simp only
        split
        · rw [swapSlots_seg hs (show head < b by omega) hb]
          exact (ih { v with slots := I ((ys.set head ys[b]).set b (ys[head]'(by omega))) } f b (tc + 1) .firstFalse o
              ((ys.set head ys[b]).set b (ys[head]'(by omega))) rfl hfb (by simp only [List.length_set]; omega)
              (by intro h hh; cases hh) (by simp only [List.length_set]; omega)).of_swapped
            (List.set_set_perm (by omega) hb)
        · exact ih v f b tc (.lastTrue head) o ys hs hfb (by omega) (by intro h hh'; cases hh'; exact hh) (by omega)

/-- `into_flattened` for either kind of vector: the buffer of `arrCap` arrays IS a buffer of `arrCap * n` elements
    in the same layout -/
theorem intoFlattened_shape (V : View) {a : ArrVec} {xs : List Id} (hl : xs.length = a.arrLen * a.n) (hc : a.arrLen ≤ a.arrCap)
    (hf : a.flat = V.lay xs ((a.arrCap - a.arrLen) * a.n)) :
    (intoFlattened a).1.cap = a.arrCap * a.n ∧ V.Shape (intoFlattened a).1 xs := by
  have hcap : (intoFlattened a).1.cap = a.arrCap * a.n := by
    show a.flat.length = _
    rw [hf, V.length_lay, hl, ← Nat.add_mul, Nat.add_sub_cancel' hc]
  refine ⟨hcap, ?_, hl⟩
  show a.flat = V.lay xs ((intoFlattened a).1.cap - a.arrLen * a.n)
  rw [hf, hcap, Nat.sub_mul]

end Coll
