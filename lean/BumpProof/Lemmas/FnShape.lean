/-
  Lemmas/FnShape.lean — the functions of `Arena/Model.lean` taken apart once, for every view of the state.
  For each function its GRAPH: the ways it returns `.ok`, each with the calls it made (as equations), for `NewChunk`,
  `Walk`, `Slow` also the guards that passed (`Created` and `Reserved` keep only the result state), and the result state
  in a small vocabulary of state changes: `setPos` / `setCurPos`, `enterChunk`
  (a chunk is reset and becomes current), `{ s with cur := _ }`, `asked` (a request is logged, a response consumed),
  a chunk appended (`freshChunk`).  The graphs are `NewChunk`, `Created` (the three chunk-creating functions at
  once), `Walk` (`walkNext`; `walkNext_iff`, by induction on its fuel), `Slow` (`inAnotherChunk`) and `Reserved`
  (`reserve`), with the converse where a function is also run forwards (`newChunk_iff`, `walkNext_iff`, `Slow.run`);
  `tryCur` has the state-independent form `tryCur_eq` / `tryProps`, the functions that only move a position have an
  inversion lemma (`_inv`) and, for `deallocate` / `deallocAssumeLast`, the weaker `_cases`.  Facts that depend on the result or on a chunk index are read off the graphs by `cases` / `induction`;
  relations that only ask which changes occurred go through `Lemmas/FnPath.lean`.
-/
import BumpProof.Arena.Model
import BumpProof.Lemmas.RsOps

namespace Arena
open Rs

namespace Mem

/-- the chunk `newChunk` builds from a response `granted p g` -/
def freshChunk (cfg : Cfg) (p g size size' : Nat) : Chunk :=
  { base := p, size := size', pos := (if cfg.up then p + cfg.hdr.size else p + size' - cfg.hdr.size),
    granted := g, reqSize := size, data := Array.replicate size' 0xAA }

end Mem

theorem Chunk.contentStart_congr (cfg : Cfg) {c c' : Chunk} (hb : c'.base = c.base) :
    c'.contentStart cfg = c.contentStart cfg := by
  unfold Chunk.contentStart; rw [hb]

theorem Chunk.contentEnd_congr (cfg : Cfg) {c c' : Chunk} (hb : c'.base = c.base) (hs : c'.size = c.size) :
    c'.contentEnd cfg = c.contentEnd cfg := by
  unfold Chunk.contentEnd; rw [hb, hs]

namespace Fn
open Mem

/-! ## the `R` monad -/

theorem liftM_ok {α} (v : α) : liftM (.ok v : Rs.M α) = .ok v := rfl

theorem ok_bind {ε α β} (v : α) (f : α → Except ε β) : ((Except.ok v : Except ε α) >>= f) = f v := rfl

theorem liftM_eq_ok {α} {x : Rs.M α} {v : α} (h : liftM x = .ok v) : x = .ok v := by
  cases x with
  | ok w => cases h; rfl
  | error e => cases h

theorem bind_eq_ok {ε α β} {x : Except ε α} {f : α → Except ε β} {y : β}
    (h : (x >>= f) = .ok y) : ∃ v, x = .ok v ∧ f v = .ok y := by
  cases x with
  | ok v => exact ⟨v, rfl, h⟩
  | error e => cases h

theorem assert_eq_ok {b : Bool} {u : Unit} (h : liftM (Rs.assert b) = .ok u) : b = true := by
  cases b with
  | true => rfl
  | false => cases h

theorem liftM_assert_ok {P : Prop} [Decidable P] {u : Unit} (h : liftM (Rs.assert (decide P)) = .ok u) : P :=
  of_decide_eq_true (assert_eq_ok h)

theorem rs_sub_ok {a b v : Nat} (h : Rs.sub a b = .ok v) : v = a - b ∧ b ≤ a := by
  unfold Rs.sub at h
  split at h <;> cases h
  exact ⟨rfl, ‹_›⟩

theorem rs_add_ok {a b v : Nat} (h : Rs.add a b = .ok v) : v = a + b ∧ a + b ≤ Rs.MAX := by
  unfold Rs.add at h
  split at h <;> cases h
  exact ⟨rfl, ‹_›⟩

theorem ite_eq_ok {c : Prop} [Decidable c] {α : Type} {t e : R α} {b : α} (h : (if c then t else e) = .ok b) :
    c ∧ t = .ok b ∨ ¬c ∧ e = .ok b := by
  by_cases hc : c
  · rw [if_pos hc] at h; exact .inl ⟨hc, h⟩
  · rw [if_neg hc] at h; exact .inr ⟨hc, h⟩

/-! ## the small helpers of `src/lib.rs` (`Gen.LibArith`), as wide-integer functions -/

/-- `down_align_usize` / `up_align_usize_unchecked` of `src/lib.rs` have the bodies of `down_align` /
    `up_align_unchecked` of `src/bumping.rs` -/
theorem lib_down_align_eq {x a : Nat} (ha : Lemmas.P2 a) (ha64 : a < 2 ^ 64) (hx : x < 2 ^ 64) :
    Gen.LibArith.down_align_usize x a = .ok (Spec.downAlign x a) :=
  Lemmas.down_align_eq ha ha64 hx

theorem lib_up_align_eq {x a : Nat} (ha : Lemmas.P2 a) (ha64 : a < 2 ^ 64) (hx : x + (a - 1) < 2 ^ 64) :
    Gen.LibArith.up_align_usize_unchecked x a = .ok (Spec.upAlign x a) :=
  Lemmas.up_align_unchecked_eq ha ha64 hx

theorem lib_bump_down_eq {x sz a : Nat} (ha : Lemmas.P2 a) (ha64 : a < 2 ^ 64) (hx : x < 2 ^ 64) :
    Gen.LibArith.bump_down x sz a = .ok (Spec.downAlign (x - sz) a) := by
  unfold Gen.LibArith.bump_down Rs.saturating_sub
  rw [lib_down_align_eq ha ha64 (by omega)]

theorem lib_align_pos_up {x a : Nat} (ha : Lemmas.P2 a) (ha64 : a < 2 ^ 64) (hx : x + (a - 1) < 2 ^ 64) :
    Gen.LibArith.align_pos true a x = .ok (Spec.upAlign x a) := by
  unfold Gen.LibArith.align_pos
  simp only [↓reduceIte, lib_up_align_eq ha ha64 hx]

theorem lib_align_pos_down {x a : Nat} (ha : Lemmas.P2 a) (ha64 : a < 2 ^ 64) (hx : x < 2 ^ 64) :
    Gen.LibArith.align_pos false a x = .ok (Spec.downAlign x a) := by
  unfold Gen.LibArith.align_pos
  simp only [Bool.false_eq_true, ↓reduceIte, lib_down_align_eq ha ha64 hx]

/-- `align_pos` is the identity on an aligned address; upwards `x + (a - 1)` does not overflow, because `2 ^ 64` is
    itself a multiple of `a` -/
theorem lib_align_pos_self {up : Bool} {x a : Nat} (ha : Lemmas.P2 a) (ha64 : a < 2 ^ 64) (hd : a ∣ x) (hx : x < 2 ^ 64) :
    Gen.LibArith.align_pos up a x = .ok x := by
  cases up
  · rw [lib_align_pos_down ha ha64 hx, Lemmas.downAlign_eq_self hd]
  · have hu := Lemmas.upAlign_eq_self ha.pos hd
    rw [lib_align_pos_up ha ha64 ((ha.upAlign_lt_iff ha64 x).1 (hu.symm ▸ hx)), hu]

theorem lib_up_align_ok_iff {x a p : Nat} (ha : Lemmas.P2 a) (ha64 : a < 2 ^ 64) :
    Gen.LibArith.up_align_usize_unchecked x a = .ok p ↔ x + (a - 1) < 2 ^ 64 ∧ p = Spec.upAlign x a := by
  by_cases hx : x + (a - 1) < 2 ^ 64
  · rw [lib_up_align_eq ha ha64 hx]
    exact ⟨fun h => ⟨hx, (Except.ok.inj h).symm⟩, fun h => h.2 ▸ rfl⟩
  · refine ⟨fun h => ?_, fun h => absurd h.1 hx⟩
    unfold Gen.LibArith.up_align_usize_unchecked at h
    rw [Lemmas.assert_p2 ha, ok_bind, Lemmas.sub_one_ok ha.pos, ok_bind] at h
    obtain ⟨_, h, _⟩ := bind_eq_ok h
    exact absurd (rs_add_ok h).2 (by rw [Lemmas.MAX_eq]; omega)

/-- masking only clears bits, whatever `a` is -/
theorem lib_down_align_le {x a p : Nat} (h : Gen.LibArith.down_align_usize x a = .ok p) : p ≤ x := by
  obtain ⟨_, _, h⟩ := bind_eq_ok h
  obtain ⟨_, _, h⟩ := bind_eq_ok h
  cases h
  exact Nat.and_le_left

theorem lib_bump_down_le {x sz a p : Nat} (h : Gen.LibArith.bump_down x sz a = .ok p) : p ≤ x - sz :=
  lib_down_align_le (x := x - sz) h

theorem lib_align_pos_dir {up : Bool} {m x p : Nat} (hm : Lemmas.P2 m) (hm64 : m < 2 ^ 64)
    (h : Gen.LibArith.align_pos up m x = .ok p) : if up then x ≤ p else p ≤ x := by
  unfold Gen.LibArith.align_pos at h
  cases up
  · exact lib_down_align_le h
  · exact ((lib_up_align_ok_iff hm hm64).1 h).2 ▸ Lemmas.le_upAlign x hm.pos

/-! ## the position setters `setPos`, `setCurPos` -/

theorem setPos_cur (s : State) (i p : Nat) : (setPos s i p).cur = s.cur := rfl
theorem setPos_nextId (s : State) (i p : Nat) : (setPos s i p).nextId = s.nextId := rfl
theorem setPos_userCps (s : State) (i p : Nat) : (setPos s i p).userCps = s.userCps := rfl
theorem setPos_prepared (s : State) (i p : Nat) : (setPos s i p).prepared = s.prepared := rfl
theorem setPos_dropped (s : State) (i p : Nat) : (setPos s i p).dropped = s.dropped := rfl
theorem setPos_chunks (s : State) (i p : Nat) :
    (setPos s i p).chunks = s.chunks.modify i (fun c => { c with pos := p }) := rfl

theorem setPos_length (s : State) (i p : Nat) : (setPos s i p).chunks.length = s.chunks.length :=
  List.length_modify ..

theorem setPos_getElem? (s : State) (i p j : Nat) :
    (setPos s i p).chunks[j]? = if i = j then (s.chunks[j]?).map (fun c => { c with pos := p }) else s.chunks[j]? := by
  rw [setPos_chunks, List.getElem?_modify]
  by_cases h : i = j
  · simp only [h, ↓reduceIte]; rfl
  · simp only [h, ↓reduceIte]; cases s.chunks[j]? <;> rfl

theorem setPos_getElem?_self {s : State} {i : Nat} {c : Chunk} (hi : s.chunks[i]? = some c) (p : Nat) :
    (setPos s i p).chunks[i]? = some { c with pos := p } := by
  rw [setPos_getElem?, if_pos rfl, hi]; rfl

theorem setPos_getElem?_ne (s : State) {i j : Nat} (p : Nat) (h : i ≠ j) : (setPos s i p).chunks[j]? = s.chunks[j]? := by
  rw [setPos_getElem?, if_neg h]

theorem setPos_setPos (s : State) (i p q : Nat) : setPos (setPos s i p) i q = setPos s i q :=
  congrArg (fun l => { s with chunks := l }) (List.modify_modify_eq _ _ i s.chunks)

theorem setPos_self {s : State} {i : Nat} {c : Chunk} (hc : s.chunks[i]? = some c) : setPos s i c.pos = s := by
  refine congrArg (fun l => { s with chunks := l }) (List.ext_getElem? fun j => ?_)
  rw [← setPos_chunks, setPos_getElem?]
  split
  · next hij => subst hij; rw [hc]; rfl
  · rfl

theorem setCurPos_chunk {s : State} {i : Nat} (h : s.cur = .chunk i) (p : Nat) : setCurPos s p = setPos s i p := by
  unfold setCurPos; rw [h]

theorem setCurPos_eq (s : State) (p : Nat) :
    setCurPos s p = s ∨ ∃ i, s.cur = .chunk i ∧ setCurPos s p = setPos s i p := by
  unfold setCurPos
  cases h : s.cur with
  | chunk i => exact Or.inr ⟨i, rfl, rfl⟩
  | unallocated => exact Or.inl rfl
  | claimed => exact Or.inl rfl

theorem setCurPos_reqs (s : State) (p : Nat) : (setCurPos s p).reqs = s.reqs := by
  unfold setCurPos; split <;> rfl
theorem setCurPos_resps (s : State) (p : Nat) : (setCurPos s p).resps = s.resps := by
  unfold setCurPos; split <;> rfl
theorem setCurPos_live (s : State) (p : Nat) : (setCurPos s p).live = s.live := by
  unfold setCurPos; split <;> rfl
theorem setCurPos_cur (s : State) (p : Nat) : (setCurPos s p).cur = s.cur := by
  unfold setCurPos; split <;> rfl
theorem setCurPos_minAlign (s : State) (p : Nat) : (setCurPos s p).minAlign = s.minAlign := by
  unfold setCurPos; split <;> rfl
theorem setCurPos_frames (s : State) (p : Nat) : (setCurPos s p).frames = s.frames := by
  unfold setCurPos; split <;> rfl

theorem setCurPos_length (s : State) (p : Nat) : (setCurPos s p).chunks.length = s.chunks.length := by
  unfold setCurPos; split
  · exact setPos_length _ _ _
  · rfl

theorem setCurPos_setCurPos (s : State) (p q : Nat) : setCurPos (setCurPos s p) q = setCurPos s q := by
  rcases setCurPos_eq s p with e | ⟨i, hi, e⟩
  · rw [e]
  · rw [e, setCurPos_chunk (s := setPos s i p) hi, setCurPos_chunk hi, setPos_setPos]

theorem curPos_chunk {cfg : Cfg} {s : State} {i : Nat} {c : Chunk} (hcur : s.cur = .chunk i) (hc : s.chunks[i]? = some c) :
    curPos cfg s = c.pos := by
  unfold curPos
  rw [hcur]
  simp only [hc]

theorem isLast_pos {s : State} {ptr size i : Nat} {c : Chunk} (hl : isLast cfg s ptr size = true)
    (hcur : s.cur = .chunk i) (hi : s.chunks[i]? = some c) :
    if cfg.up then ptr + size = c.pos else ptr = c.pos := by
  unfold isLast at hl
  rw [curPos_chunk hcur hi] at hl
  cases hup : cfg.up
  · simp only [hup, Bool.false_eq_true, ↓reduceIte, beq_iff_eq] at hl ⊢; exact hl
  · simp only [hup, ↓reduceIte, beq_iff_eq] at hl ⊢; exact hl

/-- `curPos` reads the current chunk and its position only -/
theorem curPos_congr (cfg : Cfg) {s s' : State} (hcur : s'.cur = s.cur)
    (hpos : ∀ i, s.cur = .chunk i → (s'.chunks[i]?).map (·.pos) = (s.chunks[i]?).map (·.pos)) :
    curPos cfg s' = curPos cfg s := by
  unfold curPos
  rw [hcur]
  cases hcu : s.cur with
  | chunk i =>
    have hp := hpos i hcu
    dsimp only
    cases h1 : s.chunks[i]? with
    | none => rw [h1, Option.map_none, Option.map_eq_none_iff] at hp; rw [hp]
    | some c =>
      rw [h1, Option.map_some, Option.map_eq_some_iff] at hp
      obtain ⟨c', h2, hp⟩ := hp
      rw [h2]; exact hp
  | _ => rfl

theorem setCurPos_self (cfg : Cfg) (s : State) : setCurPos s (curPos cfg s) = s := by
  rcases setCurPos_eq s (curPos cfg s) with e | ⟨i, hi, e⟩
  · exact e
  · rw [e]
    cases hc : s.chunks[i]? with
    | some c => rw [curPos_chunk hi hc]; exact setPos_self hc
    | none =>
      refine congrArg (fun l => { s with chunks := l }) (List.ext_getElem? fun j => ?_)
      rw [← setPos_chunks, setPos_getElem?]
      split
      · next hij => subst hij; rw [hc]; rfl
      · rfl

def asked (cfg : Cfg) (s : State) (size : Nat) (rest : List BaseResp) : State :=
  { s with reqs := s.reqs ++ [BaseReq.alloc size cfg.hdr.align], resps := rest }

/-- a new chunk is at its reset position -/
theorem freshChunk_pos (cfg : Cfg) (p g size size' : Nat) :
    ((freshChunk cfg p g size size').resetPos cfg).pos = (freshChunk cfg p g size size').pos := by
  cases h : cfg.up <;> simp [freshChunk, Chunk.resetPos, Chunk.contentStart, Chunk.contentEnd, h]

/-- chunk `j`, which is `c`, is reset and becomes current: what `walkNext` does before it tries a chunk -/
def enterChunk (cfg : Cfg) (s : State) (j : Nat) (c : Chunk) : State :=
  { s with chunks := s.chunks.set j (c.resetPos cfg), cur := .chunk j }

theorem enterChunk_length (cfg : Cfg) (s : State) (j : Nat) (c : Chunk) :
    (enterChunk cfg s j c).chunks.length = s.chunks.length := List.length_set

/-! ## `newChunk`, `newChunkForCapacity`, `appendFor` -/

inductive NewChunk (cfg : Cfg) (s : State) (size : Nat) : State × Except AErr Nat → Prop
  | overflow (hl : layoutOk size cfg.hdr.align = false) : NewChunk cfg s size (s, .error .capacityOverflow)
  | refused {rest : List BaseResp} (hl : layoutOk size cfg.hdr.align = true) (hresp : s.resps = .fail :: rest) :
      NewChunk cfg s size (asked cfg s size rest, .error .alloc)
  | granted {p g size' : Nat} {rest : List BaseResp} (hl : layoutOk size cfg.hdr.align = true)
      (hresp : s.resps = .granted p g :: rest) (hal : Gen.SizeConfig.align_size (sizeCfg cfg) g = .ok size')
      (hge : size ≤ size') (h16 : size' % 16 = 0) :
      NewChunk cfg s size
        ({ asked cfg s size rest with chunks := s.chunks ++ [freshChunk cfg p g size size'] }, .ok s.chunks.length)

theorem newChunk_iff {cfg : Cfg} {s : State} {size : Nat} {x : State × Except AErr Nat} :
    newChunk cfg s size = .ok x ↔ NewChunk cfg s size x := by
  constructor
  · intro h
    unfold newChunk at h
    cases hl : layoutOk size cfg.hdr.align with
    | false => rw [hl] at h; cases h; exact .overflow hl
    | true =>
      rw [hl] at h
      cases hr : s.resps with
      | nil => simp only [hr] at h; cases h
      | cons y rest =>
        simp only [hr] at h
        cases y with
        | fail => cases h; exact .refused hl hr
        | granted p g =>
          obtain ⟨size', h1, h⟩ := bind_eq_ok h
          obtain ⟨_, h2, h⟩ := bind_eq_ok h
          obtain ⟨_, h3, h⟩ := bind_eq_ok h
          cases h
          exact .granted hl hr (liftM_eq_ok h1) (of_decide_eq_true (assert_eq_ok h2)) (of_decide_eq_true (assert_eq_ok h3))
  · intro h
    unfold newChunk
    cases h with
    | overflow hl => rw [hl]; rfl
    | refused hl hresp => rw [hl]; simp only [hresp]; rfl
    | granted hl hresp hal hge h16 =>
      rw [hl]
      simp only [hresp, hal, liftM_ok, ok_bind, Lemmas.assert_decide (show _ ≥ size from hge), Lemmas.assert_decide h16]
      rfl

theorem newChunkForCapacity_cases {cfg : Cfg} {s : State} {L : Layout} {x : State × Except AErr Nat}
    (h : newChunkForCapacity cfg s L = .ok x) :
    x = (s, .error .capacityOverflow) ∨
    ∃ hint size, Gen.SizeConfig.calc_hint_from_capacity (sizeCfg cfg) L = .ok (some hint) ∧
      calcSize cfg hint = .ok (some size) ∧ newChunk cfg s size = .ok x := by
  unfold newChunkForCapacity at h
  obtain ⟨_ | hint, h1, h⟩ := bind_eq_ok h
  · cases h; exact .inl rfl
  obtain ⟨_ | size, h2, h⟩ := bind_eq_ok h
  · cases h; exact .inl rfl
  exact .inr ⟨hint, size, liftM_eq_ok h1, h2, h⟩

theorem appendFor_cases {cfg : Cfg} {s : State} {L : Layout} {x : State × Except AErr Nat}
    (h : appendFor cfg s L = .ok x) :
    ∃ last, s.chunks.getLast? = some last ∧
    (x = (s, .error .capacityOverflow) ∨
    ∃ required grown size, Gen.SizeConfig.calc_hint_from_capacity (sizeCfg cfg) L = .ok (some required) ∧
      Rs.checked_mul last.size 2 = some grown ∧
      calcSize cfg (if required > grown then required else grown) = .ok (some size) ∧
      newChunk cfg s size = .ok x) := by
  unfold appendFor at h
  cases hl : s.chunks.getLast? with
  | none => rw [hl] at h; cases h
  | some last =>
    refine ⟨last, rfl, ?_⟩
    simp only [hl] at h
    obtain ⟨_ | required, h1, h⟩ := bind_eq_ok h
    · cases h; exact .inl rfl
    cases hg : Rs.checked_mul last.size 2 with
    | none => simp only [hg] at h; cases h; exact .inl rfl
    | some grown =>
      simp only [hg] at h
      obtain ⟨_ | size, h2, h⟩ := bind_eq_ok h
      · cases h; exact .inl rfl
      exact .inr ⟨required, grown, size, liftM_eq_ok h1, rfl, h2, h⟩

/-- what the three chunk-creating functions have in common: nothing happened (a size overflowed), the base allocator
    refused, or the first pending response `granted p g` became the new last chunk -/
inductive Created (cfg : Cfg) (s : State) : State × Except AErr Nat → Prop
  | overflow : Created cfg s (s, .error .capacityOverflow)
  | refused {size : Nat} {rest : List BaseResp} (hresp : s.resps = .fail :: rest) :
      Created cfg s (asked cfg s size rest, .error .alloc)
  | granted {size p g size' : Nat} {rest : List BaseResp} (hresp : s.resps = .granted p g :: rest)
      (hal : Gen.SizeConfig.align_size (sizeCfg cfg) g = .ok size') (hge : size ≤ size') (h16 : size' % 16 = 0) :
      Created cfg s
        ({ asked cfg s size rest with chunks := s.chunks ++ [freshChunk cfg p g size size'] }, .ok s.chunks.length)

theorem NewChunk.created {cfg : Cfg} {s : State} {size : Nat} {x} (h : NewChunk cfg s size x) : Created cfg s x := by
  cases h with
  | overflow => exact .overflow
  | refused _ hresp => exact .refused hresp
  | granted _ hresp hal hge h16 => exact .granted hresp hal hge h16

theorem newChunk_created {cfg : Cfg} {s : State} {size : Nat} {x} (h : newChunk cfg s size = .ok x) : Created cfg s x :=
  (newChunk_iff.1 h).created

theorem newChunkForCapacity_created {cfg : Cfg} {s : State} {L : Layout} {x} (h : newChunkForCapacity cfg s L = .ok x) :
    Created cfg s x := by
  rcases newChunkForCapacity_cases h with rfl | ⟨_, _, _, _, h⟩
  · exact .overflow
  · exact newChunk_created h

theorem appendFor_created {cfg : Cfg} {s : State} {L : Layout} {x} (h : appendFor cfg s L = .ok x) :
    Created cfg s x := by
  obtain ⟨_, _, rfl | ⟨_, _, _, _, _, _, h⟩⟩ := appendFor_cases h
  · exact .overflow
  · exact newChunk_created h

/-! ## `tryCur`: the only state change is a move of the current position -/

/-- the part of `tryCur` that does not look at the state: the value returned and, for `alloc`, the
    new position of the current chunk -/
def tryProps (cfg : Cfg) (k : Kind) (props : Gen.Bumping.BumpProps) : R (Option ((Nat × Nat) × Option Nat)) :=
  match k with
  | .range => do
    let r ← liftM (if cfg.up then Gen.Bumping.bump_prepare_up props else Gen.Bumping.bump_prepare_down props)
    pure (r.map fun x => (x, none))
  | k =>
    if cfg.up then do
      let r ← liftM (Gen.Bumping.bump_up props)
      pure (r.map fun r => ((r.ptr, 0), if k = .alloc then some r.new_pos else none))
    else do
      let p ← liftM (Gen.Bumping.bump_down props)
      pure (p.map fun p => ((p, 0), if k = .alloc then some p else none))

theorem tryCur_eq (cfg : Cfg) (k : Kind) (s : State) (L : Layout) (h : Hints) :
    tryCur cfg k s L h = tryProps cfg k (bumpProps cfg s L h) >>= fun o =>
      pure (o.map fun x => (x.1, x.2.elim s (setCurPos s))) := by
  unfold tryCur tryProps
  cases k <;> cases cfg.up <;> simp only [Bool.false_eq_true, ↓reduceIte] <;>
    (rcases liftM _ with _ | _ | _) <;> rfl

theorem tryCur_some {cfg : Cfg} {k : Kind} {s : State} {L : Layout} {h : Hints} {v : Nat × Nat} {s' : State}
    (e : tryCur cfg k s L h = .ok (some (v, s'))) : s' = s ∨ k = .alloc ∧ ∃ p, s' = setCurPos s p := by
  unfold tryCur at e
  cases k <;> simp only at e
  · rcases ite_eq_ok e with ⟨_, e⟩ | ⟨_, e⟩ <;> obtain ⟨_ | _, _, e⟩ := bind_eq_ok e <;> cases e <;>
      exact .inr ⟨rfl, _, rfl⟩
  · rcases ite_eq_ok e with ⟨_, e⟩ | ⟨_, e⟩ <;> obtain ⟨_ | _, _, e⟩ := bind_eq_ok e <;> cases e <;> exact .inl rfl
  · obtain ⟨_ | _, _, e⟩ := bind_eq_ok e <;> cases e
    exact .inl rfl

/-! ## `walkNext` -/

/-- stop (there is no next chunk), or enter the next chunk and try it -/
inductive Walk (cfg : Cfg) (k : Kind) (L : Layout) (h : Hints) :
    Nat → State → Option ((Nat × Nat) × State) → State → Prop
  | stop {i : Nat} {s : State} (hc : s.chunks[i+1]? = none) : Walk cfg k L h i s none s
  | hit {i : Nat} {s : State} {c : Chunk} {v : Nat × Nat} {s' : State} (hc : s.chunks[i+1]? = some c)
      (ht : tryCur cfg k (enterChunk cfg s (i+1) c) L h = .ok (some (v, s'))) : Walk cfg k L h i s (some (v, s')) s'
  | miss {i : Nat} {s : State} {c : Chunk} {o : Option ((Nat × Nat) × State)} {s' : State} (hc : s.chunks[i+1]? = some c)
      (ht : tryCur cfg k (enterChunk cfg s (i+1) c) L h = .ok none)
      (hw : Walk cfg k L h (i+1) (enterChunk cfg s (i+1) c) o s') : Walk cfg k L h i s o s'

theorem walkNext_stop {cfg : Cfg} {k : Kind} {L : Layout} {h : Hints} {fuel i : Nat} {s : State}
    (hc : s.chunks[i+1]? = none) : walkNext cfg k L h fuel i s = .ok (none, s) := by
  cases fuel with
  | zero => rfl
  | succ fuel => rw [walkNext, hc]; rfl

theorem walkNext_succ {cfg : Cfg} {k : Kind} {L : Layout} {h : Hints} {fuel i : Nat} {s : State} {c : Chunk}
    (hc : s.chunks[i+1]? = some c) :
    walkNext cfg k L h (fuel+1) i s = tryCur cfg k (enterChunk cfg s (i+1) c) L h >>= fun o =>
      match o with
      | some r => pure (some r, r.2)
      | none => walkNext cfg k L h fuel (i+1) (enterChunk cfg s (i+1) c) := by
  rw [walkNext, hc]; rfl

theorem Walk.of_none {cfg : Cfg} {k : Kind} {L : Layout} {h : Hints} {i : Nat} {s s' : State} {o}
    (hw : Walk cfg k L h i s o s') (hc : s.chunks[i+1]? = none) : o = none ∧ s' = s := by
  cases hw with
  | stop => exact ⟨rfl, rfl⟩
  | hit hc' => rw [hc] at hc'; cases hc'
  | miss hc' => rw [hc] at hc'; cases hc'

/-- with fuel for all chunks behind `i` (which is what `inAnotherChunk` gives it) the function is its graph -/
theorem walkNext_iff {cfg : Cfg} {k : Kind} {L : Layout} {h : Hints} :
    ∀ (fuel i : Nat) (s : State) {o : Option ((Nat × Nat) × State)} {s' : State}, s.chunks.length ≤ i + 1 + fuel →
      (walkNext cfg k L h fuel i s = .ok (o, s') ↔ Walk cfg k L h i s o s') := by
  intro fuel
  induction fuel with
  | zero =>
    intro i s o s' hf
    have hc : s.chunks[i+1]? = none := List.getElem?_eq_none hf
    exact ⟨fun e => by cases e; exact .stop hc, fun hw => by obtain ⟨rfl, rfl⟩ := hw.of_none hc; rfl⟩
  | succ fuel ih =>
    intro i s o s' hf
    cases hc : s.chunks[i+1]? with
    | none =>
      rw [walkNext_stop hc]
      exact ⟨fun e => by cases e; exact .stop hc, fun hw => by obtain ⟨rfl, rfl⟩ := hw.of_none hc; rfl⟩
    | some c =>
      have hf' : (enterChunk cfg s (i+1) c).chunks.length ≤ i + 1 + 1 + fuel := by
        rw [enterChunk_length]; omega
      rw [walkNext_succ hc]
      constructor
      · intro e
        obtain ⟨_ | ⟨v, s2⟩, ht, e⟩ := bind_eq_ok e
        · exact .miss hc ht ((ih _ _ hf').1 e)
        · cases e; exact .hit hc ht
      · intro hw
        cases hw with
        | stop hc' => rw [hc] at hc'; cases hc'
        | hit hc' ht => rw [hc] at hc'; cases hc'; rw [ht]; rfl
        | miss hc' ht hw => rw [hc] at hc'; cases hc'; rw [ht]; exact (ih _ _ hf').2 hw

/-! ## `inAnotherChunk` -/

inductive Slow (cfg : Cfg) (k : Kind) (L : Layout) (h : Hints) (s : State) : State → Except AErr (Nat × Nat) → Prop
  | claimed (hcur : s.cur = .claimed) : Slow cfg k L h s s (.error .claimed)
  | firstRefused {s1 : State} {e : AErr} (hcur : s.cur = .unallocated)
      (hn : newChunkForCapacity cfg s L = .ok (s1, .error e)) : Slow cfg k L h s s1 (.error e)
  | first {s1 s' : State} {j : Nat} {v : Nat × Nat} (hcur : s.cur = .unallocated)
      (hn : newChunkForCapacity cfg s L = .ok (s1, .ok j))
      (ht : tryCur cfg k { s1 with cur := .chunk j } L h = .ok (some (v, s'))) : Slow cfg k L h s s' (.ok v)
  | next {i : Nat} {s' : State} {v : Nat × Nat} (hcur : s.cur = .chunk i)
      (hw : Walk cfg k L h i s (some (v, s')) s') : Slow cfg k L h s s' (.ok v)
  | appendRefused {i : Nat} {sw s1 : State} {e : AErr} (hcur : s.cur = .chunk i) (hw : Walk cfg k L h i s none sw)
      (hn : appendFor cfg sw L = .ok (s1, .error e)) : Slow cfg k L h s { s1 with cur := .chunk i } (.error e)
  | append {i j : Nat} {sw s1 s' : State} {v : Nat × Nat} (hcur : s.cur = .chunk i) (hw : Walk cfg k L h i s none sw)
      (hn : appendFor cfg sw L = .ok (s1, .ok j))
      (ht : tryCur cfg k { s1 with cur := .chunk j } L h = .ok (some (v, s'))) : Slow cfg k L h s s' (.ok v)

theorem Walk.some_eq {cfg : Cfg} {k : Kind} {L : Layout} {h : Hints} {i : Nat} {s s2 : State} {o}
    (hw : Walk cfg k L h i s o s2) : ∀ v s', o = some (v, s') → s' = s2 := by
  induction hw with
  | stop => exact fun _ _ e => nomatch e
  | hit => exact fun _ _ e => by cases e; rfl
  | miss _ _ _ ih => exact ih

/-- the closure `fresh` of `inAnotherChunk`: make the new chunk current and allocate from it -/
def freshTry (cfg : Cfg) (k : Kind) (L : Layout) (h : Hints) (r : State × Except AErr Nat) :
    R (State × Except AErr (Nat × Nat)) :=
  match r with
  | (s', .error e) => pure (s', .error e)
  | (s', .ok i) => do
    let s' := { s' with cur := .chunk i }
    match ← tryCur cfg k s' L h with
    | some (v, s'') => pure (s'', .ok v)
    | none => throw (.ub "unreachable_unchecked: the layout does not fit the chunk that was created for it")

/-- what `inAnotherChunk` does with the result of `appendFor` when it started in chunk `i`: a failed
    request leaves chunk `i` current (`self.chunk.set(original)` in `in_another_chunk`, raw_bump.rs), a new chunk is entered by `freshTry` -/
def freshTryAt (cfg : Cfg) (k : Kind) (L : Layout) (h : Hints) (i : Nat) (r : State × Except AErr Nat) :
    R (State × Except AErr (Nat × Nat)) :=
  match r with
  | (s'', .error e) => pure ({ s'' with cur := .chunk i }, .error e)
  | r => freshTry cfg k L h r

theorem inAnotherChunk_eq (cfg : Cfg) (k : Kind) (s : State) (L : Layout) (h : Hints) :
    inAnotherChunk cfg k s L h =
      match s.cur with
      | .claimed => pure (s, .error .claimed)
      | .unallocated => newChunkForCapacity cfg s L >>= freshTry cfg k L h
      | .chunk i => walkNext cfg k L h (s.chunks.length - (i+1)) i s >>= fun w =>
          match w with
          | (some (v, s'), _) => pure (s', .ok v)
          | (none, s') => appendFor cfg s' L >>= freshTryAt cfg k L h i := by
  unfold inAnotherChunk freshTryAt freshTry
  rfl

theorem freshTry_ok {cfg : Cfg} {k : Kind} {L : Layout} {h : Hints} {s1 s' : State} {j : Nat} {r}
    (e : freshTry cfg k L h (s1, .ok j) = .ok (s', r)) :
    ∃ v, r = .ok v ∧ tryCur cfg k { s1 with cur := .chunk j } L h = .ok (some (v, s')) := by
  obtain ⟨_ | ⟨v, s2⟩, ht, e⟩ := bind_eq_ok e <;> cases e
  exact ⟨v, rfl, ht⟩

theorem fuel_le (s : State) (i : Nat) : s.chunks.length ≤ i + 1 + (s.chunks.length - (i+1)) := by omega

theorem inAnotherChunk_slow {cfg : Cfg} {k : Kind} {s s' : State} {L : Layout} {h : Hints}
    {r : Except AErr (Nat × Nat)} (e : inAnotherChunk cfg k s L h = .ok (s', r)) : Slow cfg k L h s s' r := by
  rw [inAnotherChunk_eq] at e
  cases hcur : s.cur with
  | claimed => rw [hcur] at e; cases e; exact .claimed hcur
  | unallocated =>
    rw [hcur] at e
    obtain ⟨⟨s1, _ | j⟩, hn, e⟩ := bind_eq_ok e
    · cases e; exact .firstRefused hcur hn
    · obtain ⟨v, rfl, ht⟩ := freshTry_ok e
      exact .first hcur hn ht
  | chunk i =>
    rw [hcur] at e
    obtain ⟨⟨o, sw⟩, hw, e⟩ := bind_eq_ok e
    have hw := (walkNext_iff _ _ _ (fuel_le s i)).1 hw
    cases o with
    | some x =>
      obtain ⟨v, s2⟩ := x
      cases e
      cases hw.some_eq v _ rfl
      exact .next hcur hw
    | none =>
      obtain ⟨⟨s1, _ | j⟩, hn, e⟩ := bind_eq_ok e
      · cases e; exact .appendRefused hcur hw hn
      · obtain ⟨v, rfl, ht⟩ := freshTry_ok e
        exact .append hcur hw hn ht

theorem Slow.run {cfg : Cfg} {k : Kind} {s s' : State} {L : Layout} {h : Hints}
    {r : Except AErr (Nat × Nat)} (hs : Slow cfg k L h s s' r) : inAnotherChunk cfg k s L h = .ok (s', r) := by
  rw [inAnotherChunk_eq]
  cases hs with
  | claimed hcur => rw [hcur]; rfl
  | firstRefused hcur hn => rw [hcur]; simp only [hn]; rfl
  | first hcur hn ht => rw [hcur]; simp only [hn, ok_bind, freshTry, ht]; rfl
  | @next i _ _ hcur hw => rw [hcur]; simp only [(walkNext_iff _ _ _ (fuel_le s i)).2 hw]; rfl
  | @appendRefused i _ _ _ hcur hw hn =>
    rw [hcur]; simp only [(walkNext_iff _ _ _ (fuel_le s i)).2 hw, ok_bind, hn]; rfl
  | @append i _ _ _ _ _ hcur hw hn ht =>
    rw [hcur]; simp only [(walkNext_iff _ _ _ (fuel_le s i)).2 hw, ok_bind, hn, freshTryAt, freshTry, ht]; rfl

/-! ## `allocGeneric`, `makeAllocated` -/

theorem allocGeneric_cases {cfg : Cfg} {k : Kind} {s s' : State} {L : Layout} {h hSlow : Hints}
    {r : Except AErr (Nat × Nat)} (e : allocGeneric cfg k s L h hSlow = .ok (s', r)) :
    (∃ v, r = .ok v ∧ tryCur cfg k s L h = .ok (some (v, s'))) ∨
    (tryCur cfg k s L h = .ok none ∧ inAnotherChunk cfg k s L hSlow = .ok (s', r)) := by
  unfold allocGeneric at e
  obtain ⟨_ | ⟨v, s2⟩, ht, e⟩ := bind_eq_ok e
  · exact .inr ⟨ht, e⟩
  · cases e; exact .inl ⟨v, rfl, ht⟩

theorem alloc_eq_ok {cfg : Cfg} {s s' : State} {L : Layout} {r : Except AErr Nat}
    (hr : alloc cfg s L = .ok (s', r)) :
    ∃ r', allocGeneric cfg .alloc s L Hints.custom Hints.custom = .ok (s', r') ∧ r = r'.map (·.1) := by
  obtain ⟨⟨s1, r1⟩, h1, e⟩ := bind_eq_ok hr
  cases e
  exact ⟨r1, h1, rfl⟩

theorem makeAllocated_cases {cfg : Cfg} {s s' : State} {r : Except AErr Unit}
    (h : makeAllocated cfg s = .ok (s', r)) :
    s' = s ∨ (s.cur = .unallocated ∧ ∃ size s1 r1, newChunk cfg s size = .ok (s1, r1) ∧
      match r1 with
      | .error e => s' = s1 ∧ r = .error e
      | .ok i => s' = { s1 with cur := .chunk i } ∧ r = .ok ()) := by
  unfold makeAllocated at h
  split at h
  · cases h; exact .inl rfl
  · cases h; exact .inl rfl
  · rename_i hcur
    obtain ⟨_ | size, _, h⟩ := bind_eq_ok h
    · cases h
    · obtain ⟨⟨s1, r1⟩, h1, h⟩ := bind_eq_ok h
      refine .inr ⟨hcur, size, s1, r1, h1, ?_⟩
      cases r1 <;> cases h <;> exact ⟨rfl, rfl⟩

/-! ## `reserve` -/

/-- refused on a claimed handle, nothing to do (the chunks at hand suffice), a size overflow, or one call of a
    chunk-creating function for the bytes that are missing (`rest`) -/
inductive Reserved (cfg : Cfg) (s : State) (n : Nat) : State → Except AErr Unit → Prop
  | claimed (hcur : s.cur = .claimed) : Reserved cfg s n s (.error .claimed)
  | enough (hcur : s.cur ≠ .claimed) : Reserved cfg s n s (.ok ())
  | overflow (hcur : s.cur ≠ .claimed) : Reserved cfg s n s (.error .capacityOverflow)
  | firstRefused {s1 : State} {e : AErr} (hcur : s.cur = .unallocated) (hl : layoutOk n 1 = true)
      (hn : newChunkForCapacity cfg s ⟨n, 1⟩ = .ok (s1, .error e)) : Reserved cfg s n s1 (.error e)
  | first {j : Nat} {s1 : State} (hcur : s.cur = .unallocated) (hl : layoutOk n 1 = true)
      (hn : newChunkForCapacity cfg s ⟨n, 1⟩ = .ok (s1, .ok j)) : Reserved cfg s n { s1 with cur := .chunk j } (.ok ())
  | appendRefused {i rest : Nat} {s1 : State} {e : AErr} (hcur : s.cur = .chunk i) (hl : layoutOk rest 1 = true)
      (hn : appendFor cfg s ⟨rest, 1⟩ = .ok (s1, .error e)) : Reserved cfg s n s1 (.error e)
  | append {i j rest : Nat} {s1 : State} (hcur : s.cur = .chunk i) (hl : layoutOk rest 1 = true)
      (hn : appendFor cfg s ⟨rest, 1⟩ = .ok (s1, .ok j)) : Reserved cfg s n s1 (.ok ())

theorem layoutOk_of_not {n al : Nat} (h : ¬(!layoutOk n al) = true) : layoutOk n al = true := by simpa using h

theorem reserve_reserved {cfg : Cfg} {s s' : State} {n : Nat} {r : Except AErr Unit}
    (h : reserve cfg s n = .ok (s', r)) : Reserved cfg s n s' r := by
  unfold reserve at h
  split at h
  · rename_i hcur; cases h; exact .claimed hcur
  · rename_i hcur
    have hncl : s.cur ≠ .claimed := hcur ▸ nofun
    rcases ite_eq_ok h with ⟨_, h⟩ | ⟨hl, h⟩
    · cases h; exact .overflow hncl
    · obtain ⟨⟨s1, _ | j⟩, h1, h⟩ := bind_eq_ok h <;> cases h
      · exact .firstRefused hcur (layoutOk_of_not hl) h1
      · exact .first hcur (layoutOk_of_not hl) h1
  · rename_i i hcur
    have hncl : s.cur ≠ .claimed := hcur ▸ nofun
    split at h
    · cases h
    · split at h
      · cases h; exact .enough hncl
      · split at h
        · cases h; exact .enough hncl
        · rcases ite_eq_ok h with ⟨_, h⟩ | ⟨_, h⟩
          · cases h; exact .enough hncl
          · rcases ite_eq_ok h with ⟨_, h⟩ | ⟨hl, h⟩
            · cases h; exact .overflow hncl
            · obtain ⟨⟨s1, _ | j⟩, h1, h⟩ := bind_eq_ok h <;> cases h
              · exact .appendRefused hcur (layoutOk_of_not hl) h1
              · exact .append hcur (layoutOk_of_not hl) h1

/-! ## functions that only move a position -/

theorem deallocAssumeLast_inv {cfg : Cfg} {s s' : State} {ptr size : Nat}
    (h : deallocAssumeLast cfg s ptr size = .ok s') :
    s' = s ∨ ∃ i p, s.cur = .chunk i ∧
      liftM (Gen.LibArith.align_pos cfg.up s.minAlign (if cfg.up then ptr else ptr + size)) = .ok p ∧
      s' = setPos s i p := by
  unfold deallocAssumeLast at h
  rcases ite_eq_ok h with ⟨_, h⟩ | ⟨_, h⟩
  · cases h; exact .inl rfl
  · split at h
    · rename_i i hcur
      rcases ite_eq_ok h with ⟨_, h⟩ | ⟨_, h⟩
      · cases h
      · obtain ⟨p, hp, h⟩ := bind_eq_ok h
        cases h
        exact .inr ⟨i, p, hcur, hp, setCurPos_chunk hcur p⟩
    · cases h

theorem deallocate_inv {cfg : Cfg} {s s' : State} {ptr size : Nat}
    (h : deallocate cfg s ptr size = .ok s') :
    s' = s ∨ ∃ i p, s.cur = .chunk i ∧ isLast cfg s ptr size = true ∧
      liftM (Gen.LibArith.align_pos cfg.up s.minAlign (if cfg.up then ptr else ptr + size)) = .ok p ∧
      s' = setPos s i p := by
  unfold deallocate at h
  rcases ite_eq_ok h with ⟨_, h⟩ | ⟨_, h⟩
  · cases h; exact .inl rfl
  · rcases ite_eq_ok h with ⟨hlast, h⟩ | ⟨_, h⟩
    · rcases deallocAssumeLast_inv h with h1 | ⟨i, p, h1, h2, h3⟩
      · exact .inl h1
      · exact .inr ⟨i, p, h1, hlast, h2, h3⟩
    · cases h; exact .inl rfl

theorem deallocAssumeLast_cases {cfg : Cfg} {s s' : State} {ptr size : Nat}
    (e : deallocAssumeLast cfg s ptr size = .ok s') : s' = s ∨ ∃ p, s' = setCurPos s p :=
  (deallocAssumeLast_inv e).imp id fun ⟨_, p, hcur, _, h⟩ => ⟨p, h.trans (setCurPos_chunk hcur p).symm⟩

/-- putting the position back after `deallocAssumeLast` gives the old state back (`shrink_unfit` does this before it
    takes the slow path) -/
theorem deallocAssumeLast_restore {cfg : Cfg} {s s' : State} {ptr size : Nat}
    (e : deallocAssumeLast cfg s ptr size = .ok s') : setCurPos s' (curPos cfg s) = s := by
  rcases deallocAssumeLast_cases e with rfl | ⟨p, rfl⟩
  · exact setCurPos_self cfg s'
  · rw [setCurPos_setCurPos, setCurPos_self]

theorem deallocate_cases {cfg : Cfg} {s s' : State} {ptr size : Nat}
    (e : deallocate cfg s ptr size = .ok s') : s' = s ∨ ∃ p, s' = setCurPos s p :=
  (deallocate_inv e).imp id fun ⟨_, p, hcur, _, _, h⟩ => ⟨p, h.trans (setCurPos_chunk hcur p).symm⟩

theorem resetTo_inv {cfg : Cfg} {s s' : State} {cp : Checkpoint} (h : resetTo cfg s cp = .ok s') :
    (cp.cur = .unallocated ∧ s' = resetToStart cfg s) ∨
    ∃ i c p, cp.cur = .chunk i ∧ s.chunks[i]? = some c ∧
      liftM (Gen.LibArith.align_pos cfg.up s.minAlign cp.addr) = .ok p ∧
      s' = { setPos s i p with cur := .chunk i } := by
  unfold resetTo at h
  rcases ite_eq_ok h with ⟨hc, h⟩ | ⟨_, h⟩
  · cases h
    simp only [Bool.and_eq_true, beq_iff_eq] at hc
    exact .inl ⟨hc.2, rfl⟩
  · split at h
    · rename_i i hi
      split at h
      · cases h
      · rename_i c hc
        rcases ite_eq_ok h with ⟨_, h⟩ | ⟨_, h⟩
        · obtain ⟨p, hp, h⟩ := bind_eq_ok h
          cases h
          exact .inr ⟨i, c, p, hi, hc, hp, rfl⟩
        · cases h
    · cases h

theorem resetTo_unallocated {cfg : Cfg} {s : State} {cp : Checkpoint} (hk : cp.cur = .unallocated) (hga : cfg.ga = false) :
    resetTo cfg s cp = .ok (resetToStart cfg s) := by
  unfold resetTo
  simp only [hga, hk, Bool.not_false, beq_self_eq_true, Bool.and_self, ↓reduceIte]
  rfl

theorem resetTo_chunk {cfg : Cfg} {s : State} {cp : Checkpoint} {i p : Nat} {c : Chunk}
    (hk : cp.cur = .chunk i) (hc : s.chunks[i]? = some c)
    (hin : c.contentStart cfg ≤ cp.addr ∧ cp.addr ≤ c.contentEnd cfg)
    (hp : Gen.LibArith.align_pos cfg.up s.minAlign cp.addr = .ok p) :
    resetTo cfg s cp = .ok { setPos s i p with cur := .chunk i } := by
  have h1 : (!cfg.ga && (Cur.chunk i == Cur.unallocated)) = false := by
    rw [beq_false_of_ne (a := Cur.chunk i) (b := Cur.unallocated) nofun, Bool.and_false]
  unfold resetTo
  simp only [hk, h1, Bool.false_eq_true, ↓reduceIte, hc, hin, and_self, hp]
  rfl

theorem alignGuardDrop_cases {cfg : Cfg} {s s' : State} {n : Nat} (h : alignGuardDrop cfg s n = .ok s') :
    s' = s ∨ ∃ i c p, s.cur = .chunk i ∧ s.chunks[i]? = some c ∧
      liftM (Gen.LibArith.align_pos cfg.up n c.pos) = .ok p ∧ s' = setPos s i p := by
  unfold alignGuardDrop at h
  split at h
  · rename_i i hi
    split at h
    · cases h; exact .inl rfl
    · rename_i c hc
      obtain ⟨p, hp, h⟩ := bind_eq_ok h
      cases h
      exact .inr ⟨i, c, p, hi, hc, hp, rfl⟩
  · cases h; exact .inl rfl

/-- `align_to::<N>` re-aligns like `BumpAlignGuard::drop` when it raises the minimum alignment, and does nothing
    otherwise -/
theorem alignTo_eq (cfg : Cfg) (s : State) (n : Nat) :
    alignTo cfg s n = if n > s.minAlign then alignGuardDrop cfg s n else .ok s := rfl

theorem alignTo_cases {cfg : Cfg} {s s' : State} {n : Nat} (h : alignTo cfg s n = .ok s') :
    s' = s ∨ ∃ i c p, s.cur = .chunk i ∧ s.chunks[i]? = some c ∧
      liftM (Gen.LibArith.align_pos cfg.up n c.pos) = .ok p ∧ s' = setPos s i p := by
  rw [alignTo_eq] at h
  rcases ite_eq_ok h with ⟨_, h⟩ | ⟨_, h⟩
  · exact alignGuardDrop_cases h
  · cases h; exact .inl rfl

theorem alignChunkAt_cases {cfg : Cfg} {s s' : State} {n : Nat} {st : Cur} (h : alignChunkAt cfg s n st = .ok s') :
    s' = s ∨ ∃ j c p, st = .chunk j ∧ s.cur ≠ .chunk j ∧ s.chunks[j]? = some c ∧
      liftM (Gen.LibArith.align_pos cfg.up n c.pos) = .ok p ∧ s' = setPos s j p := by
  unfold alignChunkAt at h
  split at h
  · rename_i j
    rcases ite_eq_ok h with ⟨_, h⟩ | ⟨hne, h⟩
    · cases h; exact .inl rfl
    · split at h
      · cases h; exact .inl rfl
      · rename_i c hc
        obtain ⟨p, hp, h⟩ := bind_eq_ok h
        cases h
        exact .inr ⟨j, c, p, rfl, hne, hc, hp, rfl⟩
  · cases h; exact .inl rfl

end Fn
end Arena
