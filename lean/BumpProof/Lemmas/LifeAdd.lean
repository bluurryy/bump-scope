/-
  Lemmas/LifeAdd.lean — the third kind of change the invariant survives: a variable is bound (`Inv.bind`; `Inv.add` for a
  fresh one).  There, everything that relates the bound entry to the others is a hypothesis; the lemmas after it
  discharge those hypotheses for the bindings the statements make (a value allocated through a receiver, a handle derived
  from a receiver, an owned handle moved) and for the run-time effects several statements share (the use of a receiver,
  a drop, a guard's reset).
-/
import BumpProof.Lemmas.LifeArena
import BumpProof.Lemmas.LifeCheck

namespace Life

/-- The variable of the valid entry `n` is bound to `r`; in the new environment `n` stands for that variable, all
    other entries are those of `Γ`.  Everything that relates `n` and `r` to the other entries is a hypothesis:
    `hV` the bound value against the old enders, `hA` the old values against `n` as an ender; `hB1`/`hB2` the same two
    directions for the `handles` clause, `hU1`/`hU2` for `uniq`.  (`Typed`, `EnderOn`, `Ender` do not read the store, so
    facts about `σ` serve for `σ.set …` as they are.) -/
theorem Inv.bind {Γ Γ' : SEnv} {σ : DState} (inv : Inv Γ σ) (n : Entry) (r : Rt)
    (hmem : ∀ e ∈ Γ'.ents, e = n ∨ (e ∈ Γ.ents ∧ e.var ≠ n.var))
    (hnd : (Γ'.ents.map (·.var)).Nodup) (hn : n.var ∈ Γ'.used) (hused : ∀ v ∈ Γ.used, v ∈ Γ'.used)
    (hfr : Γ'.frames = Γ.frames)
    (hT : Typed σ n r)
    (hcl : ∀ e ∈ Γ'.ents, e.valid = true → Closed Γ' e)
    (hV : n.kind = .val → ∀ ex, r.epoch = some ex → ex ∈ σ.epochs r.arena ∧
          ∀ g ∈ Γ.ents, g.valid = true → g.var ≠ n.var → ∀ rg, σ.get g.var = some rg → Ender σ g rg r.arena ex →
            n.self.on g.var = true)
    (hA : ∀ e ∈ Γ.ents, e.valid = true → e.kind = .val → e.var ≠ n.var → ∀ re, σ.get e.var = some re →
          ∀ ex, re.epoch = some ex → Ender σ n r re.arena ex → e.self.on n.var = true)
    (hB1 : n.isHandle = true → ∀ g ∈ Γ.ents, g.valid = true → g.var ≠ n.var → ∀ rg, σ.get g.var = some rg →
          EnderOn σ g rg r.arena → n.param.on g.var = true ∨ g.self.mutOn n.var = true)
    (hB2 : ∀ h ∈ Γ.ents, h.valid = true → h.isHandle = true → h.var ≠ n.var → ∀ rh, σ.get h.var = some rh →
          EnderOn σ n r rh.arena → h.param.on n.var = true ∨ n.self.mutOn h.var = true)
    (hU1 : n.isHandle = true → n.acc ≠ .shrRef → ∀ h2 ∈ Γ.ents, h2.valid = true → h2.isHandle = true →
          h2.var ≠ n.var → ∀ r2, σ.get h2.var = some r2 → r.arena = r2.arena →
          n.self.mutOn h2.var = true ∨ h2.self.on n.var = true)
    (hU2 : n.isHandle = true → ∀ h1 ∈ Γ.ents, h1.valid = true → h1.isHandle = true → h1.acc ≠ .shrRef →
          h1.var ≠ n.var → ∀ r1, σ.get h1.var = some r1 → r1.arena = r.arena →
          h1.self.mutOn n.var = true ∨ n.self.on h1.var = true) :
    Inv Γ' (σ.set n.var r) := by
  -- an entry of the new environment and its run-time object: the bound one, or an old one
  have hcase : ∀ e ∈ Γ'.ents, ∀ r1, (σ.set n.var r).get e.var = some r1 →
      (e = n ∧ r1 = r) ∨ (e ∈ Γ.ents ∧ e.var ≠ n.var ∧ σ.get e.var = some r1) := by
    intro e he r1 h1
    rcases hmem e he with rfl | ⟨he0, hx⟩
    · rw [DState.get_set_self] at h1
      exact Or.inl ⟨rfl, (Option.some.inj h1).symm⟩
    · rw [DState.get_set_ne σ r hx] at h1
      exact Or.inr ⟨he0, hx, h1⟩
  constructor
  · exact hnd
  · intro e he
    rcases hmem e he with rfl | ⟨he0, _⟩
    · exact hn
    · exact hused _ (inv.used e he0)
  · intro p hp
    rcases List.mem_cons.1 hp with rfl | hp
    · exact hn
    · exact hused _ (inv.storeUsed p hp)
  · rw [hfr]; exact inv.frames
  · exact inv.epochs
  · intro e he hv
    rcases hmem e he with rfl | ⟨he0, hx⟩
    · exact ⟨r, DState.get_set_self σ _ r, hT⟩
    · rcases inv.typed e he0 hv with ⟨r0, hr0, ht⟩
      exact ⟨r0, by rw [DState.get_set_ne σ r hx]; exact hr0, ht⟩
  · exact hcl
  · intro e he hv hk r1 hr1 ex hex
    rcases hcase e he r1 hr1 with ⟨rfl, rfl⟩ | ⟨he0, hx, hr1'⟩
    · refine ⟨(hV hk ex hex).1, fun g hg hgv rg hrg hend => ?_⟩
      rcases hcase g hg rg hrg with ⟨rfl, rfl⟩ | ⟨hg0, hgx, hrg'⟩
      · exact absurd hend.1 (not_enderOn_val hk)
      · exact (hV hk ex hex).2 g hg0 hgv hgx rg hrg' hend
    · refine ⟨(inv.vals e he0 hv hk r1 hr1' ex hex).1, fun g hg hgv rg hrg hend => ?_⟩
      rcases hcase g hg rg hrg with ⟨rfl, rfl⟩ | ⟨hg0, hgx, hrg'⟩
      · exact hA e he0 hv hk hx r1 hr1' ex hex hend
      · exact (inv.vals e he0 hv hk r1 hr1' ex hex).2 g hg0 hgv rg hrg' hend
  · intro h hh hv hH rh hrh g hg hgv hne rg hrg hend
    rcases hcase h hh rh hrh with ⟨rfl, rfl⟩ | ⟨hh0, hx, hrh'⟩ <;>
      rcases hcase g hg rg hrg with ⟨rfl, rfl⟩ | ⟨hg0, hgx, hrg'⟩
    · exact absurd rfl hne
    · exact hB1 hH g hg0 hgv hgx rg hrg' hend
    · exact hB2 h hh0 hv hH hx rh hrh' hend
    · exact inv.handles h hh0 hv hH rh hrh' g hg0 hgv hne rg hrg' hend
  · intro h1 hh1 hv1 hH1 ha h2 hh2 hv2 hH2 hne r1 r2 hr1 hr2 har
    rcases hcase h1 hh1 r1 hr1 with ⟨rfl, rfl⟩ | ⟨hh10, hx1, hr1'⟩ <;>
      rcases hcase h2 hh2 r2 hr2 with ⟨rfl, rfl⟩ | ⟨hh20, hx2, hr2'⟩
    · exact absurd rfl hne
    · exact hU1 hH1 ha h2 hh20 hv2 hH2 hx2 r2 hr2' har
    · exact hU2 hH2 h1 hh10 hv1 hH1 ha hx1 r1 hr1' har
    · exact inv.uniq h1 hh10 hv1 hH1 ha h2 hh20 hv2 hH2 hne r1 r2 hr1' hr2' har

theorem Inv.add {Γ : SEnv} {σ : DState} (inv : Inv Γ σ) (ne : Entry) (r : Rt)
    (hfresh : ne.var ∉ Γ.used)
    (hT : Typed σ ne r)
    (hC : (∀ l ∈ ne.param, l ∈ ne.self) ∧
          (∀ p m, Loan.borrow p m ∈ ne.self →
            ∃ ep ∈ Γ.ents, ep.var = p ∧ ep.valid = true ∧ ep.kind ≠ .val ∧ ∀ l ∈ ep.self, l ∈ ne.self) ∧
          (∀ p m, Loan.borrow p m ∈ ne.param → ∀ ep ∈ Γ.ents, ep.var = p → ∀ l ∈ ep.self, l ∈ ne.param))
    (hV : ne.kind = .val → ∀ ex, r.epoch = some ex → ex ∈ σ.epochs r.arena ∧
          ∀ g ∈ Γ.ents, g.valid = true → ∀ rg, σ.get g.var = some rg → Ender σ g rg r.arena ex → ne.self.on g.var = true)
    (hA : ∀ e ∈ Γ.ents, e.valid = true → e.kind = .val → ∀ re, σ.get e.var = some re → ∀ ex, re.epoch = some ex →
          Ender σ ne r re.arena ex → e.self.on ne.var = true)
    (hB1 : ne.isHandle = true → ∀ g ∈ Γ.ents, g.valid = true → ∀ rg, σ.get g.var = some rg → EnderOn σ g rg r.arena →
          ne.param.on g.var = true ∨ g.self.mutOn ne.var = true)
    (hB2 : ∀ h ∈ Γ.ents, h.valid = true → h.isHandle = true → ∀ rh, σ.get h.var = some rh → EnderOn σ ne r rh.arena →
          h.param.on ne.var = true ∨ ne.self.mutOn h.var = true)
    (hU1 : ne.isHandle = true → ne.acc ≠ .shrRef → ∀ h2 ∈ Γ.ents, h2.valid = true → h2.isHandle = true →
          ∀ r2, σ.get h2.var = some r2 → r.arena = r2.arena → ne.self.mutOn h2.var = true ∨ h2.self.on ne.var = true)
    (hU2 : ne.isHandle = true → ∀ h1 ∈ Γ.ents, h1.valid = true → h1.isHandle = true → h1.acc ≠ .shrRef →
          ∀ r1, σ.get h1.var = some r1 → r1.arena = r.arena → h1.self.mutOn ne.var = true ∨ ne.self.on h1.var = true) :
    Inv { Γ with ents := ne :: Γ.ents, used := ne.var :: Γ.used } (σ.set ne.var r) := by
  have hne : ∀ e ∈ Γ.ents, e.var ≠ ne.var := fun e he h => hfresh (h ▸ inv.used e he)
  -- every loan of the new entry is on an existing variable
  have hselfFree : ne.self.on ne.var = false := by
    apply Bool.eq_false_iff.2
    intro hon
    rcases Region.on_iff.1 hon with ⟨m, hl⟩
    rcases hC.2.1 _ m hl with ⟨ep, hep, h1, _⟩
    exact hne ep hep h1
  refine inv.bind (Γ' := { Γ with ents := ne :: Γ.ents, used := ne.var :: Γ.used }) ne r ?_ ?_
    List.mem_cons_self (fun v hv => List.mem_cons_of_mem _ hv) rfl hT ?_
    (fun hk ex hex => ⟨(hV hk ex hex).1, fun g hg hgv _ => (hV hk ex hex).2 g hg hgv⟩)
    (fun e he hv hk _ => hA e he hv hk) (fun hH g hg hgv _ => hB1 hH g hg hgv)
    (fun h hh hv hH _ => hB2 h hh hv hH) (fun hH ha h2 hh2 hv2 hH2 _ => hU1 hH ha h2 hh2 hv2 hH2)
    (fun hH h1 hh1 hv1 hH1 ha _ => hU2 hH h1 hh1 hv1 hH1 ha)
  · intro e he
    rcases List.mem_cons.1 he with rfl | he
    · exact Or.inl rfl
    · exact Or.inr ⟨he, hne e he⟩
  · show ((ne :: Γ.ents).map (·.var)).Nodup
    rw [List.map_cons, List.nodup_cons]
    refine ⟨fun hm => ?_, inv.nodup⟩
    rcases List.mem_map.1 hm with ⟨e, he, hev⟩
    exact hne e he hev
  · intro e he hv
    rcases List.mem_cons.1 he with rfl | he
    · refine ⟨hC.1, fun q m hq => ?_, hselfFree, fun q m hq ep hep hvar => ?_⟩
      · rcases hC.2.1 q m hq with ⟨ep, hep, h⟩
        exact ⟨ep, List.mem_cons_of_mem _ hep, h⟩
      · rcases List.mem_cons.1 hep with rfl | hep'
        · -- the new entry does not borrow from itself
          exact absurd hvar (Region.ne_of_on_false hselfFree (hC.1 _ hq)).symm
        · exact hC.2.2 q m hq ep hep' hvar
    · have hc := inv.closed e he hv
      refine ⟨hc.1, fun q m hq => ?_, hc.2.2.1, fun q m hq ep hep hvar => ?_⟩
      · rcases hc.2.1 q m hq with ⟨ep, hep, h⟩
        exact ⟨ep, List.mem_cons_of_mem _ hep, h⟩
      · rcases List.mem_cons.1 hep with rfl | hep'
        · -- an old entry does not borrow from the new variable
          rcases hc.2.1 q m (hc.1 _ hq) with ⟨ep0, hep0, h1, _⟩
          exact absurd (h1.trans hvar.symm) (hne ep0 hep0)
        · exact hc.2.2.2 q m hq ep hep' hvar

/-- the hypothesis `hC` of `Inv.add` for a new entry whose two regions are the same region `R`, all of whose places
    are valid non-value entries that need nothing beyond `R`.  The conclusion has the shape of `hC` so that it can be
    passed on as it is: its first conjunct is then trivial, its second is `h`; the third is what is proved. -/
theorem Inv.closed_of_places {Γ : SEnv} {σ : DState} (inv : Inv Γ σ) {R : Region}
    (h : ∀ p m, Loan.borrow p m ∈ R →
      ∃ ep ∈ Γ.ents, ep.var = p ∧ ep.valid = true ∧ ep.kind ≠ .val ∧ ∀ l ∈ ep.self, l ∈ R) :
    (∀ l ∈ R, l ∈ R) ∧
    (∀ p m, Loan.borrow p m ∈ R →
      ∃ ep ∈ Γ.ents, ep.var = p ∧ ep.valid = true ∧ ep.kind ≠ .val ∧ ∀ l ∈ ep.self, l ∈ R) ∧
    (∀ p m, Loan.borrow p m ∈ R → ∀ ep ∈ Γ.ents, ep.var = p → ∀ l ∈ ep.self, l ∈ R) := by
  refine ⟨fun _ hl => hl, h, fun p m hp ep hep hvar l hl => ?_⟩
  rcases h p m hp with ⟨ep0, hep0, h1, _, _, h4⟩
  exact h4 l (inv.eq_of_var_eq hep hep0 (hvar.trans h1.symm) ▸ hl)

/-- the run-time object of a valid entry changes (a guard gets its new epoch, a pool another arena); it stays on
    its arena.  What relates the new object to the other entries is a hypothesis. -/
theorem Inv.rebind {Γ : SEnv} {σ : DState} (inv : Inv Γ σ) {e : Entry} (he : e ∈ Γ.ents) (hv : e.valid = true)
    {r : Rt} (hr : σ.get e.var = some r) (r' : Rt) (harena : r'.arena = r.arena)
    (hT : Typed σ e r') (hk : e.kind ≠ .val)
    (hA : ∀ e' ∈ Γ.ents, e'.valid = true → e'.kind = .val → e'.var ≠ e.var → ∀ re, σ.get e'.var = some re →
          ∀ ex, re.epoch = some ex → Ender σ e r' re.arena ex → e'.self.on e.var = true)
    (hB2 : ∀ h ∈ Γ.ents, h.valid = true → h.isHandle = true → h.var ≠ e.var → ∀ rh, σ.get h.var = some rh →
          EnderOn σ e r' rh.arena → h.param.on e.var = true ∨ e.self.mutOn h.var = true) :
    Inv Γ (σ.set e.var r') := by
  refine inv.bind e r' (fun e' he' => ?_) inv.nodup (inv.used e he) (fun _ h => h) rfl hT inv.closed
    (fun h => absurd h hk) hA ?_ hB2 ?_ ?_
  · by_cases hx : e'.var = e.var
    · exact Or.inl (inv.eq_of_var_eq he' he hx)
    · exact Or.inr ⟨he', hx⟩
  · intro hH g hg hgv hne rg hrg hend
    exact inv.handles e he hv hH r hr g hg hgv hne rg hrg (harena ▸ hend)
  · intro hH ha h2 hh2 hv2 hH2 hne r2 hr2 har
    exact inv.uniq e he hv hH ha h2 hh2 hv2 hH2 (Ne.symm hne) r r2 hr hr2 (harena ▸ har)
  · intro hH h1 hh1 hv1 hH1 ha hne r1 hr1 har
    exact inv.uniq h1 hh1 hv1 hH1 ha e he hv hH hne r1 r hr1 hr (harena ▸ har)

/-- the entry of a value variable gets the loans `S` added to both regions and is bound to another run-time value
    (`o = Some(x)`: what `o` holds from now on needs what `x` needed) -/
theorem Inv.extendVal {Γ : SEnv} {σ : DState} (inv : Inv Γ σ) {o : Entry} (ho : o ∈ Γ.ents) (hov : o.valid = true)
    (hok : o.kind = .val) (S : Region) (r' : Rt)
    (hrk : r'.kind = .val) (hrn : ∀ ex, r'.epoch = some ex → ex < σ.next)
    (hS : ∀ p m, Loan.borrow p m ∈ S →
          ∃ ep ∈ Γ.ents, ep.var = p ∧ ep.valid = true ∧ ep.kind ≠ .val ∧ ∀ l ∈ ep.self, l ∈ S)
    (hV : ∀ ex, r'.epoch = some ex → ex ∈ σ.epochs r'.arena ∧
          ∀ g ∈ Γ.ents, g.valid = true → ∀ rg, σ.get g.var = some rg → Ender σ g rg r'.arena ex → S.on g.var = true) :
    Inv { Γ with ents := Γ.ents.map fun e =>
            if e.var == o.var then { e with self := e.self ++ S, param := e.param ++ S } else e }
        (σ.set o.var r') := by
  have hco := inv.closed o ho hov
  have hmem : ∀ e', e' ∈ (Γ.ents.map fun e =>
        if e.var == o.var then { e with self := e.self ++ S, param := e.param ++ S } else e) →
      (e' = { o with self := o.self ++ S, param := o.param ++ S }) ∨ (e' ∈ Γ.ents ∧ e'.var ≠ o.var) := by
    intro e' he'
    rcases List.mem_map.1 he' with ⟨e, he, rfl⟩
    by_cases hx : e.var = o.var
    · obtain rfl := inv.eq_of_var_eq he ho hx
      exact Or.inl (by simp)
    · exact Or.inr (by simpa [hx] using he)
  have hkeep : ∀ e ∈ Γ.ents, e.var ≠ o.var →
      e ∈ (Γ.ents.map fun e => if e.var == o.var then { e with self := e.self ++ S, param := e.param ++ S } else e) :=
    fun e he hx => List.mem_map.2 ⟨e, he, by simp [hx]⟩
  -- a place that is borrowed is not the value variable `o`
  have hplace : ∀ ep ∈ Γ.ents, ep.kind ≠ .val → ep.var ≠ o.var :=
    fun ep hep hk hx => hk (inv.eq_of_var_eq hep ho hx ▸ hok)
  -- the enlarged regions are closed: those of `o` were, and the places of `S` need nothing beyond `S`
  have hC1 : ∀ l ∈ o.param ++ S, l ∈ o.self ++ S := fun l hl =>
    (List.mem_append.1 hl).elim (fun h => List.mem_append_left _ (hco.1 l h)) (List.mem_append_right _)
  have hC2 : ∀ p m, Loan.borrow p m ∈ o.self ++ S →
      ∃ ep ∈ Γ.ents, ep.var = p ∧ ep.valid = true ∧ ep.kind ≠ .val ∧ ∀ l ∈ ep.self, l ∈ o.self ++ S := by
    intro p m hp
    rcases List.mem_append.1 hp with h | h
    · rcases hco.2.1 p m h with ⟨ep, hep, h1, h2, h3, h4⟩
      exact ⟨ep, hep, h1, h2, h3, fun l hl => List.mem_append_left _ (h4 l hl)⟩
    · rcases hS p m h with ⟨ep, hep, h1, h2, h3, h4⟩
      exact ⟨ep, hep, h1, h2, h3, fun l hl => List.mem_append_right _ (h4 l hl)⟩
  have hC3 : ∀ p m, Loan.borrow p m ∈ o.param ++ S → ∀ ep ∈ Γ.ents, ep.var = p → ∀ l ∈ ep.self, l ∈ o.param ++ S := by
    intro p m hp ep hep hvar l hl
    rcases List.mem_append.1 hp with h | h
    · exact List.mem_append_left _ (hco.2.2.2 p m h ep hep hvar l hl)
    · rcases hS p m h with ⟨ep1, hep1, h1, _, _, h4⟩
      exact List.mem_append_right _ (h4 l (inv.eq_of_var_eq hep hep1 (hvar.trans h1.symm) ▸ hl))
  have hfree : Region.on (o.self ++ S) o.var = false := by
    apply Bool.eq_false_iff.2
    intro hon
    rcases Region.on_iff.1 hon with ⟨m, hl⟩
    rcases hC2 _ m hl with ⟨ep, hep, h1, _, h3, _⟩
    exact hplace ep hep h3 h1
  have hH : (⟨o.var, o.kind, o.acc, o.self ++ S, o.param ++ S, o.valid, o.depth⟩ : Entry).isHandle = true → False := by
    simp [Entry.isHandle, hok]
  refine inv.bind { o with self := o.self ++ S, param := o.param ++ S } r' hmem ?_ (inv.used o ho) (fun _ h => h) rfl
    (Typed.val hok hrk hrn) ?_
    (fun _ ex hex => ⟨(hV ex hex).1, fun g hg hgv _ rg hrg hend =>
      Region.on_of_subset (fun l hl => List.mem_append_right _ hl) ((hV ex hex).2 g hg hgv rg hrg hend)⟩)
    (fun _ _ _ _ _ _ _ _ _ hend => absurd hend.1 (not_enderOn_val hok)) (fun h => (hH h).elim)
    (fun _ _ _ _ _ _ _ hon => absurd hon (not_enderOn_val hok)) (fun h => (hH h).elim) (fun h => (hH h).elim)
  · show ((Γ.ents.map fun e =>
        if e.var == o.var then { e with self := e.self ++ S, param := e.param ++ S } else e).map (·.var)).Nodup
    rw [List.map_map]
    refine (List.map_congr_left fun e _ => ?_) ▸ inv.nodup
    show e.var = (if (e.var == o.var) = true then ({ e with self := e.self ++ S, param := e.param ++ S } : Entry) else e).var
    split <;> rfl
  · intro e' he' hv
    rcases hmem e' he' with rfl | ⟨he, hx⟩
    · refine ⟨hC1, fun q m hq => ?_, hfree, fun q m hq ep' hep' hvar l hl => ?_⟩
      · rcases hC2 q m hq with ⟨ep, hep, h1, h2, h3, h4⟩
        exact ⟨ep, hkeep ep hep (hplace ep hep h3), h1, h2, h3, h4⟩
      · rcases hmem ep' hep' with rfl | ⟨hep, _⟩
        · -- the borrowed place would be the value variable itself
          exact absurd hvar.symm (Region.ne_of_on_false hfree (hC1 _ hq))
        · exact hC3 q m hq ep' hep hvar l hl
    · have hc := inv.closed e' he hv
      refine ⟨hc.1, fun q m hq => ?_, hc.2.2.1, fun q m hq ep' hep' hvar l hl => ?_⟩
      · rcases hc.2.1 q m hq with ⟨ep, hep, h1, h2, h3, h4⟩
        exact ⟨ep, hkeep ep hep (hplace ep hep h3), h1, h2, h3, h4⟩
      · rcases hmem ep' hep' with rfl | ⟨hep, _⟩
        · rcases hc.2.1 q m (hc.1 _ hq) with ⟨ep0, hep0, h1, _, h3, _⟩
          exact absurd (h1.trans hvar.symm) (hplace ep0 hep0 h3)
        · exact hc.2.2.2 q m hq ep' hep hvar l hl

/-- declaring an entry with empty regions whose run-time object can end nothing and points nowhere -/
theorem Inv.addInert {Γ : SEnv} {σ : DState} (inv : Inv Γ σ) (x : Var) (k : Kind) (d : Nat) (r : Rt)
    (hfresh : x ∉ Γ.used) (hT : Typed σ ⟨x, k, .own, [], [], true, d⟩ r)
    (hk : k = .val ∨ k = .pool) (hep : r.epoch = none) (hpool : r.arenas = []) :
    Inv { Γ with ents := ⟨x, k, .own, [], [], true, d⟩ :: Γ.ents, used := x :: Γ.used } (σ.set x r) := by
  have hH : (⟨x, k, .own, [], [], true, d⟩ : Entry).isHandle = false := by rcases hk with rfl | rfl <;> rfl
  have notOn : ∀ a, ¬ EnderOn σ ⟨x, k, .own, [], [], true, d⟩ r a := by
    rintro a (⟨h, _⟩ | ⟨h, _⟩ | ⟨_, ha⟩)
    · rcases hk with rfl | rfl <;> cases h
    · rcases hk with rfl | rfl <;> cases h
    · rw [hpool] at ha; cases ha
  apply inv.add _ r hfresh hT (by simp)
  · intro _ ex hex; rw [hep] at hex; cases hex
  · intro e he hv hke re hre ex hex hend; exact absurd hend.1 (notOn _)
  · intro h; rw [hH] at h; cases h
  · intro h hh hv hH' rh hrh hon; exact absurd hon (notOn _)
  · intro h; rw [hH] at h; cases h
  · intro h; rw [hH] at h; cases h

/-- `Γ1` is `Γ` after a use of the valid entry `e` in mode `m` -/
structure AfterUse (Γ Γ1 : SEnv) (e : Entry) (m : Mode) : Prop where
  used : Γ1.used = Γ.used
  frames : Γ1.frames = Γ.frames
  sub : ∀ g ∈ Γ1.ents, g.valid = true → g ∈ Γ.ents ∧
        (match m with | .shr => g.self.mutOn e.var = false | .mut => g.self.on e.var = false)
  keep : ∀ ep ∈ Γ.ents, ep.valid = true → (∀ l ∈ ep.self, l ∈ e.self) → ep.var ≠ e.var → ep ∈ Γ1.ents

theorem AfterUse.noConflict {Γ Γ1 : SEnv} {e : Entry} {m : Mode} (h : AfterUse Γ Γ1 e m) : NoConflict Γ1 e.var m :=
  fun g hg hv => (h.sub g hg hv).2

theorem access_afterUse {Γ Γ1 : SEnv} {σ : DState} (inv : Inv Γ σ) {e : Entry} (he : e ∈ Γ.ents) (hv : e.valid = true)
    {recv : Recv} (hacc : Γ.access e recv = .ok Γ1) :
    Inv Γ1 σ ∧ AfterUse Γ Γ1 e recv.mode ∧ (recv ≠ .value → e ∈ Γ1.ents) ∧ (recv = .refMut → e.acc ≠ .shrRef) ∧
    (recv = .value → e.movable = true ∧ e.kind ≠ .claim ∧ e.kind ≠ .poolGuard ∧ Γ1 = Γ.remove e.var) := by
  have hfree : e.self.on e.var = false := (inv.closed e he hv).2.2.1
  -- an entry whose loans are all loans of `e` survives the use of `e`
  have hsurv : ∀ ep ∈ Γ.ents, (∀ l ∈ ep.self, l ∈ e.self) → ep ∈ killEnts (·.on e.var) Γ.ents ∧ ep ∈ killEnts (·.mutOn e.var) Γ.ents :=
    fun ep hep hsub => ⟨mem_killEnts_of_survivor hep (any_false_of_subset hsub hfree),
      mem_killEnts_of_survivor hep (Region.mutOn_false_of_on_false (any_false_of_subset hsub hfree))⟩
  cases recv
  · obtain rfl : Γ1 = Γ.useShr e.var := access_ok hacc
    exact ⟨inv.useShr _, ⟨rfl, rfl, fun g hg hgv => mem_useShr_valid hg hgv, fun ep hep _ hsub _ => (hsurv ep hep hsub).2⟩,
      fun _ => (hsurv e he fun _ h => h).2, nofun, nofun⟩
  · obtain ⟨hne, rfl⟩ := access_ok hacc
    exact ⟨inv.useMut _, ⟨rfl, rfl, fun g hg hgv => mem_useMut_valid hg hgv, fun ep hep _ hsub _ => (hsurv ep hep hsub).1⟩,
      fun _ => (hsurv e he fun _ h => h).1, fun _ => hne, nofun⟩
  · obtain ⟨hmv, hk1, hk2, rfl⟩ := access_ok hacc
    refine ⟨inv.remove _, ⟨rfl, rfl, ?_, ?_⟩, fun h => absurd rfl h, nofun, fun _ => ⟨hmv, hk1, hk2, rfl⟩⟩
    · intro g hg hgv
      exact ⟨(mem_remove_valid hg hgv).1, (mem_remove_valid hg hgv).2.1⟩
    · intro ep hep _ hsub hne
      exact List.mem_filter.2 ⟨(hsurv ep hep hsub).1, by simpa using hne⟩

/-- a new value allocated through the receiver `e` (valid in `Γ`, used in mode `m` on the way to `Γ1`), in the top epoch
    of its arena; its region is the borrow of the receiver or the receiver's allocation region -/
theorem Inv.addAlloc {Γ Γ1 : SEnv} {σ : DState} (inv : Inv Γ σ) (inv1 : Inv Γ1 σ) {e : Entry} {r : Rt}
    (he : e ∈ Γ.ents) (hv : e.valid = true) (hr : σ.get e.var = some r) (heH : e.isHandle = true) {m : Mode}
    (hau : AfterUse Γ Γ1 e m) (x : Var) (R : Region) (d : Nat) (hfresh : x ∉ Γ1.used)
    (hR : (R = .borrow e.var m :: e.self ∧ e ∈ Γ1.ents) ∨ R = e.param)
    (hender : (e.kind = .guard ∨ (e.kind = .bump ∧ e.acc ≠ .shrRef)) → R = .borrow e.var m :: e.self) :
    Inv { Γ1 with ents := ⟨x, .val, .own, R, R, true, d⟩ :: Γ1.ents, used := x :: Γ1.used }
        (σ.set x (Rt.val r.arena (σ.epochs r.arena).getLast?)) := by
  have hc := inv.closed e he hv
  -- the places `e` borrows survive the use of `e`
  have hplace : ∀ p mo, Loan.borrow p mo ∈ e.self →
      ∃ ep ∈ Γ.ents, ep ∈ Γ1.ents ∧ ep.var = p ∧ ep.valid = true ∧ ep.kind ≠ .val ∧ ∀ l ∈ ep.self, l ∈ e.self := by
    intro p mo hp
    rcases hc.2.1 p mo hp with ⟨ep, hep, h1, h2, h3, h4⟩
    exact ⟨ep, hep, hau.keep ep hep h2 h4 (h1 ▸ Region.ne_of_on_false hc.2.2.1 hp), h1, h2, h3, h4⟩
  have hcov : ∀ l ∈ e.param, l ∈ R := by
    rcases hR with ⟨rfl, _⟩ | rfl
    · exact fun l hl => List.mem_cons_of_mem _ (hc.1 l hl)
    · exact fun l hl => hl
  apply inv1.add _ _ hfresh (Typed.val rfl rfl fun ex hex => (inv.epochs r.arena).2 ex (List.mem_of_getLast? hex))
  · apply inv1.closed_of_places
    intro p mo hp
    rcases hR with ⟨rfl, heΓ1⟩ | rfl
    · rcases List.mem_cons.1 hp with h | h
      · cases h
        exact ⟨e, heΓ1, rfl, hv, (Entry.isHandle_iff.1 heH).1, fun l hl => List.mem_cons_of_mem _ hl⟩
      · rcases hplace p mo h with ⟨ep, _, hep1, h1, h2, h3, h4⟩
        exact ⟨ep, hep1, h1, h2, h3, fun l hl => List.mem_cons_of_mem _ (h4 l hl)⟩
    · rcases hplace p mo (hc.1 _ hp) with ⟨ep, hep, hep1, h1, h2, h3, _⟩
      exact ⟨ep, hep1, h1, h2, h3, hc.2.2.2 p mo hp ep hep h1⟩
  · intro _ ex hex
    refine ⟨List.mem_of_getLast? hex, fun g hg hgv rg hrg hend => ?_⟩
    have hgΓ := (hau.sub g hg hgv).1
    by_cases hge : g.var = e.var
    · -- the receiver itself can end the epoch: the value borrows it
      obtain rfl := inv.eq_of_var_eq hgΓ he hge
      rw [hr] at hrg; cases hrg
      rw [hender (hend.1.of_handle heH).1]; exact Region.on_cons_self _ _ _
    · rcases inv.handles e he hv heH r hr g hgΓ hgv hge rg hrg hend.1 with h | h
      · exact Region.on_of_subset hcov h
      · exact absurd h (Bool.eq_false_iff.1 (hau.noConflict.mutOn hg hgv))
  · intro e' _ _ _ re _ ex _ hend; exact absurd hend.1 (not_enderOn_val rfl)
  · nofun
  · intro h _ _ _ rh' _ hon; exact absurd hon (not_enderOn_val rfl)
  · nofun
  · nofun

/-- a new handle `ne` on the arena of the (valid, already used in mode `m`) receiver `e`, borrowing `e`.  `hep`: if the
    new object is a guard, its epoch is a fresh one on top of the arena that no value lives in; `hnoVals`: a new exclusive
    `Bump` reference finds no valid value on the arena (both are what the new entry could end without being borrowed) -/
theorem Inv.addDerived {Γ : SEnv} {σ : DState} (inv : Inv Γ σ) {e : Entry} (he : e ∈ Γ.ents) (hev : e.valid = true)
    (heH : e.isHandle = true) {rh : Rt} (hrh : σ.get e.var = some rh) {m : Mode} (hK : NoConflict Γ e.var m)
    {x : Var} {o : Owner} {ne : Entry} (sh : DerivedShape e m x o ne) (hfresh : x ∉ Γ.used)
    (hacc : m = .mut → e.acc ≠ .shrRef)
    (hender : (e.kind = .guard ∨ (e.kind = .bump ∧ e.acc ≠ .shrRef)) → Loan.borrow e.var m ∈ ne.param)
    (rn : Rt) (hrk : rn.kind = ne.kind) (hra : rn.arena = rh.arena) (hro : rn.own = false)
    (hep : ∀ n, rn.epoch = some n → ne.kind = .guard ∧ n < σ.next ∧ n ∈ σ.epochs rh.arena ∧
           (σ.epochs rh.arena).head? ≠ some n ∧
           (∀ ex ∈ σ.epochs rh.arena, ex ∉ cutAt n (σ.epochs rh.arena) → ex = n) ∧
           (∀ v ∈ Γ.ents, v.valid = true → v.kind = .val → ∀ rv, σ.get v.var = some rv → rv.epoch ≠ some n))
    (hnoVals : ne.kind = .bump → ne.acc ≠ .shrRef → ∀ v ∈ Γ.ents, v.valid = true → v.kind = .val →
           ∀ rv, σ.get v.var = some rv → ∀ ex, rv.epoch = some ex → rv.arena ≠ rh.arena) :
    Inv { Γ with ents := ne :: Γ.ents, used := x :: Γ.used } (σ.set x rn) := by
  have ht := inv.typed_get he hev hrh
  have hec := inv.closed e he hev
  obtain rfl := sh.var
  have hnk := Entry.isHandle_iff.1 sh.handle
  have hparam1 : ∀ l ∈ ne.param, l ∈ ne.self := by
    rcases sh.param with ⟨hp, _, _⟩ | ⟨hp, _⟩
    · exact hp
    · rw [hp]; exact fun l hl => sh.self2 l (hec.1 l hl)
  have hparam2 : ∀ l ∈ e.param, l ∈ ne.param := by
    rcases sh.param with ⟨_, _, hp⟩ | ⟨hp, _⟩
    · exact fun l hl => hp l (hec.1 l hl)
    · rw [hp]; exact fun l hl => hl
  -- if the new entry can end epochs it is exclusive, hence the receiver was used exclusively
  have hexcl : ne.acc ≠ .shrRef → m = .mut ∧ e.acc ≠ .shrRef := fun h => ⟨sh.excl h, hacc (sh.excl h)⟩
  have hender_excl : ∀ a, EnderOn σ ne rn a → m = .mut ∧ e.acc ≠ .shrRef ∧ a = rh.arena := by
    intro a hon
    rcases hon.of_handle sh.handle with ⟨hk | ⟨_, hacc'⟩, ha⟩
    · exact ⟨(hexcl (by rw [sh.guardOwn hk]; decide)).1, (hexcl (by rw [sh.guardOwn hk]; decide)).2, by rw [← ha, hra]⟩
    · exact ⟨(hexcl hacc').1, (hexcl hacc').2, by rw [← ha, hra]⟩
  -- a conflicting loan on the receiver would have been ended by its use
  have hnoOn : m = .mut → ∀ g ∈ Γ.ents, g.valid = true → g.self.on e.var ≠ true :=
    fun hm g hg hgv => Bool.eq_false_iff.1 (by have := hK g hg hgv; rw [hm] at this; exact this)
  apply inv.add ne rn hfresh
  · refine ⟨hrk, fun hk => ?_, fun hk => absurd hk hnk.2, fun _ => hra ▸ ht.live heH, sh.ownScope,
      fun n hn => (hep n hn).2.1, fun _ n hn => hra ▸ (hep n hn).2.2.2.1⟩
    exact ⟨⟨fun h => (by rw [hro] at h; cases h), fun h => absurd h (sh.bumpRef hk)⟩, fun h => absurd h (sh.bumpRef hk)⟩
  · refine ⟨hparam1, fun p mo hp => ?_, fun p mo hp ep hep hpv l hl => ?_⟩
    · rcases sh.self3 _ hp with h | h | ⟨k, h⟩
      · cases h
        exact ⟨e, he, rfl, hev, (Entry.isHandle_iff.1 heH).1, sh.self2⟩
      · rcases hec.2.1 p mo h with ⟨ep, hep', h1, h2, h3, h4⟩
        exact ⟨ep, hep', h1, h2, h3, fun l hl => sh.self2 l (h4 l hl)⟩
      · cases h
    · -- the allocation region of the new handle is closed
      rcases sh.param with ⟨_, _, hp3⟩ | ⟨hpar, _⟩
      · rcases sh.self3 _ (hparam1 _ hp) with h | h | ⟨k, h⟩
        · cases h
          exact hp3 l (inv.eq_of_var_eq hep he hpv ▸ hl)
        · rcases hec.2.1 p mo h with ⟨ep0, hep0, h1, _, _, h4⟩
          exact hp3 l (h4 l (inv.eq_of_var_eq hep hep0 (hpv.trans h1.symm) ▸ hl))
        · cases h
      · rw [hpar] at hp ⊢
        exact hec.2.2.2 p mo hp ep hep hpv l hl
  · intro hk; exact absurd hk hnk.1
  · -- old values against the new entry as an ender
    intro v hv hvv hvk rv hrv ex hex hend
    exfalso
    rcases hend.1.of_handle sh.handle with ⟨hk | ⟨hk, hacc'⟩, ha⟩
    · rcases hend.1.guard hk with ⟨_, eg, heg, _⟩
      rcases hep eg heg with ⟨_, _, _, _, h5, h6⟩
      have harena : rv.arena = rh.arena := by rw [← ha, hra]
      have := h5 ex (harena ▸ (inv.vals v hv hvv hvk rv hrv ex hex).1) (harena ▸ hend.2 hk eg heg)
      exact h6 v hv hvv hvk rv hrv (this ▸ hex)
    · exact hnoVals hk hacc' v hv hvv hvk rv hrv ex hex (by rw [← ha, hra])
  · -- the new handle against the old enders
    intro _ g hg hgv rg hrg hon
    rw [hra] at hon
    by_cases hge : g.var = e.var
    · obtain rfl := inv.eq_of_var_eq hg he hge
      rw [hrh] at hrg; cases hrg
      exact Or.inl (Region.on_of_mem (hender (hon.of_handle heH).1))
    · rcases inv.handles e he hev heH rh hrh g hg hgv hge rg hrg hon with h | h
      · exact Or.inl (Region.on_of_subset hparam2 h)
      · exact absurd h (Bool.eq_false_iff.1 (hK.mutOn hg hgv))
  · -- the old handles against the new entry as an ender
    intro h hh hvh hH' rh' hrh' hon
    rcases hender_excl _ hon with ⟨hm, hacc', harena⟩
    right
    by_cases hhe : h.var = e.var
    · obtain rfl := inv.eq_of_var_eq hh he hhe
      exact Region.mutOn_of_mem (hm ▸ sh.self1)
    · rcases inv.uniq e he hev heH hacc' h hh hvh hH' (Ne.symm hhe) rh rh' hrh hrh' harena.symm with h1 | h1
      · exact Region.mutOn_of_subset sh.self2 h1
      · exact absurd h1 (hnoOn hm h hh hvh)
  · -- the new handle, if exclusive, against the old handles
    intro _ hacc' h2 hh2 hv2 hH2 r2 hr2 har
    rcases hexcl hacc' with ⟨hm, heacc⟩
    by_cases hhe : h2.var = e.var
    · obtain rfl := inv.eq_of_var_eq hh2 he hhe
      exact Or.inl (Region.mutOn_of_mem (hm ▸ sh.self1))
    · rcases inv.uniq e he hev heH heacc h2 hh2 hv2 hH2 (Ne.symm hhe) rh r2 hrh hr2 (hra ▸ har) with h1 | h1
      · exact Or.inl (Region.mutOn_of_subset sh.self2 h1)
      · exact absurd h1 (hnoOn hm h2 hh2 hv2)
  · -- the old exclusive handles against the new handle
    intro _ h1 hh1 hv1 hH1 hacc1 r1 hr1 har
    right
    by_cases hhe : h1.var = e.var
    · obtain rfl := inv.eq_of_var_eq hh1 he hhe
      exact Region.on_of_mem sh.self1
    · rcases inv.uniq h1 hh1 hv1 hH1 hacc1 e he hev heH hhe r1 rh hr1 hrh (har.trans hra) with h | h
      · exact absurd h (Bool.eq_false_iff.1 (hK.mutOn hh1 hv1))
      · exact Region.on_of_subset sh.self2 h

/-- a guard `x` made from the handle `e` (calls with effect `mkGuard`): its own epoch `σ.next` is pushed on `e`'s arena -/
theorem Inv.addGuard {Γ : SEnv} {σ : DState} (inv : Inv Γ σ) {e : Entry} (he : e ∈ Γ.ents) (hev : e.valid = true)
    (heH : e.isHandle = true) {r : Rt} (hr : σ.get e.var = some r) {m : Mode} (hK : NoConflict Γ e.var m)
    {x : Var} {o : Owner} {ne : Entry} (sh : DerivedShape e m x o ne) (hfresh : x ∉ Γ.used) (hk : ne.kind = .guard)
    (hacc : e.acc ≠ .shrRef)
    (hender : (e.kind = .guard ∨ (e.kind = .bump ∧ e.acc ≠ .shrRef)) → Loan.borrow e.var m ∈ ne.param) :
    Inv { Γ with ents := ne :: Γ.ents, used := x :: Γ.used }
      ((σ.push r.arena).2.set x ⟨.guard, r.arena, some σ.next, false, []⟩) := by
  have hlive := (inv.typed_get he hev hr).live heH
  rcases fresh_guard_epoch inv hlive with ⟨f1, f2, f3, f4, f5⟩
  apply (inv.push r.arena (DState.lt_of_epochs_ne_nil hlive)).addDerived he hev heH (rh := r) hr hK sh hfresh
    (fun _ => hacc) hender ⟨.guard, r.arena, some σ.next, false, []⟩ hk.symm rfl rfl
  · intro n hn
    cases hn
    exact ⟨hk, f1, f2, f3, f4, f5⟩
  · intro hb; rw [hk] at hb; cases hb

/-- an owned `Bump` or scope handle moves into the new variable `x`: same run-time object, same regions -/
theorem Inv.moveHandle {Γ : SEnv} {σ : DState} (inv : Inv Γ σ) {e : Entry} (he : e ∈ Γ.ents) (hv : e.valid = true)
    {r : Rt} (hr : σ.get e.var = some r) (hk : e.kind = .bump ∨ e.kind = .scope) (hacc : e.acc = .own)
    {x : Var} (hfresh : x ∉ Γ.used) (d : Nat) :
    Inv { Γ.remove e.var with ents := ⟨x, e.kind, .own, e.param, e.param, true, d⟩ :: (Γ.remove e.var).ents,
                              used := x :: Γ.used } (σ.set x r) := by
  have ht := inv.typed_get he hv hr
  have hc := inv.closed e he hv
  have heH : e.isHandle = true := by rcases hk with h | h <;> simp [Entry.isHandle, h]
  -- the regions of an owned handle coincide
  have hW : ∀ l ∈ e.self, l ∈ e.param := by
    rcases hk with h | h
    · rw [(ht.bump h).2 hacc]; nofun
    · exact ht.ownScope h hacc
  -- entries that survive the move hold no loan on the receiver
  have hsurv : ∀ g ∈ (Γ.remove e.var).ents, g.valid = true → g ∈ Γ.ents ∧ g.self.on e.var = false ∧ g.var ≠ e.var :=
    fun g hg hgv => mem_remove_valid hg hgv
  -- as an ender, the moved handle is an owned `Bump`; nothing valid is left on its arena
  have hon : ∀ a, EnderOn σ ⟨x, e.kind, .own, e.param, e.param, true, d⟩ r a → e.kind ≠ .guard ∧ EnderOn σ e r a := by
    rintro a (⟨hg, _⟩ | ⟨hb, _, ha⟩ | ⟨hp, _⟩)
    · rcases hk with h | h <;> rw [show e.kind = _ from hg] at h <;> cases h
    · exact ⟨by rw [show e.kind = _ from hb]; decide, Or.inr (Or.inl ⟨hb, by simp [hacc], ha⟩)⟩
    · rcases hk with h | h <;> rw [show e.kind = _ from hp] at h <;> cases h
  apply (inv.remove e.var).add ⟨x, e.kind, .own, e.param, e.param, true, d⟩ r hfresh
  · refine ⟨ht.kind, fun h => ⟨⟨fun _ => rfl, fun _ => (ht.bump h).1.2 hacc⟩, fun _ => ?_⟩, ?_, fun _ => ht.live heH,
      fun _ _ l hl => hl, fun _ => ht.epoch_lt, ?_⟩
    · exact List.eq_nil_iff_forall_not_mem.2 fun l hl => by have := hc.1 l hl; rw [(ht.bump h).2 hacc] at this; cases this
    · intro h; exact absurd h (Entry.isHandle_iff.1 heH).2
    · intro h; rcases hk with h' | h' <;> rw [show e.kind = _ from h] at h' <;> cases h'
  · apply (inv.remove e.var).closed_of_places
    intro p mo hp
    rcases hc.2.1 p mo (hc.1 _ hp) with ⟨ep, hep, h1, h2, h3, h4⟩
    refine ⟨ep, List.mem_filter.2 ⟨mem_killEnts_of_survivor hep (any_false_of_subset h4 hc.2.2.1), ?_⟩, h1, h2, h3,
      hc.2.2.2 p mo hp ep hep h1⟩
    simpa using h1 ▸ Region.ne_of_on_false hc.2.2.1 (hc.1 _ hp)
  · intro h; rcases hk with h' | h' <;> rw [show e.kind = _ from h] at h' <;> cases h'
  · intro v hv1 hvv hvk rv hrv ex hex hend
    rcases hsurv v hv1 hvv with ⟨hvΓ, hno, _⟩
    exact absurd ⟨(hon _ hend.1).2, fun hg => absurd hg (hon _ hend.1).1⟩
      (inv.no_val_covered he hv hr hvΓ hvv hvk hno hrv hex)
  · intro _ g hg hgv rg hrg hong
    rcases hsurv g hg hgv with ⟨hgΓ, hno, hne⟩
    rcases inv.handles e he hv heH r hr g hgΓ hgv hne rg hrg hong with h | h
    · exact Or.inl h
    · exact absurd (Region.on_of_mutOn h) (Bool.eq_false_iff.1 hno)
  · intro h hh hvh hH rh hrh honx
    rcases hsurv h hh hvh with ⟨hhΓ, hno, hne⟩
    exact Or.inr (Region.mutOn_of_subset hW
      (inv.handle_covered he hv hr hhΓ hvh hH (Ne.symm hne) hno hrh (hon _ honx).2))
  · intro _ _ h2 hh2 hv2 hH2 r2 hr2 har
    rcases hsurv h2 hh2 hv2 with ⟨hhΓ, hno, hne⟩
    rcases inv.uniq e he hv heH (by simp [hacc]) h2 hhΓ hv2 hH2 (Ne.symm hne) r r2 hr hr2 har with h | h
    · exact Or.inl (Region.mutOn_of_subset hW h)
    · exact absurd h (Bool.eq_false_iff.1 hno)
  · intro _ h1 hh1 hv1 hH1 hacc1 r1 hr1 har
    rcases hsurv h1 hh1 hv1 with ⟨hhΓ, hno, hne⟩
    rcases inv.uniq h1 hhΓ hv1 hH1 hacc1 e he hv heH hne r1 r hr1 hr har with h | h
    · exact absurd (Region.on_of_mutOn h) (Bool.eq_false_iff.1 hno)
    · exact Or.inr (Region.on_of_subset hW h)

/-- touching a valid entry (`use`, `share`): a value's memory is still there, a handle's mutable loans end -/
theorem use_sound {Γ : SEnv} {σ : DState} (inv : Inv Γ σ) {e : Entry} (he : e ∈ Γ.ents) (hv : e.valid = true)
    {r : Rt} (hr : σ.get e.var = some r) :
    (r.kind == Kind.val && !σ.alive r) = false ∧ Inv (if e.kind == .val then Γ else Γ.useShr e.var) σ := by
  by_cases hk : e.kind = .val
  · simp [hk, inv.alive he hv hk hr, inv]
  · simp [hk, (inv.typed_get he hv hr).kind, inv.useShr]

/-- an ender without loans (an owned `Bump`, a pool) that is moved or dropped leaves nothing valid on its arenas -/
theorem Inv.nothing_left {Γ : SEnv} {σ : DState} (inv : Inv Γ σ) {e : Entry} (he : e ∈ Γ.ents) (hv : e.valid = true)
    {r : Rt} (hr : σ.get e.var = some r) (hself : e.self = []) (hng : e.kind ≠ .guard) {a : Nat} (hon : EnderOn σ e r a) :
    (∀ h ∈ (Γ.remove e.var).ents, h.valid = true → h.isHandle = true → ∀ rh, σ.get h.var = some rh → rh.arena ≠ a) ∧
    (∀ v ∈ (Γ.remove e.var).ents, v.valid = true → v.kind = .val → ∀ rv, σ.get v.var = some rv →
      ∀ ex, rv.epoch = some ex → rv.arena ≠ a) := by
  constructor
  · intro h hh hvh hHh rh hrh hb
    rcases mem_remove_valid hh hvh with ⟨hh0, hno, hne⟩
    have := inv.handle_covered he hv hr hh0 hvh hHh (Ne.symm hne) hno hrh (hb ▸ hon)
    rw [hself] at this; cases this
  · intro e' he' hv' hk' r1 hr1 ex hex hb
    rcases mem_remove_valid he' hv' with ⟨he0, hno, _⟩
    exact inv.no_val_covered he hv hr he0 hv' hk' hno hr1 hex ⟨hb ▸ hon, fun hg => absurd hg hng⟩

/-- dropping the run-time object of a valid entry succeeds; the invariant holds without the entry, the frames stay -/
theorem dropRt_sound {Γ : SEnv} {σ : DState} (inv : Inv Γ σ) {e : Entry} (he : e ∈ Γ.ents) (hv : e.valid = true)
    {r : Rt} (hr : σ.get e.var = some r) :
    ∃ σ', σ.dropRt r = .ok σ' ∧ Inv (Γ.remove e.var) σ' ∧ σ'.frames = σ.frames := by
  have ht := inv.typed_get he hv hr
  have inv1 := inv.remove e.var
  unfold DState.dropRt
  cases hk : e.kind <;> simp only [ht.kind, hk]
  case val =>
    rw [inv.alive he hv hk hr]
    exact ⟨σ, rfl, inv1, rfl⟩
  case guard =>
    cases hep : r.epoch with
    | none => exact ⟨σ, rfl, inv1, rfl⟩
    | some eg =>
      have hlive := ht.live (by simp [Entry.isHandle, hk])
      refine ⟨_, rfl, ?_, rfl⟩
      apply inv1.endFrom r.arena eg (DState.lt_of_epochs_ne_nil hlive)
      · intro _ _ _ _ _ _ _
        exact cutAt_ne_nil hlive (ht.guard_head hk hep)
      · intro e' he' hv' hk' r1 hr1 hb ex hex
        rcases mem_remove_valid he' hv' with ⟨he0, hno, _⟩
        have hin := hb ▸ (inv.vals e' he0 hv' hk' r1 hr1 ex hex).1
        by_cases hm : eg ∈ σ.epochs r.arena
        · refine Classical.byContradiction fun hc => ?_
          apply inv.no_val_covered he hv hr he0 hv' hk' hno hr1 hex
          rw [hb]
          exact ⟨Or.inl ⟨hk, rfl, eg, hep, hm⟩, fun _ eg' heg' => by rw [hep] at heg'; cases heg'; exact hc⟩
        · rw [cutAt_of_not_mem hm]; exact hin
  case bump =>
    by_cases hown : r.own = true
    · simp only [hown, if_true]
      have hacc : e.acc = .own := (ht.bump hk).1.1 hown
      have := fun a (ha : r.arena = a) => inv.nothing_left he hv hr ((ht.bump hk).2 hacc) (by simp [hk])
        (Or.inr (Or.inl ⟨hk, by simp [hacc], ha⟩))
      exact ⟨_, rfl, inv1.killArena _ (this _ rfl).1 (this _ rfl).2, rfl⟩
    · simp only [hown]
      exact ⟨σ, rfl, inv1, rfl⟩
  case pool =>
    have := fun a (ha : a ∈ r.arenas) => inv.nothing_left he hv hr (ht.pool hk).1 (by simp [hk]) (Or.inr (Or.inr ⟨hk, ha⟩))
    have := Inv.killArenas r.arenas inv1
      (fun h hh hvh hHh rh hrh hm => (this _ hm).1 h hh hvh hHh rh hrh rfl)
      (fun v hv1 hvv hvk rv hrv ex hex hm => (this _ hm).2 v hv1 hvv hvk rv hrv ex hex rfl)
    exact ⟨_, rfl, this.1, this.2⟩
  all_goals exact ⟨σ, rfl, inv1, rfl⟩

/-- `reset` on a guard: the guard is used mutably and its new run-time object is on the same arena -/
theorem guardReset_sound {Γ : SEnv} {σ : DState} (inv : Inv Γ σ) {g : Entry} (hg : g ∈ Γ.ents) (hv : g.valid = true)
    (hk : g.kind = .guard) {r : Rt} (hr : σ.get g.var = some r) :
    Inv (Γ.useMut g.var) (σ.guardReset g.var r) ∧
    ∃ r', (σ.guardReset g.var r).get g.var = some r' ∧ r'.arena = r.arena := by
  have ht := inv.typed_get hg hv hr
  have inv1 := inv.useMut g.var
  have hlive := ht.live (by simp [Entry.isHandle, hk])
  have ha := DState.lt_of_epochs_ne_nil hlive
  unfold DState.guardReset
  split
  · rename_i eg hep
    split
    · rename_i hm
      have hon : EnderOn σ g r r.arena := Or.inl ⟨hk, rfl, eg, hep, by simpa using hm⟩
      have hcut := cutAt_ne_nil hlive (ht.guard_head hk hep)
      -- 1. the guard's epoch and everything above ends
      have inv2 : Inv (Γ.useMut g.var) (σ.endFrom r.arena eg) := by
        apply inv1.endFrom r.arena eg ha (fun _ _ _ _ _ _ _ => hcut)
        intro v hv1 hvv hvk rv hrv hb ex hex
        rcases mem_useMut_valid hv1 hvv with ⟨hvΓ, hno⟩
        refine Classical.byContradiction fun hc => ?_
        apply inv.no_val_covered hg hv hr hvΓ hvv hvk hno hrv hex
        rw [hb]
        exact ⟨hon, fun _ eg' heg' => by rw [hep] at heg'; cases heg'; exact hc⟩
      have hlive2 : (σ.endFrom r.arena eg).epochs r.arena ≠ [] := by rwa [DState.epochs_endFrom_self ha]
      -- 2. a new epoch begins
      have inv3 := inv2.push r.arena (DState.lt_of_epochs_ne_nil hlive2)
      rcases fresh_guard_epoch inv2 hlive2 with ⟨f1, f2, f3, f4, f5⟩
      -- 3. it is the guard's own from now on
      refine ⟨?_, _, DState.get_set_self _ _ _, rfl⟩
      apply inv3.rebind (inv.receiver_survives hg hv) hv (r := r) hr { r with epoch := some σ.next } rfl _ (by simp [hk])
      · -- old values: the guard's new epoch holds none of them
        intro v hv1 hvv hvk _ rv hrv ex hex hend
        exfalso
        have harena : r.arena = rv.arena := (hend.1.guard hk).1
        have hin := (inv3.vals v hv1 hvv hvk rv hrv ex hex).1
        exact f5 v hv1 hvv hvk rv hrv (f4 ex (harena ▸ hin) (harena ▸ hend.2 hk σ.next rfl) ▸ hex)
      · -- old handles: they were covered by the guard before
        intro h hh hvh hH hne rh hrh hon'
        rcases mem_useMut_valid hh hvh with ⟨hhΓ, hno⟩
        have harena : r.arena = rh.arena := (hon'.guard hk).1
        exact Or.inr (inv.handle_covered hg hv hr hhΓ hvh hH (Ne.symm hne) hno hrh (harena ▸ hon))
      · have hnk : ∀ {k : Kind}, k ≠ .guard → g.kind ≠ k := fun h h' => h (h'.symm.trans hk)
        exact ⟨ht.kind, fun h => absurd h (hnk (by decide)), fun h => absurd h (hnk (by decide)),
          fun _ => List.ne_nil_of_mem f2, fun h => absurd h (hnk (by decide)), fun ex hex => by cases hex; exact f1,
          fun _ eg' heg' => by cases heg'; exact f3⟩
    · exact ⟨inv1, r, hr, rfl⟩
  · exact ⟨inv1, r, hr, rfl⟩

end Life
