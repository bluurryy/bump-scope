/-
  Lemmas/HistLedger.lean — the base-allocator LEDGER of one `Arena.step` (property C05 at the level of
  histories): the chunks created in a step correspond one to one to the grants of the step, and the
  releases made plus the releases still due balance the releases due before plus the new chunks.

  Method: a relation `LedgerStep` between two `State`s of the same step, closed under composition and
  under everything that does not touch `reqs`, `resps`, and the `(base, size)` of chunks (`Quiet`);
  it holds of the four primitive changes of a path of a model function (`LedgerStep.of_path`, Lemmas/FnPath.lean)
  and hence of every step that is a chain of paths and bookkeeping (`stepCore_no_release`, from `stepCore_acts`,
  Lemmas/StepActs.lean; `drop` and `reset` release: `LedgerR`).
-/
import BumpProof.Lemmas.HistLedgerAlgebra
import BumpProof.Lemmas.InvBasic
import BumpProof.Lemmas.StepActs
import BumpProof.Props.C05
set_option linter.unusedSimpArgs false
set_option linter.unusedVariables false
namespace Arena.Hist
open Rs
variable {cfg : Cfg}

/-! ## list facts: `grantsOf`, `releasesOf` -/

def allocsOf (rq : List BaseReq) : List BaseReq := rq.filter (fun q => !isDealloc q)

theorem grantsOf_append : ∀ (rq1 rq2 : List BaseReq) (u1 u2 : List BaseResp),
    (allocsOf rq1).length = u1.length →
    grantsOf (rq1 ++ rq2) (u1 ++ u2) = grantsOf rq1 u1 ++ grantsOf rq2 u2 := by
  intro rq1
  induction rq1 with
  | nil =>
    intro rq2 u1 u2 h
    cases u1 with
    | nil => simp [grantsOf]
    | cons x xs => simp [allocsOf] at h
  | cons q rs ih =>
    intro rq2 u1 u2 h
    cases q with
    | dealloc p sz al =>
      have h' : (allocsOf rs).length = u1.length := by
        simpa [allocsOf, isDealloc] using h
      simp only [List.cons_append, grantsOf]
      exact ih rq2 u1 u2 h'
    | alloc sz al =>
      cases u1 with
      | nil => simp [allocsOf, isDealloc] at h
      | cons x xs =>
        have h' : (allocsOf rs).length = xs.length := by
          simpa [allocsOf, isDealloc] using h
        cases x with
        | granted p g =>
          simp only [List.cons_append, grantsOf]
          rw [ih rq2 xs u2 h']
        | fail =>
          simp only [List.cons_append, grantsOf]
          exact ih rq2 xs u2 h'

theorem releasesOf_append (a b : List BaseReq) : releasesOf (a ++ b) = releasesOf a ++ releasesOf b := by
  unfold releasesOf; exact List.filter_append ..

theorem allocsOf_append (a b : List BaseReq) : allocsOf (a ++ b) = allocsOf a ++ allocsOf b := by
  unfold allocsOf; exact List.filter_append ..

theorem releases_only : ∀ (l : List BaseReq), (∀ q ∈ l, isDealloc q = true) →
    allocsOf l = [] ∧ grantsOf l [] = [] ∧ releasesOf l = l := by
  intro l
  induction l with
  | nil => intro _; exact ⟨rfl, rfl, rfl⟩
  | cons q rs ih =>
    intro h
    obtain ⟨i1, i2, i3⟩ := ih (fun x hx => h x (List.mem_cons_of_mem _ hx))
    have hq := h q List.mem_cons_self
    cases q with
    | alloc sz al => simp [isDealloc] at hq
    | dealloc p sz al =>
      refine ⟨?_, ?_, ?_⟩
      · simpa [allocsOf, isDealloc] using i1
      · simpa [grantsOf] using i2
      · unfold releasesOf at i3 ⊢
        simp only [List.filter_cons, isDealloc, ↓reduceIte, i3]

theorem map_deallocReq_isDealloc (l : List Chunk) : ∀ q ∈ l.map (deallocReq cfg), isDealloc q = true := by
  intro q hq
  obtain ⟨c, _, rfl⟩ := List.mem_map.mp hq
  rfl

/-! ## `Quiet`: nothing the ledger looks at changed -/

def Quiet (cfg : Cfg) (s s' : State) : Prop :=
  s'.reqs = s.reqs ∧ s'.resps = s.resps ∧ owned cfg s' = owned cfg s

theorem Quiet.refl (s : State) : Quiet cfg s s := ⟨rfl, rfl, rfl⟩
theorem Quiet.of_eq {s s' : State} (h : s' = s) : Quiet cfg s s' := by subst h; exact Quiet.refl _
theorem Quiet.trans {a b c : State} (h1 : Quiet cfg a b) (h2 : Quiet cfg b c) : Quiet cfg a c :=
  ⟨h2.1.trans h1.1, h2.2.1.trans h1.2.1, h2.2.2.trans h1.2.2⟩
theorem Quiet.symm {a b : State} (h : Quiet cfg a b) : Quiet cfg b a := ⟨h.1.symm, h.2.1.symm, h.2.2.symm⟩

theorem Quiet.setPos (s : State) (i p : Nat) : Quiet cfg s (setPos s i p) :=
  ⟨rfl, rfl, C05.owned_setPos cfg s i p⟩

theorem Quiet.of_chunks {s s' : State} (h1 : s'.reqs = s.reqs) (h2 : s'.resps = s.resps)
    (h3 : s'.chunks = s.chunks) : Quiet cfg s s' := ⟨h1, h2, by unfold owned; rw [h3]⟩

/-- the ledger relation on what it looks at: requests made so far, responses still pending, releases due
    (before: `q p o`, after: `q' p' o'`).  The last conjunct keeps the `releasesOf rq` that the fifth makes empty, so
    that it reads as the corresponding conjunct of `LedgerR` and as `Led`. -/
def LS (cfg : Cfg) (q : List BaseReq) (p : List BaseResp) (o : List BaseReq)
    (q' : List BaseReq) (p' : List BaseResp) (o' : List BaseReq) : Prop :=
  ∃ (rq : List BaseReq) (used : List BaseResp) (acq : List Chunk),
    q' = q ++ rq ∧ p = used ++ p' ∧ (allocsOf rq).length = used.length ∧
    Matched (ChunkOfGrant cfg) acq (grantsOf rq used) ∧ releasesOf rq = [] ∧
    (releasesOf rq ++ o').Perm (o ++ acq.map (deallocReq cfg))

/-- between two states of the same step, NOTHING RELEASED in between: `s'.reqs = s.reqs ++ rq`,
    `s.resps = used ++ s'.resps`, one response was consumed per `alloc` request, the new chunks match the
    grants among `(rq, used)`, no release among `rq`, and the releases due afterwards are those due before
    plus one per new chunk.  (Transitive; every model function except `reset` / `manuallyDrop` satisfies it.) -/
def LedgerStep (cfg : Cfg) (s s' : State) : Prop :=
  LS cfg s.reqs s.resps (owned cfg s) s'.reqs s'.resps (owned cfg s')

theorem LS.refl (q : List BaseReq) (p : List BaseResp) (o : List BaseReq) : LS cfg q p o q p o :=
  ⟨[], [], [], by rw [List.append_nil], by simp, rfl, Matched.nil, rfl, by
    simp only [releasesOf, List.filter_nil, List.nil_append, List.map_nil, List.append_nil]
    exact List.Perm.refl _⟩

theorem LS.trans {q1 q2 q3 : List BaseReq} {p1 p2 p3 : List BaseResp} {o1 o2 o3 : List BaseReq}
    (h1 : LS cfg q1 p1 o1 q2 p2 o2) (h2 : LS cfg q2 p2 o2 q3 p3 o3) : LS cfg q1 p1 o1 q3 p3 o3 := by
  obtain ⟨rq1, u1, acq1, a1, a2, a3, a4, a6, a5⟩ := h1
  obtain ⟨rq2, u2, acq2, b1, b2, b3, b4, b6, b5⟩ := h2
  obtain ⟨acq, m, p⟩ := Led.comp ⟨acq1, a4, a5⟩ ⟨acq2, b4, b5⟩
  refine ⟨rq1 ++ rq2, u1 ++ u2, acq, ?_, ?_, ?_, ?_, ?_, ?_⟩
  · rw [b1, a1, List.append_assoc]
  · rw [a2, b2, List.append_assoc]
  · rw [allocsOf_append, List.length_append, List.length_append, a3, b3]
  · rw [grantsOf_append _ _ _ _ a3]; exact m
  · rw [releasesOf_append, a6, b6]; rfl
  · rw [releasesOf_append]; exact p

theorem Quiet.ledger {s s' : State} (h : Quiet cfg s s') : LedgerStep cfg s s' := by
  unfold LedgerStep; rw [h.1, h.2.1, h.2.2]; exact LS.refl _ _ _

theorem LedgerStep.refl (s : State) : LedgerStep cfg s s := LS.refl _ _ _

theorem LedgerStep.trans {a b c : State} (h1 : LedgerStep cfg a b) (h2 : LedgerStep cfg b c) :
    LedgerStep cfg a c := LS.trans h1 h2

theorem LedgerStep.quiet_right {a b c : State} (h1 : LedgerStep cfg a b) (h2 : Quiet cfg b c) :
    LedgerStep cfg a c := h1.trans h2.ledger
theorem LedgerStep.quiet_left {a b c : State} (h1 : Quiet cfg a b) (h2 : LedgerStep cfg b c) :
    LedgerStep cfg a c := h1.ledger.trans h2

/-- what a step does to the ghost state (live blocks, frames, prepared allocation, current chunk, …) is
    invisible to the ledger -/
theorem LedgerStep.ghost {a b c : State} (h : LedgerStep cfg a b) (h1 : c.chunks = b.chunks)
    (h2 : c.reqs = b.reqs) (h3 : c.resps = b.resps) : LedgerStep cfg a c :=
  h.quiet_right (Quiet.of_chunks h2 h3 h1)

/-- the ledger relation of a whole step (releases allowed, not transitive): as `LedgerStep` without
    "nothing released", plus: every release names a chunk that was owned before -/
def LedgerR (cfg : Cfg) (s s' : State) : Prop :=
  ∃ (rq : List BaseReq) (used : List BaseResp) (acq : List Chunk),
    s'.reqs = s.reqs ++ rq ∧ s.resps = used ++ s'.resps ∧ (allocsOf rq).length = used.length ∧
    Matched (ChunkOfGrant cfg) acq (grantsOf rq used) ∧
    (releasesOf rq ++ owned cfg s').Perm (owned cfg s ++ acq.map (deallocReq cfg)) ∧
    ∀ q ∈ releasesOf rq, q ∈ owned cfg s

theorem LedgerStep.weaken {s s' : State} (h : LedgerStep cfg s s') : LedgerR cfg s s' := by
  obtain ⟨rq, used, acq, h1, h2, h3, h4, h5, h6⟩ := h
  exact ⟨rq, used, acq, h1, h2, h3, h4, h6, by rw [h5]; intro q hq; cases hq⟩

theorem LedgerR.quiet_right {a b c : State} (h : LedgerR cfg a b) (hq : Quiet cfg b c) : LedgerR cfg a c := by
  obtain ⟨rq, used, acq, h1, h2, h3, h4, h5, h6⟩ := h
  exact ⟨rq, used, acq, by rw [hq.1, h1], by rw [hq.2.1, h2], h3, h4, by rw [hq.2.2]; exact h5, h6⟩

theorem LedgerR.of_releases {s s' : State} {l : List BaseReq} (h1 : s'.reqs = s.reqs ++ l)
    (h2 : s'.resps = s.resps) (h3 : ∀ q ∈ l, isDealloc q = true)
    (h4 : (l ++ owned cfg s').Perm (owned cfg s)) : LedgerR cfg s s' := by
  obtain ⟨r1, r2, r3⟩ := releases_only l h3
  refine ⟨l, [], [], h1, by simp [h2], by simp [r1], by rw [r2]; exact Matched.nil, ?_, ?_⟩
  · rw [r3, List.map_nil, List.append_nil]
    exact h4
  · rw [r3]
    intro q hq
    exact h4.subset (List.mem_append_left _ hq)

theorem owned_mk (s : State) (cu : Cur) (ma : Nat) (fr : List Frame) (li : List Block) (ni : Nat)
    (uc : List (Nat × Checkpoint × Nat)) (pr : Option Prepared) (rs : List BaseResp) (rq : List BaseReq) (dr : Bool) :
    owned cfg (State.mk s.chunks cu ma fr li ni uc pr rs rq dr) = owned cfg s := rfl
theorem owned_setPos (s : State) (i p : Nat) : owned cfg (setPos s i p) = owned cfg s := C05.owned_setPos cfg s i p

/-! ## the four primitive changes of a path (`Lemmas/FnPath.lean`) -/

theorem writeRange_quiet {s s' : State} {lo hi : Nat} {f : Nat → UInt8}
    (h : writeRange cfg s lo hi f = .ok s') : Quiet cfg s s' :=
  have w := Fn.writeRange_wrote h
  ⟨by rw [w.rest], by rw [w.rest], w.map fun x => BaseReq.dealloc x.1 x.2.1 cfg.hdr.align⟩

theorem zeroRange_quiet {s s' : State} {a n : Nat} (h : zeroRange cfg s a n = .ok s') : Quiet cfg s s' :=
  writeRange_quiet h

/-- chunk creation, the only place where the base allocator is asked for memory: nothing happened, a refused
    request, or a request answered by the grant that became the new last chunk -/
theorem Created.ls {s s' : State} {r : Except AErr Nat} (h : Fn.Created cfg s (s', r)) : LedgerStep cfg s s' := by
  cases h with
  | overflow => exact LedgerStep.refl _
  | @refused size rest hr =>
    refine ⟨[.alloc size cfg.hdr.align], [.fail], [], rfl, hr, rfl, Matched.nil, rfl, ?_⟩
    rw [List.map_nil, List.append_nil]
    exact List.Perm.refl _
  | @granted size p g size' rest hr hal hge h16 =>
    refine ⟨[.alloc size cfg.hdr.align], [.granted p g], [Mem.freshChunk cfg p g size size'], rfl, hr, rfl,
      Matched.cons ⟨rfl, rfl, hge, Mem.align_size_le hal⟩ Matched.nil, rfl, ?_⟩
    simp only [releasesOf, List.filter_cons, isDealloc, List.filter_nil, List.nil_append, owned, List.map_append,
      List.map_cons, List.map_nil, Bool.false_eq_true, ↓reduceIte]
    exact List.Perm.refl _

theorem LedgerStep.of_path {s s' : State} (h : Fn.Path cfg true true s s') : LedgerStep cfg s s' := by
  induction h with
  | refl => exact .refl _
  | pos i p _ ih => exact ih.quiet_right (Quiet.setPos _ i p)
  | cur k _ ih => exact ih.ghost rfl rfl rfl
  | created _ _ hx ih => exact ih.trans (Created.ls hx)
  | wrote _ _ hx ih => exact ih.quiet_right (writeRange_quiet hx)

theorem Quiet.of_path {s s' : State} (h : Fn.Path cfg false true s s') : Quiet cfg s s' := by
  induction h with
  | refl => exact .refl _
  | pos i p _ ih => exact ih.trans (Quiet.setPos _ i p)
  | cur k _ ih => exact ih.trans (Quiet.of_chunks rfl rfl rfl)
  | created _ hc => cases hc
  | wrote _ _ hx ih => exact ih.trans (writeRange_quiet hx)

/-! ## the two releasing functions -/

theorem reset_ls {s : State} (hcur : ∀ i, s.cur = .chunk i → i < s.chunks.length) :
    LedgerR cfg s (reset cfg s) := by
  cases hc : s.cur with
  | unallocated => rw [C05.reset_quiet cfg s (Or.inl hc)]; exact (LedgerStep.refl _).weaken
  | claimed => rw [C05.reset_quiet cfg s (Or.inr hc)]; exact (LedgerStep.refl _).weaken
  | chunk i =>
    obtain ⟨l, last, hl, h1, h2, h3, _, h5, _⟩ := C05.reset_releases cfg s hc (hcur i hc)
    refine LedgerR.of_releases h1 ?_ ?_ ?_
    · simp only [reset, hc, hl]
    · intro q hq
      obtain ⟨c, _, rfl⟩ := List.mem_map.mp (h2.subset hq)
      rfl
    · have h5' : owned cfg (reset cfg s) = [deallocReq cfg last] := h5
      rw [h5']
      have hsplit : s.chunks = s.chunks.dropLast ++ [last] := by
        have hne : s.chunks ≠ [] := by intro h0; rw [h0] at hl; cases hl
        rw [List.getLast?_eq_some_getLast hne] at hl
        cases hl
        exact (List.dropLast_concat_getLast hne).symm
      have : owned cfg s = s.chunks.dropLast.map (deallocReq cfg) ++ [deallocReq cfg last] := by
        unfold owned
        conv => lhs; rw [hsplit]
        rw [List.map_append]; rfl
      rw [this]
      exact h2.append_right _

theorem manuallyDrop_ls {s : State} (hcur : ∀ i, s.cur = .chunk i → i < s.chunks.length) :
    LedgerR cfg s (manuallyDrop cfg s) := by
  cases hc : s.cur with
  | unallocated =>
    obtain ⟨h1, h2⟩ := C05.manuallyDrop_quiet cfg s (Or.inl hc)
    exact (Quiet.of_chunks h1 (by simp only [manuallyDrop, hc]) h2).ledger.weaken
  | claimed =>
    obtain ⟨h1, h2⟩ := C05.manuallyDrop_quiet cfg s (Or.inr hc)
    exact (Quiet.of_chunks h1 (by simp only [manuallyDrop, hc]) h2).ledger.weaken
  | chunk i =>
    obtain ⟨l, h1, h2, h3, _, h5⟩ := C05.manuallyDrop_releases_all cfg s hc (hcur i hc)
    refine LedgerR.of_releases h1 h5 ?_ ?_
    · intro q hq
      obtain ⟨c, _, rfl⟩ := List.mem_map.mp (h2.subset hq)
      rfl
    · have h3' : owned cfg (manuallyDrop cfg s) = [] := h3
      rw [h3', List.append_nil]
      exact h2

theorem manuallyDrop_owned {s : State}
    (hun : s.cur = .unallocated → s.chunks = []) (hcl : s.cur ≠ .claimed) :
    owned cfg (manuallyDrop cfg s) = [] := by
  cases hc : s.cur with
  | unallocated => simp only [owned, manuallyDrop, hc, hun hc, List.map_nil]
  | claimed => exact absurd hc hcl
  | chunk i => simp only [owned, manuallyDrop, hc, List.map_nil]

/-- every operation except `drop` and `reset` releases nothing: its step is a chain of paths of model functions, each
    a ledger step, and of bookkeeping, which the ledger cannot see (`stepCore_acts`) -/
theorem stepCore_no_release {g g' : GState} {op : Op} {out : Out}
    (hd : op ≠ .drop) (hr : op ≠ .reset)
    (hs : stepCore cfg g op = .ok (g', out)) : LedgerStep cfg g.s g'.s :=
  (stepCore_acts hd hr hs).rel (fun b => (Quiet.of_chunks b.reqs b.resps b.chunks).ledger) LedgerStep.trans
    (fun p => .of_path (p.mono (fun _ => rfl) (fun _ => rfl)))

/-- the ledger of `stepCore`, for every constructor of `Op` (no coverage side condition): the only thing
    needed from the invariant is that the current chunk index is valid -/
theorem stepCore_ledger {g g' : GState} {op : Op} {out : Out}
    (hcur : ∀ i, g.s.cur = .chunk i → i < g.s.chunks.length)
    (hs : stepCore cfg g op = .ok (g', out)) : LedgerR cfg g.s g'.s := by
  cases op with
  | drop => rw [(ok_drop hs).2.2.1]; exact (manuallyDrop_ls hcur).quiet_right ⟨rfl, rfl, rfl⟩
  | reset => rw [(ok_reset hs).2.2.1]; exact (reset_ls hcur).quiet_right ⟨rfl, rfl, rfl⟩
  | _ => exact (stepCore_no_release Op.noConfusion Op.noConfusion hs).weaken

/-- The ledger of one step, in terms of the requests returned and the responses supplied, for every constructor of `Op`:
    the chunks created in this step correspond one to one (in order) to the grants of the step (same pointer, header
    alignment, size in use between requested and granted); the releases made in this step plus the releases still due
    afterwards are a permutation of the releases due before plus one release per new chunk; every release names a chunk
    owned before the step. -/
theorem step_ledgerR {g g' : GState} {op : Op} {resps : List BaseResp} {out : Out} {reqs : List BaseReq}
    (h : Inv cfg g) (hs : step cfg g op resps = .ok (g', out, reqs)) :
    ∃ acq : List Chunk, Matched (ChunkOfGrant cfg) acq (grantsOf reqs resps) ∧
      (releasesOf reqs ++ owned cfg g'.s).Perm (owned cfg g.s ++ acq.map (deallocReq cfg)) ∧
      ∀ q ∈ releasesOf reqs, q ∈ owned cfg g.s := by
  obtain ⟨h1, h2, h3⟩ := step_ok hs
  obtain ⟨rq, used, acq, a1, a2, a3, a4, a5, a6⟩ := stepCore_ledger (g := install g resps) (fun _ hi => h.geom.lt_length hi) h1
  have e1 : rq = reqs := by
    rw [h3, a1]; rfl
  have e2 : used = resps := by
    rw [h2, List.append_nil] at a2
    exact a2.symm
  subst e1 e2
  exact ⟨acq, a4, a5, a6⟩

/-- after `drop` nothing is outstanding (needs the invariant: in an unreachable state with
    `cur = .claimed` or with `cur = .unallocated` and a non-empty chunk list `manuallyDrop` keeps the chunks) -/
theorem drop_owned_nil {g g' : GState} {resps : List BaseResp} {out : Out} {reqs : List BaseReq}
    (h : Inv cfg g) (hs : step cfg g .drop resps = .ok (g', out, reqs)) : owned cfg g'.s = [] := by
  obtain ⟨h1, _, _⟩ := step_ok hs
  rw [(ok_drop h1).2.2.1]
  exact manuallyDrop_owned (cfg := cfg) (s := (install g resps).s) h.unalloc h.notClaimed

/-- every release names a chunk that was owned before the step: same pointer, the chunk's size in use,
    the header alignment (in particular no chunk created in a step is released in the same step) -/
theorem release_shape {g g' : GState} {op : Op} {resps : List BaseResp} {out : Out} {reqs : List BaseReq}
    (h : Inv cfg g) (hs : step cfg g op resps = .ok (g', out, reqs)) :
    ∀ q ∈ releasesOf reqs, ∃ c ∈ g.s.chunks, q = .dealloc c.base c.size cfg.hdr.align := by
  obtain ⟨acq, _, _, h3⟩ := step_ledgerR h hs
  intro q hq
  obtain ⟨c, hc, rfl⟩ := List.mem_map.mp (h3 q hq)
  exact ⟨c, hc, rfl⟩

theorem step_no_release {g g' : GState} {op : Op} {resps : List BaseResp} {out : Out} {reqs : List BaseReq}
    (hd : op ≠ .drop) (hr : op ≠ .reset)
    (hs : step cfg g op resps = .ok (g', out, reqs)) : releasesOf reqs = [] := by
  obtain ⟨h1, h2, h3⟩ := step_ok hs
  obtain ⟨rq, used, acq, a1, a2, a3, a4, a5, a6⟩ := stepCore_no_release (g := install g resps) hd hr h1
  have e1 : rq = reqs := by
    rw [h3, a1]; rfl
  rw [← e1]; exact a5

/-! ## non-vacuity -/

example : Inv exCfg (initG exCfg) := inv_init exCfg_ok
/-- a step that asks the base allocator for a chunk and gets one -/
example : ∃ g' out reqs, step exCfg (initG exCfg) (.newWithSize 512) [.granted 0x10000 512] = .ok (g', out, reqs) :=
  ⟨_, _, _, rfl⟩
example : ∃ g' out reqs, step exCfg (initG exCfg) .drop [] = .ok (g', out, reqs) := ⟨_, _, _, rfl⟩

end Arena.Hist
