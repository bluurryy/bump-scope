/-
  Lemmas/StepActs.lean — what a step does to the part of the state that the functions of the model own.
  `Acts`: every successful step except `drop` and `reset` is a chain of paths of model functions
  (`Lemmas/FnPath.lean`, `Lemmas/FnRealloc.lean`) and of bookkeeping (`Book`: any change that leaves `chunks`, `reqs`
  and `resps` as they are) (`stepCore_acts`).  A relation on states that composes, that bookkeeping cannot see and that
  holds of each primitive change of a path therefore holds of the step (`Acts.rel`).  `Book` says nothing of live
  blocks, frames, marks, checkpoints, the prepared range, the minimum alignment or `cur`, and `Acts` nothing of the output:
  a statement about any of these walks the constructors from the `ok_X` (Lemmas/StepShape.lean) instead.
-/
import BumpProof.Lemmas.StepTryWith
set_option linter.unusedVariables false
namespace Arena.Hist
open Rs

variable {cfg : Cfg} {g g' : GState} {out : Out}

/-- bookkeeping: what `stepCore` itself does to the state around the calls of model functions.  Only what it leaves
    alone is recorded (chunk list and traffic with the base allocator); live blocks, frames, checkpoints, prepared range,
    minimum alignment and `cur` may change in any way, so a relation carried by `Acts.rel` must be blind to them. -/
structure Book (s s' : State) : Prop where
  chunks : s'.chunks = s.chunks
  reqs : s'.reqs = s.reqs
  resps : s'.resps = s.resps

/-- paths of model functions and bookkeeping, in some order; the flags are those of `Fn.Path` -/
inductive Acts (cfg : Cfg) (c w : Bool) : State → State → Prop
  | book {s s'} : Book s s' → Acts cfg c w s s'
  | path {s s'} : Fn.Path cfg c w s s' → Acts cfg c w s s'
  | trans {s t u} : Acts cfg c w s t → Acts cfg c w t u → Acts cfg c w s u

theorem Acts.refl {c w : Bool} (s : State) : Acts cfg c w s s := .path (.refl s)

/-- …, then bookkeeping (the three equations hold by computation in every case of `stepCore`) -/
theorem Acts.thenBook {c w : Bool} {s s1 s' : State} (h : Acts cfg c w s s1) (hc : s'.chunks = s1.chunks := by rfl)
    (hq : s'.reqs = s1.reqs := by rfl) (hp : s'.resps = s1.resps := by rfl) : Acts cfg c w s s' :=
  .trans h (.book ⟨hc, hq, hp⟩)

/-- bookkeeping, …, bookkeeping (`commit`, `commitSlice`, `scopedAlignedExit` change a field before the call) -/
theorem Acts.aroundBook {c w : Bool} {s s0 s1 s' : State} (h : Acts cfg c w s0 s1)
    (hc0 : s0.chunks = s.chunks := by rfl) (hq0 : s0.reqs = s.reqs := by rfl) (hp0 : s0.resps = s.resps := by rfl)
    (hc : s'.chunks = s1.chunks := by rfl) (hq : s'.reqs = s1.reqs := by rfl) (hp : s'.resps = s1.resps := by rfl) :
    Acts cfg c w s s' :=
  .trans (.book ⟨hc0, hq0, hp0⟩) (h.thenBook hc hq hp)

theorem Acts.rel {c w : Bool} {R : State → State → Prop} (book : ∀ {s s'}, Book s s' → R s s')
    (trans : ∀ {s t u}, R s t → R t u → R s u) (path : ∀ {s s'}, Fn.Path cfg c w s s' → R s s') {s s' : State}
    (h : Acts cfg c w s s') : R s s' := by
  induction h with
  | book b => exact book b
  | path p => exact path p
  | trans _ _ i1 i2 => exact trans i1 i2

/-- the operations in whose step the base allocator may be asked for a chunk -/
def _root_.Arena.Op.creates : Op → Bool
  | .newWithSize .. | .newWithCapacity .. | .allocate .. | .allocLayout .. | .grow .. | .shrink .. | .prepare ..
  | .prepareSlice .. | .reserve .. | .allocTryWith .. => true
  | _ => false

/-- the operations in whose step bytes of the chunks may be written -/
def _root_.Arena.Op.writes : Op → Bool
  | .allocate _ z _ => z
  | .grow .. | .shrink .. | .shrinkSlice .. | .commit .. | .commitSlice .. | .fillPrepared .. | .write .. => true
  | _ => false

theorem zeroIf_acts {c w z : Bool} (hw : z = true → w = true) {s1 s2 : State} {p n : Nat}
    (hz : (if z then zeroRange cfg s1 p n else pure s1) = .ok s2) : Acts cfg c w s1 s2 := by
  cases z
  · cases hz; exact .refl _
  · cases hw rfl; rw [if_pos rfl] at hz; exact .path (Fn.writeRange_path hz)

theorem tryInner_acts {w : Bool} {s1 s2 : State} {inner : Option Layout} {m : Bool} {io : Option (Nat × Layout)}
    (h : tryInner cfg s1 inner m = .ok (s2, io)) : Acts cfg true w s1 (withInner s2 io) := by
  have b : Book s2 (withInner s2 io) := by cases io <;> exact ⟨rfl, rfl, rfl⟩
  rcases tryInner_cases h with ⟨rfl, _⟩ | ⟨_, Li, r, _, ha, _⟩
  · exact .book b
  · exact .trans (.path (Fn.alloc_path ha)) (.book b)

theorem tryTail_acts {c w : Bool} {s2 : State} {ptr off vsize : Nat} {ok cs : Bool}
    (h : tryTail cfg g s2 ptr off vsize ok cs = .ok (g', out)) : Acts cfg c w s2 g'.s := by
  rcases tryTail_inv h with ⟨_, _, np, i, _, _, rfl⟩ | ⟨_, _, rfl⟩ | ⟨_, _, s3, h3, rfl⟩ | ⟨_, _, rfl⟩
  · exact (Acts.path (.setCurPos _ _)).thenBook
  · exact .book ⟨rfl, rfl, rfl⟩
  · exact (Acts.path (Fn.resetTo_path h3)).thenBook
  · exact .refl _

/-- Every operation but `drop` and `reset` (the two that release chunks) is a chain of paths of model functions and
    of bookkeeping; the base allocator is asked only if `op.creates`, bytes are written only if `op.writes`. -/
theorem stepCore_acts {op : Op} (hd : op ≠ .drop) (hr : op ≠ .reset)
    (hs : stepCore cfg g op = .ok (g', out)) : Acts cfg op.creates op.writes g.s g'.s := by
  cases op with
  | drop => exact (hd rfl).elim
  | reset => exact (hr rfl).elim
  | newWithSize n =>
    obtain ⟨_, _, o, _, ho⟩ := ok_newWithSize hs
    cases o with
    | none => rw [ho.1]; exact .refl _
    | some size =>
      obtain ⟨s1, r, h1, hr⟩ := ho
      cases r <;> rw [hr.1] <;> exact (Acts.path (Fn.newChunk_path h1)).thenBook
  | newWithCapacity L =>
    obtain ⟨_, _, _, s1, r, h1, hr⟩ := ok_newWithCapacity hs
    cases r <;> rw [hr.1] <;> exact (Acts.path (Fn.newChunkForCapacity_path h1)).thenBook
  | newUnallocated => rw [(ok_newUnallocated hs).1]; exact .refl _
  | allocate L z via =>
    obtain ⟨_, _, s1, r, h1, hr⟩ := ok_allocate hs
    cases r with
    | error e => rw [hr.1]; exact .path (Fn.alloc_path h1)
    | ok p =>
      obtain ⟨s2, hz, rfl, _⟩ := hr
      exact .trans (.path (Fn.alloc_path h1)) (.trans (zeroIf_acts id hz) (.book ⟨rfl, rfl, rfl⟩))
  | deallocate b via =>
    obtain ⟨_, blk, _, s1, h1, rfl, _⟩ := ok_deallocate hs
    rcases ite_eq_ok h1 with ⟨_, h1⟩ | ⟨_, h1⟩
    · cases h1; exact .book ⟨rfl, rfl, rfl⟩
    · exact (Acts.path (Fn.deallocate_path h1)).thenBook
  | grow b L z via =>
    obtain ⟨_, _, blk, _, _, s1, r, h1, hr⟩ := ok_grow hs
    cases r with
    | error e => rw [hr.1]; exact .path (grow_path h1)
    | ok np =>
      obtain ⟨s2, hz, rfl, _⟩ := hr
      exact .trans (.path (grow_path h1)) (.trans (zeroIf_acts (fun _ => rfl) hz) (.book ⟨rfl, rfl, rfl⟩))
  | shrink b L via =>
    obtain ⟨_, _, blk, _, _, s1, r, h1, hr⟩ := ok_shrink hs
    have : Fn.Path cfg true true g.s s1 := by
      rcases ite_eq_ok h1 with ⟨_, h1⟩ | ⟨_, h1⟩
      · exact shrinkWithoutShrink_path h1
      · exact shrink_path h1
    cases r <;> rw [hr.1] <;> exact (Acts.path this).thenBook
  | allocLayout L hh =>
    obtain ⟨_, _, _, s1, r, h1, hr⟩ := ok_allocLayout hs
    cases r <;> rw [hr.1] <;> exact (Acts.path (Fn.allocGeneric_path h1)).thenBook
  | shrinkSlice b n =>
    obtain ⟨_, blk, _, _, s1, r, h1, hr⟩ := ok_shrinkSlice hs
    cases r <;> rw [hr.1] <;> exact (Acts.path (shrinkSlice_path h1)).thenBook
  | prepare L =>
    obtain ⟨_, _, _, s1, r, h1, hr⟩ := ok_prepare hs
    cases r <;> rw [hr.1] <;> exact (Acts.path (Fn.allocGeneric_path h1)).thenBook
  | commit size rev =>
    obtain ⟨p, _, _, _, _, s1, addr, h1, rfl, _⟩ := ok_commit hs
    exact (Acts.path (allocatePrepared_path h1)).aroundBook
  | prepareSlice esize ealign minCap rev =>
    obtain ⟨_, _, ⟨rfl, _⟩ | ⟨_, s1, r, h1, hr⟩⟩ := ok_prepareSlice hs
    · exact .refl _
    · cases r <;> rw [hr.1] <;> exact (Acts.path (Fn.allocGeneric_path h1)).thenBook
  | fillPrepared len seed =>
    obtain ⟨p, _, _, s1, h1, rfl, _⟩ := ok_fillPrepared hs
    exact .path (Fn.writeRange_path h1)
  | commitSlice len =>
    obtain ⟨p, _, _, _, s1, addr, h1, rfl, _⟩ := ok_commitSlice hs
    exact (Acts.path (allocatePreparedSlice_path h1)).aroundBook
  | abandonPrepared => rw [(ok_abandonPrepared hs).1]; exact .book ⟨rfl, rfl, rfl⟩
  | reserve n dyn =>
    obtain ⟨_, s1, r, h1, rfl, _⟩ := ok_reserve hs
    rcases ite_eq_ok h1 with ⟨_, h1⟩ | ⟨_, h1⟩
    · exact .path (reserveDyn_path h1)
    · exact .path (reserve_path h1)
  | scopeEnter => rw [(ok_scopeEnter hs).2.1]; exact .book ⟨rfl, rfl, rfl⟩
  | scopeExit =>
    obtain ⟨_, cp, rest, m, ms, s1, _, _, h1, rfl, _⟩ := ok_scopeExit hs
    exact (Acts.path (Fn.resetTo_path h1)).thenBook
  | checkpoint k => rw [(ok_checkpoint hs).2.2.1]; exact .book ⟨rfl, rfl, rfl⟩
  | resetTo k =>
    obtain ⟨_, x, cp, mark, s1, _, _, _, h1, rfl, _⟩ := ok_resetTo hs
    exact (Acts.path (Fn.resetTo_path h1)).thenBook
  | resetToStart => rw [(ok_resetToStart hs).2.2.1]; exact (Acts.path (Fn.resetToStart_path cfg _)).thenBook
  | claim => rw [(ok_claim hs).2.2.1]; exact .book ⟨rfl, rfl, rfl⟩
  | claimEnd => obtain ⟨_, rest, _, rfl, _⟩ := ok_claimEnd hs; exact .book ⟨rfl, rfl, rfl⟩
  | onClaimed op' =>
    obtain ⟨_, ⟨rfl, _⟩ | ⟨b, via, blk, _, _, rfl, _⟩ | ⟨b, L, via, blk, _, _, _, _, _, rfl, _⟩⟩ := ok_onClaimed hs
    all_goals exact .book ⟨rfl, rfl, rfl⟩
  | alignedEnter n =>
    obtain ⟨_, _, _, ⟨_, rfl⟩ | ⟨_, s1, h1, rfl⟩⟩ := ok_alignedEnter hs
    · exact .book ⟨rfl, rfl, rfl⟩
    · exact (Acts.path (Fn.alignTo_path h1)).thenBook
  | alignedExit =>
    obtain ⟨_, _, ⟨outer, start, rest, s1, s2, _, h1, h2, rfl⟩ | ⟨outer, rest, _, rfl⟩⟩ := ok_alignedExit hs
    · exact (Acts.path ((Fn.alignGuardDrop_path h1).trans (Fn.alignChunkAt_path h2))).thenBook
    · exact .book ⟨rfl, rfl, rfl⟩
  | scopedAlignedEnter n =>
    obtain ⟨_, _, s1, h1, rfl, _⟩ := ok_scopedAlignedEnter hs
    exact (Acts.path (Fn.alignTo_path h1)).thenBook
  | scopedAlignedExit =>
    obtain ⟨_, cp, outer, rest, m, ms, s1, _, _, h1, rfl, _⟩ := ok_scopedAlignedExit hs
    exact (Acts.path (Fn.resetTo_path h1)).aroundBook
  | withSettings n ga cl =>
    obtain ⟨_, _, _, ⟨rfl, _⟩ | ⟨s1, h1, rfl, _⟩⟩ := ok_withSettings hs
    · exact .refl _
    · exact (Acts.path (Fn.alignTo_path h1)).thenBook
  | allocTryWith L off vsize ok inner m =>
    cases (tryWith_ok hs).2.2.2 with
    | refused h1 => exact .path (Fn.allocGeneric_path h1)
    | ran h1 hin ht => exact .trans (.path (Fn.allocGeneric_path h1)) (.trans (tryInner_acts hin) (tryTail_acts ht))
  | write b seed =>
    obtain ⟨blk, _, s1, h1, rfl, _⟩ := ok_write hs
    exact (Acts.path (Fn.writeRange_path h1)).thenBook
  | split b at_ => obtain ⟨blk, _, _, rfl, _⟩ := ok_split hs; exact .book ⟨rfl, rfl, rfl⟩

end Arena.Hist
