/-
  Lemmas/LedgerScope.lean — helper lemmas for C03 (scopes) and C05 (quiet operations): `resetTo` on the
  checkpoint of an earlier state puts that state's position back (`resetTo_checkpoint_core`), case analysis of
  the operations that only move a bump position, statistics only depend on address ranges and the current
  position.
-/
import BumpProof.Lemmas.LedgerIntact

namespace Ledger
open Arena Rs

def SameGeometryPrefix (n : Nat) (s s' : State) : Prop :=
  ∀ j, j < n → ∀ c, s.chunks[j]? = some c → ∃ c', s'.chunks[j]? = some c' ∧ c'.base = c.base ∧ c'.size = c.size

theorem Ext.sameGeometryPrefix {n m : Nat} {s s' : State} (h : Ext n s s') : SameGeometryPrefix m s s' :=
  fun j _ c hc => by
    obtain ⟨c', h1, sp, _⟩ := h.chunk j c hc
    exact ⟨c', h1, sp.1, sp.2.1⟩

theorem Intact.sameGeometryPrefix {s s' : State} (hi : Intact s s') (n : Nat) : SameGeometryPrefix n s s' :=
  fun j _ c hcj =>
    let ⟨c', hc', e⟩ := getElem?_of_map_eq hi.geometry hcj
    ⟨c', hc', congrArg (·.1) e, congrArg (·.2.1) e⟩

/-- an extension never removes or moves a chunk and keeps the live blocks (what C03 calls monotone) -/
theorem Ext.monotone {n : Nat} {s s' : State} (h : Ext n s s') :
    s.chunks.length ≤ s'.chunks.length ∧ geometry s = (geometry s').take s.chunks.length ∧
    (∀ n, SameGeometryPrefix n s s') ∧ s'.live = s.live ∧ s'.minAlign = s.minAlign :=
  ⟨h.covC.length_le, h.geometry_prefix, fun _ => h.sameGeometryPrefix, h.live, h.minAlign⟩

theorem SameGeometryPrefix.refl (n : Nat) (s : State) : SameGeometryPrefix n s s :=
  fun _ _ c hc => ⟨c, hc, rfl, rfl⟩

theorem checkpoint_chunk {cfg : Cfg} {s : State} {i : Nat} {c : Chunk} (hcur : s.cur = .chunk i)
    (hc : s.chunks[i]? = some c) : checkpoint cfg s = { cur := .chunk i, addr := c.pos } := by
  unfold checkpoint curPos; simp only [hcur, hc]

/-- `reset_to` on the checkpoint taken in `s` (current chunk `i`, which is `c`, at an aligned in-range position),
    in a state `s'` that still has chunk `i` at the same address range: the position of `s` is put back exactly -/
theorem resetTo_checkpoint_core {cfg : Cfg} {s s' : State} {i : Nat} {c c' : Chunk}
    (hcur : s.cur = .chunk i) (hc : s.chunks[i]? = some c) (hc' : s'.chunks[i]? = some c')
    (hb : c'.base = c.base) (hs : c'.size = c.size) (hm : s'.minAlign = s.minAlign)
    (h2 : Lemmas.P2 s.minAlign) (h64 : s.minAlign < 2 ^ 64) (hd : s.minAlign ∣ c.pos)
    (hin : c.contentStart cfg ≤ c.pos ∧ c.pos ≤ c.contentEnd cfg) (hp : c.pos < 2 ^ 64) :
    resetTo cfg s' (checkpoint cfg s) = .ok { setPos s' i c.pos with cur := .chunk i } :=
  checkpoint_chunk hcur hc ▸ Fn.resetTo_chunk rfl hc'
    (Chunk.contentStart_congr cfg hb ▸ Chunk.contentEnd_congr cfg hb hs ▸ hin) (hm ▸ Fn.lib_align_pos_self h2 h64 hd hp)

/-- the same for the minimum alignments the crate has and a position that leaves room below `2^64` (the form the
    theorems of `Props/C03` take as hypotheses) -/
theorem resetTo_checkpoint {cfg : Cfg} {s s' : State} {i : Nat} {c c' : Chunk}
    (hcur : s.cur = .chunk i) (hc : s.chunks[i]? = some c) (hc' : s'.chunks[i]? = some c')
    (hb : c'.base = c.base) (hs : c'.size = c.size) (hm : s'.minAlign = s.minAlign)
    (hma : s.minAlign = 1 ∨ s.minAlign = 2 ∨ s.minAlign = 4 ∨ s.minAlign = 8 ∨ s.minAlign = 16)
    (hd : s.minAlign ∣ c.pos)
    (hin : c.contentStart cfg ≤ c.pos ∧ c.pos ≤ c.contentEnd cfg) (hp : c.pos < 2^64 - 16) :
    resetTo cfg s' (checkpoint cfg s) = .ok { setPos s' i c.pos with cur := .chunk i } :=
  have ⟨h2, h16⟩ := Lemmas.p2_of_min_align hma
  resetTo_checkpoint_core hcur hc hc' hb hs hm h2 (by omega) hd hin (by omega)

theorem SamePlace.deallocReq (cfg : Cfg) {c c' : Chunk} (h : SamePlace c c') :
    deallocReq cfg c' = deallocReq cfg c := by
  unfold Arena.deallocReq; rw [h.1, h.2.1]

/-- what moving the position of the current chunk leaves alone: the base-allocator traffic and the
    releases that are due (`C05.owned`) -/
theorem pos_quiet {cfg : Cfg} {s s' : State} (h : s' = s ∨ ∃ p, s' = setCurPos s p) :
    s'.reqs = s.reqs ∧ s'.resps = s.resps ∧ s'.chunks.map (deallocReq cfg) = s.chunks.map (deallocReq cfg) := by
  rcases h with rfl | ⟨p, rfl⟩
  · exact ⟨rfl, rfl, rfl⟩
  · exact ⟨setCurPos_reqs s p, setCurPos_resps s p,
      (Ext.setCurPos s p fun _ _ => Nat.zero_le _).covC.map_eq (setCurPos_length s p) fun _ _ => SamePlace.deallocReq cfg⟩

export Arena.Fn (deallocate_cases)

theorem alignTo_cases {cfg : Cfg} {s s' : State} {n : Nat} (h : alignTo cfg s n = .ok s') :
    s' = s ∨ ∃ p, s' = setCurPos s p :=
  (Fn.alignTo_cases h).imp id fun ⟨_, _, p, hcur, _, _, e⟩ => ⟨p, e.trans (Fn.setCurPos_chunk hcur p).symm⟩

theorem resetTo_cases {cfg : Cfg} {s s' : State} {cp : Checkpoint} (h : resetTo cfg s cp = .ok s') :
    s' = resetToStart cfg s ∨ ∃ i p, s' = { setPos s i p with cur := .chunk i } :=
  (Fn.resetTo_inv h).imp (·.2) fun ⟨i, _, p, _, _, _, e⟩ => ⟨i, p, e⟩

theorem take_map_capacity_congr (cfg : Cfg) {l l' : List Chunk} {i : Nat}
    (h : ∀ j, j < i → ∀ c, l[j]? = some c → ∃ c', l'[j]? = some c' ∧ c'.base = c.base ∧ c'.size = c.size)
    (hi : i ≤ l.length) :
    (l'.take i).map (Chunk.capacity cfg) = (l.take i).map (Chunk.capacity cfg) := by
  refine List.ext_getElem? fun j => ?_
  simp only [List.getElem?_map, List.getElem?_take]
  split
  · next hj =>
    have hjl : j < l.length := Nat.lt_of_lt_of_le hj hi
    obtain ⟨c', h1, hb, hs⟩ := h j hj _ (List.getElem?_eq_getElem hjl)
    rw [h1, List.getElem?_eq_getElem hjl]
    refine congrArg some ?_
    unfold Chunk.capacity
    rw [Chunk.contentStart_congr cfg hb, Chunk.contentEnd_congr cfg hb hs]
  · rfl

/-- `stats().allocated()` only depends on the address ranges of the chunks up to the current one and
    on the current position -/
theorem stats_allocated_congr {cfg : Cfg} {s s'' : State} {i : Nat} {c c'' : Chunk}
    (hcur : s.cur = .chunk i) (hcur'' : s''.cur = .chunk i)
    (hc : s.chunks[i]? = some c) (hc'' : s''.chunks[i]? = some c'')
    (hb : c''.base = c.base) (hs : c''.size = c.size) (hp : c''.pos = c.pos)
    (hpre : SameGeometryPrefix i s s'') :
    (stats cfg s'').allocated = (stats cfg s).allocated := by
  unfold stats
  simp only [hcur, hcur'', hc, hc'']
  have hi : i ≤ s.chunks.length := Nat.le_of_lt (List.getElem?_eq_some_iff.1 hc).1
  rw [take_map_capacity_congr cfg (l := s.chunks) (l' := s''.chunks) hpre hi]
  unfold Chunk.allocated
  rw [Chunk.contentStart_congr cfg hb, Chunk.contentEnd_congr cfg hb hs, hp]

end Ledger
