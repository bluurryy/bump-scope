/-
  Props/C15.lean — property C15: exclusive-borrow collections (`MutBumpVec`, `MutBumpVecRev`,
  `MutBumpString`, the `*_mut` helpers) use the free space without moving the bump pointer.

  Model: such a collection is `Op.prepareSlice` (creation / growth: `prepare_slice_allocation(_rev)`),
  `Op.fillPrepared` (elements are written), `Op.abandonPrepared` (dropped / unwound without being
  finalised) and `Op.commitSlice` (`into_slice` & co. → `allocate_prepared_slice(_rev)`); the
  untyped interface is `Op.prepare` / `Op.commit` (`prepare_allocation` / `allocate_prepared(_rev)`).
-/
import BumpProof.Lemmas.CtrlCommit
import BumpProof.Lemmas.CtrlEx
import BumpProof.Lemmas.CtrlMem
import BumpProof.Lemmas.CtrlPrep

set_option linter.unusedVariables false

namespace C15
open Arena Rs Ctrl Lemmas

/-! ## Part 1: preparing never moves the position of the current chunk or of an earlier one (later chunks may be reset) -/

/-- `RawChunk::prepare_allocation` on the current chunk: the state is returned as it was -/
theorem tryCur_prepare_unchanged (cfg : Cfg) (s s' : State) (L : Layout) (h : Hints) (v : Nat × Nat)
    (hr : tryCur cfg .prepare s L h = .ok (some (v, s'))) : s' = s :=
  tryCur_keeps (by decide) hr

/-- `RawChunk::prepare_allocation_range` on the current chunk: the state is returned as it was -/
theorem tryCur_range_unchanged (cfg : Cfg) (s s' : State) (L : Layout) (h : Hints) (v : Nat × Nat)
    (hr : tryCur cfg .range s L h = .ok (some (v, s'))) : s' = s :=
  tryCur_keeps (by decide) hr

/-- What a prepare (fast path + slow path) may change, spelled out.  `i` is the index of the chunk that
    was current before. -/
structure PrepareEffect (cfg : Cfg) (i : Nat) (s s' : State) : Prop where
  /-- every chunk up to the old current one is identical: same position, same bytes -/
  upto : ∀ j : Nat, j ≤ i → s'.chunks[j]? = s.chunks[j]?
  /-- later chunks are still there, with the same block and the same bytes; they may only have been
      reset -/
  later : ∀ (j : Nat) (c : Chunk), s.chunks[j]? = some c →
    ∃ c', s'.chunks[j]? = some c' ∧ c'.base = c.base ∧ c'.size = c.size ∧ c'.data = c.data ∧
      (c'.pos = c.pos ∨ c' = c.resetPos cfg)
  /-- the current chunk is the old one or a later (possibly new) one -/
  cur : ∃ j, i ≤ j ∧ s'.cur = .chunk j ∧ j < s'.chunks.length
  /-- live blocks, open scopes, minimum alignment are untouched -/
  live : s'.live = s.live
  minAlign : s'.minAlign = s.minAlign
  frames : s'.frames = s.frames

/-- `PrepareEffect` is `Ctrl.Keeps` (Lemmas/CtrlPrep.lean) without the ghost fields `nextId`, `userCps`,
    `prepared`, and with `later` spelled out field by field -/
theorem prepareEffect_of_keeps {cfg : Cfg} {i : Nat} {s s' : State} (h : Keeps cfg i s s') :
    PrepareEffect cfg i s s' := by
  refine ⟨h.upto, fun j c hj => ?_, h.cur, h.live, h.minAlign, h.frames⟩
  obtain ⟨c', hc', hcc⟩ := h.later j c hj
  rcases hcc with rfl | rfl
  · exact ⟨_, hc', rfl, rfl, rfl, Or.inl rfl⟩
  · exact ⟨_, hc', rfl, rfl, rfl, Or.inr rfl⟩

/-- `prepare_allocation` / `prepare_slice_allocation` / `reserve` of the trait object, whatever the
    outcome (success, allocation failure, capacity overflow) -/
theorem allocGeneric_range_effect (cfg : Cfg) (s s' : State) (L : Layout) (h hs : Hints) (i : Nat) (c : Chunk)
    (r : Except AErr (Nat × Nat)) (hcur : s.cur = .chunk i) (hget : s.chunks[i]? = some c)
    (hr : allocGeneric cfg .range s L h hs = .ok (s', r)) : PrepareEffect cfg i s s' :=
  prepareEffect_of_keeps (allocGeneric_keeps (by decide) ⟨hcur, hget⟩ hr).1

/-- the same for `prepare_sized_allocation` (used by `alloc_try_with_mut`) -/
theorem allocGeneric_prepare_effect (cfg : Cfg) (s s' : State) (L : Layout) (h hs : Hints) (i : Nat) (c : Chunk)
    (r : Except AErr (Nat × Nat)) (hcur : s.cur = .chunk i) (hget : s.chunks[i]? = some c)
    (hr : allocGeneric cfg .prepare s L h hs = .ok (s', r)) : PrepareEffect cfg i s s' :=
  prepareEffect_of_keeps (allocGeneric_keeps (by decide) ⟨hcur, hget⟩ hr).1

theorem inAnotherChunk_range_effect (cfg : Cfg) (s s' : State) (L : Layout) (h : Hints) (i : Nat) (c : Chunk)
    (r : Except AErr (Nat × Nat)) (hcur : s.cur = .chunk i) (hget : s.chunks[i]? = some c)
    (hr : inAnotherChunk cfg .range s L h = .ok (s', r)) : PrepareEffect cfg i s s' :=
  prepareEffect_of_keeps (inAnotherChunk_keeps (by decide) ⟨hcur, hget⟩ hr).1

/-- a prepare that is REFUSED (allocation failure, capacity overflow) leaves the current chunk where it
    was (`in_another_chunk` goes back to the chunk it started in when `append_for` fails, crate commit c107ca6): together with `PrepareEffect.upto` the whole bump position is then unchanged -/
theorem allocGeneric_range_error_cur (cfg : Cfg) (s s' : State) (L : Layout) (h hs : Hints) (i : Nat) (c : Chunk)
    (e : AErr) (hcur : s.cur = .chunk i) (hget : s.chunks[i]? = some c)
    (hr : allocGeneric cfg .range s L h hs = .ok (s', .error e)) :
    s'.cur = s.cur ∧ s'.chunks[i]? = s.chunks[i]? := by
  obtain ⟨hk, he⟩ := allocGeneric_keeps (by decide) ⟨hcur, hget⟩ hr
  exact ⟨(he e rfl).trans hcur.symm, hk.upto i (Nat.le_refl i)⟩

theorem allocGeneric_prepare_error_cur (cfg : Cfg) (s s' : State) (L : Layout) (h hs : Hints) (i : Nat) (c : Chunk)
    (e : AErr) (hcur : s.cur = .chunk i) (hget : s.chunks[i]? = some c)
    (hr : allocGeneric cfg .prepare s L h hs = .ok (s', .error e)) :
    s'.cur = s.cur ∧ s'.chunks[i]? = s.chunks[i]? := by
  obtain ⟨hk, he⟩ := allocGeneric_keeps (by decide) ⟨hcur, hget⟩ hr
  exact ⟨(he e rfl).trans hcur.symm, hk.upto i (Nat.le_refl i)⟩

theorem inAnotherChunk_range_error_cur (cfg : Cfg) (s s' : State) (L : Layout) (h : Hints) (i : Nat) (c : Chunk)
    (e : AErr) (hcur : s.cur = .chunk i) (hget : s.chunks[i]? = some c)
    (hr : inAnotherChunk cfg .range s L h = .ok (s', .error e)) : s'.cur = s.cur :=
  ((inAnotherChunk_keeps (by decide) ⟨hcur, hget⟩ hr).2 e rfl).trans hcur.symm

/-! ## Part 2: the life of a collection in a history -/

theorem step_prepareSlice_effect (cfg : Cfg) (g g' : GState) (esize ealign minCap : Nat) (rev : Bool) (o : Out)
    (i : Nat) (c : Chunk) (hcur : g.s.cur = .chunk i) (hget : g.s.chunks[i]? = some c)
    (hr : stepCore cfg g (.prepareSlice esize ealign minCap rev) = .ok (g', o)) :
    PrepareEffect cfg i g.s g'.s ∧ g'.marks = g.marks := by
  obtain ⟨hm, ⟨s1, po, hk, hs⟩, -⟩ := stepCore_prepareSlice_keeps ⟨hcur, hget⟩ hr
  have he := prepareEffect_of_keeps hk
  rw [hs]
  exact ⟨⟨he.upto, he.later, he.cur, he.live, he.minAlign, he.frames⟩, hm⟩

/-- a collection whose creation / growth is refused leaves the bump position exactly where it was -/
theorem step_prepareSlice_error_cur (cfg : Cfg) (g g' : GState) (esize ealign minCap : Nat) (rev : Bool) (e : AErr)
    (i : Nat) (c : Chunk) (hcur : g.s.cur = .chunk i) (hget : g.s.chunks[i]? = some c)
    (hr : stepCore cfg g (.prepareSlice esize ealign minCap rev) = .ok (g', .err e)) :
    g'.s.cur = g.s.cur ∧ g'.s.chunks[i]? = g.s.chunks[i]? := by
  obtain ⟨-, ⟨s1, po, hk, hs⟩, he⟩ := stepCore_prepareSlice_keeps ⟨hcur, hget⟩ hr
  refine ⟨(he e rfl).trans hcur.symm, ?_⟩
  rw [hs]
  exact hk.upto i (Nat.le_refl i)

theorem step_prepare_effect (cfg : Cfg) (g g' : GState) (L : Layout) (o : Out)
    (i : Nat) (c : Chunk) (hcur : g.s.cur = .chunk i) (hget : g.s.chunks[i]? = some c)
    (hr : stepCore cfg g (.prepare L) = .ok (g', o)) :
    PrepareEffect cfg i g.s g'.s ∧ g'.marks = g.marks := by
  obtain ⟨hm, ⟨s1, po, hk, hs⟩, -⟩ := stepCore_prepare_keeps ⟨hcur, hget⟩ hr
  have he := prepareEffect_of_keeps hk
  rw [hs]
  exact ⟨⟨he.upto, he.later, he.cur, he.live, he.minAlign, he.frames⟩, hm⟩

/-- filling the collection writes bytes only: current chunk, every position, the live blocks stay -/
theorem step_fillPrepared_shape (cfg : Cfg) (g g' : GState) (len seed : Nat) (o : Out)
    (hr : stepCore cfg g (.fillPrepared len seed) = .ok (g', o)) :
    SameShape g.s g'.s ∧ g'.marks = g.marks := by
  obtain ⟨_, _, _, s1, hw, rfl, _⟩ := Arena.Hist.ok_fillPrepared hr
  exact ⟨writeRange_shape hw, rfl⟩

/-- in particular the position of every chunk is what it was -/
theorem step_fillPrepared_positions (cfg : Cfg) (g g' : GState) (len seed : Nat) (o : Out)
    (hr : stepCore cfg g (.fillPrepared len seed) = .ok (g', o)) (j : Nat) :
    (g'.s.chunks[j]?).map (·.pos) = (g.s.chunks[j]?).map (·.pos) ∧ g'.s.cur = g.s.cur := by
  obtain ⟨hs, _⟩ := step_fillPrepared_shape cfg g g' len seed o hr
  exact ⟨hs.pos j, hs.cur⟩

/-- dropping the collection without finalising it: the prepared area is forgotten, NOTHING else changes -/
theorem step_abandonPrepared (cfg : Cfg) (g : GState) (p : Prepared) (hp : g.s.prepared = some p) :
    stepCore cfg g .abandonPrepared = .ok ({ g with s := { g.s with prepared := none } }, .unit) := by
  unfold stepCore
  simp only [hp]
  rfl

/-! ## Part 3: finalising moves the position to the far end of the final contents -/

/-- position after committing `bytes` bytes at address `a`: the end of the block rounded up to the
    minimum alignment (upwards) / the start of the block rounded down (downwards) -/
def commitPos (cfg : Cfg) (m a bytes : Nat) : Nat :=
  if cfg.up then Spec.upAlign (a + bytes) m else Spec.downAlign a m

/-- at most `minAlign - 1` bytes of padding beyond the contents -/
theorem commitPos_bounds (cfg : Cfg) (m a bytes : Nat) (hm : 0 < m) :
    m ∣ commitPos cfg m a bytes ∧
    (if cfg.up then a + bytes ≤ commitPos cfg m a bytes ∧ commitPos cfg m a bytes < a + bytes + m
     else commitPos cfg m a bytes ≤ a ∧ a < commitPos cfg m a bytes + m) := by
  unfold commitPos
  cases cfg.up
  · simp only [Bool.false_eq_true, ↓reduceIte]
    exact ⟨downAlign_dvd a m, downAlign_le a m, lt_downAlign_add a hm⟩
  · simp only [↓reduceIte]
    exact ⟨upAlign_dvd _ m, le_upAlign _ hm, upAlign_lt _ hm⟩

/-- address of the finalised slice -/
def commitAddr (cfg : Cfg) (ptr len cap esize : Nat) (rev : Bool) : Nat :=
  if rev then (if cfg.up then ptr - cap * esize else ptr - len * esize)
  else (if cfg.up then ptr else ptr + cap * esize - len * esize)

/-- where the collection wrote its `len` elements: at the start of the area (forward collections) or
    just below its end `ptr` (rev collections) -/
def commitSrc (ptr len esize : Nat) (rev : Bool) : Nat := if rev then ptr - len * esize else ptr

/-- `allocate_prepared_slice(_rev)`: the slice ends up at `commitAddr`, and apart from the bytes that
    are moved there the only change is the position of the current chunk, which becomes `commitPos`:
    the contents plus at most the padding for the minimum alignment are consumed. -/
theorem allocatePreparedSlice_effect (cfg : Cfg) (s s' : State) (ptr len cap esize ealign a : Nat) (rev : Bool)
    (i : Nat) (c : Chunk) (hcur : s.cur = .chunk i) (hget : s.chunks[i]? = some c)
    (hm : MinAlignOk s.minAlign) (hea : P2 ealign) (hes : ealign ∣ esize) (hp : ealign ∣ ptr)
    (hlen : len ≤ cap)
    (hfit : if rev then cap * esize ≤ ptr ∧ ptr + 16 ≤ 2 ^ 64 else ptr + cap * esize + 16 ≤ 2 ^ 64)
    (hr : allocatePreparedSlice cfg s ptr len cap esize ealign rev = .ok (s', a)) :
    a = commitAddr cfg ptr len cap esize rev ∧
    ∃ s1, SameShape s s1 ∧
      ((s1 = s ∧ a = commitSrc ptr len esize rev) ∨
        copyBytes cfg s (commitSrc ptr len esize rev) a (len * esize) false = .ok s1) ∧
      s' = setCurPos s1 (commitPos cfg s.minAlign a (len * esize)) := by
  obtain ⟨s1, pos, hcopy, hset, hwhere, hpos⟩ := Arena.Hist.allocatePreparedSlice_slides hr
  obtain ⟨ha, hdvd, hb⟩ := Ctrl.slide_pos hes hp hlen hfit hwhere hpos
  have hs : SameShape s s1 := hcopy.elim (fun h => h.1 ▸ .refl s) copyBytes_shape
  rw [setPosAlignFrom_eq (hs.minAlign ▸ hm) hea hdvd (.inl hb), hs.minAlign] at hset
  cases hset
  refine ⟨ha, s1, hs, hcopy, ?_⟩
  unfold commitPos
  rw [hpos]
  cases cfg.up <;> rfl

/-- spelled out: after finalising, the position of the current chunk is `commitPos`, i.e. it passed the
    `len * esize` bytes of contents and less than `minAlign` bytes of padding; every other chunk keeps
    its position; current chunk and live blocks are the same -/
theorem allocatePreparedSlice_position (cfg : Cfg) (s s' : State) (ptr len cap esize ealign a : Nat) (rev : Bool)
    (i : Nat) (c : Chunk) (hcur : s.cur = .chunk i) (hget : s.chunks[i]? = some c)
    (hm : MinAlignOk s.minAlign) (hea : P2 ealign) (hes : ealign ∣ esize) (hp : ealign ∣ ptr)
    (hlen : len ≤ cap)
    (hfit : if rev then cap * esize ≤ ptr ∧ ptr + 16 ≤ 2 ^ 64 else ptr + cap * esize + 16 ≤ 2 ^ 64)
    (hr : allocatePreparedSlice cfg s ptr len cap esize ealign rev = .ok (s', a)) :
    curPos cfg s' = commitPos cfg s.minAlign a (len * esize) ∧ s'.cur = s.cur ∧ s'.live = s.live ∧
    ∀ j : Nat, j ≠ i → (s'.chunks[j]?).map (·.pos) = (s.chunks[j]?).map (·.pos) := by
  obtain ⟨_, s1, hs, _, rfl⟩ :=
    allocatePreparedSlice_effect cfg s s' ptr len cap esize ealign a rev i c hcur hget hm hea hes hp hlen hfit hr
  exact setCurPos_after_copy cfg hs ⟨hcur, hget⟩ _

/-- the finalised slice holds exactly the bytes the collection wrote (`MemOk`: the chunks are disjoint
    address ranges carrying `size` bytes each) — in all four direction combinations, i.e. also when the
    elements had to be moved to the other end of the prepared area -/
theorem allocatePreparedSlice_contents (cfg : Cfg) (s s' : State) (ptr len cap esize ealign a : Nat) (rev : Bool)
    (i : Nat) (c : Chunk) (hcur : s.cur = .chunk i) (hget : s.chunks[i]? = some c)
    (hm : MinAlignOk s.minAlign) (hea : P2 ealign) (hes : ealign ∣ esize) (hp : ealign ∣ ptr)
    (hlen : len ≤ cap)
    (hfit : if rev then cap * esize ≤ ptr ∧ ptr + 16 ≤ 2 ^ 64 else ptr + cap * esize + 16 ≤ 2 ^ 64)
    (hmem : MemOk s)
    (hr : allocatePreparedSlice cfg s ptr len cap esize ealign rev = .ok (s', a)) :
    ∀ k, k < len * esize → readByte s' (a + k) = readByte s (commitSrc ptr len esize rev + k) := by
  obtain ⟨_, s1, hs, hcopy, rfl⟩ :=
    allocatePreparedSlice_effect cfg s s' ptr len cap esize ealign a rev i c hcur hget hm hea hes hp hlen hfit hr
  exact committed_read hmem hcopy

/-- In a history: finalising the collection (`into_slice` & co.) returns a block of exactly
    `len * esize` bytes holding the elements that were written, and the position of the current
    chunk ends up at `commitPos`: the contents plus less than `minAlign` bytes of padding are consumed;
    no other chunk moves.  `hea hes hptr hle` follow from `Arena.Hist.PrepOK` for a typed prepared area
    (`Arena.Hist.Inv.prep`); `hb` needs in addition the chunk bound of `GeomInv`; no lemma derives `hmem` from
    `Hist.Inv`. -/
theorem step_commitSlice_effect (cfg : Cfg) (g g' : GState) (len : Nat) (o : Out) (p : Prepared)
    (i : Nat) (c : Chunk) (hp : g.s.prepared = some p) (hcur : g.s.cur = .chunk i)
    (hget : g.s.chunks[i]? = some c) (hm : MinAlignOk g.s.minAlign) (hea : P2 p.ealign)
    (hes : p.ealign ∣ p.esize) (hptr : p.ealign ∣ (if p.rev then p.rend else p.rstart))
    (hle : p.rstart ≤ p.rend) (hb : p.rend + 16 ≤ 2 ^ 64) (hmem : MemOk g.s)
    (hr : stepCore cfg g (.commitSlice len) = .ok (g', o)) :
    ∃ a, o = .block g.s.nextId a (len * p.esize) ∧
      curPos cfg g'.s = commitPos cfg g.s.minAlign a (len * p.esize) ∧
      g'.s.prepared = none ∧ g'.s.cur = g.s.cur ∧
      (∀ j : Nat, j ≠ i → (g'.s.chunks[j]?).map (·.pos) = (g.s.chunks[j]?).map (·.pos)) ∧
      (∀ k, k < len * p.esize →
        readByte g'.s (a + k) = readByte g.s (commitSrc (if p.rev then p.rend else p.rstart) len p.esize p.rev + k)) := by
  obtain ⟨p', hp', -, hlen, s1, a, hps, rfl, rfl⟩ := Arena.Hist.ok_commitSlice hr
  cases hp.symm.trans hp'
  have hcap : (p.rend - p.rstart) / p.esize * p.esize ≤ p.rend - p.rstart := Nat.div_mul_le_self _ _
  obtain ⟨-, s2, hs, hcopy, rfl⟩ := allocatePreparedSlice_effect cfg { g.s with prepared := none } s1 _ len _ p.esize
    p.ealign a p.rev i c hcur hget hm hea hes hptr hlen
    (by cases p.rev <;> simp only [Bool.false_eq_true, ↓reduceIte] <;> omega) hps
  obtain ⟨h1, h2, -, h4⟩ := setCurPos_after_copy (s := { g.s with prepared := none }) cfg hs ⟨hcur, hget⟩
    (commitPos cfg g.s.minAlign a (len * p.esize))
  have hcs := setCurPos_chunk (hs.cur.trans hcur) (commitPos cfg g.s.minAlign a (len * p.esize))
  exact ⟨a, congrArg (Out.block · a _) (hcs ▸ hs.nextId), h1, hcs ▸ hs.prepared, h2, h4,
    committed_read (s := { g.s with prepared := none }) ⟨hmem.disjoint, hmem.dataSize⟩ hcopy⟩

/-- `allocate_prepared(_rev)` of the untyped interface: the address returned and the new position (`commitPos`), as in
    `allocatePreparedSlice_effect`; nothing about the contents -/
theorem allocatePrepared_effect (cfg : Cfg) (s s' : State) (size rstart rend a : Nat) (rev : Bool)
    (i : Nat) (hcur : s.cur = .chunk i)
    (hm : MinAlignOk s.minAlign) (hsz : rstart + size ≤ rend) (hb : rend + 16 ≤ 2 ^ 64)
    (hr : allocatePrepared cfg s size rstart rend rev = .ok (s', a)) :
    a = (if cfg.up then rstart else rend - size) ∧
    ∃ s1, SameShape s s1 ∧ s' = setCurPos s1 (commitPos cfg s.minAlign a size) := by
  have hle := hm.le
  obtain ⟨s1, p, hcopy, rfl, hpos⟩ := Arena.Hist.allocatePrepared_slides hr
  have hs : SameShape s s1 := hcopy.elim (fun h => h.1 ▸ .refl s) copyBytes_shape
  unfold commitPos
  rcases hpos with ⟨hup, rfl, e, he, hp⟩ | ⟨hup, hd, hp⟩ <;> simp only [hup, Bool.false_eq_true, ↓reduceIte] at hp ⊢
  · obtain ⟨rfl, -⟩ := Fn.rs_add_ok (Fn.liftM_eq_ok he)
    rw [lib_align_pos_up hm.p2 hm.lt64 (by omega)] at hp
    cases hp
    exact ⟨trivial, s1, hs, rfl⟩
  · obtain ⟨rfl, -⟩ := Fn.rs_sub_ok (Fn.liftM_eq_ok hd)
    rw [lib_align_pos_down hm.p2 hm.lt64 (by omega)] at hp
    cases hp
    exact ⟨rfl, s1, hs, rfl⟩

/-- When the collection was filled in the bump direction (`MutBumpVec` upwards, `MutBumpVecRev`
    downwards) nothing has to be copied: finalising ALWAYS succeeds (no fault), returns the place
    where the elements were written, only moves the position, and every byte of the arena — in
    particular the elements — is what it was. -/
theorem allocatePreparedSlice_nocopy (cfg : Cfg) (s : State) (ptr len cap esize ealign : Nat) (rev : Bool)
    (i : Nat) (hcur : s.cur = .chunk i)
    (hm : MinAlignOk s.minAlign) (hea : P2 ealign) (hes : ealign ∣ esize) (hp : ealign ∣ ptr)
    (hdir : rev = !cfg.up)
    (hfit : if rev then ptr < 2 ^ 64 else ptr + len * esize + 16 ≤ 2 ^ 64) :
    allocatePreparedSlice cfg s ptr len cap esize ealign rev =
      .ok (setCurPos s (commitPos cfg s.minAlign (commitAddr cfg ptr len cap esize rev) (len * esize)),
           commitAddr cfg ptr len cap esize rev) ∧
    commitAddr cfg ptr len cap esize rev = (if rev then ptr - len * esize else ptr) ∧
    ∀ x, readByte (setCurPos s (commitPos cfg s.minAlign (commitAddr cfg ptr len cap esize rev) (len * esize))) x =
      readByte s x := by
  have hd1 : ealign ∣ len * esize := Nat.dvd_trans hes (Nat.dvd_mul_left esize len)
  refine ⟨?_, ?_, fun x => Mem.readByte_setCurPos s _ x⟩
  · unfold allocatePreparedSlice commitAddr commitPos
    cases hup : cfg.up <;> subst hdir <;>
      simp only [hcur, hup, Bool.not_true, Bool.not_false, Bool.false_eq_true, ↓reduceIte] at hfit ⊢
    · rw [setPosAlignFrom_eq hm hea (Nat.dvd_sub hp hd1) (.inr ⟨hup, by omega⟩), hup]
      rfl
    · rw [setPosAlignFrom_eq hm hea ((Nat.dvd_add_right hp).2 hd1) (.inl (by omega)), hup]
      rfl
  · unfold commitAddr
    cases hup : cfg.up <;> subst hdir <;> simp only [hup, Bool.not_true, Bool.not_false, Bool.false_eq_true, ↓reduceIte]

/-! ## Non-vacuity: the hypotheses hold on concrete states (`Lemmas/CtrlEx.lean`) -/

/-- a prepare that has to move on to the second chunk (slow path) -/
example : ∃ s' r, allocGeneric wCfg .range wState { size := 64, align := 8 } Hints.array Hints.array = .ok (s', .ok r) ∧
    s'.cur = .chunk 1 := ⟨_, _, rfl, rfl⟩

example : ∃ g' o, stepCore wCfg ⟨wState, []⟩ (.prepare { size := 64, align := 8 }) = .ok (g', o) ∧ g'.s.cur = .chunk 1 :=
  ⟨_, _, rfl, rfl⟩

/-- a collection: created, filled, finalised / abandoned -/
example : ∃ g1 o1 g2 o2 g3 o3, stepCore wCfg ⟨exUp, []⟩ (.prepareSlice 8 8 4 false) = .ok (g1, o1) ∧
    stepCore wCfg g1 (.fillPrepared 2 0) = .ok (g2, o2) ∧ stepCore wCfg g2 (.commitSlice 2) = .ok (g3, o3) ∧
    stepCore wCfg g2 .abandonPrepared = .ok ({ g2 with s := { g2.s with prepared := none } }, .unit) :=
  ⟨_, _, _, _, _, _, rfl, rfl, rfl, rfl⟩

/-- upwards, forward: 2 of 4 prepared 8-byte elements are kept -/
example : ∃ s', allocatePreparedSlice wCfg exUp 0x10040 2 4 8 8 false = .ok (s', 0x10040) ∧
    curPos wCfg s' = commitPos wCfg 8 0x10040 16 :=
  ⟨_, rfl, (allocatePreparedSlice_position wCfg exUp _ 0x10040 2 4 8 8 0x10040 false 0 exChunkUp rfl rfl minAlign8
    ⟨3, rfl⟩ ⟨1, rfl⟩ ⟨0x2008, by decide⟩ (by decide) (by decide) rfl).1⟩

/-- downwards, forward: the 2 elements are copied to the end of the prepared area -/
example : ∃ s', allocatePreparedSlice dCfg exDown 0x10080 2 8 8 8 false = .ok (s', 0x100B0) ∧
    curPos dCfg s' = commitPos dCfg 8 0x100B0 16 :=
  ⟨_, rfl, (allocatePreparedSlice_position dCfg exDown _ 0x10080 2 8 8 8 0x100B0 false 0 Ctrl.exChunkDown rfl rfl minAlign8
    ⟨3, rfl⟩ ⟨1, rfl⟩ ⟨0x2010, by decide⟩ (by decide) (by decide) rfl).1⟩

example : allocatePreparedSlice wCfg exUp 0x10040 2 4 8 8 false =
    .ok (setCurPos exUp (commitPos wCfg 8 (commitAddr wCfg 0x10040 2 4 8 false) 16), commitAddr wCfg 0x10040 2 4 8 false) :=
  (allocatePreparedSlice_nocopy wCfg exUp 0x10040 2 4 8 8 false 0 rfl minAlign8 ⟨3, rfl⟩ ⟨1, rfl⟩ ⟨0x2008, by decide⟩
    rfl (by decide)).1

theorem exDown_memOk : MemOk exDown := memOk_singleton rfl Array.size_replicate

/-- downwards, forward: the 16 bytes written at 0x10080 are found at the returned address 0x100B0 -/
example : ∃ s', allocatePreparedSlice dCfg exDown 0x10080 2 8 8 8 false = .ok (s', 0x100B0) ∧
    ∀ k, k < 16 → readByte s' (0x100B0 + k) = readByte exDown (0x10080 + k) :=
  ⟨_, rfl, allocatePreparedSlice_contents dCfg exDown _ 0x10080 2 8 8 8 0x100B0 false 0 Ctrl.exChunkDown rfl rfl minAlign8
    ⟨3, rfl⟩ ⟨1, rfl⟩ ⟨0x2010, by decide⟩ (by decide) (by decide) exDown_memOk rfl⟩

/-- the state after `prepare_slice_allocation::<u64>(4)` on `exUp`: the rest of the chunk is prepared -/
def exPrepG : GState :=
  ⟨{ exUp with prepared := some { rstart := 0x10040, rend := 0x10100, esize := 8, ealign := 8, typed := true, rev := false } }, []⟩

example : stepCore wCfg ⟨exUp, []⟩ (.prepareSlice 8 8 4 false) = .ok (exPrepG, .block 0 0x10040 24) := rfl

theorem exPrepG_memOk : MemOk exPrepG.s := memOk_singleton rfl Array.size_replicate

example : ∃ g' o, stepCore wCfg exPrepG (.commitSlice 3) = .ok (g', o) ∧
    ∃ a, o = .block 1 a 24 ∧ curPos wCfg g'.s = commitPos wCfg 8 a 24 :=
  -- the step is run once: the fact about its result takes the equation, not a second run
  have ⟨g', o, h⟩ : ∃ g' o, stepCore wCfg exPrepG (.commitSlice 3) = .ok (g', o) := ⟨_, _, rfl⟩
  let ⟨a, h1, h2, _⟩ := step_commitSlice_effect wCfg exPrepG g' 3 o _ 0 exChunkUp rfl rfl rfl minAlign8 ⟨3, rfl⟩ ⟨1, rfl⟩
    ⟨0x2008, by decide⟩ (by decide) (by decide) exPrepG_memOk h
  ⟨g', o, h, a, h1, h2⟩

example : ∃ s', allocatePrepared wCfg exUp 16 0x10040 0x10100 false = .ok (s', 0x10040) := ⟨_, rfl⟩

end C15
