/-
  Props/C03.lean — property C03: leaving a scope restores the allocator exactly; earlier data
  survives; chunks acquired inside remain available.  Over the arena model (`Arena/Model.lean`).
-/
import BumpProof.Lemmas.LedgerReplay
import BumpProof.Lemmas.LedgerScope
import BumpProof.Lemmas.LedgerEx
import BumpProof.Lemmas.StepShape

namespace C03
open Arena Rs Ledger

/-! ## `reset_to(checkpoint)` restores the current chunk, the position and the allocated byte count -/

/-- `s` is the state when the scope was entered (checkpoint taken), `s'` the state when it is left.
    Hypotheses (they hold wherever a scope is left in a reachable history; `hp` is stronger than needed:
    `Ledger.resetTo_checkpoint_core` asks `c.pos < 2^64`, which `ChunkWF` gives; `SameGeometryPrefix` is what `alloc_monotone` below
    provides for everything that happens inside the scope):
    * the chunks up to the checkpoint's chunk still have the same address range in `s'`,
    * the minimum alignment is the one of the checkpoint, and the checkpointed position is aligned
      to it and lies inside its chunk.
    Then `reset_to` does not fault and afterwards: same current chunk, same bump position, same
    `stats().allocated()`; no chunk was released (chunks acquired inside remain available), no
    base-allocator traffic, no byte of any chunk changed, no live block removed by `reset_to` itself. -/
theorem resetTo_checkpoint_restores {cfg : Cfg} {s s' : State} {i : Nat} {c : Chunk}
    (hcur : s.cur = .chunk i) (hc : s.chunks[i]? = some c)
    (hgeo : SameGeometryPrefix (i+1) s s')
    (hm : s'.minAlign = s.minAlign)
    (hma : s.minAlign = 1 ∨ s.minAlign = 2 ∨ s.minAlign = 4 ∨ s.minAlign = 8 ∨ s.minAlign = 16)
    (hd : s.minAlign ∣ c.pos)
    (hin : c.contentStart cfg ≤ c.pos ∧ c.pos ≤ c.contentEnd cfg) (hp : c.pos < 2^64 - 16) :
    ∃ s'', resetTo cfg s' (checkpoint cfg s) = .ok s'' ∧
      s''.cur = s.cur ∧ (s''.chunks[i]?).map (·.pos) = some c.pos ∧ curPos cfg s'' = curPos cfg s ∧
      (stats cfg s'').allocated = (stats cfg s).allocated ∧
      s''.chunks.length = s'.chunks.length ∧ s''.reqs = s'.reqs ∧ s''.resps = s'.resps ∧
      s''.live = s'.live ∧ geometry s'' = geometry s' := by
  obtain ⟨c', hc', hb, hs⟩ := hgeo i (Nat.lt_succ_self i) c hc
  have hci := Fn.setPos_getElem?_self hc' c.pos
  have hlen := setPos_length s' i c.pos
  refine ⟨_, resetTo_checkpoint hcur hc hc' hb hs hm hma hd hin hp, hcur.symm, ?_, ?_, ?_, hlen, rfl, rfl, rfl,
    ((Ext.setPos s' c.pos (Nat.zero_le i)).trans (Ext.setCur 0 _ _)).geometry_eq hlen⟩
  · exact congrArg (Option.map (·.pos)) hci
  · unfold curPos
    simp only [hcur, hc, hci]
  · refine stats_allocated_congr hcur rfl hc hci hb hs rfl fun j hj x hx => ?_
    obtain ⟨x', hx', hxb, hxs⟩ := hgeo j (Nat.lt_succ_of_lt hj) x hx
    exact ⟨x', (List.getElem?_modify_ne _ _ (Nat.ne_of_gt hj)).trans hx', hxb, hxs⟩

/-! ## A checkpoint of an unallocated arena rewinds to the start of the first chunk -/

/-- the scope was entered before anything was allocated (`!GUARANTEED_ALLOCATED`): leaving it is
    `reset_to_start` — never faults, releases nothing -/
theorem resetTo_unallocated_checkpoint {cfg : Cfg} {s s' : State}
    (hga : cfg.ga = false) (hcur : s.cur = .unallocated) :
    resetTo cfg s' (checkpoint cfg s) = .ok (resetToStart cfg s') :=
  Fn.resetTo_unallocated hcur hga

/-- … and `reset_to_start` makes the first chunk current with nothing allocated (`allocated() = 0`),
    keeping all chunks -/
theorem resetToStart_allocated_zero {cfg : Cfg} {s' : State} {j : Nat} {c0 : Chunk} {rest : List Chunk}
    (hcur : s'.cur = .chunk j) (hch : s'.chunks = c0 :: rest) :
    (resetToStart cfg s').cur = .chunk 0 ∧ (resetToStart cfg s').chunks = c0.resetPos cfg :: rest ∧
    (stats cfg (resetToStart cfg s')).allocated = 0 ∧
    (resetToStart cfg s').chunks.length = s'.chunks.length ∧ geometry (resetToStart cfg s') = geometry s' := by
  have h : resetToStart cfg s' = { s' with chunks := c0.resetPos cfg :: rest, cur := .chunk 0 } := by
    unfold resetToStart; simp only [hcur, hch]
  rw [h]
  refine ⟨rfl, rfl, ?_, by simp only [hch, List.length_cons], ?_⟩
  · unfold stats
    simp only [List.getElem?_cons_zero, List.take_zero, List.map_nil, List.foldl_nil, Nat.add_zero]
    unfold Chunk.allocated Chunk.resetPos
    cases cfg.up <;> simp [Chunk.contentStart, Chunk.contentEnd]
  · unfold geometry; simp only [hch, List.map_cons]; rfl

/-! ## The model's scope operations are exactly this checkpoint / `reset_to` pair -/

/-- `scope_guard()` / `scoped`: pushes a frame holding the checkpoint of the current state and the
    id mark; the arena itself is untouched -/
theorem scopeEnter_step {cfg : Cfg} {g : GState} (hp : g.s.prepared = none) :
    stepCore cfg g .scopeEnter =
      .ok ({ s := { g.s with frames := .scope (checkpoint cfg g.s) :: g.s.frames },
             marks := g.s.nextId :: g.marks }, .unit) := by
  unfold stepCore
  simp only [noPrepared, hp, Option.isNone_none, ↓reduceIte]
  rfl

/-- guard drop / closure return: calls `reset_to` with the saved checkpoint, pops the frame, and
    forgets exactly the blocks created since the scope was entered -/
theorem scopeExit_step {cfg : Cfg} {g : GState} {cp : Checkpoint} {rest : List Frame} {m : Nat} {ms : List Nat}
    {s' : State} (hp : g.s.prepared = none) (hf : g.s.frames = .scope cp :: rest) (hm : g.marks = m :: ms)
    (hr : resetTo cfg g.s cp = .ok s') :
    stepCore cfg g .scopeExit = .ok ({ s := killFrom { s' with frames := rest } m, marks := ms }, .unit) := by
  unfold stepCore
  simp only [noPrepared, hp, Option.isNone_none, ↓reduceIte, hf, hm]
  simp only [pure_eq_ok, bind_ok, hr]

/-- if `reset_to` faults (contract violation), so does the step: the model never hides it -/
theorem scopeExit_step_fault {cfg : Cfg} {g : GState} {cp : Checkpoint} {rest : List Frame} {m : Nat} {ms : List Nat}
    {f : Fault} (hp : g.s.prepared = none) (hf : g.s.frames = .scope cp :: rest) (hm : g.marks = m :: ms)
    (hr : resetTo cfg g.s cp = .error f) :
    stepCore cfg g .scopeExit = .error f := by
  unfold stepCore
  simp only [noPrepared, hp, Option.isNone_none, ↓reduceIte, hf, hm]
  simp only [pure_eq_ok, bind_ok, hr]
  rfl

theorem resetTo_live {cfg : Cfg} {s s' : State} {cp : Checkpoint} (h : resetTo cfg s cp = .ok s') :
    s'.live = s.live ∧ s'.nextId = s.nextId := by
  have k := (Fn.resetTo_path (c := false) (w := false) h).kept
  exact ⟨k.live, k.nextId⟩

/-- after a scope exit the live blocks are exactly the ones that existed when the scope was entered
    (id below the mark): blocks created before the scope survive, blocks created inside are gone -/
theorem scopeExit_live {cfg : Cfg} {g g' : GState} {cp : Checkpoint} {rest : List Frame} {m : Nat} {ms : List Nat}
    {o : Out} (hf : g.s.frames = .scope cp :: rest) (hm : g.marks = m :: ms)
    (h : stepCore cfg g .scopeExit = .ok (g', o)) :
    g'.s.live = g.s.live.filter (·.id < m) ∧ g'.marks = ms ∧ g'.s.frames = rest ∧
    (∀ b ∈ g.s.live, b.id < m → b ∈ g'.s.live) ∧ (∀ b ∈ g'.s.live, b ∈ g.s.live ∧ b.id < m) ∧
    ∃ s', resetTo cfg g.s cp = .ok s' ∧ g'.s.chunks = s'.chunks ∧ g'.s.cur = s'.cur := by
  obtain ⟨_, _, _, _, _, s', hf', hm', hr, rfl, _⟩ := Hist.ok_scopeExit h
  cases hf.symm.trans hf'; cases hm.symm.trans hm'
  obtain ⟨hl, _⟩ := resetTo_live hr
  refine ⟨by simp only [killFrom, hl], rfl, rfl, ?_, ?_, s', hr, rfl, rfl⟩
  · intro b hb hlt
    simp only [killFrom, hl, List.mem_filter, hb, decide_eq_true_eq, hlt, and_self]
  · intro b hb
    simp only [killFrom, hl, List.mem_filter, decide_eq_true_eq] at hb
    exact hb

/-- the whole round trip: enter a scope in `g0`, do anything that keeps the chunks up to the current
    one in place (`SameGeometryPrefix`) and ends with the scope frame on top and the same minimum
    alignment, leave the scope: current chunk, position and allocated byte count are those of `g0`,
    and the blocks that were live in `g0` and still live before the exit are still live -/
theorem scope_roundtrip {cfg : Cfg} {g0 g1 : GState} {i : Nat} {c : Chunk} {rest : List Frame} {ms : List Nat}
    (hcur : g0.s.cur = .chunk i) (hc : g0.s.chunks[i]? = some c)
    (hma : g0.s.minAlign = 1 ∨ g0.s.minAlign = 2 ∨ g0.s.minAlign = 4 ∨ g0.s.minAlign = 8 ∨ g0.s.minAlign = 16)
    (hd : g0.s.minAlign ∣ c.pos)
    (hin : c.contentStart cfg ≤ c.pos ∧ c.pos ≤ c.contentEnd cfg) (hp : c.pos < 2^64 - 16)
    -- the state in which the scope is left
    (hprep : g1.s.prepared = none)
    (hf : g1.s.frames = .scope (checkpoint cfg g0.s) :: rest) (hmk : g1.marks = g0.s.nextId :: ms)
    (hgeo : SameGeometryPrefix (i+1) g0.s g1.s) (hm : g1.s.minAlign = g0.s.minAlign) :
    ∃ g2, stepCore cfg g1 .scopeExit = .ok (g2, .unit) ∧
      g2.s.cur = g0.s.cur ∧ curPos cfg g2.s = curPos cfg g0.s ∧
      (stats cfg g2.s).allocated = (stats cfg g0.s).allocated ∧
      g2.s.chunks.length = g1.s.chunks.length ∧ geometry g2.s = geometry g1.s ∧ g2.s.reqs = g1.s.reqs ∧
      (∀ b ∈ g1.s.live, b.id < g0.s.nextId → b ∈ g2.s.live) := by
  obtain ⟨s'', hr, r1, r2, r3, r4, r5, r6, r7, r8, r9⟩ :=
    resetTo_checkpoint_restores (cfg := cfg) hcur hc hgeo hm hma hd hin hp
  have hstep := scopeExit_step hprep hf hmk hr
  refine ⟨_, hstep, r1, ?_, ?_, r5, r9, r6, ?_⟩
  · rw [← r3]; rfl
  · rw [← r4]; rfl
  · intro b hb hlt
    show b ∈ (s''.live.filter (·.id < g0.s.nextId))
    rw [r8]
    simp only [List.mem_filter, hb, decide_eq_true_eq, hlt, and_self]

/-! ## Monotonicity: allocation never removes or moves a chunk

  This is what makes `SameGeometryPrefix` hold across everything done inside a scope, and why chunks
  acquired inside a scope are still there for a replay of the same workload. -/

theorem inAnotherChunk_monotone {cfg : Cfg} {k : Kind} {s s' : State} {L : Layout} {h : Hints}
    {r : Except AErr (Nat × Nat)} (e : inAnotherChunk cfg k s L h = .ok (s', r)) :
    s.chunks.length ≤ s'.chunks.length ∧ geometry s = (geometry s').take s.chunks.length ∧
    (∀ n, SameGeometryPrefix n s s') ∧ s'.live = s.live ∧ s'.minAlign = s.minAlign :=
  ((inAnotherChunk_frame e).ext 0 fun _ _ => Nat.zero_le _).monotone

theorem allocGeneric_monotone {cfg : Cfg} {k : Kind} {s s' : State} {L : Layout} {h hs : Hints}
    {r : Except AErr (Nat × Nat)} (e : allocGeneric cfg k s L h hs = .ok (s', r)) :
    s.chunks.length ≤ s'.chunks.length ∧ geometry s = (geometry s').take s.chunks.length ∧
    (∀ n, SameGeometryPrefix n s s') ∧ s'.live = s.live ∧ s'.minAlign = s.minAlign :=
  ((allocGeneric_frame e).1 0 fun _ _ => Nat.zero_le _).monotone

/-- `alloc`: the chunk list of the result extends the old one; additionally the bump positions of all
    chunks BEFORE the current one are untouched (their blocks are not disturbed) -/
theorem alloc_monotone {cfg : Cfg} {s s' : State} {L : Layout} {r : Except AErr Nat}
    (e : alloc cfg s L = .ok (s', r)) :
    s.chunks.length ≤ s'.chunks.length ∧ geometry s = (geometry s').take s.chunks.length ∧
    (∀ n, SameGeometryPrefix n s s') ∧ s'.live = s.live ∧ s'.minAlign = s.minAlign ∧
    (∀ i, s.cur = .chunk i → ∀ j c, j < i → s.chunks[j]? = some c → ∃ c', s'.chunks[j]? = some c' ∧ c'.pos = c.pos) := by
  obtain ⟨h1, h2, h3, h4, h5⟩ := ((alloc_frame e).1 0 fun _ _ => Nat.zero_le _).monotone
  refine ⟨h1, h2, h3, h4, h5, fun i hi j c hj hc => ?_⟩
  obtain ⟨c', h1, _, h3⟩ := ((alloc_frame e).1 i fun _ hi' => by rw [hi] at hi'; cases hi'; exact Nat.le_refl _).chunk j c hc
  exact ⟨c', h1, h3 hj⟩

theorem SameGeometryPrefix.trans {n : Nat} {a b c : State}
    (h1 : SameGeometryPrefix n a b) (h2 : SameGeometryPrefix n b c) : SameGeometryPrefix n a c := by
  intro j hj x hx
  obtain ⟨y, hy, hb, hs⟩ := h1 j hj x hx
  obtain ⟨z, hz, hb', hs'⟩ := h2 j hj y hy
  exact ⟨z, hz, hb'.trans hb, hs'.trans hs⟩

/-! ## Repeating the same workload after the scope needs no new memory

  `Ledger.Run cfg s Ls s1 ps`: the allocations `Ls`, executed in order from `s`, all succeed, return the
  addresses `ps` and end in `s1` (any number of them may have acquired new chunks). -/

/-- Replay in any state `t` that has the current chunk and position of `s`, the same minimum
    alignment, and still owns every chunk the first run ended with: every allocation succeeds again
    AT THE SAME ADDRESS, and the base allocator is never consulted. -/
theorem replay_needs_no_memory {cfg : Cfg} {s s1 t : State} {Ls : List Layout} {ps : List Nat} {i : Nat}
    (hrun : Run cfg s Ls s1 ps) (hcur : s.cur = .chunk i) (hi : i < s.chunks.length)
    (hsim : Sim s t) (hfin : CovC s1.chunks t.chunks) :
    ∃ t1, Run cfg t Ls t1 ps ∧ t1.reqs = t.reqs ∧ t1.resps = t.resps ∧ t1.chunks.length = t.chunks.length := by
  obtain ⟨t1, h1, h2, h3, _, h5, _⟩ := hrun.replay t ⟨i, hcur, hi⟩ hsim hfin
  exact ⟨t1, h1, h2, h3, h5⟩

/-- The scope version: run a workload inside a scope entered in `s`, leave the scope (`reset_to` with
    the checkpoint of `s`), run the same workload again: `reset_to` does not fault, the second run
    succeeds with the same addresses, and neither makes any base-allocator request. -/
theorem scope_replay_needs_no_memory {cfg : Cfg} {s s1 : State} {Ls : List Layout} {ps : List Nat} {i : Nat}
    {c : Chunk} (hrun : Run cfg s Ls s1 ps)
    (hcur : s.cur = .chunk i) (hc : s.chunks[i]? = some c)
    (hma : s.minAlign = 1 ∨ s.minAlign = 2 ∨ s.minAlign = 4 ∨ s.minAlign = 8 ∨ s.minAlign = 16)
    (hd : s.minAlign ∣ c.pos)
    (hin : c.contentStart cfg ≤ c.pos ∧ c.pos ≤ c.contentEnd cfg) (hp : c.pos < 2^64 - 16) :
    ∃ s'' s2, resetTo cfg s1 (checkpoint cfg s) = .ok s'' ∧ s''.reqs = s1.reqs ∧
      Run cfg s'' Ls s2 ps ∧ s2.reqs = s1.reqs ∧ s2.chunks.length = s1.chunks.length := by
  have hext := hrun.ext
  obtain ⟨c1, hc1, sp, _⟩ := hext.chunk i c hc
  have hpos := (Ext.setPos s1 c.pos (Nat.zero_le i)).covC
  obtain ⟨t1, h1, h2, _, h4⟩ := replay_needs_no_memory (t := { setPos s1 i c.pos with cur := .chunk i }) hrun hcur
    (List.getElem?_eq_some_iff.1 hc).1
    (.of_cur (hext.trans (Ext.setPos s1 c.pos (Nat.zero_le i))).cov hcur rfl hc (Fn.setPos_getElem?_self hc1 c.pos) rfl) hpos
  exact ⟨_, t1, resetTo_checkpoint hcur hc hc1 sp.1 sp.2.1 hext.minAlign hma hd hin hp, rfl, h1, h2,
    h4.trans (setPos_length s1 i c.pos)⟩

/-- `reset()` loop: once one round of a workload fits in the single chunk the arena has (the round
    acquired nothing), `reset` releases nothing and every later round behaves identically — same
    addresses, no base-allocator request.  The conclusion re-establishes the hypotheses for the next
    round (one chunk at its start position, current), so this holds for all later rounds. -/
theorem reset_loop_stable {cfg : Cfg} {s0 s1 : State} {Ls : List Layout} {ps : List Nat} {c0 : Chunk}
    (hcur : s0.cur = .chunk 0) (hch : s0.chunks = [c0]) (hpos : (c0.resetPos cfg).pos = c0.pos)
    (hrun : Run cfg s0 Ls s1 ps) (hone : s1.chunks.length = 1) :
    (reset cfg s1).reqs = s1.reqs ∧ (reset cfg s1).cur = .chunk 0 ∧
    (∃ c1, (reset cfg s1).chunks = [c1] ∧ (c1.resetPos cfg).pos = c1.pos) ∧
    ∃ t1, Run cfg (reset cfg s1) Ls t1 ps ∧ t1.reqs = (reset cfg s1).reqs ∧ t1.chunks.length = 1 := by
  have hext := hrun.ext
  have h0 : s0.chunks[0]? = some c0 := by rw [hch]; rfl
  have hlt : 0 < s0.chunks.length := (List.getElem?_eq_some_iff.1 h0).1
  obtain ⟨c1, h1, sp, _⟩ := hext.chunk 0 c0 h0
  have hc1 : s1.chunks = [c1] := by
    obtain ⟨a, ha⟩ := List.length_eq_one_iff.1 hone
    rw [ha] at h1; cases h1; exact ha
  -- the round ends in the chunk it started in
  obtain ⟨_, _, _, _, _, _, j, hj1, hj2⟩ :=
    hrun.replay s0 ⟨0, hcur, hlt⟩ (.refl s0) (hc1 ▸ hch ▸ CovC.singleton sp.symm)
  obtain rfl : j = 0 := by omega
  have hreset : reset cfg s1 = { s1 with reqs := s1.reqs ++ [], chunks := [c1.resetPos cfg], cur := .chunk 0 } := by
    unfold reset
    simp only [hj1, hc1, List.take_zero, List.reverse_nil, List.drop_zero, List.dropLast_singleton,
      List.append_nil, List.map_nil, List.getLast?_singleton]
  have hrp := resetPos_samePlace cfg sp
  have hsim : Sim s0 (reset cfg s1) :=
    .of_cur ⟨hreset ▸ hext.minAlign, hreset ▸ hch ▸ CovC.singleton hrp.1⟩ hcur (hreset ▸ rfl) h0 (hreset ▸ rfl)
      (hrp.2.trans hpos)
  obtain ⟨t1, r1, r2, _, r4⟩ := replay_needs_no_memory hrun hcur hlt hsim
    (hreset ▸ hc1 ▸ CovC.singleton (.refl c1))
  refine ⟨by rw [hreset]; exact List.append_nil _, by rw [hreset], ⟨c1.resetPos cfg, by rw [hreset],
    (resetPos_samePlace cfg (SamePlace.refl c1 : SamePlace c1 (c1.resetPos cfg))).2⟩, t1, r1, r2, ?_⟩
  rw [r4, hreset]; rfl

/-! ## Non-vacuity: concrete states satisfying the hypotheses (checked by evaluation) -/

section Examples
open Ledger.Ex

/-- checkpoint in `s2` (first chunk current, position 4200); left in `s2later` (second chunk current) -/
example : ∃ s'', resetTo cfg0 s2later (checkpoint cfg0 s2) = .ok s'' ∧
      s''.cur = s2.cur ∧ (s''.chunks[0]?).map (·.pos) = some 4200 ∧ curPos cfg0 s'' = curPos cfg0 s2 ∧
      (stats cfg0 s'').allocated = (stats cfg0 s2).allocated ∧
      s''.chunks.length = s2later.chunks.length ∧ s''.reqs = s2later.reqs ∧ s''.resps = s2later.resps ∧
      s''.live = s2later.live ∧ geometry s'' = geometry s2later :=
  resetTo_checkpoint_restores (cfg := cfg0) (s := s2) (s' := s2later) (i := 0) (c := ch 4096 496 4200) rfl rfl
    (by
      intro j hj c hc
      have : j = 0 := by omega
      subst this
      cases hc
      exact ⟨_, rfl, rfl, rfl⟩)
    rfl (by decide) (by decide) (by decide) (by decide)
example : (stats cfg0 s2).allocated = 72 := rfl
example : cfg0.ga = false ∧ (initState cfg0).cur = .unallocated := ⟨rfl, rfl⟩
example : (stats cfg0 (resetToStart cfg0 s2later)).allocated = 0 :=
  (resetToStart_allocated_zero (cfg := cfg0) (s' := s2later) (j := 1) rfl rfl).2.2.1

/-- a workload that stays in the current chunk, and one that acquires a chunk (the base allocator
    grants 2048 bytes at 16384) -/
example : ∃ s1, Run cfg0 s2 [L100, L100] s1 [4200, 4304] := ⟨_, Run.cons rfl (Run.cons rfl (Run.nil _))⟩
example : ∃ s1, Run cfg0 { sFull with resps := [.granted 16384 2048] } [L100] s1 [16416] ∧ s1.chunks.length = 2 ∧
    s1.reqs = [.alloc 1008 16] :=
  ⟨_, Run.cons rfl (Run.nil _), rfl, rfl⟩

/-- hypotheses of `reset_loop_stable`: one chunk at its start position, a round that fits in it -/
example : ∃ s1, ({ s2 with chunks := [ch 4096 496 4128] } : State).cur = .chunk 0 ∧
    ((ch 4096 496 4128).resetPos cfg0).pos = (ch 4096 496 4128).pos ∧
    Run cfg0 { s2 with chunks := [ch 4096 496 4128] } [L100, L100] s1 [4128, 4232] ∧ s1.chunks.length = 1 :=
  ⟨_, rfl, rfl, Run.cons rfl (Run.cons rfl (Run.nil _)), rfl⟩

end Examples

end C03
