/-
  Props/Targets.lean — the early `def …_target : Prop` statements of the arena property files, each resolved: it
  holds as stated, it is refuted by a witness and holds in a corrected form, or only a corrected form is proved.

  Convention (read by `checks/lib.py`): for a target `X_target`
    * case A: `theorem X_holds : X_target`               — the target is PROVED as stated;
    * case B: `theorem X_target_fails : ¬ X_target` together with
      `theorem X_corrected : …`                          — the target is FALSE as stated (concrete witness), and the
                                                           corrected statement is proved at full strength;
    * case C: `theorem X_corrected : …` WITHOUT `X_target_fails` — the target is NOT resolved (neither proved nor
                                                           refuted; C01, C02): only the corrected statement is proved.
  Case A: `C05.history_ledger_target` (the ledger of ONE step), `C10.reachable_noFault_claimed_blocks_target`.
  Case B: `C07.grow_refused_target`, `C13.shrink_optout_never_decreases_target`, `C10.reachable_noFault_target`.
  Case C: `C01.liveOK_invariant_target`, `C02.live_bytes_preserved_target`.
  Every theorem sits in the namespace of its property (`C05`, `C07`, `C13`, …).
  Helper lemmas and the concrete witnesses: Lemmas/HistTargetWitnesses.lean; the zero-sized case of C10:
  Lemmas/HistBlockEnds.lean, HistBlocksBelow.lean, HistBlocksLow.lean.
-/
import BumpProof.Lemmas.HistBlocksLow
import BumpProof.Lemmas.HistTargetWitnesses
import BumpProof.Props.Hist2

/-! # C05 — the ledger of one step (case A: proved as stated) -/

namespace C05
open Arena Arena.Hist Arena.Targets Rs Ledger

/-- `C05.history_ledger_target` holds as stated, for EVERY configuration, state and operation: the requests of a
    step extend the request list; the releases among them together with the releases due afterwards are a
    permutation of the releases due before plus one release per chunk acquired in the step; and there are at most as
    many acquired chunks as `alloc` requests.  (From `Arena.Hist.stepCore_ledger`, which needs exactly the first
    hypothesis of the target; the second one is not needed.) -/
theorem history_ledger_holds : history_ledger_target := by
  intro cfg g g' op out h1 _ hs
  obtain ⟨rq, used, acq, e1, _, e3, e4, e5, _⟩ := stepCore_ledger h1 hs
  refine ⟨rq, e1, acq, ?_, ?_⟩
  -- the target filters with anonymous `fun q => match q with …`; they are `isDealloc` and its negation pointwise
  · rw [List.filter_congr (q := isDealloc) fun q _ => by cases q <;> rfl]
    exact e5
  · rw [List.filter_congr (q := fun q => !isDealloc q) fun q _ => by cases q <;> rfl, e4.length]
    exact grantsOf_length_le rq used

end C05

/-! # C07 — `grow` with a refusing base allocator (case B) -/

namespace C07
open Arena Arena.Hist Arena.Targets Rs Ledger

/-- `C07.grow_refused_target` is FALSE as stated: it quantifies over ALL states `s`, also over states whose chunks
    OVERLAP.  Witness (`Lemmas/HistTargetWitnesses.lean`): downwards, chunk 0 = `[0xFE20, 0x10010)` and the current chunk
    1 = `[0x10000, 0x101F0)`; growing the newest block `[0x10008, 0x10018)` of chunk 1 from 16 to 24 bytes is done
    in place (8 free bytes suffice, although a fresh 24-byte allocation does not fit — `tryCur … = .ok none`), the
    block moves to `0x10000`, and the model's `copy` resolves the destination to the FIRST chunk containing it —
    chunk 0, in whose header it lies: `Fault.ub`.  A Rust caller cannot produce such a state: the chunks of every
    reachable state are pairwise disjoint (`C10.reachable_chunks_wellformed`), because the base allocator never
    hands out overlapping blocks (`EnvOK`). -/
theorem grow_refused_target_fails : ¬ grow_refused_target := by
  intro h
  obtain ⟨s', r, hg⟩ := h exCfgDown c07State 0x10008 16 c07L [] 1 c07Chunk1 exCfg_ok.hdr (by decide)
    ⟨⟨3, by decide, rfl⟩, by decide⟩ (by decide) rfl rfl rfl (by decide) (by decide) (by decide) (Or.inr (Or.inr (Or.inr (Or.inl rfl))))
    c07_fast ⟨c07State, rfl⟩
  have := c07_grow_faults
  rw [hg] at this
  cases this

/-- CORRECTED `C07.grow_refused_target`: the same statement for states that satisfy the geometry invariant and whose
    chunks are disjoint (both hold in every reachable state, `C10.reachable_geomInv`), with well-formed pending
    responses: `grow` with a refusing base allocator never faults — it returns a value; and when that value is an
    error the state is intact (same live blocks, same chunks, same bytes, same positions, same current chunk: the
    conclusion is stronger than the target's).  `GeomInv` takes the place of the target's bounds on the chunk end and on
    `minAlign`, `CfgOK` that of its two hypotheses on `cfg`; `hd`, `hr`, `hf` are new; the other hypotheses are the
    target's.  The block need not even be on the allocated side of the position (when it is not the last allocation
    the fresh allocation is refused before anything is copied). -/
theorem grow_refused_corrected {cfg : Cfg} {s : State} {ptr oldSize : Nat} {newL : Layout} {rest : List BaseResp}
    {i : Nat} {c : Chunk} (hc : CfgOK cfg) (hg : GeomInv cfg s) (hd : ChunksDisjoint s) (hr : RespsOK cfg s)
    (hf : RespsFresh s) (hL : newL.Valid) (hsz : oldSize ≤ newL.size) (hresp : s.resps = .fail :: rest)
    (hcur : s.cur = .chunk i) (hci : s.chunks[i]? = some c) (h1 : c.contentStart cfg ≤ ptr)
    (h2 : ptr + oldSize ≤ c.contentEnd cfg)
    (hfast : tryCur cfg .alloc s newL Hints.custom = .ok none)
    (hwalk : ∃ s1, walkNext cfg .alloc newL Hints.custom (s.chunks.length - (i+1)) i s = .ok (none, s1)) :
    ∃ s' r, grow cfg s ptr oldSize newL = .ok (s', r) ∧ ∀ e, r = .error e → Intact s s' := by
  have key : ∃ s' r, grow cfg s ptr oldSize newL = .ok (s', r) := by
    cases hlast : isLast cfg s ptr oldSize
    · -- not the last allocation: a fresh allocation is attempted and refused
      have hw : ∀ j, s.cur = .chunk j → j < s.chunks.length ∧
          ∃ s1, walkNext cfg .alloc newL Hints.custom (s.chunks.length - (j+1)) j s = .ok (none, s1) := by
        intro j hj
        rw [hcur] at hj
        cases hj
        exact ⟨(List.getElem?_eq_some_iff.1 hci).1, hwalk⟩
      obtain ⟨s', e, ha⟩ := alloc_fail hc.hdr hc.minChunk hL hresp hfast hw
      rw [grow_eq, Lemmas.assert_decide (show newL.size ≥ oldSize from hsz)]
      simp only [Ledger.liftM_ok, hlast, Bool.false_and, Bool.false_eq_true, ↓reduceIte, ha]
      cases cfg.up <;> exact ⟨_, _, rfl⟩
    · -- the last allocation: it lies on the allocated side of the position, `C10.grow_noFault` applies
      have hp := Arena.isLast_pos hlast hcur hci
      have hl : LiveBlock cfg s ptr oldSize := by
        refine ⟨i, i, c, hcur, Nat.le_refl _, hci, h1, h2, fun _ => ?_⟩
        cases hup : cfg.up
        · simp only [hup, Bool.false_eq_true, ↓reduceIte] at hp ⊢; omega
        · simp only [hup, ↓reduceIte] at hp ⊢; omega
      exact C10.grow_noFault hc hg hr hd hf hL hsz hl (baseOK_of_fail hresp newL)
  obtain ⟨s', r, h⟩ := key
  refine ⟨s', r, h, fun e he => ?_⟩
  subst he
  exact (grow_error_intact h).1

/-- history level (the model function runs on the state of the step, `install g resps`) -/
theorem grow_refused_reachable {cfg : Cfg} {g : GState} {ptr oldSize : Nat} {newL : Layout} {rest : List BaseResp}
    {i : Nat} {c : Chunk} (hc : CfgOK cfg) (hreach : Reachable cfg g) (henv : EnvOK cfg g (.fail :: rest))
    (hL : newL.Valid) (hsz : oldSize ≤ newL.size) (hcur : g.s.cur = .chunk i) (hci : g.s.chunks[i]? = some c)
    (h1 : c.contentStart cfg ≤ ptr) (h2 : ptr + oldSize ≤ c.contentEnd cfg)
    (hfast : tryCur cfg .alloc (install g (.fail :: rest)).s newL Hints.custom = .ok none)
    (hwalk : ∃ s1, walkNext cfg .alloc newL Hints.custom (g.s.chunks.length - (i+1)) i (install g (.fail :: rest)).s
      = .ok (none, s1)) :
    ∃ s' r, grow cfg (install g (.fail :: rest)).s ptr oldSize newL = .ok (s', r) ∧
      ∀ e, r = .error e → Intact (install g (.fail :: rest)).s s' :=
  have hi := (hreach.inv hc).install (.fail :: rest)
  grow_refused_corrected (s := (install g (.fail :: rest)).s) hc hi.geom hi.disj henv.1 henv.2 hL hsz rfl hcur hci h1 h2
    hfast hwalk

set_option maxRecDepth 1000000 in
/-- the hypotheses of `grow_refused_reachable` are satisfiable: the reachable state `exG3` (blocks of 24 and 40 bytes in
    a 496-byte chunk), a refusing base allocator, growing the newest block `[0x10040, 0x10068)` to 600 bytes -/
example : ∃ s' r, Reachable exCfg exG3 ∧ EnvOK exCfg exG3 [.fail] ∧ exG3.s.cur = .chunk 0 ∧
    tryCur exCfg .alloc (install exG3 [.fail]).s { size := 600, align := 8 } Hints.custom = .ok none ∧
    grow exCfg (install exG3 [.fail]).s 0x10040 40 { size := 600, align := 8 } = .ok (s', r) :=
  exG3_eq ▸ (exists_ok_pair rfl).imp fun _ => Exists.imp fun _ h =>
    ⟨exReach3lit, envOK_allFail _ fun _ => List.mem_singleton.1, rfl, rfl, h⟩

end C07

/-! # C13 — `WithoutShrink::shrink` never lowers `allocated` (case B) -/

namespace C13
open Arena Arena.Hist Arena.Targets Rs Ledger

/-- `C13.shrink_optout_never_decreases_target` is FALSE as stated: it quantifies over ALL states, also ill-formed
    ones.  Witness: chunk 0 (current) has its bump position 16 bytes PAST its end (`allocated` counts 480 bytes in a
    chunk of 464 bytes capacity); a `WithoutShrink::shrink` whose alignment does not fit allocates, finds no room,
    moves to chunk 1, and `allocated` becomes 464.  No reachable state looks like this: the position of every chunk
    lies inside its content range (`ChunkWF.pos_le`, part of `GeomInv`, `C10.reachable_geomInv`). -/
theorem shrink_optout_never_decreases_target_fails : ¬ shrink_optout_never_decreases_target := by
  intro h
  obtain ⟨s', r, h1, h2⟩ := c13_witness
  have := h exCfg c13State s' 1 0 { size := 0, align := 2 } r h1
  omega

/-- CORRECTED `C13.shrink_optout_never_decreases_target`, function level: from every state satisfying the geometry
    invariant (every reachable state does), with admissible pending responses and a valid new layout (every Rust
    `Layout` is), `WithoutShrink::shrink` — also when the alignment does not fit and it allocates, on the fast path,
    in a later chunk or in a new chunk — never lowers `stats().allocated()`. -/
theorem shrink_optout_never_decreases_corrected {cfg : Cfg} {s s' : State} {ptr oldSize : Nat} {newL : Layout}
    {r : Except AErr (Nat × Nat)} (hc : CfgOK cfg) (hg : GeomInv cfg s) (hr : RespsOK cfg s) (hL : newL.Valid)
    (h : shrinkWithoutShrink cfg s ptr oldSize newL = .ok (s', r)) :
    (stats cfg s).allocated ≤ (stats cfg s').allocated :=
  shrinkWithoutShrink_adv hc hg hr hL h

/-- history level; the step-level form, through every wrapper and also with `SHRINKS = false`, is
    `C13.shrink_optout_reachable` -/
theorem shrink_optout_never_decreases_reachable {cfg : Cfg} {g : GState} {s' : State} {ptr oldSize : Nat}
    {newL : Layout} {r : Except AErr (Nat × Nat)} {resps : List BaseResp} (hc : CfgOK cfg) (hreach : Reachable cfg g)
    (henv : EnvOK cfg g resps) (hL : newL.Valid)
    (h : shrinkWithoutShrink cfg (install g resps).s ptr oldSize newL = .ok (s', r)) :
    (stats cfg g.s).allocated ≤ (stats cfg s').allocated :=
  shrink_optout_never_decreases_corrected (s := (install g resps).s) hc ((hreach.inv hc).install resps).geom henv.1 hL h

/-- non-vacuity: the reachable state `exG3`, a shrink that raises the alignment (the block at `0x10038` is not
    64-aligned) and therefore allocates -/
example : ∃ s' r, Reachable exCfg exG3 ∧ EnvOK exCfg exG3 [] ∧
    shrinkWithoutShrink exCfg (install exG3 []).s 0x10038 40 { size := 8, align := 64 } = .ok (s', r) :=
  exG3_eq ▸ ⟨_, _, exReach3lit, envOK_nil _, rfl⟩

end C13

/-! # C01 — an inductive invariant that implies `LiveOK` (case C; corrected form proved) -/

namespace C01
open Arena Arena.Hist Arena.Mem Arena.Targets Rs

/-- CORRECTED `C01.liveOK_invariant_target` (witness: `Arena.Hist.Inv`): there is an invariant of the model that
    implies `LiveOK`, holds initially in every ADMISSIBLE configuration (`CfgOK`: a real `ChunkHeader` layout, a
    supported `MIN_ALIGN`, a `usize` minimum chunk size), and is preserved by every step of a COVERED operation
    (all 34 constructors; three numeric arguments must be Rust values, `Arena.Hist.covered_iff`; the `usize` bound on
    `newWithSize` is used by no proof) that does not fault
    and whose base-allocator responses are sane in the sense of the target (`RespsSane`) and lie in the user half of
    the address space (`p + size < 2^63`).

    The target itself differs in three points, and is NOT resolved (neither proved nor refuted):
    it asks the invariant to hold initially for EVERY `cfg` (e.g. a header layout `{ size := 24, align := 8 }`, for
    which `CfgOK` fails because `Spec.HeaderOK` demands `align ≥ 16`), for the three uncovered argument shapes, and for
    grants anywhere below `2^64`.  No counterexample is known: on these inputs the translated debug assertions fault,
    and the target excludes faulting steps.  A proof needs `Arena.Hist.inv_step` — and everything under it, in
    particular the chunk-size theorems of C12 that use `HeaderOK` — for configurations outside `CfgOK`.  Such inputs
    cannot arise from the crate:
    `ChunkHeader` is `repr(align(16))`, `MIN_ALIGN` is a `SupportedMinimumAlignment`. -/
theorem liveOK_invariant_corrected :
    ∃ Inv : Cfg → GState → Prop,
      (∀ cfg g, Inv cfg g → LiveOK cfg g.s) ∧
      (∀ cfg, CfgOK cfg → Inv cfg { s := initState cfg, marks := [] }) ∧
      (∀ cfg g op resps g' out reqs, Inv cfg g → op.Covered → RespsSane cfg g.s resps →
        (∀ p k, BaseResp.granted p k ∈ resps → p + k < 2 ^ 63) →
        step cfg g op resps = .ok (g', out, reqs) → Inv cfg g') :=
  ⟨Arena.Hist.Inv, fun _ _ h => h.live, fun _ hc => inv_init hc,
   fun _ _ _ _ _ _ _ h hcov hs hlow hstep => inv_step hcov h (envOK_of_sane hs hlow) hstep⟩

/-- `LiveOK` is preserved by `stepCore` for EVERY covered operation (all 34 constructors), from every state satisfying
    the invariant of histories, with well-formed pending responses.  (`C01.stepCore_preserves_liveOK_partial` covers
    4 operations and takes the geometric side conditions `MemWF`, `HeadFresh`, `CurPosOK`, `MinAlignOK`,
    `ScopeTopPlaced`, `BumpReqsValid` as hypotheses; the invariant contains them all and is itself preserved.) -/
theorem stepCore_preserves_liveOK {cfg : Cfg} {g g' : GState} {op : Op} {out : Out} (hcov : op.Covered)
    (hi : Arena.Hist.Inv cfg g) (hr : RespsOK cfg g.s) (hf : RespsFresh g.s)
    (h : stepCore cfg g op = .ok (g', out)) : LiveOK cfg g'.s ∧ Arena.Hist.Inv cfg g' :=
  ⟨(inv_stepCore hcov hi hr hf h).live, inv_stepCore hcov hi hr hf h⟩

/-- history level: this is `C01.reachable_liveOK` (Props/Hist.lean) -/
theorem liveOK_invariant_reachable {cfg : Cfg} {g : GState} (hc : CfgOK cfg) (h : Reachable cfg g) : LiveOK cfg g.s :=
  reachable_liveOK hc h

/-- non-vacuity of the step hypothesis: sane, low responses for the first step of the example history -/
example : RespsSane exCfg (initG exCfg).s [.granted 0x10000 496] ∧
    (∀ p k, BaseResp.granted p k ∈ [BaseResp.granted 0x10000 496] → p + k < 2 ^ 63) := by
  have key : ∀ p k, BaseResp.granted p k ∈ [BaseResp.granted 0x10000 496] → p = 0x10000 ∧ k = 496 :=
    fun p k hm => BaseResp.granted.inj (List.mem_singleton.1 hm)
  refine ⟨⟨fun p k hm => ?_, List.pairwise_singleton _ _⟩, fun p k hm => ?_⟩
  · obtain ⟨rfl, rfl⟩ := key p k hm
    exact ⟨by decide, by decide, by decide, by decide, fun c hc => absurd hc List.not_mem_nil⟩
  · obtain ⟨rfl, rfl⟩ := key p k hm
    decide

end C01

/-! # C02 — bytes of live blocks are preserved by every step (case C; corrected form proved) -/

namespace C02
open Arena Arena.Hist Arena.Mem Arena.Targets Rs

/-- CORRECTED `C02.live_bytes_preserved_target` (witness: `Arena.Hist.Inv`): an invariant that holds initially in
    every admissible configuration, is preserved by every non-faulting step of a covered operation under sane, low
    responses, and under which such a step leaves every byte of every block that stays live (and is not the target
    of a `.write`) unchanged.  The target itself is not resolved, for the reasons given at
    `C01.liveOK_invariant_corrected` (it quantifies over configurations outside `CfgOK`, the three uncovered
    argument shapes, and grants above `2^63`); the byte statement itself needs no coverage condition. -/
theorem live_bytes_preserved_corrected :
    ∃ Inv : Cfg → GState → Prop,
      (∀ cfg, CfgOK cfg → Inv cfg { s := initState cfg, marks := [] }) ∧
      (∀ cfg g op resps g' out reqs, Inv cfg g → op.Covered → RespsSane cfg g.s resps →
        (∀ p k, BaseResp.granted p k ∈ resps → p + k < 2 ^ 63) →
        step cfg g op resps = .ok (g', out, reqs) → Inv cfg g') ∧
      (∀ cfg g op resps g' out reqs, Inv cfg g → RespsSane cfg g.s resps →
        (∀ p k, BaseResp.granted p k ∈ resps → p + k < 2 ^ 63) →
        step cfg g op resps = .ok (g', out, reqs) →
        ∀ b ∈ g.s.live, b ∈ g'.s.live → (∀ seed, op ≠ .write b.id seed) →
          ∀ k, k < b.size → readByte g'.s (b.addr + k) = readByte g.s (b.addr + k)) :=
  ⟨Arena.Hist.Inv, fun _ hc => inv_init hc,
   fun _ _ _ _ _ _ _ h hcov hs hlow hstep => inv_step hcov h (envOK_of_sane hs hlow) hstep,
   fun _ _ _ _ _ _ _ h hs hlow hstep => bytes_step h (envOK_of_sane hs hlow) hstep⟩

end C02

/-! # C10 — no fault, for every operation (case B; the claimed-handle operations on any live block: case A) -/

namespace C10
open Arena Arena.Hist Arena.Targets Rs Ledger

/-- `C10.reachable_noFault_target` is FALSE as stated, for a reason that has nothing to do with the crate: `EnvOK`
    lets the base allocator hand out ANY block in the user half of the address space, also one that covers the
    address `dummyAddr = 2^62 + 80` which the model uses for the static dummy chunk headers ("any 16-aligned address
    that no block has", Arena/Model.lean).  Witness (`Arena.Targets.dummyOps`, all operations covered, `EnvOK` at
    every step): the first chunk is granted at `2^62`; a 64-byte allocation ends exactly at `dummyAddr + 16`, the
    bump position of the dummy chunk of a claimed handle; the arena is claimed; `deallocate` of that block through
    the claimed handle passes `is_last` and runs into `as_non_dummy_unchecked` on the dummy chunk: `Fault.ub`.

    In the crate this cannot happen: the position of a dummy chunk points INTO a `static` of the binary
    (`ChunkHeader::claimed`, src/chunk/header.rs: "point to some existing object, not a dangling pointer since a
    dangling pointer could theoretically be a valid pointer to some other chunk"); upwards `is_last` compares
    `ptr + size` — at most one past the end of a heap block — with an address 16 bytes inside that static, downwards
    `ptr` — an address inside a heap block that is followed by its chunk header — with the address of the static;
    a base allocator never returns memory that overlaps a static.  So the model fault corresponds to no execution of
    the Rust code (if the comparison could succeed, `deallocate` / `grow` / `shrink` WOULD write the position of an
    immutable static: real undefined behaviour — which is why the crate chose the address that way).

    (A second, independent witness is `Arena.Targets.dummyOps_fault_hint`: an UNTRUTHFUL layout hint on the claimed
    handle, which `Op.Covered` does not exclude; in the crate hints are derived from the type.) -/
theorem reachable_noFault_target_fails : ¬ reachable_noFault_target := by
  intro h
  obtain ⟨g, hrun, hf, -⟩ := dummyOps_fault
  exact h exCfg g (.onClaimed (.deallocate 0 .plain)) [] exCfg_ok ⟨dummyOps, dummyOps_covered, dummyOps_env, hrun⟩ rfl
    (envOK_nil g) trivial _ hf trivial

/-- `C10.reachable_noFault_claimed_blocks_target` (Props/Hist2.lean) holds as stated, ZERO-SIZED blocks included
    (`C10.reachable_noFault_claimed_blocks_partial` is the same for non-empty blocks): in every state reached by a
    history whose grants all end at or below `2^62` (`ReachableLow`, true of every user-space address;
    `dummyAddr > 2^62`), `grow` / `deallocate` / `shrink` of ANY live block — also a
    ZERO-SIZED one — through the claimed handle never ends in an overflow, a failed debug assertion or undefined
    behaviour.  Reason (`Arena.Hist.ReachableLow.blocksLow`, Lemmas/HistBlocksLow.lean): along such a history EVERY
    live block, also an empty one, ends at or below `2^62` — the address of an empty block is always an address
    inside (or one past the end of) a chunk or of an older block: `allocate` of size 0 is served from a chunk (the
    dummy chunks refuse it), in-place `grow` / `shrink` / `shrink_slice` stay within the old block, `commit*` within
    the prepared range, `alloc_try_with` within its `Result` block, `split` within the split block — so it can never
    equal the dummy position. -/
theorem reachable_noFault_claimed_blocks_holds : reachable_noFault_claimed_blocks_target := by
  intro cfg g b op resps hc h hop f hf hb
  exact noFault_onClaimed_addressed (g := install g resps) ((h.reachable.inv hc).install resps)
    (fun blk hblk => h.dummyApart hc blk (Mem.findBlock_ok hblk).1) hop f (step_bug hf hb) hb

/-- no live block of a state reached with low grants — empty or not — passes the `is_last` test of the dummy chunk of
    a claimed handle (`C10.reachable_dummyApart_nonempty` without the restriction to non-empty blocks) -/
theorem reachable_dummyApart {cfg : Cfg} (hc : CfgOK cfg) {g : GState} (h : ReachableLow cfg g) :
    ∀ blk ∈ g.s.live, isLast cfg { g.s with cur := .claimed } blk.addr blk.size = false :=
  h.dummyApart hc

/-- CORRECTED `C10.reachable_noFault_target` — THE FULL NO-FAULT THEOREM: from every state reached by a history of
    covered operations under a correct base allocator whose grants end at or below `2^62`, EVERY covered operation
    (all 34 constructors, both handles, every wrapper; layout hints on the claimed handle truthful, as they are in the
    crate) whose base-allocator responses are correct (`EnvOK`) and answer its request (`Answered`) never ends in an
    overflow, a failed debug assertion (`Fault.rs`) or undefined behaviour (`Fault.ub`): `step` succeeds, or reports a
    contract violation of the caller.
    Compared with the target: `ReachableLow` instead of `Reachable` (the environment hypothesis that makes the
    model's choice of `dummyAddr` sound) and `Op.hintsTruthful`. -/
theorem reachable_noFault_corrected {cfg : Cfg} {g : GState} (hc : CfgOK cfg) (h : ReachableLow cfg g) {op : Op}
    {resps : List BaseResp} (hcov : op.Covered) (htr : op.hintsTruthful = true) (henv : EnvOK cfg g resps)
    (hans : Answered cfg (install g resps).s op) :
    ∀ f, step cfg g op resps = .error f → ¬ Fault.isBug f := by
  rcases noFaultCovered_or_claimedBlock hcov htr with hnf | ⟨b, op', rfl, hop⟩
  · exact reachable_noFault_partial hc h.reachable hnf henv hans
  · exact reachable_noFault_claimed_blocks_holds cfg g b op' resps hc h hop

/-- non-vacuity: a state reached with low grants that holds a ZERO-SIZED live block while the arena is claimed; the
    operation `onClaimed (deallocate 0)` is covered, its hints are truthful, the environment is correct -/
example : ∃ g, ReachableLow exCfg g ∧ (∃ blk, findBlock g.s 0 = .ok blk ∧ blk.size = 0) ∧
    (Op.onClaimed (.deallocate 0 .plain)).Covered ∧ (Op.onClaimed (.deallocate 0 .plain)).hintsTruthful = true ∧
    EnvOK exCfg g [] ∧ Answered exCfg (install g []).s (.onClaimed (.deallocate 0 .plain)) ∧
    ∃ g' out reqs, step exCfg g (.onClaimed (.deallocate 0 .plain)) [] = .ok (g', out, reqs) :=
  let ⟨g, h1, h2, h3⟩ := zstOps_low
  ⟨g, h1, h2, rfl, rfl, envOK_nil g, trivial, h3⟩

end C10
