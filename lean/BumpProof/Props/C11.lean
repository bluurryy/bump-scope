/-
  Props/C11.lean — property C11: bump-pointer arithmetic is correct, tight and
  hint-independent.

  The theorems are about the GENERATED definitions `Gen.Bumping.*`
  (regenerated from /repo/src/bumping.rs on every run) and relate them to the
  wide-integer specification `Spec.*`.
-/
import BumpProof.Lemmas.BumpEq

namespace C11
open Gen.Bumping Rs

/-! ## Generated code = specification (no overflow, no assertion failure, hint-independent) -/

theorem bump_up_eq (p : BumpProps) (h : Valid true p) :
    bump_up p = .ok ((Spec.bumpUp p.start p.«end» p.layout.size p.layout.align p.min_align).map
      fun r => { new_pos := r.2, ptr := r.1 }) :=
  Lemmas.bump_up_eq p h

theorem bump_down_eq (p : BumpProps) (h : Valid false p) :
    bump_down p = .ok (Spec.bumpDown p.start p.«end» p.layout.size p.layout.align p.min_align) :=
  Lemmas.bump_down_eq p h

theorem bump_prepare_up_eq (p : BumpProps) (h : Valid true p) :
    bump_prepare_up p = .ok (Spec.prepareUp p.start p.«end» p.layout.size p.layout.align) :=
  Lemmas.bump_prepare_up_eq p h

theorem bump_prepare_down_eq (p : BumpProps) (h : Valid false p) :
    bump_prepare_down p = .ok (Spec.prepareDown p.start p.«end» p.layout.size p.layout.align) :=
  Lemmas.bump_prepare_down_eq p h

/-- Hint independence: two requests that differ only in their (truthful) hints get the same answer. -/
theorem bump_up_hint_independent (p q : BumpProps) (hp : Valid true p) (hq : Valid true q)
    (h1 : p.start = q.start) (h2 : p.«end» = q.«end») (h3 : p.layout = q.layout) (h4 : p.min_align = q.min_align) :
    bump_up p = bump_up q := by
  rw [bump_up_eq p hp, bump_up_eq q hq, h1, h2, h3, h4]

theorem bump_down_hint_independent (p q : BumpProps) (hp : Valid false p) (hq : Valid false q)
    (h1 : p.start = q.start) (h2 : p.«end» = q.«end») (h3 : p.layout = q.layout) (h4 : p.min_align = q.min_align) :
    bump_down p = bump_down q := by
  rw [bump_down_eq p hp, bump_down_eq q hq, h1, h2, h3, h4]

/-! ## The specification is sound, tight and optimal (over unbounded naturals) -/

/-- up, success: aligned, inside the range, nearest to `start`, new position after the block,
    inside the range, `minAlign`-aligned and the least such. -/
theorem bumpUp_some {s e sz al ma ptr np : Nat} (hal : 0 < al) (hma : 0 < ma) (hme : ma ∣ e)
    (h : Spec.bumpUp s e sz al ma = some (ptr, np)) :
    al ∣ ptr ∧ s ≤ ptr ∧ ptr + sz ≤ np ∧ np ≤ e ∧ ma ∣ np ∧ np < ptr + sz + ma ∧
    (∀ q, al ∣ q → s ≤ q → ptr ≤ q) := by
  open Lemmas in
  obtain ⟨hfit, h⟩ := Option.ite_some_none_eq_some.1 h
  cases h
  exact ⟨upAlign_dvd s al, le_upAlign s hal, le_upAlign _ hma, upAlign_le_of_dvd hma hme hfit,
    upAlign_dvd _ ma, upAlign_lt _ hma, fun q hq hsq => upAlign_le_of_dvd hal hq hsq⟩

/-- up, failure happens exactly when no aligned block of that size exists in the range -/
theorem bumpUp_none_iff {s e sz al ma : Nat} (hal : 0 < al) :
    Spec.bumpUp s e sz al ma = none ↔ ¬ ∃ q, al ∣ q ∧ s ≤ q ∧ q + sz ≤ e :=
  Lemmas.bumpUp_none_iff hal

/-- down, success: aligned for the layout and the minimum alignment, inside the range, nearest to `end` -/
theorem bumpDown_some {s e sz al ma ptr : Nat} (hal : 0 < al) (hma : 0 < ma)
    (hdvd : al ∣ ma ∨ ma ∣ al)
    (h : Spec.bumpDown s e sz al ma = some ptr) :
    al ∣ ptr ∧ ma ∣ ptr ∧ s ≤ ptr ∧ ptr + sz ≤ e ∧
    (∀ q, al ∣ q → ma ∣ q → q + sz ≤ e → q ≤ ptr) := by
  open Lemmas in
  obtain ⟨h1, h2, h3, h4⟩ := max_dvd_facts hal hma hdvd
  obtain ⟨hsz, h⟩ := Option.ite_none_right_eq_some.1 h
  obtain ⟨hs, rfl⟩ := Option.ite_some_none_eq_some.1 h
  have hd := downAlign_dvd (e - sz) (Nat.max al ma)
  exact ⟨Nat.dvd_trans h1 hd, Nat.dvd_trans h2 hd, hs, Nat.add_le_of_le_sub hsz (downAlign_le _ _),
    fun q hq1 hq2 hqe => le_downAlign_of_dvd h3 (h4 q hq1 hq2) (Nat.le_sub_of_add_le hqe)⟩

/-- down, failure happens exactly when no suitably aligned block of that size exists in the range -/
theorem bumpDown_none_iff {s e sz al ma : Nat} (hal : 0 < al) (hma : 0 < ma) (hdvd : al ∣ ma ∨ ma ∣ al) :
    Spec.bumpDown s e sz al ma = none ↔ ¬ ∃ q, al ∣ q ∧ ma ∣ q ∧ s ≤ q ∧ q + sz ≤ e :=
  Lemmas.bumpDown_none_iff hal hma hdvd

/-- prepare (both directions): for `al ∣ sz` the result is a range with aligned ends inside the
    free range, at least as large as the request, and it contains every other such range. -/
theorem prepareUp_some {s e sz al rs re : Nat} (hal : 0 < al) (hsz : al ∣ sz)
    (h : Spec.prepareUp s e sz al = some (rs, re)) :
    al ∣ rs ∧ al ∣ re ∧ s ≤ rs ∧ re ≤ e ∧ rs + sz ≤ re ∧
    (∀ a b, al ∣ a → al ∣ b → s ≤ a → a ≤ b → b ≤ e → rs ≤ a ∧ b ≤ re) := by
  open Lemmas in
  obtain ⟨hfit, h⟩ := Option.ite_some_none_eq_some.1 h
  cases h
  exact ⟨upAlign_dvd s al, downAlign_dvd e al, le_upAlign s hal, downAlign_le e al,
    le_downAlign_of_dvd hal ((Nat.dvd_add_right (upAlign_dvd s al)).2 hsz) hfit,
    fun a b ha hb hsa _ hbe => ⟨upAlign_le_of_dvd hal ha hsa, le_downAlign_of_dvd hal hb hbe⟩⟩

theorem prepareUp_none_iff {s e sz al : Nat} (hal : 0 < al) :
    Spec.prepareUp s e sz al = none ↔ ¬ ∃ q, al ∣ q ∧ s ≤ q ∧ q + sz ≤ e :=
  Lemmas.prepareUp_none_iff hal

theorem prepareDown_some {s e sz al rs re : Nat} (hal : 0 < al) (hsz : al ∣ sz)
    (h : Spec.prepareDown s e sz al = some (rs, re)) :
    al ∣ rs ∧ al ∣ re ∧ s ≤ rs ∧ re ≤ e ∧ rs + sz ≤ re ∧
    (∀ a b, al ∣ a → al ∣ b → s ≤ a → a ≤ b → b ≤ e → rs ≤ a ∧ b ≤ re) := by
  obtain ⟨hfit, h⟩ := Option.ite_some_none_eq_some.1 h
  exact prepareUp_some hal hsz (h ▸ if_pos ((Lemmas.upAlign_add_le_iff hal hsz).2 hfit))

theorem prepareDown_none_iff {s e sz al : Nat} (hal : 0 < al) (hsz : al ∣ sz) :
    Spec.prepareDown s e sz al = none ↔ ¬ ∃ q, al ∣ q ∧ s ≤ q ∧ q + sz ≤ e :=
  Lemmas.prepareDown_none_iff hal hsz

/-! ## Corollaries: "fits" is monotone in the free range and is the same question for every entry point -/

/-- Growing the free range at its end never turns a request that fits into one that does not (up), whatever the
    two minimum alignments.  (`have _ := h` in the proofs below marks a hypothesis that is not needed.) -/
theorem bumpUp_fits_mono {s e e' sz al ma ma' : Nat} (hal : 0 < al) (he : e ≤ e')
    (h : Spec.bumpUp s e sz al ma ≠ none) : Spec.bumpUp s e' sz al ma' ≠ none :=
  have _ := hal
  fun h' => h (Lemmas.bumpUp_eq_none.2 fun hfit => Lemmas.bumpUp_eq_none.1 h' (Nat.le_trans hfit he))

/-- Growing the free range at its start never turns a request that fits into one that does not (down). -/
theorem bumpDown_fits_mono {s s' e sz al ma : Nat} (hal : 0 < al) (hma : 0 < ma) (hdvd : al ∣ ma ∨ ma ∣ al)
    (hs : s' ≤ s) (h : Spec.bumpDown s e sz al ma ≠ none) : Spec.bumpDown s' e sz al ma ≠ none :=
  have _ := hal; have _ := hma; have _ := hdvd
  fun h' => h (Lemmas.bumpDown_eq_none.2 fun hfit =>
    Lemmas.bumpDown_eq_none.1 h' ⟨hfit.1, Nat.le_trans hs hfit.2⟩)

/-- Upwards, the minimum alignment never decides whether a request fits (it only rounds the new position,
    and the end of the range is a multiple of it): the answer is `none` for one minimum alignment iff for all. -/
theorem bumpUp_fits_minAlign_independent {s e sz al ma ma' : Nat} (hal : 0 < al) :
    Spec.bumpUp s e sz al ma = none ↔ Spec.bumpUp s e sz al ma' = none :=
  have _ := hal
  Lemmas.bumpUp_eq_none.trans Lemmas.bumpUp_eq_none.symm

/-- A prepared allocation (what the `Mut*` collections use) is refused exactly when the plain allocation of the
    same layout would be refused (up). -/
theorem prepareUp_none_iff_bumpUp_none {s e sz al ma : Nat} (hal : 0 < al) :
    Spec.prepareUp s e sz al = none ↔ Spec.bumpUp s e sz al ma = none :=
  have _ := hal
  Lemmas.prepareUp_eq_none.trans Lemmas.bumpUp_eq_none.symm

/-- The same downwards, for a minimum alignment that divides the layout alignment (then every `al`-aligned
    address is `ma`-aligned, so the two questions coincide). -/
theorem prepareDown_none_iff_bumpDown_none {s e sz al ma : Nat} (hal : 0 < al) (hma : 0 < ma) (hsz : al ∣ sz)
    (hd : ma ∣ al) :
    Spec.prepareDown s e sz al = none ↔ Spec.bumpDown s e sz al ma = none := by
  rw [prepareDown_none_iff hal hsz, bumpDown_none_iff hal hma (Or.inr hd)]
  constructor
  · rintro h ⟨q, h1, _, h3, h4⟩; exact h ⟨q, h1, h3, h4⟩
  · rintro h ⟨q, h1, h3, h4⟩; exact h ⟨q, h1, Nat.dvd_trans hd h1, h3, h4⟩

/-- A request that fits is no larger than the free range (up). -/
theorem bumpUp_fits_size_le {s e sz al ma : Nat} (hal : 0 < al)
    (h : Spec.bumpUp s e sz al ma ≠ none) : s + sz ≤ e :=
  Nat.le_trans (Nat.add_le_add_right (Lemmas.le_upAlign s hal) sz)
    (Decidable.not_not.1 (mt Lemmas.bumpUp_eq_none.2 h))

/-- From an already aligned start the converse holds: the only bytes ever lost are alignment padding (up). -/
theorem bumpUp_fits_of_aligned_start {s e sz al ma : Nat} (hal : 0 < al) (hs : al ∣ s) (hle : s + sz ≤ e) :
    Spec.bumpUp s e sz al ma ≠ none :=
  fun h => Lemmas.bumpUp_eq_none.1 h ((Lemmas.upAlign_eq_self hal hs).symm ▸ hle)

/-- Non-vacuity of the corollaries: a request that fits in [16, 48) and therefore in [16, 64). -/
example : Spec.bumpUp 16 48 24 8 1 ≠ none ∧ Spec.bumpUp 16 64 24 8 16 ≠ none := by decide

/-! ## Non-vacuity: concrete inputs meeting the hypotheses -/

def exUp : BumpProps :=
  { start := 0x1008, «end» := 0x2000, min_align := 8, layout := { size := 24, align := 32 },
    align_is_const := false, size_is_const := false, size_is_multiple_of_align := false }

example : Valid true exUp := by
  refine ⟨⟨by decide, by decide, by decide, by decide, by decide, ⟨⟨5, by decide, by decide⟩, by decide⟩, by decide⟩, Or.inl ?_⟩
  exact ⟨by decide, by decide, by decide⟩

def exDummy : BumpProps :=
  { start := 0x1010, «end» := 0x1000, min_align := 1, layout := { size := 0, align := 1 },
    align_is_const := true, size_is_const := true, size_is_multiple_of_align := true }

example : Valid false exDummy := by
  refine ⟨⟨by decide, by decide, by decide, by decide, by decide, ⟨⟨0, by decide, by decide⟩, by decide⟩, by decide⟩, Or.inr ?_⟩
  exact ⟨by decide, by decide⟩

end C11
