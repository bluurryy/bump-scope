/-
  Props/C06.lean — property C06: every value stored in a bump collection is dropped exactly once,
  also when a user callback (closure, predicate, `Clone`, `Drop`) panics in the middle of an operation.

  Model: `Coll/Prim.lean` (slots `init id | hole`, ghost `dropLog` / `escaped`; reading, dropping or
  handing out a `hole` and overwriting a live value are FAULTS), `Coll/Slice.lean` … (the algorithms
  with the cursors and drop guards of the Rust code).  Each theorem below is about ONE algorithm
  and quantifies over every well-formed vector (any length, any spare capacity, any ids), every
  argument, every oracle list (return values and a panic at any invocation) and every set `bombs`
  of ids whose `Drop` panics.  Shape of the per-operation statements (`DropsOnce`; `append_drops_once` /
  `rev_append_drops_once` also follow the slice passed in; `into_iter_leaves_nothing`, `drain_forget_leaks`,
  `splice_overflow_contents`, the history and the `zst_*` theorems are spelled out where they stand):

    * the model does not fault  (no `hole` is read or dropped: no use-after-move, no double drop;
      no live value is overwritten; no out-of-bounds access);
    * afterwards the vector is well-formed: `len ≤ cap`, the first `len` slots are initialised, the
      spare ones are holes, and `ids(buffer) ++ dropLog ++ escaped` has NO DUPLICATES — nothing was
      dropped twice, nothing that was dropped or handed out is still owned;
    * conservation: `ids(buffer) ++ dropLog ++ escaped` afterwards is a permutation of the same list
      before plus the ids inserted by the operation — nothing is lost, EVEN when the panic came out
      of a `Drop` (the model proves more than the property asks for);
  `drop_owner` closes the argument: dropping a well-formed owner drops exactly its contents.

  Algorithms covered here: `retain`, `dedup_by`, `dedup_by_key`, `truncate`, `clear`, `pop`, `pop_if`, `remove`,
  `swap_remove`, `push`, `insert`, `extend_from_slice_clone`, `extend_from_within_clone`, `resize` (`extend_with`),
  `resize_with` (`extend_trusted`), `append`, `drain` (+ `keep_rest`, and a leaked `Drain`: `drain_forget_leaks`),
  `extract_if`, `into_iter`, `map_in_place`, `BumpVec::splice` and `Extend::extend` (`Coll/Splice.lean`),
  `BumpVec::map` (`Coll/MapVec.lean`, both code paths);
  `MutBumpVecRev`: `push`, `pop`, `pop_if`, `clear`, `truncate`, `insert`, `remove`, `swap_remove`,
  `extend_from_slice_clone`, `resize`, `resize_with`, `append`, `into_iter`, drop (`partition` and `into_flattened`
  are in `Props/C16.lean`).  Definitions used in the statements that live in `Lemmas/`: `grown`, `room`, `grownOne`,
  `roomOne` (`CollGrow`), `rgrown`, `rroom` (`CollRev`), `Vec.RWF` (`CollView`), `capsOf` (`CollSplice`),
  `mapAfter` (`CollMapVec`).  Each theorem rests on a refinement lemma
  `Lemmas/Coll*.lean : op v = .ok ⟨v.after (opSpec …), …⟩` (cursor/guard model = list-level description).
  HISTORY LEVEL (`Coll/Run.lean`): `history_drops_once` / `history_never_drops_twice` — every finite sequence
  of the 18 single-vector operations from a well-formed vector, by induction over the list.
  Zero-sized element types (`Coll/Zst.lean`, by counts): `zst_drain_exactly_once` (`owned_slice::Drain::drop`
  as of commit 0480075, incl. a panicking destructor inside `truncate`), `zst_into_iter_exactly_once`,
  `zst_truncate_exactly_once`, `zst_drop_owner`, `zst_extend_from_within_clone_exactly_once`.
  The freshness hypotheses of the cloning operations of the forward vectors only ask for fresh ids when the
  reservation succeeds; `rev_extend_from_slice_clone_drops_once` and `rev_resize_with_drops_once` ask unconditionally.
-/
import BumpProof.Coll.Run
import BumpProof.Lemmas.CollDedup
import BumpProof.Lemmas.CollExtract
import BumpProof.Lemmas.CollMapVec
import BumpProof.Lemmas.CollRevPerm
import BumpProof.Lemmas.CollSplice
import BumpProof.Lemmas.CollZst

namespace C06
open Coll

/-- the statement shape described in the header; `ins` = ids the operation inserted -/
def DropsOnce {α : Type} (res : M (Out α)) (v : Vec) (ins : List Id) : Prop :=
  ∃ r, res = .ok r ∧ r.vec.WF ∧ r.vec.total.Perm (v.total ++ ins)

/-- what `DropsOnce` gives in plain words -/
theorem DropsOnce.spelled_out {α : Type} {res : M (Out α)} {v : Vec} {ins : List Id} (h : DropsOnce res v ins) :
    ∃ r, res = .ok r ∧
      r.vec.dropLog.Nodup ∧                                      -- no value dropped twice
      (∀ id ∈ r.vec.abs, id ∉ r.vec.dropLog ∧ id ∉ r.vec.escaped) ∧  -- what is still owned was not dropped / given away
      (∀ id ∈ r.vec.dropLog, id ∉ r.vec.escaped) ∧               -- what was given away was not dropped by the vector
      (∀ id, id ∈ v.total ++ ins ↔ id ∈ r.vec.abs ++ r.vec.dropLog ++ r.vec.escaped) ∧  -- nothing lost, nothing invented
      r.vec.len ≤ r.vec.cap := by
  obtain ⟨r, hr, hwf, hp⟩ := h
  have h1 := List.nodup_append.mp (hwf.total_eq ▸ hwf.2)
  have h2 := List.nodup_append.mp h1.1
  refine ⟨r, hr, h2.2.1, ?_, ?_, ?_, hwf.len_le_cap⟩
  · exact fun id hid => ⟨fun hd => h2.2.2 id hid id hd rfl, fun he => h1.2.2 id (List.mem_append_left _ hid) id he rfl⟩
  · exact fun id hid he => h1.2.2 id (List.mem_append_right _ hid) id he rfl
  · intro id
    rw [← hwf.total_eq]
    exact (hp.mem_iff).symm

/-- dropping a well-formed owner (`Drop for BumpBox<[T]>`, `BumpVec::drop_inner` → `clear`) drops
    exactly the values it still holds, each once, front to back, also if one of the drops panics -/
theorem drop_owner (bombs : List Id) (u : Bool) (v : Vec) (hv : v.WF) :
    dropVec bombs u v =
      .ok ⟨{ v with slots := H v.cap, len := 0, dropLog := v.dropLog ++ v.abs },
           if (!u && v.abs.any bombs.contains) then .panic true else .ret (), []⟩ :=
  dropVec_eq bombs u v v.abs hv.shape

/-- from a refinement equation to `DropsOnce` (in-place operations: the buffer is not reallocated) -/
theorem dropsOnce_inplace {α : Type} {res : M (Out α)} {v : Vec} {r : SpecOut α} {rest : List Outcome} {ins : List Id}
    (hv : v.WF) (hres : res = .ok ⟨v.after r, r.exit, rest⟩)
    (hperm : (r.final ++ r.dropped ++ r.escaped).Perm (v.abs ++ ins)) (hlen : r.final.length ≤ v.cap)
    (hins : (v.total ++ ins).Nodup) : DropsOnce res v ins :=
  View.dropsOnce (V := .fwd) hv rfl rfl hres hperm hlen hins

/-- the same for operations that may reallocate first (`v'` = the vector after the reservation) -/
theorem dropsOnce_grown {α : Type} {res : M (Out α)} {v v' : Vec} {r : SpecOut α} {rest : List Outcome} {ins : List Id}
    (hv : v.WF) (hg : Grows v v' v.abs) (hres : res = .ok ⟨v'.after r, r.exit, rest⟩)
    (hperm : (r.final ++ r.dropped ++ r.escaped).Perm (v.abs ++ ins)) (hlen : r.final.length ≤ v'.cap)
    (hins : (v.total ++ ins).Nodup) : DropsOnce res v ins :=
  View.dropsOnce (V := .fwd) hv hg.dropLog hg.escaped hres hperm hlen hins

theorem grown_grows {env : Env} {v : Vec} {n : Nat} (hv : v.WF) :
    Grows v (grown env v n) v.abs ∧ (room env v n = true → v.len + n ≤ (grown env v n).cap) :=
  grown_grows' hv

theorem grownOne_grows {env : Env} {v : Vec} (hv : v.WF) :
    Grows v (grownOne env v) v.abs ∧ (roomOne env v = true → v.len + 1 ≤ (grownOne env v).cap) :=
  grownOne_grows' hv

/-! ## `retain`, `dedup_by` (`BumpBox<[T]>::retain`, `::dedup_by`; used by all vector types) -/

theorem retain_drops_once (bombs : List Id) (v : Vec) (o : List Outcome) (hv : v.WF) :
    DropsOnce (retain bombs v o) v [] := by
  refine wf_of_eq_inplace hv (retain_eq bombs v v.abs o hv.shape) ?_
  simpa [retainSpec, sieve_escaped] using sieve_perm (· != 0) bombs v.abs [] o

theorem dedup_by_drops_once (bombs : List Id) (v : Vec) (o : List Outcome) (hv : v.WF) :
    DropsOnce (dedupBy bombs v o) v [] := by
  refine wf_of_eq_inplace hv (dedupBy_eq bombs v v.abs o hv.shape) ?_
  cases v.abs with
  | nil => simp [dedupSpec]
  | cons x rest => simpa [dedupSpec, sieve_escaped] using sieve_perm (· == 0) bombs rest [x] o

/-- `dedup_by_key(key)`: two key calls per comparison, a panic in either is covered (the oracle is arbitrary) -/
theorem dedup_by_key_drops_once (bombs : List Id) (v : Vec) (o : List Outcome) (hv : v.WF) :
    DropsOnce (dedupByKey bombs v o) v [] := by
  obtain ⟨r, hr, hwf, hp⟩ := dedup_by_drops_once bombs v (pairUp o) hv
  obtain ⟨r', h1, h2, _⟩ := proj_ok (dedupByKey_pair bombs v o) hr
  exact ⟨r', h1, by rw [h2]; exact hwf, by rw [h2]; exact hp⟩

/-! ## `truncate`, `clear`, `pop`, `remove`, `swap_remove` -/

theorem truncate_drops_once (bombs : List Id) (v : Vec) (n : Nat) (hv : v.WF) :
    DropsOnce (truncate bombs v n) v [] := by
  exact wf_of_eq_inplace hv (truncate_eq bombs v v.abs n hv.shape) (truncateSpec_perm bombs v.abs n)

theorem clear_drops_once (bombs : List Id) (v : Vec) (hv : v.WF) : DropsOnce (clear bombs v) v [] := by
  exact wf_of_eq_inplace hv (clear_eq bombs v v.abs hv.shape) (clearSpec_perm bombs v.abs)

theorem pop_drops_once (v : Vec) (hv : v.WF) : DropsOnce (pop v) v [] := by
  exact wf_of_eq_inplace hv (pop_eq v v.abs hv.shape) (popSpec_perm v.abs)

theorem remove_drops_once (v : Vec) (i : Nat) (hv : v.WF) : DropsOnce (remove v i) v [] := by
  exact wf_of_eq_inplace hv (remove_eq v v.abs i hv.shape) (removeSpec_perm v.abs i)

theorem swap_remove_drops_once (v : Vec) (i : Nat) (hv : v.WF) : DropsOnce (swapRemove v i) v [] := by
  exact wf_of_eq_inplace hv (swapRemove_eq v v.abs i hv.shape) (swapRemoveSpec_perm v.abs i)

/-! ## `push`, `insert`, `extend_from_slice_clone`, `resize` (`FixedBumpVec`, `BumpVec`, `MutBumpVec`)

  `id` / the ids produced by `Clone` are fresh (`hfresh`): they enter the accounting with the call.
  A refused reservation (full `FixedBumpVec`) drops the argument exactly once and changes nothing else. -/

theorem push_drops_once (env : Env) (v : Vec) (id : Id) (hv : v.WF) (hfresh : (v.total ++ [id]).Nodup) :
    DropsOnce (push env v id) v [id] := by
  have hl := hv.shape.2
  exact dropsOnce_grown hv (grownOne_grows hv).1 (push_eq env v v.abs id hv.shape) (pushSpec_perm _ _ _)
    (grownOne_cap_le hv (hl ▸ pushSpec_len (roomOne env v) v.abs id)) hfresh

theorem insert_drops_once (env : Env) (v : Vec) (i : Nat) (id : Id) (hv : v.WF) (hfresh : (v.total ++ [id]).Nodup) :
    DropsOnce (insert env v i id) v [id] := by
  have hl := hv.shape.2
  have heq := insert_eq env v v.abs i id hv.shape
  by_cases hi : i ≤ v.len
  · rw [if_pos hi] at heq
    exact dropsOnce_grown hv (grownOne_grows hv).1 heq (insertSpec_perm _ _ _ _)
      (grownOne_cap_le hv (hl ▸ insertSpec_len (roomOne env v) v.abs i id)) hfresh
  · rw [if_neg hi] at heq
    refine dropsOnce_inplace hv heq (insertSpec_perm _ _ _ _) ?_ hfresh
    rw [insertSpec_of_not id (fun h => hi (hl ▸ h.1)), hl]
    exact hv.len_le_cap

/-- NOTE on the freshness hypotheses of `extend_from_slice_clone` / `extend_from_within_clone` / `resize_with`:
    the clones only have to be fresh WHEN THE RESERVATION SUCCEEDS (when it is refused no clone is ever
    made) — the weaker hypothesis is what the induction over histories (`step_drops_once`) needs.  The
    examples right below exhibit successful reservations, so the `if … then clonedIds … else []` is not
    vacuously `[]`. -/
example : room { kind := .bump } (Vec.mk' [1, 2] 0) 2 = true ∧
    extendFromSliceClone { kind := .bump } (Vec.mk' [1, 2] 0) 2 [.ret 5, .ret 6] =
      .ok ⟨{ slots := I [1, 2, 5, 6], len := 4 }, .ret (), []⟩ := by decide

/-- `resize_with(4, f)` on a full `BumpVec` `[1,2]` reserves, `f` makes 5 and panics at its second call -/
example : resizeWith { kind := .bump } (Vec.mk' [1, 2] 0) 4 [.ret 5, .panic] =
    .ok ⟨{ slots := I [1, 2, 5] ++ H 1, len := 3 }, .panic false, []⟩ := by decide

/-- `extend_from_within_clone(0..2)` on a `FixedBumpVec` with room for two more -/
example : extendFromWithinClone { kind := .fixed } (Vec.mk' [1, 2] 2) 0 2 [.ret 5, .ret 6] =
    .ok ⟨{ slots := I [1, 2, 5, 6], len := 4 }, .ret (), []⟩ := by decide

theorem extend_from_slice_clone_drops_once (env : Env) (v : Vec) (n : Nat) (o : List Outcome) (hv : v.WF)
    (hfresh : (v.total ++ (if room env v n then clonedIds n o else [])).Nodup) :
    DropsOnce (extendFromSliceClone env v n o) v (if room env v n then clonedIds n o else []) := by
  have hl := hv.shape.2
  exact dropsOnce_grown hv (grown_grows hv).1 (extendFromSliceClone_eq env v v.abs n o hv.shape) (extendCloneSpecR_perm _ _ _ _)
    (grown_cap_le hv (hl ▸ extendCloneSpecR_len (room env v n) v.abs n o)) hfresh

/-- `extend_from_within_clone(start..end)`: a bad range panics and changes nothing; otherwise the clones of
    `self[start..end)` are appended one by one (a panicking `Clone` keeps those made so far) -/
theorem extend_from_within_clone_drops_once (env : Env) (v : Vec) (start end_ : Nat) (o : List Outcome) (hv : v.WF)
    (hfresh : (v.total ++ (if start ≤ end_ ∧ end_ ≤ v.len ∧ room env v (end_ - start) then clonedIds (end_ - start) o else [])).Nodup) :
    DropsOnce (extendFromWithinClone env v start end_ o) v
      (if start ≤ end_ ∧ end_ ≤ v.len ∧ room env v (end_ - start) then clonedIds (end_ - start) o else []) := by
  by_cases hr : start ≤ end_ ∧ end_ ≤ v.len
  · rw [extendFromWithinClone_eq env v v.abs start end_ o hv.shape hr]
    simpa [hr] using extend_from_slice_clone_drops_once env v (end_ - start) o hv (by simpa [hr] using hfresh)
  · rw [extendFromWithinClone_bad env v start end_ o (by omega)]
    have hif : ¬ (start ≤ end_ ∧ end_ ≤ v.len ∧ room env v (end_ - start) = true) := by
      intro h; exact hr ⟨h.1, h.2.1⟩
    simp only [hif, ↓reduceIte]
    exact ⟨_, rfl, hv, by simp⟩

theorem resize_drops_once (env : Env) (v : Vec) (newLen : Nat) (value : Id) (o : List Outcome) (hv : v.WF)
    (hfresh : (v.total ++ resizeIns (room env v (newLen - v.len)) v.abs newLen value o).Nodup) :
    DropsOnce (resize env v newLen value o) v (resizeIns (room env v (newLen - v.len)) v.abs newLen value o) := by
  have hlen := resizeSpec_len (room env v (newLen - v.len)) env.bombs v.abs newLen value o
  rw [hv.shape.2] at hlen
  exact dropsOnce_grown hv (grown_grows hv).1 (resize_eq env v v.abs newLen value o hv.shape) (resizeSpec_perm _ _ _ _ _ _)
    (grown_cap_le hv hlen) hfresh

theorem resize_with_drops_once (env : Env) (v : Vec) (newLen : Nat) (o : List Outcome) (hv : v.WF)
    (hfresh : (v.total ++ (if newLen > v.len ∧ room env v (newLen - v.len) then clonedIds (newLen - v.len) o else [])).Nodup) :
    DropsOnce (resizeWith env v newLen o) v
      (if newLen > v.len ∧ room env v (newLen - v.len) then clonedIds (newLen - v.len) o else []) := by
  have hlen := resizeWithSpec_len (room env v (newLen - v.len)) env.bombs v.abs newLen o
  have hperm := resizeWithSpec_perm (room env v (newLen - v.len)) env.bombs v.abs newLen o
  rw [hv.shape.2] at hlen hperm
  exact dropsOnce_grown hv (grown_grows hv).1 (resizeWith_eq env v v.abs newLen o hv.shape) hperm (grown_cap_le hv hlen) hfresh

theorem pop_if_drops_once (v : Vec) (o : List Outcome) (hv : v.WF) : DropsOnce (popIf v o) v [] := by
  exact wf_of_eq_inplace hv (popIf_eq v v.abs o hv.shape) (popIfSpec_perm v.abs o)

/-! ## the draining / consuming iterators: `drain` (+ `keep_rest`), `extract_if`, `into_iter`

  The caller's behaviour is a script of `next` / `next_back` calls followed by how the iterator is
  let go; every yielded value is accounted for in `escaped` (the caller owns it now). -/

theorem drain_drops_once (bombs : List Id) (v : Vec) (start end_ : Nat) (script : List Pull) (fin : Fin) (hv : v.WF) :
    DropsOnce (drain bombs v start end_ script fin) v [] := by
  exact wf_of_eq_inplace hv (drain_eq bombs v v.abs start end_ script fin hv.shape) (drainSpec_perm bombs v.abs start end_ script fin)

theorem into_iter_drops_once (bombs : List Id) (v : Vec) (script : List Pull) (hv : v.WF) :
    DropsOnce (intoIter bombs v script) v [] := by
  exact wf_of_eq_inplace hv (intoIter_eq bombs v v.abs script hv.shape) (intoIterSpec_perm bombs v.abs script)

/-- after `into_iter` + drop of the iterator nothing is owned any more: every value was yielded or dropped -/
theorem into_iter_leaves_nothing (bombs : List Id) (v : Vec) (script : List Pull) (hv : v.WF) :
    ∃ r, intoIter bombs v script = .ok r ∧ r.vec.abs = [] := by
  exact ⟨_, intoIter_eq bombs v v.abs script hv.shape, by simp [after_abs, intoIterSpec]⟩

theorem extract_if_drops_once (v : Vec) (calls : Nat) (o : List Outcome) (hv : v.WF) :
    DropsOnce (extractIf v calls o) v [] := by
  exact wf_of_eq_inplace hv (extractIf_eq v v.abs calls o hv.shape) (extractSpec_perm calls v.abs o)

/-- a LEAKED `Drain` (`mem::forget` after any pulls): no fault; the owner shows exactly the elements before the
    range (`len = start`), no destructor ran, the yielded values went to the caller, and every id is still
    accounted for exactly once (`total` is a permutation of the old one: what is still in the range and the tail
    sits beyond `len`, leaked) — so dropping the owner afterwards cannot drop anything twice -/
theorem drain_forget_leaks (v : Vec) (start end_ : Nat) (script : List Pull) (hv : v.WF) (hr : start ≤ end_ ∧ end_ ≤ v.len) :
    ∃ r, drainForget v start end_ script = .ok r ∧ r.vec.len = start ∧ r.vec.abs = v.abs.take start ∧
      r.vec.dropLog = v.dropLog ∧
      r.vec.escaped = v.escaped ++ yielded (pullsSpec ((v.abs.take end_).drop start) script).1 ∧
      r.exit = .ret (pullsSpec ((v.abs.take end_).drop start) script).1 ∧
      r.vec.total.Perm v.total ∧ r.vec.total.Nodup := by
  have hsh := hv.shape
  have hnd := hv.2
  rw [hv.total_eq] at hnd ⊢
  generalize v.abs = xs at hsh hnd ⊢
  clear hv
  revert hr hnd
  revert v
  refine seg_cases fun k dl esc hr hnd => ?_
  obtain ⟨head, range, tail, rfl, rfl, rfl⟩ := exists_range_split hr.1 hr.2
  obtain ⟨a', b', e⟩ := drainForget_seg head range tail dl esc k script
  have hperm := pullsSpec_perm script range
  have htot : (idsOf (I head ++ H a' ++ I (pullsSpec range script).2 ++ H b' ++ (I tail ++ H k)) ++ dl ++
      (esc ++ yielded (pullsSpec range script).1)).Perm (head ++ (range ++ tail) ++ dl ++ esc) := by
    simp only [idsOf_append, idsOf_I, idsOf_H, List.append_nil]
    rw [List.perm_iff_count] at hperm ⊢
    intro a
    have h1 := hperm a
    simp only [List.count_append] at h1 ⊢
    omega
  refine ⟨_, e, rfl, ?_, rfl, ?_, ?_, htot, htot.nodup_iff.mpr hnd⟩
  · simp [Vec.abs, idsOf_I]
  · simp only [range_mid]
  · simp only [range_mid]

/-! ## `map_in_place` (closure `T → U` with `U` of the size of `T`), `append` -/

/-- every element is handed to the closure exactly once; if the closure panics, the unread elements
    and the results produced so far are dropped (each once) and nothing is owned any more -/
theorem map_in_place_drops_once (bombs : List Id) (v : Vec) (o : List Outcome) (hv : v.WF)
    (hfresh : (v.total ++ mapIns v.abs o).Nodup) :
    DropsOnce (mapInPlace bombs v o) v (mapIns v.abs o) := by
  refine dropsOnce_inplace hv (mapInPlace_eq bombs v v.abs o hv.shape)
    (by simpa using mapSpec_perm v.abs [] o) ?_ hfresh
  have h1 := mapSpec_len v.abs [] o; have := hv.len_le_cap; have := hv.shape.2; simp at h1; omega

/-- `append(other)`: the elements of `other` move over (each still owned exactly once, now by `self`),
    or — if the reservation is refused — `other` is dropped with all its elements; `other` is left
    empty either way (nothing can be dropped a second time through it) -/
theorem append_drops_once (env : Env) (v other : Vec) (hv : v.WF) (ho : other.WF)
    (hdisj : (v.total ++ other.abs).Nodup) :
    ∃ r o', append env v other = .ok (r, o') ∧ r.vec.WF ∧ o'.abs = [] ∧ o'.len = 0 ∧
      (r.vec.total ++ (o'.dropLog.drop other.dropLog.length)).Perm (v.total ++ other.abs) ∧
      (r.exit = .ret () ∨ r.vec.abs = v.abs) := by
  have hl := hv.shape.2
  have hlo := ho.shape.2
  have g := (grown_grows (env := env) (n := other.len) hv).1
  have hw := View.append_done (V := .fwd) (room := room env v other.len) (other := other)
    (r := appendSpec (room env v other.len) v.abs other.abs) hv g.dropLog g.escaped
    (by cases room env v other.len <;> simp [appendSpec, View.fwd])
    (grown_cap_le hv (by cases room env v other.len <;> simp [appendSpec] <;> omega)) hdisj
  refine ⟨_, _, append_eq env v other v.abs other.abs hv.shape ho.shape, hw.1, hw.2.1, rfl, hw.2.2, ?_⟩
  cases room env v other.len <;> simp [after_abs, appendSpec]

/-! ## `MutBumpVecRev` (elements at the END of the buffer, `Coll/Rev.lean`)

  Same statement shape with the reverse well-formedness `RWF` (`slots = holes ++ values`). -/

def RDropsOnce {α : Type} (res : M (Out α)) (v : Vec) (ins : List Id) : Prop :=
  ∃ r, res = .ok r ∧ r.vec.RWF ∧ r.vec.total.Perm (v.total ++ ins)

theorem rdropsOnce_of_eq {α : Type} {res : M (Out α)} {v v' : Vec} {r : SpecOut α} {rest : List Outcome} {ins : List Id}
    (hv : v.RWF) (hg : RGrows v v' v.rabs) (hres : res = .ok ⟨v'.rafter r, r.exit, rest⟩)
    (hperm : (r.final ++ r.dropped ++ r.escaped).Perm (v.rabs ++ ins)) (hlen : r.final.length ≤ v'.cap)
    (hins : (v.total ++ ins).Nodup) : RDropsOnce res v ins :=
  View.dropsOnce (V := .bwd) hv hg.dropLog hg.escaped hres hperm hlen hins

theorem RGrows.refl_of_rwf {v : Vec} (hv : v.RWF) : RGrows v v v.rabs :=
  ⟨hv.shape.1, rfl, rfl, rfl, Nat.le_refl _⟩

theorem rev_drop_owner (bombs : List Id) (u : Bool) (v : Vec) (hv : v.RWF) :
    rdropVec bombs u v =
      .ok ⟨{ v with slots := H v.cap, len := 0, dropLog := v.dropLog ++ v.rabs },
           if (!u && v.rabs.any bombs.contains) then .panic true else .ret (), []⟩ :=
  rdropVec_eq bombs u v v.rabs hv.shape

theorem rev_pop_drops_once (v : Vec) (hv : v.RWF) : RDropsOnce (rpop v) v [] := by
  exact rwf_of_eq_inplace hv (rpop_eq v v.rabs hv.shape) (rpopSpec_perm v.rabs)

theorem rev_clear_drops_once (bombs : List Id) (v : Vec) (hv : v.RWF) : RDropsOnce (rclear bombs v) v [] := by
  exact rwf_of_eq_inplace hv (rclear_eq bombs v v.rabs hv.shape) (clearSpec_perm bombs v.rabs)

theorem rev_truncate_drops_once (bombs : List Id) (v : Vec) (n : Nat) (hv : v.RWF) : RDropsOnce (rtruncate bombs v n) v [] := by
  exact rwf_of_eq_inplace hv (rtruncate_eq bombs v v.rabs n hv.shape) (rtruncateSpec_perm bombs v.rabs n)

theorem rev_remove_drops_once (v : Vec) (i : Nat) (hv : v.RWF) : RDropsOnce (rremove v i) v [] := by
  exact rwf_of_eq_inplace hv (rremove_eq v v.rabs i hv.shape) (removeSpec_perm v.rabs i)

theorem rev_swap_remove_drops_once (v : Vec) (i : Nat) (hv : v.RWF) : RDropsOnce (rswapRemove v i) v [] := by
  exact rwf_of_eq_inplace hv (rswapRemove_eq v v.rabs i hv.shape) (rswapRemoveSpec_perm v.rabs i)

theorem rev_push_drops_once (env : Env) (v : Vec) (id : Id) (hv : v.RWF) (hfresh : (v.total ++ [id]).Nodup) :
    RDropsOnce (rpush env v id) v [id] := by
  have hl := hv.shape.2
  refine rdropsOnce_of_eq hv (rgrown_grows hv).1 (rpush_eq env v v.rabs id hv.shape) (rpushSpec_perm _ _ _)
    (rgrown_cap_le hv ?_) hfresh
  rw [← hl, rpushSpec]
  split <;> simp

theorem rev_insert_drops_once (env : Env) (v : Vec) (i : Nat) (id : Id) (hv : v.RWF) (hfresh : (v.total ++ [id]).Nodup) :
    RDropsOnce (rinsert env v i id) v [id] := by
  have hl := hv.shape.2
  have heq := rinsert_eq env v v.rabs i id hv.shape
  by_cases hi : i ≤ v.len
  · rw [if_pos hi] at heq
    exact rdropsOnce_of_eq hv (rgrown_grows hv).1 heq (insertSpec_perm _ _ _ _)
      (rgrown_cap_le hv (hl ▸ insertSpec_len (rroom env v 1) v.rabs i id)) hfresh
  · rw [if_neg hi] at heq
    refine rdropsOnce_of_eq hv (RGrows.refl_of_rwf hv) heq (insertSpec_perm _ _ _ _) ?_ hfresh
    rw [insertSpec_of_not id (fun h => hi (hl ▸ h.1)), hl]
    exact hv.len_le_cap

theorem rev_extend_from_slice_clone_drops_once (env : Env) (v : Vec) (n : Nat) (o : List Outcome) (hv : v.RWF)
    (hfresh : (v.total ++ clonedIds n o).Nodup) :
    RDropsOnce (rextendFromSliceClone env v n o) v (if rroom env v n then clonedIds n o else []) := by
  have hl := hv.shape.2
  refine rdropsOnce_of_eq hv (rgrown_grows hv).1 (rextendFromSliceClone_eq env v v.rabs n o hv.shape)
    (rextendCloneSpecR_perm _ _ _ _) (rgrown_cap_le hv (hl ▸ rextendCloneSpecR_len (rroom env v n) v.rabs n o)) ?_
  split
  · exact hfresh
  · simpa using hv.2

theorem rev_resize_drops_once (env : Env) (v : Vec) (newLen : Nat) (value : Id) (o : List Outcome) (hv : v.RWF)
    (hfresh : (v.total ++ resizeIns (rroom env v (newLen - v.len)) v.rabs newLen value o).Nodup) :
    RDropsOnce (rresize env v newLen value o) v (resizeIns (rroom env v (newLen - v.len)) v.rabs newLen value o) := by
  have hlen := rresizeSpec_len (rroom env v (newLen - v.len)) env.bombs v.rabs newLen value o
  rw [hv.shape.2] at hlen
  exact rdropsOnce_of_eq hv (rgrown_grows hv).1 (rresize_eq env v v.rabs newLen value o hv.shape) (rresizeSpec_perm _ _ _ _ _ _)
    (rgrown_cap_le hv hlen) hfresh

theorem rev_into_iter_drops_once (bombs : List Id) (v : Vec) (script : List Pull) (hv : v.RWF) :
    RDropsOnce (rintoIter bombs v script) v [] := by
  exact rwf_of_eq_inplace hv (rintoIter_eq bombs v v.rabs script hv.shape) (intoIterSpec_perm bombs v.rabs script)

theorem rev_pop_if_drops_once (v : Vec) (o : List Outcome) (hv : v.RWF) : RDropsOnce (rpopIf v o) v [] := by
  exact rwf_of_eq_inplace hv (rpopIf_eq v v.rabs o hv.shape) (rpopIfSpec_perm v.rabs o)

theorem rev_resize_with_drops_once (env : Env) (v : Vec) (newLen : Nat) (o : List Outcome) (hv : v.RWF)
    (hfresh : (v.total ++ clonedIds (newLen - v.len) o).Nodup) :
    RDropsOnce (rresizeWith env v newLen o) v
      (if newLen > v.len ∧ rroom env v (newLen - v.len) then clonedIds (newLen - v.len) o else []) := by
  have hlen := rresizeWithSpec_len (rroom env v (newLen - v.len)) env.bombs v.rabs newLen o
  have hperm := rresizeWithSpec_perm (rroom env v (newLen - v.len)) env.bombs v.rabs newLen o
  rw [hv.shape.2] at hlen hperm
  refine rdropsOnce_of_eq hv (rgrown_grows hv).1 (rresizeWith_eq env v v.rabs newLen o hv.shape) hperm (rgrown_cap_le hv hlen) ?_
  split
  · exact hfresh
  · simpa using hv.2

/-- `MutBumpVecRev::append(other)`: the elements of `other` move to the front of `self` (each still owned
    exactly once) or — reservation refused — `other` is dropped with all its elements; `other` is left empty -/
theorem rev_append_drops_once (env : Env) (v other : Vec) (hv : v.RWF) (ho : other.WF)
    (hdisj : (v.total ++ other.abs).Nodup) :
    ∃ r o', rappend env v other = .ok (r, o') ∧ r.vec.RWF ∧ o'.abs = [] ∧ o'.len = 0 ∧
      (r.vec.total ++ (o'.dropLog.drop other.dropLog.length)).Perm (v.total ++ other.abs) := by
  have hl := hv.shape.2
  have hlo := ho.shape.2
  have g := (rgrown_grows (env := env) (n := other.len) hv).1
  have hw := View.append_done (V := .bwd) (room := rroom env v other.len) (other := other)
    (r := rappendSpec (rroom env v other.len) v.rabs other.abs) hv g.dropLog g.escaped
    (by cases rroom env v other.len <;> simp [rappendSpec, View.bwd, List.perm_append_comm])
    (rgrown_cap_le hv (by cases rroom env v other.len <;> simp [rappendSpec] <;> omega)) hdisj
  exact ⟨_, _, rappend_eq env v other v.rabs other.abs hv.shape ho.shape, hw.1, hw.2.1, rfl, hw.2.2⟩

/-! ## `BumpVec::splice` (`Coll/Splice.lean`: `bump_vec/splice.rs` + `bump_vec/drain.rs`) -/

/-- `splice(start..end, replace_with)`, any pulls, then the `Splice` is dropped — for every range, source,
    `size_hint` behaviour of the source (honest, under-reporting `hint`, or LYING `lie = some l`: over-reporting
    up to a reservation that ends in the "capacity overflow" panic, `maxCap` = largest element count with a
    valid layout) and set of panicking destructors: no fault, the vector is well-formed, and every old value and
    every value of `replace_with` is accounted for exactly once — also when a destructor of the drained range
    panics inside `Splice::drop`, when the range check panics, and when `Splice::drop` unwinds out of
    `reserve` / `move_tail` / `from_iter_in` with "capacity overflow" (`Drain::drop` then restores the tail, and
    `replace_with` is dropped with what it still owns) -/
theorem splice_drops_once (env : Env) (hk : env.kind = .bump) (hm : env.maxCap = none) (v : Vec) (start end_ : Nat) (src : List Id) (hint : Nat)
    (lie : Option Nat) (maxCap : Nat)
    (script : List Pull) (hv : v.WF) (hfresh : (v.total ++ src).Nodup) :
    DropsOnce (splice env v start end_ src hint lie maxCap script) v src := by
  obtain ⟨v', e, h, hc⟩ := splice_holds env hk hm v v.abs start end_ src hint lie maxCap script hv.shape
  have ⟨g, gc⟩ := growTo_grows hv.shape v'.cap
  have hcap' : (growTo v v'.cap).cap = v'.cap := by rw [gc]; omega
  generalize capsOf env v hint lie maxCap = c at *
  have hfl : (spliceSpec env.bombs c v.abs start end_ src script).final.length ≤ v'.cap := by
    rw [h.len]; exact h.shape.len_le_cap
  have hv' : v' = (growTo v v'.cap).after (spliceSpec env.bombs c v.abs start end_ src script) := by
    apply Vec.eq_of
    · rw [h.slots]; simp only [Vec.after]; rw [hcap', h.len]
    · simp only [Vec.after]; exact h.len.symm
    · simp only [Vec.after]; rw [h.dropLog]; rfl
    · simp only [Vec.after]; rw [h.escaped]; rfl
  rw [hv'] at e
  exact dropsOnce_grown hv g e (spliceSpec_perm _ _ _ _ _ _ _) (by rw [hcap']; exact hfl) hfresh

/-- what the vector holds after a splice that unwound with "capacity overflow" (no panicking destructor):
    the head, the items written before the panic, the untouched tail — nothing lost, nothing twice -/
theorem splice_overflow_contents (env : Env) (hk : env.kind = .bump) (hm : env.maxCap = none) (v : Vec) (start end_ : Nat) (src : List Id) (hint : Nat)
    (lie : Option Nat) (maxCap : Nat) (script : List Pull) (hv : v.WF) (hr : start ≤ end_ ∧ end_ ≤ v.len)
    (hb : (pullsSpec ((v.abs.take end_).drop start) script).2.any env.bombs.contains = false) :
    ∃ r, splice env v start end_ src hint lie maxCap script = .ok r ∧
      r.vec.abs = v.abs.take start ++ (spliceWritten (capsOf env v hint lie maxCap) start end_ v.len src).1 ++ v.abs.drop end_ ∧
      r.vec.dropLog = v.dropLog ++ ((pullsSpec ((v.abs.take end_).drop start) script).2 ++
        src.drop (spliceWritten (capsOf env v hint lie maxCap) start end_ v.len src).1.length) ∧
      (r.exit = .panic false ↔ (spliceWritten (capsOf env v hint lie maxCap) start end_ v.len src).2 = true) := by
  have hl := hv.shape.2
  obtain ⟨v', e, h, hc⟩ := splice_holds env hk hm v v.abs start end_ src hint lie maxCap script hv.shape
  have hr' : ¬ (start > end_ ∨ end_ > v.abs.length) := by omega
  have habs : v'.abs = _ := h.shape.abs
  generalize capsOf env v hint lie maxCap = c at *
  have hspec : spliceSpec env.bombs c v.abs start end_ src script =
      { final := v.abs.take start ++ (spliceWritten c start end_ v.abs.length src).1 ++ v.abs.drop end_,
        dropped := (pullsSpec ((v.abs.take end_).drop start) script).2 ++ src.drop (spliceWritten c start end_ v.abs.length src).1.length,
        escaped := yielded (pullsSpec ((v.abs.take end_).drop start) script).1,
        exit := if (spliceWritten c start end_ v.abs.length src).2 then .panic false else .ret (pullsSpec ((v.abs.take end_).drop start) script).1,
        rest := [] } := by
    unfold spliceSpec
    rw [if_neg hr']
    simp only [hb, Bool.false_eq_true, ↓reduceIte]
  rw [hspec] at e h habs
  rw [hl] at e h habs
  refine ⟨_, e, habs, h.dropLog, ?_⟩
  simp only
  cases (spliceWritten c start end_ v.len src).2 <;> simp

/-- non-vacuity: `[1,2,3,4,5].splice(1..3, [10,11,12,13])`, one `next()`; the source under-reports its length
    (`size_hint().0 ≤ 1`), so `move_tail` runs twice and the vector reallocates -/
example : splice { kind := .bump } (Vec.mk' [1, 2, 3, 4, 5] 0) 1 3 [10, 11, 12, 13] 1 none 1000 [.front] =
    .ok ⟨{ slots := I [1, 10, 11, 12, 13, 4, 5] ++ H 3, len := 7, dropLog := [3], escaped := [2] }, .ret [some 2], []⟩ := by
  decide

/-- the destructor of 3 panics inside `Splice::drop`: the range is removed, the tail moves back, `replace_with`
    is dropped unused -/
example : splice { kind := .bump, bombs := [3] } (Vec.mk' [1, 2, 3, 4, 5, 6] 0) 1 5 [10, 11] 0 none 1000 [] =
    .ok ⟨{ slots := I [1, 6] ++ H 4, len := 2, dropLog := [2, 3, 4, 5, 10, 11] }, .panic true, []⟩ := by decide

/-- `Splice` is double-ended: `[1,…,6].splice(1..5, [10])`, one `next_back()` hands out 5; then the `Splice` is
    dropped and the destructor of 2 panics inside `for_each(drop)`: the unwind runs `Drain::drop`, which drops what
    the iterator STILL covers — 3 and 4, not the 5 that was already handed out — and moves the tail back; 10 is
    dropped with `replace_with`.  (`splice_drops_once` holds for every script of front / back pulls.) -/
example : splice { kind := .bump, bombs := [2] } (Vec.mk' [1, 2, 3, 4, 5, 6] 0) 1 5 [10] 100 none 1000 [.back] =
    .ok ⟨{ slots := I [1, 6] ++ H 4, len := 2, dropLog := [2, 3, 4, 10], escaped := [5] }, .panic true, []⟩ := by decide

/-- a LYING source (`size_hint().0 = 2^63-1`; the capacity bound `576460752303423487` in these examples is
    `(2^63-1)/16`, elements of 16 bytes): the full vector `[1,2,3,4]`, `splice(1..2, [10,11,12])`: 10 fills the
    range, `move_tail(2^63-1)` → `buf_reserve` panics with "capacity overflow" before anything moved; the unwind
    leaves `[1,10,3,4]`, the range's 2 and the unwritten 11, 12 are dropped once -/
example : splice { kind := .bump } (Vec.mk' [1, 2, 3, 4] 0) 1 2 [10, 11, 12] 100 (some 9223372036854775807) 576460752303423487 [] =
    .ok ⟨{ slots := I [1, 10, 3, 4], len := 4, dropLog := [2, 11, 12] }, .panic false, []⟩ := by decide

/-- no tail: `extend` → `reserve(2^63-1)` panics: nothing is written -/
example : splice { kind := .bump } (Vec.mk' [1, 2, 3, 4] 0) 1 4 [10, 11] 100 (some 9223372036854775807) 576460752303423487 [] =
    .ok ⟨{ slots := I [1] ++ H 3, len := 1, dropLog := [2, 3, 4, 10, 11] }, .panic false, []⟩ := by decide

/-- a harmless over-report (5 claimed, 2 left): `move_tail(5)` grows the buffer, `fill` comes up short, the guard
    of `Drain::drop` moves the tail back -/
example : splice { kind := .bump } (Vec.mk' [1, 2, 3, 4] 0) 1 2 [10, 11, 12] 100 (some 5) 576460752303423487 [] =
    .ok ⟨{ slots := I [1, 10, 11, 12, 3, 4] ++ H 3, len := 6, dropLog := [2] }, .ret [], []⟩ := by decide

/-- `Extend::extend(iter)` on a `BumpVec`, for every `size_hint` behaviour of the source (lying included): every
    old value and every item of the source is accounted for exactly once — pushed, or (when the reservation for
    the claimed length overflows) dropped with the source -/
theorem extend_drops_once (env : Env) (hk : env.kind = .bump) (hm : env.maxCap = none) (v : Vec) (src : List Id) (hint : Nat)
    (lie : Option Nat) (maxCap : Nat) (hv : v.WF) (hfresh : (v.total ++ src).Nodup) :
    DropsOnce (extendIter env v src hint lie maxCap) v src := by
  have h := extendIter_bump env hk hm v v.abs src hint lie maxCap hv.shape
  by_cases hov : capOverflow env maxCap v v.len (spliceLower hint lie src.length) = true
  · simp only [hov, ↓reduceIte] at h
    exact ⟨_, h, ⟨hv.1, (total_dropLog_append v src).nodup_iff.mpr hfresh⟩, total_dropLog_append v src⟩
  · simp only [hov, Bool.false_eq_true, ↓reduceIte] at h
    obtain ⟨v', e, hh, hc⟩ := h
    have hp : v'.total.Perm (v.total ++ src) := by
      rw [hv.total_eq, hh.shape.total, hh.dropLog, hh.escaped]
      rw [List.perm_iff_count]; intro a; simp only [List.count_append]; omega
    exact ⟨_, e, ⟨⟨_, hh.shape⟩, hp.nodup_iff.mpr hfresh⟩, hp⟩

/-! ## `BumpVec::map` (`Coll/MapVec.lean`: `generic_map`, both code paths) -/

/-- `BumpVec<T>::map(f) -> BumpVec<U>` — for every layout pair (in place when `U` fits the slots of `T`, the
    `from_iter_exact_in` fallback otherwise), every behaviour of `f` (a panic at any call) and every set of
    panicking destructors: no fault (in particular no `U` is written over an unread `T`), the result is
    well-formed (or empty after a panic), and every element and every result of `f` is accounted for exactly
    once: in the new vector, dropped once by the guard / the unwind, or moved into `f` -/
theorem vec_map_drops_once (bombs : List Id) (lay : MapLay) (v : Vec) (o : List Outcome) (hv : v.WF)
    (hfresh : (v.total ++ mapIns v.abs o).Nodup) :
    DropsOnce (vecMap bombs lay v o) v (mapIns v.abs o) := by
  have heq := vecMap_eq bombs lay v v.abs o hv.shape
  have hl := hv.shape.2
  have key : ∀ (b : Bool) (newCap len : Nat),
      ((∃ a, (vecMapSpec b [] v.abs o).exit = .ret a) → len = (vecMapSpec b [] v.abs o).final.length) →
      (mapAfter v newCap len (vecMapSpec b [] v.abs o)).WF ∧
        (mapAfter v newCap len (vecMapSpec b [] v.abs o)).total.Perm (v.total ++ mapIns v.abs o) := by
    intro b newCap len hlen
    have hperm := vecMapSpec_perm b v.abs [] o
    have hpanic := vecMapSpec_final_panic b v.abs [] o
    generalize vecMapSpec b [] v.abs o = r at *
    have htot : (mapAfter v newCap len r).total.Perm (v.total ++ mapIns v.abs o) := by
      rw [hv.total_eq, mapAfter_total v newCap len r hpanic]
      exact ledger_perm hperm
    refine ⟨⟨?_, htot.nodup_iff.mpr hfresh⟩, htot⟩
    unfold mapAfter
    cases hx : r.exit with
    | ret a =>
      refine ⟨r.final, ?_, (hlen ⟨a, hx⟩).symm⟩
      simp only [Vec.cap, List.length_append, length_I, length_H]
      rw [hlen ⟨a, hx⟩]; congr 2; omega
    | panic d => exact ⟨[], by simp [Vec.cap], rfl⟩
  by_cases hip : lay.inPlace = true
  · simp only [hip, ↓reduceIte] at heq
    have ⟨h1, h2⟩ := key false (v.cap * lay.st / lay.su) v.len (fun h => by
      have := vecMapSpec_final false v.abs [] o h; simp at this; omega)
    exact ⟨_, heq, h1, h2⟩
  · simp only [hip, Bool.false_eq_true, ↓reduceIte] at heq
    have ⟨h1, h2⟩ := key true v.len _ (fun _ => rfl)
    exact ⟨_, heq, h1, h2⟩

/-- non-vacuity: `[1,2,3]` (capacity 4, 16-byte elements) mapped to 8-byte elements in place: capacity 8;
    and `f` panicking at its second call: the unread 3 and the result 7 are dropped, 1 and 2 went into `f` -/
example : vecMap [] { st := 16, su := 8 } (Vec.mk' [1, 2, 3] 1) [.ret 7, .ret 8, .ret 9] =
    .ok ⟨{ slots := I [7, 8, 9] ++ H 5, len := 3, escaped := [1, 2, 3] }, .ret (), []⟩ := by decide

example : vecMap [] { st := 16, su := 8 } (Vec.mk' [1, 2, 3] 1) [.ret 7, .panic] =
    .ok ⟨{ slots := [], len := 0, dropLog := [3, 7], escaped := [1, 2] }, .panic false, []⟩ := by decide

/-- the fallback (bigger `U`) drops in the other order: the new vector first, then the old iterator -/
example : vecMap [] { st := 16, su := 24 } (Vec.mk' [1, 2, 3] 1) [.ret 7, .panic] =
    .ok ⟨{ slots := [], len := 0, dropLog := [7, 3], escaped := [1, 2] }, .panic false, []⟩ := by decide

/-- the layout condition matters: the in-place loop on a BIGGER `U` would write `U` number 1 over the unread `T` number 1 -/
example : vecMapLoop [] { st := 8, su := 16 } 4 3 3 (setLen (Vec.mk' [1, 2, 3] 1) 0) 0 [] [.ret 7, .ret 8, .ret 9] =
    .error (.overwrite 1) := by decide

/-! ## histories (`Coll/Run.lean`): any finite sequence of modelled operations -/

/-- one step of a history, whatever the operation, its arguments and the behaviour of its callbacks -/
theorem step_drops_once (env : Env) (v : Vec) (op : Op) (hv : v.WF) (hfresh : (v.total ++ insOf env v op).Nodup) :
    ∃ v', stepVec env v op = .ok v' ∧ v'.WF ∧ v'.total.Perm (v.total ++ insOf env v op) := by
  have lift : ∀ {α : Type} {res : M (Out α)} {ins : List Id}, DropsOnce res v ins →
      ∃ v', res.map (·.vec) = .ok v' ∧ v'.WF ∧ v'.total.Perm (v.total ++ ins) := by
    intro α res ins h
    obtain ⟨r, hr, hwf, hp⟩ := h
    exact ⟨r.vec, by rw [hr]; rfl, hwf, hp⟩
  cases op with
  | retain o => exact lift (retain_drops_once env.bombs v o hv)
  | dedupBy o => exact lift (dedup_by_drops_once env.bombs v o hv)
  | dedupByKey o => exact lift (dedup_by_key_drops_once env.bombs v o hv)
  | truncate n => exact lift (truncate_drops_once env.bombs v n hv)
  | clear => exact lift (clear_drops_once env.bombs v hv)
  | pop => exact lift (pop_drops_once v hv)
  | popIf o => exact lift (pop_if_drops_once v o hv)
  | remove i => exact lift (remove_drops_once v i hv)
  | swapRemove i => exact lift (swap_remove_drops_once v i hv)
  | push id => exact lift (push_drops_once env v id hv hfresh)
  | insert i id => exact lift (insert_drops_once env v i id hv hfresh)
  | extendClone n o => exact lift (extend_from_slice_clone_drops_once env v n o hv hfresh)
  | extendWithin s e o => exact lift (extend_from_within_clone_drops_once env v s e o hv hfresh)
  | resize n value o => exact lift (resize_drops_once env v n value o hv hfresh)
  | resizeWith n o => exact lift (resize_with_drops_once env v n o hv hfresh)
  | drain s e script fin => exact lift (drain_drops_once env.bombs v s e script fin hv)
  | extractIf calls o => exact lift (extract_if_drops_once v calls o hv)
  | mapInPlace o => exact lift (map_in_place_drops_once env.bombs v o hv hfresh)

/-- HISTORY LEVEL: from a well-formed vector, EVERY finite sequence of modelled operations (any arguments,
    any callback behaviour incl. panics, any panicking destructors), given only that the ids it brings in
    are fresh, runs without a model fault (no read of a moved-out slot, no overwrite of a live value, no
    out-of-bounds access), ends in a well-formed vector, and everything that ever entered is accounted for
    exactly once: still stored, or dropped once, or handed to the caller -/
theorem history_drops_once (env : Env) (ops : List Op) : ∀ (v : Vec), v.WF → (v.total ++ insRun env v ops).Nodup →
    run env v ops = .ok (runD env v ops) ∧ (runD env v ops).WF ∧
      (runD env v ops).total.Perm (v.total ++ insRun env v ops) := by
  induction ops with
  | nil => intro v hv _; simp [run, runD, insRun, hv]
  | cons op ops ih =>
    intro v hv hfresh
    have hsub : (v.total ++ insOf env v op).Nodup := by
      simp only [insRun] at hfresh
      rw [← List.append_assoc] at hfresh
      exact (List.nodup_append.mp hfresh).1
    obtain ⟨v', hstep, hwf, hp⟩ := step_drops_once env v op hv hsub
    have hD : stepD env v op = v' := by simp [stepD, hstep]
    simp only [insRun, hstep, run, runD, hD] at hfresh ⊢
    rw [← List.append_assoc] at hfresh
    obtain ⟨h1, h2, h3⟩ := ih v' hwf ((hp.append_right _).nodup_iff.mpr hfresh)
    refine ⟨h1, h2, ?_⟩
    rw [← List.append_assoc]
    exact h3.trans (hp.append_right _)

/-- no id is dropped twice along a history, and nothing dropped is still stored or was handed out -/
theorem history_never_drops_twice (env : Env) (ops : List Op) (v : Vec) (hv : v.WF)
    (hfresh : (v.total ++ insRun env v ops).Nodup) :
    (runD env v ops).dropLog.Nodup ∧
      ∀ id ∈ (runD env v ops).dropLog, id ∉ (runD env v ops).abs ∧ id ∉ (runD env v ops).escaped := by
  have hw := (history_drops_once env ops v hv hfresh).2.1
  generalize runD env v ops = w at hw
  have h := hw.2
  rw [hw.total_eq] at h
  have ⟨h1, h2, h3⟩ := List.nodup_append.mp h
  have ⟨h4, h5, h6⟩ := List.nodup_append.mp h1
  refine ⟨h5, fun id hid => ⟨fun hc => ?_, fun hc => ?_⟩⟩
  · exact h6 id hc id hid rfl
  · exact h3 id (by simp [hid]) id hc rfl

/-- non-vacuity: `[1,2,3]` in a full `BumpVec`, destructor of 2 panics: `push 4` (grows); `retain` keeps 1,
    removes 2 (its destructor panics, the guard closes the gap); `drain(0..2)` yields 1 and drops 3;
    `resize_with(4)` makes 7 and its closure panics at the second call.  Ends as `[4,7]`, 2 and 3 dropped
    once, 1 handed out; the ids brought in are 4 and 7 -/
example : run { bombs := [2], kind := .bump, capIn := 8 } (Vec.mk' [1, 2, 3] 0)
      [.push 4, .retain [.ret 1, .ret 0, .panic], .drain 0 2 [.front] .drop, .resizeWith 4 [.ret 7, .panic]] =
    .ok { slots := I [4, 7] ++ H 4, len := 2, dropLog := [2, 3], escaped := [1] } := by decide

example : insRun { bombs := [2], kind := .bump, capIn := 8 } (Vec.mk' [1, 2, 3] 0)
      [.push 4, .retain [.ret 1, .ret 0, .panic], .drain 0 2 [.front] .drop, .resizeWith 4 [.ret 7, .panic]] = [4, 7] := by
  decide

/-! ## zero-sized element types, by counts (`Coll/Zst.lean`)

  Values without identity: "exactly once" is the count identity
  `still owned + destructor calls + handed out` = the same before (`ZVec.total`). -/

/-- `drain(start..end)` of a vector of zero-sized values, `k` pulls, then the `Drain` is dropped or
    `keep_rest` is called — for EVERY position of a panicking `Drop` (also inside the `truncate` of
    `Drain::drop`): every value is still owned, or its destructor ran exactly once, or it was handed out;
    the vector keeps exactly the values outside the range (plus the un-yielded ones for `keep_rest`) -/
theorem zst_drain_exactly_once (v : Zst.ZVec) (start end_ k : Nat) (keep : Bool) (bomb : Option Nat)
    (hse : start ≤ end_) (hel : end_ ≤ v.len) :
    ∃ v' p, Zst.drain v start end_ k keep bomb = some (v', p) ∧ v'.total = v.total ∧
      v'.escaped = v.escaped + min k (end_ - start) ∧
      v'.len = v.len - (end_ - start) + (if keep then end_ - start - k else 0) ∧
      v'.drops = v.drops + (if keep then 0 else end_ - start - k) := by
  obtain ⟨v', p, h1, h2, h3, h4⟩ := Zst.drain_spec v start end_ k keep bomb hse hel
  refine ⟨v', p, h1, ?_, h2, h3, h4⟩
  have hm : end_ - start ≤ v.len := Nat.le_trans (Nat.sub_le ..) hel
  rw [Zst.ZVec.total, Zst.ZVec.total, h2, h3, h4]
  generalize end_ - start = m at hm ⊢
  obtain ⟨n, hn⟩ := Nat.exists_eq_add_of_le hm
  rw [hn, Nat.add_sub_cancel_left]
  have hmk : min k m + (m - k) = m := by omega
  generalize min k m = a at hmk ⊢
  generalize m - k = b at hmk ⊢
  subst hmk
  cases keep <;> simp only [Bool.false_eq_true, ↓reduceIte, Nat.add_zero, Nat.add_left_comm, Nat.add_comm]

/-- the `Drop` of the crate before commits b2f61d6 / 0480075 (`Zst.drainOriginal`): the taken iterator is
    still alive and runs the destructors of the un-yielded values a second time —
    `drop(v.drain(1..4))` on 5 values makes 6 destructor calls for 3 values -/
example : Zst.drainOriginal { len := 5 } 1 4 0 none = some ({ len := 2, drops := 6 }, false) := by decide

/-- … and the code since those commits (`Zst.drain`) makes 3, also when the first destructor call panics -/
example : Zst.drain { len := 5 } 1 4 0 false (some 0) = some ({ len := 2, drops := 3 }, true) := by decide

/-- `into_iter()` of zero-sized values, `k` pulls, drop of the iterator: nothing stays owned, every value
    was handed out or destructed once -/
theorem zst_into_iter_exactly_once (v : Zst.ZVec) (k : Nat) (bomb : Option Nat) :
    (Zst.intoIter v k bomb).1.len = 0 ∧ (Zst.intoIter v k bomb).1.total = v.total := by
  unfold Zst.intoIter
  simp only [Zst.pulls_eq, Zst.dropN, Zst.ZVec.total]
  exact ⟨trivial, by omega⟩

/-- `truncate` of zero-sized values: one destructor call per value that goes away -/
theorem zst_truncate_exactly_once (v : Zst.ZVec) (n : Nat) (bomb : Option Nat) :
    (Zst.truncate v n bomb).1.total = v.total ∧ (Zst.truncate v n bomb).1.len = min n v.len := by
  have ⟨t1, t2, t3⟩ := Zst.truncate_spec v n bomb
  constructor
  · simp only [Zst.ZVec.total, t1, t2, t3]; omega
  · exact t1

/-- dropping the owner of zero-sized values: one destructor call per value it holds -/
theorem zst_drop_owner (v : Zst.ZVec) (bomb : Option Nat) (u : Bool) :
    (Zst.dropVec v bomb u).1.len = 0 ∧ (Zst.dropVec v bomb u).1.drops = v.drops + v.len := by
  simp [Zst.dropVec, Zst.dropN]

/-- non-vacuity (reverse vector): `[1,2,3]` at the end of a 5-slot buffer; `truncate(1)` with a panicking
    `Drop` of id 1 still drops 1 and 2 (front to back) and keeps 3 -/
example : rtruncate [1] { slots := H 2 ++ I [1, 2, 3], len := 3 } 1 =
    .ok ⟨{ slots := H 4 ++ I [3], len := 1, dropLog := [1, 2] }, .panic true, []⟩ := by decide

example : ({ slots := H 2 ++ I [1, 2, 3], len := 3 } : Vec).RWF := ⟨⟨[1, 2, 3], by decide, by decide⟩, by decide⟩

/-- non-vacuity: a well-formed vector `[1,2,3,4,5]` with one spare slot; the predicate keeps 1, removes 2,
    keeps 3 and panics on 4: the vector is `[1,3,4,5]`, `2` was dropped once -/
example : retain [] (Vec.mk' [1, 2, 3, 4, 5] 1) [.ret 1, .ret 0, .ret 1, .panic] =
    .ok ⟨{ slots := I [1, 3, 4, 5] ++ H 2, len := 4, dropLog := [2] }, .panic false, []⟩ := by decide

example : (Vec.mk' [1, 2, 3, 4, 5] 1).WF := by
  refine ⟨⟨[1, 2, 3, 4, 5], by decide, by decide⟩, by decide⟩

/-- a `Drop` that panics inside `retain` (id 2 is a bomb): the guard closes the gap, nothing is lost -/
example : retain [2] (Vec.mk' [1, 2, 3] 0) [.ret 1, .ret 0, .ret 1] =
    .ok ⟨{ slots := I [1, 3] ++ H 1, len := 2, dropLog := [2] }, .panic true, [.ret 1]⟩ := by decide

/-- `extend_from_within_clone` of zero-sized values with a `Clone` that panics at any call: the vector grows by
    exactly the clones that were made, NO destructor runs (the prototype is not a value), nothing else changes —
    created = still owned -/
theorem zst_extend_from_within_clone_exactly_once (v : Zst.ZVec) (count : Nat) (panicAt : Option Nat) :
    (Zst.extendWithinClone v count panicAt).1.len = v.len + (Zst.extendWithinClone v count panicAt).2.1 ∧
      (Zst.extendWithinClone v count panicAt).1.drops = v.drops ∧
      (Zst.extendWithinClone v count panicAt).1.escaped = v.escaped ∧
      (Zst.extendWithinClone v count panicAt).2.1 ≤ count ∧
      ((Zst.extendWithinClone v count panicAt).2.2 = false → (Zst.extendWithinClone v count panicAt).2.1 = count) := by
  unfold Zst.extendWithinClone
  cases panicAt with
  | none => simp
  | some k => by_cases h : k < count <;> simp [h] <;> omega

/-- … while the unguarded prototype costs one destructor call too many exactly when a clone panics -/
example : (Zst.extendWithinClone { len := 3 } 3 (some 1)).1 = { len := 4 } ∧
    (Zst.extendWithinCloneUnguarded { len := 3 } 3 (some 1)).1 = { len := 4, drops := 1 } := by decide

end C06
