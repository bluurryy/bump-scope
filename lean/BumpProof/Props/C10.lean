/-
  Props/C10.lean — property C10: arena bookkeeping and the reported statistics are always
  coherent.  This file is about the geometry / position part of the central arena invariant
  (`Arena.GeomInv`, defined in `Arena/Inv.lean`): the statistics identities that follow from it,
  the bridge to C11 (`bumpProps` is a valid input of the bump computations), and its preservation
  by the functions of the model `Arena/Model.lean` — together with "no fault" companions,
  in particular: the slow path's `unreachable_unchecked` is unreachable (from C12).

  Helper lemmas: `Lemmas/Geom*.lean`, `Lemmas/AlignChunk.lean`.  All theorems are about the MODEL functions; `= .ok _`
  conclusions also say that no overflow / failed assertion / UB / contract fault happens.
-/
import BumpProof.Lemmas.GeomReserve
import BumpProof.Lemmas.GeomRealloc
import BumpProof.Arena.Step

namespace C10
open Arena Rs

variable {cfg : Cfg} {s : State}

/-! ## Statistics (`Stats::{count, size, capacity, allocated, remaining}`) -/

/-- a claimed or unallocated arena reports all zeros -/
theorem stats_zero (hcur : s.cur = .claimed ∨ s.cur = .unallocated) : stats cfg s = ⟨0, 0, 0, 0, 0⟩ := by
  unfold stats
  rcases hcur with hcur | hcur <;> rw [hcur]

/-- `allocated() + remaining() = capacity()` -/
theorem stats_allocated_add_remaining (h : GeomInv cfg s) :
    (stats cfg s).allocated + (stats cfg s).remaining = (stats cfg s).capacity := by
  cases hcur : s.cur with
  | chunk i =>
    obtain ⟨c, hi, hw, _⟩ := h.curChunk hcur
    rw [stats_chunk hcur hi]
    simp only
    have hsplit := split_at s.chunks i c hi
    have : (s.chunks.map (Chunk.capacity cfg)).sum =
        ((s.chunks.take i).map (Chunk.capacity cfg)).sum +
        (c.capacity cfg + ((s.chunks.drop (i+1)).map (Chunk.capacity cfg)).sum) := by
      conv => lhs; rw [hsplit]
      rw [List.map_append, List.sum_append, List.map_cons, List.sum_cons]
    rw [this]
    have := hw.alloc_add_rem
    omega
  | unallocated => rw [stats_zero (Or.inr hcur)]; simp
  | claimed => rw [stats_zero (Or.inl hcur)]; simp

/-- `capacity() ≤ size()` -/
theorem stats_capacity_le_size (h : GeomInv cfg s) : (stats cfg s).capacity ≤ (stats cfg s).size := by
  cases hcur : s.cur with
  | chunk i =>
    obtain ⟨c, hi, hw, _⟩ := h.curChunk hcur
    rw [stats_chunk hcur hi]
    simp only
    apply sum_map_le
    intro x hx
    have hwx := h.mem hx
    have := hwx.cap_add
    omega
  | unallocated => rw [stats_zero (Or.inr hcur)]; exact Nat.le_refl _
  | claimed => rw [stats_zero (Or.inl hcur)]; exact Nat.le_refl _

/-- every chunk spends exactly one header: `size() = capacity() + count() * size_of::<ChunkHeader<A>>()` -/
theorem stats_size_eq (h : GeomInv cfg s) :
    (stats cfg s).size = (stats cfg s).capacity + (stats cfg s).count * cfg.hdr.size := by
  have key : ∀ l : List Chunk, (∀ x ∈ l, ChunkWF cfg x) →
      (l.map (·.size)).sum = (l.map (Chunk.capacity cfg)).sum + l.length * cfg.hdr.size := by
    intro l
    induction l with
    | nil => intro _; simp
    | cons x xs ih =>
      intro hl
      simp only [List.map_cons, List.length_cons]
      rw [List.sum_cons, List.sum_cons, ih (fun y hy => hl y (List.mem_cons_of_mem x hy))]
      have := (hl x List.mem_cons_self).cap_add
      rw [Nat.succ_mul]
      omega
  cases hcur : s.cur with
  | chunk i =>
    obtain ⟨c, hi, hw, _⟩ := h.curChunk hcur
    rw [stats_chunk hcur hi]
    exact key s.chunks (fun x hx => h.mem hx)
  | unallocated => rw [stats_zero (Or.inr hcur)]; simp
  | claimed => rw [stats_zero (Or.inl hcur)]; simp

/-- `count()` is the number of chunks -/
theorem stats_count (h : GeomInv cfg s) {i : Nat} (hcur : s.cur = .chunk i) :
    (stats cfg s).count = s.chunks.length := by
  obtain ⟨c, hi, _, _⟩ := h.curChunk hcur
  rw [stats_chunk hcur hi]

/-- the bump position of the current chunk lies in its content range and is a multiple of the
    minimum alignment in force -/
theorem curPos_in_range (h : GeomInv cfg s) {i : Nat} (hcur : s.cur = .chunk i) :
    ∃ c, s.chunks[i]? = some c ∧ c.contentStart cfg ≤ curPos cfg s ∧ curPos cfg s ≤ c.contentEnd cfg ∧
      s.minAlign ∣ curPos cfg s := by
  obtain ⟨c, hi, hw, hd⟩ := h.curChunk hcur
  rw [curPos_chunk hcur hi]
  exact ⟨c, hi, hw.pos_ge, hw.pos_le, hd⟩

/-- every chunk: size a multiple of 16, header inside the granted block -/
theorem chunk_header_in_block (hc : CfgOK cfg) (h : GeomInv cfg s) {i : Nat} {c : Chunk} (hi : s.chunks[i]? = some c) :
    16 ∣ c.size ∧ cfg.hdr.size ≤ c.size ∧ c.size ≤ c.granted ∧ cfg.hdr.align ∣ c.base ∧
      (cfg.up = false → cfg.hdr.align ∣ c.base + c.size - cfg.hdr.size) := by
  have hw := h.chunks i c hi
  refine ⟨hw.size16, hw.hdr_le, hw.le_granted, hw.base_al, ?_⟩
  intro hup
  rw [Nat.add_sub_assoc hw.hdr_le]
  exact (Nat.dvd_add_right hw.base_al).2 (Nat.dvd_sub (hw.size_al hup) hc.hdr.dvd)

/-! ## The bridge to C11: `bumpProps` of an invariant state is a valid input of the bump functions -/

/-- `RawChunk::bump_props` always passes `debug_assert_valid`; every `Gen.Bumping.*` call inside the
    model can therefore be rewritten with C11 -/
theorem bumpProps_valid (hc : CfgOK cfg) (h : GeomInv cfg s) {L : Layout} {hints : Hints} (hL : L.Valid)
    (hh : hints.sma = true → L.align ∣ L.size) : C11.Valid cfg.up (bumpProps cfg s L hints) :=
  Arena.bumpProps_valid hc h hL hh

/-- with a real current chunk the range is a regular one -/
theorem bumpProps_regular (hc : CfgOK cfg) (h : GeomInv cfg s) {i : Nat} (hcur : s.cur = .chunk i)
    (L : Layout) (hints : Hints) : C11.Regular cfg.up (bumpProps cfg s L hints) :=
  Arena.bumpProps_regular hc h hcur L hints

/-- a claimed / unallocated arena presents the negative-capacity dummy range -/
theorem bumpProps_dummy (hcur : s.cur = .claimed ∨ s.cur = .unallocated) (L : Layout) (hints : Hints) :
    C11.Dummy (bumpProps cfg s L hints) :=
  Arena.bumpProps_dummy (by rcases hcur with h | h <;> intro i hi <;> rw [h] at hi <;> cases hi) L hints

example : C11.Valid exCfg.up (bumpProps exCfg exState { size := 24, align := 32 } Hints.custom) :=
  bumpProps_valid exCfg_ok exState_inv ⟨⟨5, by decide, rfl⟩, by decide⟩ (fun h => by cases h)

/-! ## `tryCur` (`RawChunk::alloc / prepare_allocation / prepare_allocation_range`) -/

/-- `tryCur` never faults and computes the hint-free wide-integer specification `tryCurSpec` -/
theorem tryCur_eq_spec (hc : CfgOK cfg) (h : GeomInv cfg s) (k : Kind) {L : Layout} {hints : Hints} (hL : L.Valid)
    (hh : hints.sma = true → L.align ∣ L.size) : tryCur cfg k s L hints = .ok (tryCurSpec cfg k s L) :=
  Arena.tryCur_eq hc h k hL hh

theorem tryCur_noFault (hc : CfgOK cfg) (h : GeomInv cfg s) (k : Kind) {L : Layout} {hints : Hints} (hL : L.Valid)
    (hh : hints.sma = true → L.align ∣ L.size) : ∃ r, tryCur cfg k s L hints = .ok r :=
  ⟨_, Arena.tryCur_eq hc h k hL hh⟩

/-- hint independence at the level of the arena -/
theorem tryCur_hint_independent (hc : CfgOK cfg) (h : GeomInv cfg s) (k : Kind) {L : Layout} {h1 h2 : Hints} (hL : L.Valid)
    (hh1 : h1.sma = true → L.align ∣ L.size) (hh2 : h2.sma = true → L.align ∣ L.size) :
    tryCur cfg k s L h1 = tryCur cfg k s L h2 := by
  rw [Arena.tryCur_eq hc h k hL hh1, Arena.tryCur_eq hc h k hL hh2]

/-- all three kinds preserve the invariant; only positions change -/
theorem tryCur_inv (hc : CfgOK cfg) (h : GeomInv cfg s) {k : Kind} {L : Layout} {hints : Hints} (hL : L.Valid)
    (hh : hints.sma = true → L.align ∣ L.size) {v : Nat × Nat} {s' : State}
    (he : tryCur cfg k s L hints = .ok (some (v, s'))) :
    GeomInv cfg s' ∧ SameShape s s' ∧ s'.cur = s.cur ∧ s'.minAlign = s.minAlign ∧ s'.resps = s.resps := by
  rw [Arena.tryCur_eq hc h k hL hh] at he
  have he' : tryCurSpec cfg k s L = some (v, s') := by injection he
  obtain ⟨m, g3, _⟩ := tryCurSpec_inv hc h hL he'
  exact ⟨m.inv, m.shape, g3, m.minAlign, m.resps⟩

/-- a claimed / unallocated arena serves nothing from its current (dummy) chunk -/
theorem tryCur_dummy (hc : CfgOK cfg) (h : GeomInv cfg s) (hcur : s.cur = .claimed ∨ s.cur = .unallocated)
    (k : Kind) {L : Layout} {hints : Hints} (hL : L.Valid) (hh : hints.sma = true → L.align ∣ L.size) :
    tryCur cfg k s L hints = .ok none := by
  rw [Arena.tryCur_eq hc h k hL hh, tryCurSpec_dummy _ k hL]
  rcases hcur with h | h <;> intro i hi <;> rw [h] at hi <;> cases hi

/-- `alloc`: the block is aligned, lies on the free side of the old position inside the content range,
    and the new position is just past it -/
theorem tryCur_alloc_block (hc : CfgOK cfg) (h : GeomInv cfg s) {L : Layout} {hints : Hints} (hL : L.Valid)
    (hh : hints.sma = true → L.align ∣ L.size) {v : Nat × Nat} {s' : State}
    (he : tryCur cfg .alloc s L hints = .ok (some (v, s'))) :
    ∃ i c np, s.cur = .chunk i ∧ s.chunks[i]? = some c ∧ s' = setCurPos s np ∧
      c.contentStart cfg ≤ np ∧ np ≤ c.contentEnd cfg ∧ s.minAlign ∣ np ∧ L.align ∣ v.1 ∧ v.2 = 0 ∧
      (if cfg.up then c.pos ≤ v.1 ∧ v.1 + L.size ≤ np ∧ np < v.1 + L.size + s.minAlign ∧ c.pos ≤ np
       else np = v.1 ∧ v.1 + L.size ≤ c.pos ∧ np ≤ c.pos) := by
  rw [Arena.tryCur_eq hc h .alloc hL hh] at he
  have he' : tryCurSpec cfg .alloc s L = some (v, s') := by injection he
  exact tryCurSpec_alloc_some hc h hL he'

example : (tryCurSpec exCfg .alloc exState { size := 24, align := 32 }).isSome = true := by decide

/-- `set_pos`-style update of chunk `i`: inside the content range, aligned if the chunk is current -/
theorem setPos_inv (h : GeomInv cfg s) {i p : Nat} {c : Chunk} (hi : s.chunks[i]? = some c)
    (h1 : c.contentStart cfg ≤ p) (h2 : p ≤ c.contentEnd cfg) (h3 : s.cur = .chunk i → s.minAlign ∣ p) :
    GeomInv cfg (setPos s i p) :=
  h.setPos hi h1 h2 h3

theorem setCurPos_inv (h : GeomInv cfg s) {i p : Nat} {c : Chunk} (hcur : s.cur = .chunk i) (hi : s.chunks[i]? = some c)
    (h1 : c.contentStart cfg ≤ p) (h2 : p ≤ c.contentEnd cfg) (h3 : s.minAlign ∣ p) :
    GeomInv cfg (setCurPos s p) :=
  (h.moveCur hcur hi h1 h2 h3).inv

example : GeomInv exCfg (setCurPos exState (0x10000 + 32 + 80)) :=
  setCurPos_inv exState_inv (i := 0) (c := exChunk) rfl rfl (by decide) (by decide) (by decide)

/-! ## Chunk creation -/

/-- `NonDummyChunk::new`: the new chunk is well formed whatever admissible block the base allocator
    hands out (a block smaller than requested is a fault, not a broken state) -/
theorem newChunk_inv (hc : CfgOK cfg) (h : GeomInv cfg s) (hr : RespsOK cfg s) {size : Nat}
    (hsz : cfg.hdr.size ≤ size) {s' : State} {r : Except AErr Nat} (he : newChunk cfg s size = .ok (s', r)) :
    GeomInv cfg s' ∧ RespsOK cfg s' ∧ s'.cur = s.cur ∧ s'.minAlign = s.minAlign :=
  have p := (newChunk_post hc h hr hsz he).1
  ⟨p.inv, p.resps, p.cur, p.minAlign⟩

/-- the new chunk is appended at the end, is at least as big as requested, and starts empty -/
theorem newChunk_appended (hc : CfgOK cfg) (h : GeomInv cfg s) (hr : RespsOK cfg s) {size : Nat}
    (hsz : cfg.hdr.size ≤ size) {s' : State} {i : Nat} (he : newChunk cfg s size = .ok (s', .ok i)) :
    i = s.chunks.length ∧ ∃ c, s'.chunks = s.chunks ++ [c] ∧ size ≤ c.size ∧ c.pos = (c.resetPos cfg).pos := by
  obtain ⟨p, q⟩ := newChunk_post hc h hr hsz he
  obtain ⟨e1, c, e2, _, e4⟩ := p.ok i rfl
  obtain ⟨c', e5, e6⟩ := q i rfl
  refine ⟨e1, c, e2, ?_, e4⟩
  rw [e2, e1, List.getElem?_concat_length] at e5
  cases e5; exact e6

/-- `newChunk` does not fault when a correct response (`RespOK`) is pending -/
theorem newChunk_noFault (hc : CfgOK cfg) (hr : RespsOK cfg s) {size : Nat}
    (hd : Spec.sizeAlign cfg.up cfg.hdr ∣ size) (hh : HeadOK cfg s size) :
    ∃ s' r, newChunk cfg s size = .ok (s', r) :=
  Arena.newChunk_noFault hc hr hd hh

theorem exState_resps : RespsOK exCfg exState := by
  intro r hr
  cases (List.mem_singleton.1 hr : r = .granted 0x40000 4000)
  exact ⟨by decide, by decide, by decide⟩

example : HeadOK exCfg exState 2032 := ⟨_, _, rfl, by decide, by decide, by decide, by decide⟩

theorem newChunkForCapacity_inv (hc : CfgOK cfg) (h : GeomInv cfg s) (hr : RespsOK cfg s) {L : Layout} (hL : L.Valid)
    {s' : State} {r : Except AErr Nat} (he : newChunkForCapacity cfg s L = .ok (s', r)) :
    GeomInv cfg s' ∧ RespsOK cfg s' ∧ s'.cur = s.cur ∧ s'.minAlign = s.minAlign :=
  have p := (newChunkForCapacity_post hc h hr hL).1 s' r he
  ⟨p.inv, p.resps, p.cur, p.minAlign⟩

theorem newChunkForCapacity_noFault (hc : CfgOK cfg) (h : GeomInv cfg s) (hr : RespsOK cfg s) {L : Layout} (hL : L.Valid)
    (hb : ∀ size, Spec.calcSize cfg.up cfg.hdr (Nat.max (Spec.hintFromCapacity cfg.up cfg.hdr L) cfg.minChunk) = some size →
        HeadOK cfg s size) :
    ∃ s' r, newChunkForCapacity cfg s L = .ok (s', r) :=
  (newChunkForCapacity_post hc h hr hL).2 hb

theorem appendFor_inv (hc : CfgOK cfg) (h : GeomInv cfg s) (hr : RespsOK cfg s) {L : Layout} (hL : L.Valid)
    {last : Chunk} (hlast : s.chunks.getLast? = some last)
    {s' : State} {r : Except AErr Nat} (he : appendFor cfg s L = .ok (s', r)) :
    GeomInv cfg s' ∧ RespsOK cfg s' ∧ s'.cur = s.cur ∧ s'.minAlign = s.minAlign :=
  have p := (appendFor_ok hc h hr hL hlast).1 _ he
  ⟨p.inv, p.resps, p.cur, p.minAlign⟩

theorem appendFor_noFault (hc : CfgOK cfg) (h : GeomInv cfg s) (hr : RespsOK cfg s) {L : Layout} (hL : L.Valid)
    {last : Chunk} (hlast : s.chunks.getLast? = some last)
    (hb : ∀ size, Spec.calcSize cfg.up cfg.hdr
        (Nat.max (Nat.max (Spec.hintFromCapacity cfg.up cfg.hdr L) (2 * last.size)) cfg.minChunk) = some size →
        HeadOK cfg s size) :
    ∃ s' r, appendFor cfg s L = .ok (s', r) :=
  (appendFor_ok hc h hr hL hlast).noFault hb

/-! ## The allocation slow path -/

/-- walking the successors never faults and keeps the invariant -/
theorem walkNext_inv (hc : CfgOK cfg) (h : GeomInv cfg s) (k : Kind) {L : Layout} {hints : Hints} (hL : L.Valid)
    (hh : hints.sma = true → L.align ∣ L.size) {j : Nat} (hcur : s.cur = .chunk j) (fuel i : Nat) :
    ∃ o s', walkNext cfg k L hints fuel i s = .ok (o, s') ∧ GeomInv cfg s' ∧ SameShape s s' ∧
      s'.minAlign = s.minAlign ∧ (∃ j, s'.cur = .chunk j) := by
  obtain ⟨o, s', e1, m, e7, _⟩ := walkNext_ok hc k hL hh fuel i s h ⟨j, hcur⟩
  exact ⟨o, s', e1, m.inv, m.shape, m.minAlign, e7⟩

/-- `in_another_chunk` preserves the invariant -/
theorem inAnotherChunk_inv (hc : CfgOK cfg) (h : GeomInv cfg s) (hr : RespsOK cfg s) (k : Kind)
    {L : Layout} {hints : Hints} (hL : L.Valid) (hh : hints.sma = true → L.align ∣ L.size)
    (hk : k = .range → L.align ∣ L.size) {s' : State} {r : Except AErr (Nat × Nat)}
    (he : inAnotherChunk cfg k s L hints = .ok (s', r)) : SlowPost cfg L s s' r :=
  ((inAnotherChunk_ok hc h hr k hL hh hk).1 _ he).1

/-- `in_another_chunk` does not fault when the base allocator answers its (at most one) request
    correctly; in particular the `unreachable_unchecked` after the creation of a chunk is unreachable:
    the layout always fits the chunk that was created for it (C12) -/
theorem inAnotherChunk_noFault (hc : CfgOK cfg) (h : GeomInv cfg s) (hr : RespsOK cfg s) (k : Kind)
    {L : Layout} {hints : Hints} (hL : L.Valid) (hh : hints.sma = true → L.align ∣ L.size)
    (hk : k = .range → L.align ∣ L.size) (hb : BaseOK cfg s L) :
    ∃ s' r, inAnotherChunk cfg k s L hints = .ok (s', r) :=
  (inAnotherChunk_ok hc h hr k hL hh hk).noFault hb

theorem allocGeneric_inv (hc : CfgOK cfg) (h : GeomInv cfg s) (hr : RespsOK cfg s) (k : Kind)
    {L : Layout} {hints hSlow : Hints} (hL : L.Valid) (hh : hints.sma = true → L.align ∣ L.size)
    (hhs : hSlow.sma = true → L.align ∣ L.size) (hk : k = .range → L.align ∣ L.size)
    {s' : State} {r : Except AErr (Nat × Nat)} (he : allocGeneric cfg k s L hints hSlow = .ok (s', r)) :
    SlowPost cfg L s s' r :=
  ((allocGeneric_ok hc h hr k hL hh hhs hk).1 _ he).1

theorem allocGeneric_noFault (hc : CfgOK cfg) (h : GeomInv cfg s) (hr : RespsOK cfg s) (k : Kind)
    {L : Layout} {hints hSlow : Hints} (hL : L.Valid) (hh : hints.sma = true → L.align ∣ L.size)
    (hhs : hSlow.sma = true → L.align ∣ L.size) (hk : k = .range → L.align ∣ L.size) (hb : BaseOK cfg s L) :
    ∃ s' r, allocGeneric cfg k s L hints hSlow = .ok (s', r) :=
  (allocGeneric_ok hc h hr k hL hh hhs hk).noFault hb

/-- `Allocator::allocate` -/
theorem alloc_inv (hc : CfgOK cfg) (h : GeomInv cfg s) (hr : RespsOK cfg s) {L : Layout} (hL : L.Valid)
    {s' : State} {r : Except AErr Nat} (he : alloc cfg s L = .ok (s', r)) : SlowPost cfg L s s' r :=
  (alloc_ok hc h hr hL).1 _ _ he

theorem alloc_noFault (hc : CfgOK cfg) (h : GeomInv cfg s) (hr : RespsOK cfg s) {L : Layout} (hL : L.Valid)
    (hb : BaseOK cfg s L) : ∃ s' r, alloc cfg s L = .ok (s', r) :=
  (alloc_ok hc h hr hL).2 hb

/-- a failed allocation leaves the current chunk where it was: when the base allocator refuses, `in_another_chunk`
    goes back to the chunk it started in instead of staying in the last chunk it walked to (crate commit c107ca6) -/
theorem alloc_error_cur (hc : CfgOK cfg) (h : GeomInv cfg s) (hr : RespsOK cfg s) {L : Layout} (hL : L.Valid)
    {s' : State} {e : AErr} (he : alloc cfg s L = .ok (s', .error e)) : s'.cur = s.cur :=
  (alloc_inv hc h hr hL he).cur_err e rfl

theorem allocGeneric_error_cur (hc : CfgOK cfg) (h : GeomInv cfg s) (hr : RespsOK cfg s) (k : Kind)
    {L : Layout} {hints hSlow : Hints} (hL : L.Valid) (hh : hints.sma = true → L.align ∣ L.size)
    (hhs : hSlow.sma = true → L.align ∣ L.size) (hk : k = .range → L.align ∣ L.size)
    {s' : State} {e : AErr} (he : allocGeneric cfg k s L hints hSlow = .ok (s', .error e)) : s'.cur = s.cur :=
  (allocGeneric_inv hc h hr k hL hh hhs hk he).cur_err e rfl

/-- each later chunk is strictly larger than its predecessor: preserved by every path of an allocation -/
theorem slow_sizesIncreasing {α : Type} (hc : CfgOK cfg) {L : Layout} {s' : State} {r : Except AErr α}
    (p : SlowPost cfg L s s' r) (h : GeomInv cfg s) (hs : SizesIncreasing s) (hu : UnallocEmpty s) :
    SizesIncreasing s' ∧ UnallocEmpty s' :=
  ⟨p.sizesIncreasing hc h hs hu, p.unallocEmpty hu⟩

example : SizesIncreasing exState := by
  intro i a b ha hb
  match i, ha, hb with
  | 0, ha, hb => cases ha; cases hb; decide
  | n+1, ha, hb => cases hb

/-- the example state answers the slow path's request (2032 bytes) correctly -/
example : BaseOK exCfg exState { size := 100, align := 8 } := by
  intro size hs
  have : requestSize exCfg exState { size := 100, align := 8 } = some 2032 := by decide
  rw [this] at hs; cases hs
  exact ⟨_, _, rfl, by decide, by decide, by decide, by decide⟩

/-! ## deallocate, reset_to, reset, reset_to_start -/

theorem deallocAssumeLast_inv (hc : CfgOK cfg) (h : GeomInv cfg s) {ptr size : Nat} (hb : BlockInCur cfg s ptr size)
    {s' : State} (he : deallocAssumeLast cfg s ptr size = .ok s') :
    GeomInv cfg s' ∧ SameShape s s' ∧ s'.cur = s.cur ∧ s'.minAlign = s.minAlign ∧ s'.resps = s.resps :=
  have p := (deallocAssumeLast_ok hc h hb).1 _ he
  ⟨p.1.inv, p.1.shape, p.2, p.1.minAlign, p.1.resps⟩

theorem deallocAssumeLast_noFault (hc : CfgOK cfg) (h : GeomInv cfg s) {ptr size : Nat} (hb : BlockInCur cfg s ptr size) :
    ∃ s', deallocAssumeLast cfg s ptr size = .ok s' :=
  (deallocAssumeLast_ok hc h hb).2 trivial

/-- `deallocate`: the caller's block, if it is the last one, lies in the current chunk -/
theorem deallocate_inv (hc : CfgOK cfg) (h : GeomInv cfg s) {ptr size : Nat}
    (hb : isLast cfg s ptr size = true → BlockInCur cfg s ptr size)
    {s' : State} (he : deallocate cfg s ptr size = .ok s') :
    GeomInv cfg s' ∧ SameShape s s' ∧ s'.cur = s.cur ∧ s'.minAlign = s.minAlign ∧ s'.resps = s.resps :=
  have p := (deallocate_ok hc h hb).1 _ he
  ⟨p.1.inv, p.1.shape, p.2, p.1.minAlign, p.1.resps⟩

theorem deallocate_noFault (hc : CfgOK cfg) (h : GeomInv cfg s) {ptr size : Nat}
    (hb : isLast cfg s ptr size = true → BlockInCur cfg s ptr size) :
    ∃ s', deallocate cfg s ptr size = .ok s' :=
  (deallocate_ok hc h hb).2 trivial

example : BlockInCur exCfg exState (0x10000 + 32) 40 :=
  ⟨0, exChunk, rfl, rfl, by decide, by decide, by decide⟩

theorem resetTo_inv (hc : CfgOK cfg) (h : GeomInv cfg s) {cp : Checkpoint} (hcp : CheckpointOK cfg s cp)
    {s' : State} (he : resetTo cfg s cp = .ok s') :
    GeomInv cfg s' ∧ SameShape s s' ∧ s'.minAlign = s.minAlign ∧ s'.resps = s.resps :=
  have p := ((resetTo_ok hc h hcp).1 _ he).1
  ⟨p.inv, p.shape, p.minAlign, p.resps⟩

theorem resetTo_noFault (hc : CfgOK cfg) (h : GeomInv cfg s) {cp : Checkpoint} (hcp : CheckpointOK cfg s cp) :
    ∃ s', resetTo cfg s cp = .ok s' :=
  (resetTo_ok hc h hcp).2 trivial

example : CheckpointOK exCfg exState { cur := .chunk 0, addr := 0x10000 + 32 + 3 } :=
  ⟨exChunk, rfl, by decide, by decide⟩

theorem reset_inv (hc : CfgOK cfg) (h : GeomInv cfg s) : GeomInv cfg (reset cfg s) :=
  Arena.reset_inv hc h

theorem reset_sizesIncreasing (hs : SizesIncreasing s) : SizesIncreasing (reset cfg s) :=
  Arena.reset_sizesIncreasing hs

theorem resetToStart_inv (hc : CfgOK cfg) (h : GeomInv cfg s) :
    GeomInv cfg (resetToStart cfg s) ∧ SameShape s (resetToStart cfg s) :=
  ⟨resetToStart_inv_min hc h h.minAlign, resetToStart_shape s⟩

/-! ## minimum-alignment changes -/

/-- `align_to::<N>` never faults; afterwards the state satisfies the invariant for the old and for the
    new minimum alignment -/
theorem alignTo_inv (hc : CfgOK cfg) (h : GeomInv cfg s) {n : Nat} (hn : MinAlignOK n)
    {s' : State} (he : alignTo cfg s n = .ok s') :
    GeomInv cfg s' ∧ GeomInv cfg { s' with minAlign := n } ∧ SameShape s s' ∧ s'.cur = s.cur ∧ s'.resps = s.resps :=
  have p := (alignTo_ok hc h hn).1 _ he
  ⟨p.1.inv, p.2.1, p.1.shape, p.2.2, p.1.resps⟩

theorem alignTo_noFault (hc : CfgOK cfg) (h : GeomInv cfg s) {n : Nat} (hn : MinAlignOK n) :
    ∃ s', alignTo cfg s n = .ok s' :=
  (alignTo_ok hc h hn).2 trivial

theorem alignGuardDrop_inv (hc : CfgOK cfg) (h : GeomInv cfg s) {outer : Nat} (hn : MinAlignOK outer)
    {s' : State} (he : alignGuardDrop cfg s outer = .ok s') :
    GeomInv cfg s' ∧ GeomInv cfg { s' with minAlign := outer } ∧ SameShape s s' ∧ s'.cur = s.cur ∧ s'.resps = s.resps :=
  have p := (alignGuardDrop_ok hc h hn).1 _ he
  ⟨p.1.inv, p.2.1, p.1.shape, p.2.2.1, p.1.resps⟩

theorem alignGuardDrop_noFault (hc : CfgOK cfg) (h : GeomInv cfg s) {outer : Nat} (hn : MinAlignOK outer) :
    ∃ s', alignGuardDrop cfg s outer = .ok s' :=
  (alignGuardDrop_ok hc h hn).2 trivial

/-- second half of `BumpAlignGuard::drop`: the chunk the guard started in is re-aligned too (finding C18-e, crate
    commit 58eb2b5); the geometry invariant survives under the inner and the outer minimum
    alignment, and the current chunk is not touched -/
theorem alignChunkAt_inv (hc : CfgOK cfg) (h : GeomInv cfg s) {outer : Nat} (hn : MinAlignOK outer) {st : Cur}
    {s' : State} (he : alignChunkAt cfg s outer st = .ok s') :
    GeomInv cfg s' ∧ (GeomInv cfg { s with minAlign := outer } → GeomInv cfg { s' with minAlign := outer }) ∧
      SameShape s s' ∧ s'.cur = s.cur ∧ s'.resps = s.resps ∧
      (∀ i, s.cur = .chunk i → s'.chunks[i]? = s.chunks[i]?) :=
  have p := (alignChunkAt_ok hc h hn st).1 _ he
  ⟨p.1.inv, p.2.1, p.1.shape, p.2.2.1, p.1.resps, p.2.2.2⟩

theorem alignChunkAt_noFault (hc : CfgOK cfg) (h : GeomInv cfg s) {outer : Nat} (hn : MinAlignOK outer) (st : Cur) :
    ∃ s', alignChunkAt cfg s outer st = .ok s' :=
  (alignChunkAt_ok hc h hn st).2 trivial

theorem reserve_inv (hc : CfgOK cfg) (h : GeomInv cfg s) (hr : RespsOK cfg s) {additional : Nat}
    {s' : State} {r : Except AErr Unit} (he : reserve cfg s additional = .ok (s', r)) :
    GeomInv cfg s' ∧ RespsOK cfg s' ∧ s'.minAlign = s.minAlign :=
  have p := (reserve_ok hc h hr additional).1 _ he
  ⟨p.inv, p.resps, p.minAlign⟩

theorem reserve_noFault (hc : CfgOK cfg) (h : GeomInv cfg s) (hr : RespsOK cfg s) {additional : Nat}
    (hb : ∀ rest, rest ≤ additional → BaseOK cfg s { size := rest, align := 1 }) :
    ∃ s' r, reserve cfg s additional = .ok (s', r) :=
  (reserve_ok hc h hr additional).noFault hb

theorem reserveDyn_inv (hc : CfgOK cfg) (h : GeomInv cfg s) (hr : RespsOK cfg s) {additional : Nat}
    {s' : State} {r : Except AErr Unit} (he : reserveDyn cfg s additional = .ok (s', r)) :
    GeomInv cfg s' ∧ RespsOK cfg s' ∧ s'.minAlign = s.minAlign :=
  have p := (reserveDyn_ok hc h hr additional).1 _ he
  ⟨p.inv, p.resps, p.minAlign⟩

theorem reserveDyn_noFault (hc : CfgOK cfg) (h : GeomInv cfg s) (hr : RespsOK cfg s) {additional : Nat}
    (hb : BaseOK cfg s { size := additional, align := 1 }) :
    ∃ s' r, reserveDyn cfg s additional = .ok (s', r) :=
  (reserveDyn_ok hc h hr additional).noFault hb

/-! ## make_allocated, drop -/

theorem makeAllocated_inv (hc : CfgOK cfg) (h : GeomInv cfg s) (hr : RespsOK cfg s)
    {s' : State} {r : Except AErr Unit} (he : makeAllocated cfg s = .ok (s', r)) :
    GeomInv cfg s' ∧ RespsOK cfg s' ∧ s'.minAlign = s.minAlign ∧ (r = .ok () → ∃ j, s'.cur = .chunk j) :=
  have p := (makeAllocated_ok hc h hr).1 _ he
  ⟨p.1.inv, p.1.resps, p.1.minAlign, p.2⟩

/-- `make_allocated` does not fault when `ChunkSize::MINIMUM` is computable (a compile-time check in
    the crate) and the base allocator answers correctly -/
theorem makeAllocated_noFault (hc : CfgOK cfg) (h : GeomInv cfg s) (hr : RespsOK cfg s)
    (hb : ∀ size, Spec.calcSize cfg.up cfg.hdr cfg.minChunk = some size → HeadOK cfg s size)
    (hmin : ∃ size, Spec.calcSize cfg.up cfg.hdr cfg.minChunk = some size) :
    ∃ s' r, makeAllocated cfg s = .ok (s', r) :=
  (makeAllocated_ok hc h hr).noFault ⟨hb, hmin⟩

example : Spec.calcSize exCfg.up exCfg.hdr exCfg.minChunk = some 496 := by decide

theorem manuallyDrop_inv (h : GeomInv cfg s) : GeomInv cfg (manuallyDrop cfg s) :=
  Arena.manuallyDrop_inv h

/-! ## memory writes keep the geometry -/

/-- writing bytes changes bytes only -/
theorem writeRange_inv (h : GeomInv cfg s) {lo hi : Nat} {f : Nat → UInt8} {s' : State}
    (he : writeRange cfg s lo hi f = .ok s') : GeomInv cfg s' ∧ SameGeom s s' :=
  ⟨(writeRange_geom he).inv h, writeRange_geom he⟩

/-- `ptr::copy(_nonoverlapping)` changes bytes only -/
theorem copyBytes_inv (h : GeomInv cfg s) {src dst len : Nat} {no : Bool} {s' : State}
    (he : copyBytes cfg s src dst len no = .ok s') : GeomInv cfg s' ∧ SameGeom s s' :=
  ⟨(copyBytes_geom he).inv h, copyBytes_geom he⟩

/-! ## grow, shrink, shrink_slice, committing prepared allocations

The block argument must satisfy what the safety contract gives: if it is the last allocation
(`isLast`) it lies in the content range of the current chunk on the allocated side of the position
(`BlockInCur`).  Preservation first; the "no fault" companions follow below: they additionally need
that chunks do not overlap (`ChunksDisjoint`, `RespsFresh`) and where the live block is (`LiveBlock`). -/

theorem grow_inv (hc : CfgOK cfg) (h : GeomInv cfg s) (hr : RespsOK cfg s) {ptr oldSize : Nat}
    {newL : Layout} (hL : newL.Valid) (hb : isLast cfg s ptr oldSize = true → BlockInCur cfg s ptr oldSize)
    {s' : State} {r : Except AErr Nat} (he : grow cfg s ptr oldSize newL = .ok (s', r)) :
    GeomInv cfg s' ∧ RespsOK cfg s' ∧ s'.minAlign = s.minAlign :=
  have p := ((grow_ok hc h hr hL hb).1 _ he).1
  ⟨p.inv, p.resps, p.minAlign⟩

theorem shrink_inv (hc : CfgOK cfg) (h : GeomInv cfg s) (hr : RespsOK cfg s) {ptr oldSize : Nat}
    {newL : Layout} (hL : newL.Valid) (hb : isLast cfg s ptr oldSize = true → BlockInCur cfg s ptr oldSize)
    {s' : State} {r : Except AErr (Nat × Nat)} (he : shrink cfg s ptr oldSize newL = .ok (s', r)) :
    GeomInv cfg s' ∧ RespsOK cfg s' ∧ s'.minAlign = s.minAlign :=
  have p := shrink_post hc h hr hL hb he
  ⟨p.inv, p.resps, p.minAlign⟩

/-- `WithoutShrink::shrink` -/
theorem shrinkWithoutShrink_inv (hc : CfgOK cfg) (h : GeomInv cfg s) (hr : RespsOK cfg s) {ptr oldSize : Nat}
    {newL : Layout} (hL : newL.Valid)
    {s' : State} {r : Except AErr (Nat × Nat)} (he : shrinkWithoutShrink cfg s ptr oldSize newL = .ok (s', r)) :
    GeomInv cfg s' ∧ RespsOK cfg s' ∧ s'.minAlign = s.minAlign :=
  have p := shrinkWithoutShrink_post hc h hr hL he
  ⟨p.inv, p.resps, p.minAlign⟩

/-- `shrink_slice`: `ealign` is the alignment of the element type, which divides the slice address -/
theorem shrinkSlice_inv (hc : CfgOK cfg) (h : GeomInv cfg s) (hr : RespsOK cfg s)
    {ptr oldSize newSize ealign : Nat} (hal : ∃ k, k < 64 ∧ ealign = 2 ^ k) (hap : ealign ∣ ptr)
    (hsz : newSize ≤ oldSize) (hb : isLast cfg s ptr oldSize = true → BlockInCur cfg s ptr oldSize)
    {s' : State} {r : Option Nat} (he : shrinkSlice cfg s ptr oldSize newSize ealign = .ok (s', r)) :
    GeomInv cfg s' ∧ RespsOK cfg s' ∧ s'.minAlign = s.minAlign := by
  obtain ⟨k, hk, hk2⟩ := hal
  have p := shrinkSlice_post hc h hr ⟨k, hk2⟩ (by rw [hk2]; exact Nat.pow_lt_pow_right (by decide) hk) hap hsz hb he
  exact ⟨p.inv, p.resps, p.minAlign⟩

/-- `allocate_prepared(_rev)`: the prepared range lies in the content range of the current chunk -/
theorem allocatePrepared_inv (hc : CfgOK cfg) (h : GeomInv cfg s) (hr : RespsOK cfg s)
    {size rstart rend : Nat} {rev : Bool} (hrange : RangeInCur cfg s rstart rend) (hsz : size ≤ rend - rstart)
    {s' : State} {a : Nat} (he : allocatePrepared cfg s size rstart rend rev = .ok (s', a)) :
    GeomInv cfg s' ∧ RespsOK cfg s' ∧ s'.minAlign = s.minAlign :=
  have p := ((allocatePrepared_ok hc h rev hrange hsz).1 _ he).basic hr
  ⟨p.inv, p.resps, p.minAlign⟩

/-- `allocate_prepared_slice(_rev)`: `ptr` is the start (forward) or the end (rev) of the `cap` prepared slots -/
theorem allocatePreparedSlice_inv (hc : CfgOK cfg) (h : GeomInv cfg s) (hr : RespsOK cfg s)
    {ptr len cap esize ealign : Nat} {rev : Bool} (hal : ∃ k, ealign = 2 ^ k)
    (hrange : RangeInCur cfg s (if rev then ptr - cap * esize else ptr) (if rev then ptr else ptr + cap * esize))
    (hrev : rev = true → cap * esize ≤ ptr) (hlen : len ≤ cap)
    {s' : State} {a : Nat} (he : allocatePreparedSlice cfg s ptr len cap esize ealign rev = .ok (s', a)) :
    GeomInv cfg s' ∧ RespsOK cfg s' ∧ s'.minAlign = s.minAlign :=
  have p := ((allocatePreparedSlice_ok hc h rev hrange hrev hlen).1 _ he hal).basic hr
  ⟨p.inv, p.resps, p.minAlign⟩

example : RangeInCur exCfg exState (0x10000 + 32 + 48) (0x10000 + 32 + 448) :=
  ⟨0, exChunk, rfl, rfl, by decide, by decide, by decide⟩

example : isLast exCfg exState (0x10000 + 32) 40 = true ∧ BlockInCur exCfg exState (0x10000 + 32) 40 :=
  ⟨by decide, 0, exChunk, rfl, rfl, by decide, by decide, by decide⟩

/-! ## "no fault" for the operations that copy bytes

These need, beyond `GeomInv`, that the chunks do not overlap (`ChunksDisjoint`): the model locates the
chunk of a copied range by address. -/

/-- a live block that passes the `is_last` test lies in the current chunk (the header between the
    content ranges of different chunks keeps positions of other chunks apart) -/
theorem liveBlock_isLast_inCur (hc : CfgOK cfg) (h : GeomInv cfg s) (hd : ChunksDisjoint s) {ptr size : Nat}
    (hl : LiveBlock cfg s ptr size) (hlast : isLast cfg s ptr size = true) : BlockInCur cfg s ptr size :=
  hl.blockInCur hc h hd hlast

theorem copyBytes_noFault (h : GeomInv cfg s) (hd : ChunksDisjoint s) {src dst len : Nat} {no : Bool}
    (hsrc : BlockInChunk cfg s src len) (hdst : BlockInChunk cfg s dst len)
    (hno : no = true → src + len ≤ dst ∨ dst + len ≤ src) :
    ∃ s', copyBytes cfg s src dst len no = .ok s' := by
  obtain ⟨i, c, hi, h1, h2⟩ := hsrc
  obtain ⟨j, d, hj, h3, h4⟩ := hdst
  have hw := h.chunks i c hi
  have hbs := hw.base_le_start
  have hel := hw.end_le
  exact Arena.copyBytes_noFault ⟨hd, ⟨i, c, hi, by omega, by omega⟩, ⟨j, d, hj, h.chunks j d hj, h3, h4⟩, hno⟩

theorem allocatePrepared_noFault (hc : CfgOK cfg) (h : GeomInv cfg s) (hd : ChunksDisjoint s)
    {size rstart rend : Nat} (rev : Bool) (hrange : RangeInCur cfg s rstart rend) (hsz : size ≤ rend - rstart) :
    ∃ s' a, allocatePrepared cfg s size rstart rend rev = .ok (s', a) :=
  (allocatePrepared_ok hc h rev hrange hsz).noFault hd

theorem allocatePreparedSlice_noFault (hc : CfgOK cfg) (h : GeomInv cfg s) (hd : ChunksDisjoint s)
    {ptr len cap esize ealign : Nat} (rev : Bool) (he1 : ealign ∣ esize) (he2 : ealign ∣ ptr)
    (hrange : RangeInCur cfg s (if rev then ptr - cap * esize else ptr) (if rev then ptr else ptr + cap * esize))
    (hrev : rev = true → cap * esize ≤ ptr) (hlen : len ≤ cap) :
    ∃ s' a, allocatePreparedSlice cfg s ptr len cap esize ealign rev = .ok (s', a) :=
  (allocatePreparedSlice_ok hc h rev hrange hrev hlen).noFault ⟨hd, he1, he2⟩

theorem shrinkSlice_noFault (hc : CfgOK cfg) (h : GeomInv cfg s) (hd : ChunksDisjoint s)
    {ptr oldSize newSize ealign : Nat} (hal : ∃ k, k < 64 ∧ ealign = 2 ^ k) (hap : ealign ∣ ptr)
    (hsz : newSize ≤ oldSize) (hl : LiveBlock cfg s ptr oldSize) :
    ∃ s' r, shrinkSlice cfg s ptr oldSize newSize ealign = .ok (s', r) := by
  obtain ⟨k, hk, hk2⟩ := hal
  exact (shrinkSlice_ok hc h ⟨k, hk2⟩ (by rw [hk2]; exact Nat.pow_lt_pow_right (by decide) hk) hap hsz
    (hl.blockInCur hc h hd)).noFault hd

example : ChunksDisjoint exState := by
  intro i j a b hij ha hb
  match i, j, ha, hb with
  | 0, 0, _, _ => exact absurd rfl hij
  | 0, 1, ha, hb => cases ha; cases hb; decide
  | 1, 0, ha, hb => cases ha; cases hb; decide
  | 1, 1, _, _ => exact absurd rfl hij
  | n+2, _, ha, _ => cases ha
  | 0, n+2, _, hb => cases hb
  | 1, n+2, _, hb => cases hb

example : LiveBlock exCfg exState (0x10000 + 32) 40 :=
  ⟨0, 0, exChunk, rfl, Nat.le_refl _, rfl, by decide, by decide, fun _ => by decide⟩

/-- `grow` never faults: in particular the block obtained through the fast or the slow path never
    overlaps the block that is moved (`copy_nonoverlapping` is sound), and the in-place paths stay inside
    the chunk -/
theorem grow_noFault (hc : CfgOK cfg) (h : GeomInv cfg s) (hr : RespsOK cfg s)
    (hd : ChunksDisjoint s) (hf : RespsFresh s) {ptr oldSize : Nat} {newL : Layout} (hL : newL.Valid)
    (hsz : oldSize ≤ newL.size) (hl : LiveBlock cfg s ptr oldSize) (hb : BaseOK cfg s newL) :
    ∃ s' r, grow cfg s ptr oldSize newL = .ok (s', r) :=
  (grow_ok hc h hr hL (hl.blockInCur hc h hd)).noFault ⟨hsz, hd, hf, .inr hl, hb⟩

theorem shrink_noFault (hc : CfgOK cfg) (h : GeomInv cfg s) (hr : RespsOK cfg s)
    (hd : ChunksDisjoint s) (hf : RespsFresh s) {ptr oldSize : Nat} {newL : Layout} (hL : newL.Valid)
    (hsz : newL.size ≤ oldSize) (hl : LiveBlock cfg s ptr oldSize) (hb : BaseOK cfg s newL) :
    ∃ s' r, shrink cfg s ptr oldSize newL = .ok (s', r) :=
  (shrink_ok hc h hr hL (hl.blockInCur hc h hd)).noFault ⟨hsz, hd, hf, .inr hl, hb⟩

theorem shrinkWithoutShrink_noFault (hc : CfgOK cfg) (h : GeomInv cfg s) (hr : RespsOK cfg s)
    (hd : ChunksDisjoint s) (hf : RespsFresh s) {ptr oldSize : Nat} {newL : Layout} (hL : newL.Valid)
    (hsz : newL.size ≤ oldSize) (hl : LiveBlock cfg s ptr oldSize) (hb : BaseOK cfg s newL) :
    ∃ s' r, shrinkWithoutShrink cfg s ptr oldSize newL = .ok (s', r) :=
  (shrinkWithoutShrink_ok hc h hr hL).noFault ⟨hsz, hd, hf, .inr hl, hb⟩

example : RespsFresh exState := by
  refine ⟨List.pairwise_singleton _ _, ?_⟩
  intro p g hm i c hc
  cases (List.mem_singleton.1 hm : BaseResp.granted p g = .granted 0x40000 4000)
  rcases exState_chunks hc with rfl | rfl <;> decide

/-! ## Chunks stay disjoint

`Trace s s'` (in `Lemmas/GeomNew.lean`) records how the chunk list and the pending responses evolve:
nothing new up to positions/bytes (possibly a refusal consumed), or exactly one new chunk inside the
block just granted.  The post-conditions `NewPost`, `SlowPost`, `BasicPost`, `ReservePost` carry it (field `trace`;
the position-only `MovePost` has `shape` and `resps` instead); along a `Trace` chunk disjointness and freshness of
the pending responses are preserved. -/

theorem trace_disjoint {s' : State} (t : Trace s s') (hd : ChunksDisjoint s) (hf : RespsFresh s) :
    ChunksDisjoint s' ∧ RespsFresh s' :=
  t.disjoint hd hf

theorem sameShape_disjoint {s' : State} (hsh : SameShape s s') (hd : ChunksDisjoint s) : ChunksDisjoint s' :=
  hsh.disjoint hd

theorem alloc_trace (hc : CfgOK cfg) (h : GeomInv cfg s) (hr : RespsOK cfg s) {L : Layout} (hL : L.Valid)
    {s' : State} {r : Except AErr Nat} (he : alloc cfg s L = .ok (s', r)) : Trace s s' :=
  (alloc_inv hc h hr hL he).trace

theorem grow_trace (hc : CfgOK cfg) (h : GeomInv cfg s) (hr : RespsOK cfg s) {ptr oldSize : Nat}
    {newL : Layout} (hL : newL.Valid) (hb : isLast cfg s ptr oldSize = true → BlockInCur cfg s ptr oldSize)
    {s' : State} {r : Except AErr Nat} (he : grow cfg s ptr oldSize newL = .ok (s', r)) : Trace s s' :=
  ((grow_ok hc h hr hL hb).1 _ he).1.trace

theorem shrink_trace (hc : CfgOK cfg) (h : GeomInv cfg s) (hr : RespsOK cfg s) {ptr oldSize : Nat}
    {newL : Layout} (hL : newL.Valid) (hb : isLast cfg s ptr oldSize = true → BlockInCur cfg s ptr oldSize)
    {s' : State} {r : Except AErr (Nat × Nat)} (he : shrink cfg s ptr oldSize newL = .ok (s', r)) : Trace s s' :=
  (shrink_post hc h hr hL hb he).trace

theorem reserve_trace (hc : CfgOK cfg) (h : GeomInv cfg s) (hr : RespsOK cfg s) {additional : Nat}
    {s' : State} {r : Except AErr Unit} (he : reserve cfg s additional = .ok (s', r)) : Trace s s' :=
  ((reserve_ok hc h hr additional).1 _ he).trace

theorem reset_disjoint (hd : ChunksDisjoint s) : ChunksDisjoint (reset cfg s) :=
  Arena.reset_disjoint hd

/-! ## the initial state -/

/-- the state every history starts from satisfies all the invariants of this file -/
theorem initState_inv (hc : CfgOK cfg) :
    GeomInv cfg (initState cfg) ∧ SizesIncreasing (initState cfg) ∧ UnallocEmpty (initState cfg) ∧
      ChunksDisjoint (initState cfg) := by
  refine ⟨⟨?_, hc.minAlign0, ?_⟩, ?_, fun _ => rfl, ?_⟩
  · intro i c hi; simp [initState] at hi
  · intro i hi; simp [initState] at hi
  · intro i a b ha _; simp [initState] at ha
  · intro i j a b _ ha _; simp [initState] at ha

example : CfgOK exCfg := exCfg_ok
example : CfgOK exCfgDown := exCfgDown_ok

example : GeomInv exCfg exState := exState_inv
example : GeomInv exCfgDown exStateDown := exStateDown_inv
example : GeomInv exCfg exStateUnalloc := exStateUnalloc_inv
example : (stats exCfg exState).allocated = 40 ∧ (stats exCfg exState).remaining = 424 + 944 := by decide

end C10
