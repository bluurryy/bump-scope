/-
  Props/C07.lean — property C07: allocation failure is reported as an error value and leaves
  all state intact.  Over the arena model (`Arena/Model.lean`): a fault (panic / UB / abort) is `Except.error`,
  a reported allocation error is `.ok (s', .error e)`.

  `Ledger.Intact s s'` (Lemmas/LedgerIntact.lean) spells out "intact": same live blocks and ghost
  state, same chunks with the same address ranges and the SAME BYTES, same bump positions up to
  and including the current chunk, and the same current chunk (`in_another_chunk` goes back to it: crate commit c107ca6).
-/
import BumpProof.Lemmas.LedgerFail
import BumpProof.Lemmas.LedgerIntact
import BumpProof.Lemmas.LedgerEx

namespace C07
open Arena Rs Ledger

/-- request bookkeeping of a failed call: at most one request was made (an `alloc` with the header
    alignment), at most one response consumed, and if the error is not a base-allocator refusal
    (`capacityOverflow`, `claimed`) the base allocator was not involved at all -/
def FailLedger (cfg : Cfg) (s s' : State) (e : AErr) : Prop :=
  (s'.reqs = s.reqs ∨ ∃ size, s'.reqs = s.reqs ++ [BaseReq.alloc size cfg.hdr.align]) ∧
  (s'.resps = s.resps ∨ ∃ x, s.resps = x :: s'.resps) ∧
  (e ≠ .alloc → s'.reqs = s.reqs ∧ s'.resps = s.resps) ∧
  (e = .claimed ↔ s.cur = .claimed)

theorem FailLedger.of_frame {cfg : Cfg} {s s' : State} {α : Type} {r : Except AErr α} {e : AErr}
    (h : SlowFrame cfg s s' r) (he : r = .error e) : FailLedger cfg s s' e :=
  ⟨h.reqs, h.resps, (h.err e he).2.2.1, (h.err e he).2.2.2⟩

/-! ## Whenever an error is reported, the state is intact

  These hold for EVERY way the call can end in an error (refusal of the base allocator at any point,
  size overflow, claimed arena), for every state and every input: no hypotheses. -/

theorem inAnotherChunk_error_intact {cfg : Cfg} {k : Kind} {s s' : State} {L : Layout} {h : Hints} {e : AErr}
    (hr : inAnotherChunk cfg k s L h = .ok (s', .error e)) : Intact s s' ∧ FailLedger cfg s s' e :=
  ⟨(inAnotherChunk_frame hr).intact rfl, FailLedger.of_frame (inAnotherChunk_frame hr) rfl⟩

theorem allocGeneric_error_intact {cfg : Cfg} {k : Kind} {s s' : State} {L : Layout} {h hs : Hints} {e : AErr}
    (hr : allocGeneric cfg k s L h hs = .ok (s', .error e)) : Intact s s' ∧ FailLedger cfg s s' e := by
  obtain ⟨_, hf⟩ := (allocGeneric_frame hr).2.2.2 e rfl
  exact ⟨hf.intact rfl, FailLedger.of_frame hf rfl⟩

theorem alloc_error_intact {cfg : Cfg} {s s' : State} {L : Layout} {e : AErr}
    (hr : alloc cfg s L = .ok (s', .error e)) : Intact s s' ∧ FailLedger cfg s s' e := by
  obtain ⟨_, hf⟩ := (alloc_frame hr).2.2.2 e rfl
  exact ⟨hf.intact rfl, FailLedger.of_frame hf rfl⟩

/-- `reserve`: additionally the chunk list is unchanged (`s'.cur = s.cur` repeats `Intact.sameCur`) -/
theorem reserve_error_intact {cfg : Cfg} {s s' : State} {add : Nat} {e : AErr}
    (hr : reserve cfg s add = .ok (s', .error e)) :
    Intact s s' ∧ FailLedger cfg s s' e ∧ s'.cur = s.cur ∧ s'.chunks = s.chunks := by
  obtain ⟨h1, hf, h3⟩ := reserve_frame hr
  exact ⟨hf.intact rfl, FailLedger.of_frame hf rfl, h3 e rfl, Ext.chunks_eq h1 (hf.err e rfl).1⟩

theorem reserveDyn_error_intact {cfg : Cfg} {s s' : State} {add : Nat} {e : AErr}
    (hr : reserveDyn cfg s add = .ok (s', .error e)) : Intact s s' ∧ s'.reqs.length ≤ s.reqs.length + 1 := by
  rcases Hist.reserveDyn_cases hr with ⟨rfl, _⟩ | ⟨_, _ | _, h1, hr⟩
  · exact ⟨Intact.refl _, Nat.le_succ _⟩
  · obtain ⟨hi, hl⟩ := allocGeneric_error_intact h1
    refine ⟨hi, ?_⟩
    rcases hl.1 with h | ⟨sz, h⟩ <;> rw [h]
    · exact Nat.le_succ _
    · exact Nat.le_of_eq List.length_append
  · cases hr

/-- `grow` (allocator interface): a failed grow leaves the old block and everything else intact -/
theorem grow_error_intact {cfg : Cfg} {s s' : State} {ptr oldSize : Nat} {newL : Layout} {e : AErr}
    (hr : grow cfg s ptr oldSize newL = .ok (s', .error e)) : Intact s s' ∧ FailLedger cfg s s' e := by
  rcases grow_error hr with h1 | h1
  · exact inAnotherChunk_error_intact h1
  · exact alloc_error_intact h1

/-- `shrink` (allocator interface; it allocates when the alignment is raised) -/
theorem shrink_error_intact {cfg : Cfg} {s s' : State} {ptr oldSize : Nat} {newL : Layout} {e : AErr}
    (hr : shrink cfg s ptr oldSize newL = .ok (s', .error e)) : Intact s s' ∧ FailLedger cfg s s' e := by
  rcases shrink_error hr with h1 | h1
  · exact inAnotherChunk_error_intact h1
  · exact alloc_error_intact h1

/-! ## A failed call leaves the allocator in the chunk it started in

  (Crate commit c107ca6.)  Together with
  `Intact.pos` this means: after an error the current chunk and its bump position — the place the next
  allocation is served from — are exactly what they were. -/

theorem inAnotherChunk_error_keeps_cur {cfg : Cfg} {k : Kind} {s s' : State} {L : Layout} {h : Hints} {e : AErr}
    (hr : inAnotherChunk cfg k s L h = .ok (s', .error e)) : s'.cur = s.cur :=
  (inAnotherChunk_error_intact hr).1.sameCur

theorem allocGeneric_error_keeps_cur {cfg : Cfg} {k : Kind} {s s' : State} {L : Layout} {h hs : Hints} {e : AErr}
    (hr : allocGeneric cfg k s L h hs = .ok (s', .error e)) : s'.cur = s.cur :=
  (allocGeneric_error_intact hr).1.sameCur

theorem alloc_error_keeps_cur {cfg : Cfg} {s s' : State} {L : Layout} {e : AErr}
    (hr : alloc cfg s L = .ok (s', .error e)) : s'.cur = s.cur ∧ curPos cfg s' = curPos cfg s :=
  ⟨(alloc_error_intact hr).1.sameCur, (alloc_error_intact hr).1.curPos cfg⟩

theorem grow_error_keeps_cur {cfg : Cfg} {s s' : State} {ptr oldSize : Nat} {newL : Layout} {e : AErr}
    (hr : grow cfg s ptr oldSize newL = .ok (s', .error e)) : s'.cur = s.cur :=
  (grow_error_intact hr).1.sameCur

theorem shrink_error_keeps_cur {cfg : Cfg} {s s' : State} {ptr oldSize : Nat} {newL : Layout} {e : AErr}
    (hr : shrink cfg s ptr oldSize newL = .ok (s', .error e)) : s'.cur = s.cur :=
  (shrink_error_intact hr).1.sameCur

theorem reserveDyn_error_keeps_cur {cfg : Cfg} {s s' : State} {add : Nat} {e : AErr}
    (hr : reserveDyn cfg s add = .ok (s', .error e)) : s'.cur = s.cur :=
  (reserveDyn_error_intact hr).1.sameCur

/-! ## A refusing base allocator produces an error value, never a fault

  Hypotheses: the header layout is one the crate can produce (`HeaderOK`), the layout is valid, the
  next base-allocator response is a refusal, the fast path found no room (`tryCur … = .ok none`) and
  no later chunk has room (`walkNext … = .ok (none, _)`) — the situation in which the base
  allocator is consulted at all. -/

theorem inAnotherChunk_refused {cfg : Cfg} {k : Kind} {s : State} {L : Layout} {h : Hints} {rest : List BaseResp}
    (hH : Spec.HeaderOK cfg.hdr) (hmin : cfg.minChunk < 2^64) (hL : L.Valid)
    (hr : s.resps = .fail :: rest)
    (hw : ∀ i, s.cur = .chunk i → i < s.chunks.length ∧
      ∃ s1, walkNext cfg k L h (s.chunks.length - (i+1)) i s = .ok (none, s1)) :
    ∃ s' e, inAnotherChunk cfg k s L h = .ok (s', .error e) ∧ Intact s s' ∧ FailLedger cfg s s' e := by
  obtain ⟨s', e, h1⟩ := inAnotherChunk_fail hH hmin hL hr hw
  exact ⟨s', e, h1, inAnotherChunk_error_intact h1⟩

theorem allocGeneric_refused {cfg : Cfg} {k : Kind} {s : State} {L : Layout} {h hs : Hints} {rest : List BaseResp}
    (hH : Spec.HeaderOK cfg.hdr) (hmin : cfg.minChunk < 2^64) (hL : L.Valid)
    (hr : s.resps = .fail :: rest)
    (hfast : tryCur cfg k s L h = .ok none)
    (hw : ∀ i, s.cur = .chunk i → i < s.chunks.length ∧
      ∃ s1, walkNext cfg k L hs (s.chunks.length - (i+1)) i s = .ok (none, s1)) :
    ∃ s' e, allocGeneric cfg k s L h hs = .ok (s', .error e) ∧ Intact s s' ∧ FailLedger cfg s s' e := by
  obtain ⟨s', e, h1⟩ := inAnotherChunk_fail hH hmin hL hr hw
  have h2 : allocGeneric cfg k s L h hs = .ok (s', .error e) := by unfold allocGeneric; rw [hfast]; exact h1
  exact ⟨s', e, h2, allocGeneric_error_intact h2⟩

theorem alloc_refused {cfg : Cfg} {s : State} {L : Layout} {rest : List BaseResp}
    (hH : Spec.HeaderOK cfg.hdr) (hmin : cfg.minChunk < 2^64) (hL : L.Valid)
    (hr : s.resps = .fail :: rest)
    (hfast : tryCur cfg .alloc s L Hints.custom = .ok none)
    (hw : ∀ i, s.cur = .chunk i → i < s.chunks.length ∧
      ∃ s1, walkNext cfg .alloc L Hints.custom (s.chunks.length - (i+1)) i s = .ok (none, s1)) :
    ∃ s' e, alloc cfg s L = .ok (s', .error e) ∧ Intact s s' ∧ FailLedger cfg s s' e := by
  obtain ⟨s', e, h1⟩ := alloc_fail hH hmin hL hr hfast hw
  exact ⟨s', e, h1, alloc_error_intact h1⟩

/-- `reserve` needs no fast-path hypothesis: with a refusing base allocator it never faults, and it
    either reports an error (state intact) or needed no memory and changed nothing -/
theorem reserve_refused {cfg : Cfg} {s : State} {add : Nat} {rest : List BaseResp}
    (hH : Spec.HeaderOK cfg.hdr) (hmin : cfg.minChunk < 2^64)
    (hr : s.resps = .fail :: rest) (hi : ∀ i, s.cur = .chunk i → i < s.chunks.length) :
    ∃ s' r, reserve cfg s add = .ok (s', r) ∧ Intact s s' ∧ (r = .ok () → s' = s) := by
  obtain ⟨s', r, h1, h2⟩ := reserve_fail (add := add) hH hmin hr hi
  refine ⟨s', r, h1, ?_, h2⟩
  cases r with
  | error e => exact (reserve_error_intact h1).1
  | ok u => rw [h2 rfl]; exact Intact.refl s

/-- an unallocated arena whose first chunk is refused stays exactly as it was, but for the
    request log and the consumed response -/
theorem unallocated_refused {cfg : Cfg} {k : Kind} {s : State} {L : Layout} {h : Hints} {rest : List BaseResp}
    (hH : Spec.HeaderOK cfg.hdr) (hmin : cfg.minChunk < 2^64) (hL : L.Valid)
    (hr : s.resps = .fail :: rest) (hcur : s.cur = .unallocated) :
    ∃ s' e, inAnotherChunk cfg k s L h = .ok (s', .error e) ∧ s'.chunks = s.chunks ∧ s'.cur = .unallocated ∧
      s'.live = s.live ∧ (e = .alloc ∨ e = .capacityOverflow) := by
  obtain ⟨s', e, h1, hi, hl⟩ := inAnotherChunk_refused (k := k) (h := h) hH hmin hL hr
    (fun i hi => by rw [hcur] at hi; cases hi)
  refine ⟨s', e, h1, hi.noCur (fun i hi' => by rw [hcur] at hi'; cases hi'), hi.sameCur.trans hcur, hi.live, ?_⟩
  · cases e with
    | alloc => exact Or.inl rfl
    | capacityOverflow => exact Or.inr rfl
    | claimed => rw [hl.2.2.2.1 rfl] at hcur; cases hcur

/-! ## Size-computation overflow: `capacityOverflow`, no base-allocator request, state unchanged -/

theorem newChunk_overflow {cfg : Cfg} {s : State} {size : Nat} (hl : layoutOk size cfg.hdr.align = false) :
    newChunk cfg s size = .ok (s, .error .capacityOverflow) :=
  Fn.newChunk_iff.2 (.overflow hl)

/-- the required chunk size does not fit in `usize` (hint or size computation returns `None`) -/
theorem newChunkForCapacity_overflow {cfg : Cfg} {s : State} {L : Layout}
    (h : Gen.SizeConfig.calc_hint_from_capacity (sizeCfg cfg) L = .ok none ∨
      ∃ hint, Gen.SizeConfig.calc_hint_from_capacity (sizeCfg cfg) L = .ok (some hint) ∧
        calcSize cfg hint = .ok none) :
    newChunkForCapacity cfg s L = .ok (s, .error .capacityOverflow) := by
  unfold newChunkForCapacity
  rcases h with h | ⟨hint, h1, h2⟩
  · rw [h]; rfl
  · rw [h1]; simp only [liftM_ok, bind_ok]; rw [h2]; rfl

theorem appendFor_overflow {cfg : Cfg} {s : State} {L : Layout} {last : Chunk}
    (hlast : s.chunks.getLast? = some last)
    (h : Gen.SizeConfig.calc_hint_from_capacity (sizeCfg cfg) L = .ok none ∨
      ∃ req, Gen.SizeConfig.calc_hint_from_capacity (sizeCfg cfg) L = .ok (some req) ∧
        (Rs.checked_mul last.size 2 = none ∨
         ∃ grown, Rs.checked_mul last.size 2 = some grown ∧
           calcSize cfg (if req > grown then req else grown) = .ok none)) :
    appendFor cfg s L = .ok (s, .error .capacityOverflow) := by
  unfold appendFor
  simp only [hlast]
  rcases h with h | ⟨req, h1, h2 | ⟨grown, h2, h3⟩⟩
  · rw [h]; rfl
  · rw [h1]; simp only [liftM_ok, bind_ok, h2]; rfl
  · rw [h1]; simp only [liftM_ok, bind_ok, h2]; rw [h3]; rfl

/-- end to end: whenever any allocating call reports `capacityOverflow`, the base allocator was
    not called and no response was consumed (and the state is intact, by the theorems above) -/
theorem capacityOverflow_no_request {cfg : Cfg} {k : Kind} {s s' : State} {L : Layout} {h hs : Hints}
    (hr : allocGeneric cfg k s L h hs = .ok (s', .error .capacityOverflow)) :
    s'.reqs = s.reqs ∧ s'.resps = s.resps ∧ Intact s s' := by
  obtain ⟨hi, hl⟩ := allocGeneric_error_intact hr
  obtain ⟨h1, h2⟩ := hl.2.2.1 (by decide)
  exact ⟨h1, h2, hi⟩

theorem reserve_capacityOverflow_unchanged {cfg : Cfg} {s s' : State} {add : Nat}
    (hr : reserve cfg s add = .ok (s', .error .capacityOverflow)) :
    s'.reqs = s.reqs ∧ s'.resps = s.resps ∧ s'.chunks = s.chunks ∧ s'.cur = s.cur ∧ s'.live = s.live := by
  obtain ⟨hi, hl, hc, hch⟩ := reserve_error_intact hr
  obtain ⟨h1, h2⟩ := hl.2.2.1 (by decide)
  exact ⟨h1, h2, hch, hc, hi.live⟩

/-! ## A claimed arena refuses with `claimed` and is not touched -/

theorem inAnotherChunk_claimed {cfg : Cfg} {k : Kind} {s : State} {L : Layout} {h : Hints}
    (hc : s.cur = .claimed) : inAnotherChunk cfg k s L h = .ok (s, .error .claimed) :=
  (Fn.Slow.claimed hc).run

theorem allocGeneric_claimed {cfg : Cfg} {k : Kind} {s : State} {L : Layout} {h hs : Hints}
    (hc : s.cur = .claimed) (hfast : tryCur cfg k s L h = .ok none) :
    allocGeneric cfg k s L h hs = .ok (s, .error .claimed) := by
  unfold allocGeneric
  rw [hfast]
  exact inAnotherChunk_claimed hc

theorem alloc_claimed {cfg : Cfg} {s : State} {L : Layout}
    (hc : s.cur = .claimed) (hfast : tryCur cfg .alloc s L Hints.custom = .ok none) :
    alloc cfg s L = .ok (s, .error .claimed) := by
  unfold alloc
  rw [allocGeneric_claimed hc hfast]; rfl

theorem reserve_claimed {cfg : Cfg} {s : State} {add : Nat} (hc : s.cur = .claimed) :
    reserve cfg s add = .ok (s, .error .claimed) := by
  unfold reserve; simp only [hc]; rfl

/-- conversely `claimed` is reported only by a claimed arena -/
theorem claimed_only_if_claimed {cfg : Cfg} {k : Kind} {s s' : State} {L : Layout} {h hs : Hints}
    (hr : allocGeneric cfg k s L h hs = .ok (s', .error .claimed)) : s.cur = .claimed ∧ s' = s := by
  obtain ⟨_, hf⟩ := (allocGeneric_frame hr).2.2.2 _ rfl
  have hc := (hf.err _ rfl).2.2.2.1 rfl
  exact ⟨hc, hf.claimed hc⟩

/-! ## No fault of `grow` under a refusing base allocator (false as stated here; corrected in Props/Targets.lean) -/

/-- `grow` with a refusing base allocator returns a value (no fault).  FALSE AS STATED:
    `C07.grow_refused_target_fails` (Props/Targets.lean; witness: a state with two OVERLAPPING chunks, downwards).
    What the hypotheses lack is that the chunks are pairwise disjoint: in the witness the in-place growth succeeds and
    the copy faults, its destination resolving into the header of the overlapping chunk.  The corrected statement is
    `C07.grow_refused_corrected` (states satisfying `GeomInv` and `ChunksDisjoint` under `CfgOK`, with `RespsOK`,
    `RespsFresh` responses: every reachable state); history level: `C07.no_panic_on_failure`, `C07.failed_step_keeps_everything`
    (Props/Hist2.lean). -/
def grow_refused_target : Prop :=
  ∀ (cfg : Cfg) (s : State) (ptr oldSize : Nat) (newL : Layout) (rest : List BaseResp) (i : Nat) (c : Chunk),
    Spec.HeaderOK cfg.hdr → cfg.minChunk < 2^64 → newL.Valid → oldSize ≤ newL.size →
    s.resps = .fail :: rest → s.cur = .chunk i → s.chunks[i]? = some c →
    c.contentStart cfg ≤ ptr → ptr + oldSize ≤ c.contentEnd cfg → c.base + c.size < 2^64 - 16 →
    (s.minAlign = 1 ∨ s.minAlign = 2 ∨ s.minAlign = 4 ∨ s.minAlign = 8 ∨ s.minAlign = 16) →
    tryCur cfg .alloc s newL Hints.custom = .ok none →
    (∃ s1, walkNext cfg .alloc newL Hints.custom (s.chunks.length - (i+1)) i s = .ok (none, s1)) →
    ∃ s' r, grow cfg s ptr oldSize newL = .ok (s', r)

/-! ## Non-vacuity: concrete states satisfying the hypotheses (checked by evaluation) -/

section Examples
open Ledger.Ex

/-- a full one-chunk arena, refusing base allocator: `alloc` reports an error, state intact -/
example : ∃ s' e, alloc cfg0 sFull L100 = .ok (s', .error e) ∧ Intact sFull s' ∧ FailLedger cfg0 sFull s' e :=
  alloc_refused hH0 hmin0 hL100 rfl sFull_fast sFull_walk
example : ∃ s' e, inAnotherChunk cfg0 .alloc sUnalloc L100 Hints.custom = .ok (s', .error e) ∧
    s'.chunks = sUnalloc.chunks ∧ s'.cur = .unallocated ∧ s'.live = sUnalloc.live ∧ (e = .alloc ∨ e = .capacityOverflow) :=
  unallocated_refused hH0 hmin0 hL100 rfl rfl
example : ∃ s' r, reserve cfg0 sFull 1000 = .ok (s', r) ∧ Intact sFull s' ∧ (r = .ok () → s' = sFull) :=
  reserve_refused hH0 hmin0 rfl (fun i hi => by cases hi; decide)
/-- the error hypotheses of the `_error_intact` theorems are met by actual runs -/
example : ∃ s', alloc cfg0 sFull L100 = .ok (s', .error .alloc) := ⟨_, rfl⟩
example : ∃ s', grow cfg0 sFull 4492 100 { size := 200, align := 8 } = .ok (s', .error .alloc) := ⟨_, rfl⟩
example : alloc cfg0 sClaimed L100 = .ok (sClaimed, .error .claimed) := alloc_claimed rfl sClaimed_fast
/-- a request whose chunk size does not fit in `usize` -/
example : ∃ s', alloc cfg0 sFull { size := 2^63 - 8, align := 8 } = .ok (s', .error .capacityOverflow) := ⟨_, rfl⟩

/-- two full chunks, the first one current; a 2000-byte request walks into the second chunk, finds no
    room, is refused by the base allocator: the first chunk is still current afterwards -/
example : ∃ s', alloc cfg0 { sFull with chunks := [ch 4096 496 4592, ch 8192 1008 9200] }
      { size := 2000, align := 8 } = .ok (s', .error .alloc) ∧ s'.cur = .chunk 0 ∧
      s'.chunks.map (·.pos) = [4592, 8224] := ⟨_, rfl, rfl, rfl⟩

end Examples

end C07
