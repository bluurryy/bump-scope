/-
  Props/C13.lean — property C13: reclaiming the newest allocation works; the opt-out
  settings (`DEALLOCATES = false`, `SHRINKS = false`, `WithoutDealloc`, `WithoutShrink`) are honoured.

  Part 1: opt-outs.  Part 2: a block that is not the newest one is never reclaimed.
  Part 3: the newest block IS reclaimed: allocate / deallocate / allocate returns the same address
  (both directions).  Part 4: growing the newest block upwards in place.
-/
import BumpProof.Lemmas.CtrlEx
namespace C13
open Arena Rs Ctrl Lemmas

/-! ## Part 1: opt-outs -/

/-- `DEALLOCATES = false`: `deallocate` is valid and changes nothing -/
theorem deallocate_optout (cfg : Cfg) (s : State) (ptr size : Nat) (h : cfg.deallocates = false) :
    deallocate cfg s ptr size = .ok s :=
  deallocate_noop (.inl h)

/-- `WithoutDealloc(&bump).deallocate(..)`: chunks, current chunk and every position stay as they are;
    only the (ghost) block is forgotten -/
theorem step_deallocate_withoutDealloc (cfg : Cfg) (g : GState) (b : Nat) (blk : Block)
    (hp : g.s.prepared = none) (hb : findBlock g.s b = .ok blk) :
    stepCore cfg g (.deallocate b .withoutDealloc) = .ok ({ g with s := removeBlock g.s b }, .unit) :=
  stepCore_deallocate_noop hp hb (.inl rfl)

/-- the same through any wrapper when the arena itself was configured with `DEALLOCATES = false` -/
theorem step_deallocate_optout (cfg : Cfg) (g : GState) (b : Nat) (blk : Block) (via : Via)
    (hd : cfg.deallocates = false) (hp : g.s.prepared = none) (hb : findBlock g.s b = .ok blk) :
    stepCore cfg g (.deallocate b via) = .ok ({ g with s := removeBlock g.s b }, .unit) :=
  stepCore_deallocate_noop hp hb (.inr (deallocate_noop (.inl hd)))

/-- `SHRINKS = false`: a shrink whose alignment fits hands the block back unchanged (old size) -/
theorem shrink_optout (cfg : Cfg) (s : State) (ptr oldSize : Nat) (newL : Layout)
    (hs : cfg.shrinks = false) (hsz : newL.size ≤ oldSize) (hfit : alignFits ptr newL.align = true) :
    shrink cfg s ptr oldSize newL = .ok (s, .ok (ptr, oldSize)) :=
  shrink_noop hsz hfit (.inl hs)

/-- `WithoutShrink(&bump).shrink(..)` (alignment fits): nothing moves -/
theorem shrinkWithoutShrink_fits (cfg : Cfg) (s : State) (ptr oldSize : Nat) (newL : Layout)
    (hfit : alignFits ptr newL.align = true) :
    shrinkWithoutShrink cfg s ptr oldSize newL = .ok (s, .ok (ptr, newL.size)) := by
  unfold shrinkWithoutShrink
  rw [hfit]; rfl

/-- `SHRINKS = false`: `shrink_slice` does nothing -/
theorem shrinkSlice_optout (cfg : Cfg) (s : State) (ptr oldSize newSize ealign : Nat)
    (hs : cfg.shrinks = false) :
    shrinkSlice cfg s ptr oldSize newSize ealign = .ok (s, none) :=
  shrinkSlice_noop (.inl hs)

/-- forgetting a (ghost) block changes no statistic: with `step_deallocate_withoutDealloc` /
    `step_deallocate_optout` / `step_deallocate_not_last` this says that such a `deallocate` leaves
    `stats().allocated()` (and count, size, capacity, remaining) exactly as it was -/
theorem stats_removeBlock (cfg : Cfg) (s : State) (b : Nat) : stats cfg (removeBlock s b) = stats cfg s := rfl

/-- `WithoutShrink(&bump).shrink(..)` in a history (alignment fits): same address, the new size is
    recorded, the arena (chunks, positions, statistics) is untouched -/
theorem step_shrink_withoutShrink_fits (cfg : Cfg) (g : GState) (b : Nat) (blk : Block) (L : Layout)
    (hL : L.Valid) (hp : g.s.prepared = none) (hb : findBlock g.s b = .ok blk) (hsz : L.size ≤ blk.size)
    (hfit : alignFits blk.addr L.align = true) :
    ∃ g', stepCore cfg g (.shrink b L .withoutShrink) = .ok (g', .block g.s.nextId blk.addr L.size) ∧
      g'.s.chunks = g.s.chunks ∧ g'.s.cur = g.s.cur ∧ stats cfg g'.s = stats cfg g.s := by
  refine ⟨{ g with s := (okOut (removeBlock g.s b) blk.addr L.size L.align (Nat.min blk.init L.size)).1 }, ?_, rfl, rfl, rfl⟩
  unfold stepCore
  simp only [validLayout_ok hL, noPrepared, hp, Option.isNone_none, ↓reduceIte, R_pure_bind, R_ok_bind, hb,
    show ¬ L.size > blk.size from by omega,
    shrinkWithoutShrink_fits cfg g.s blk.addr blk.size L hfit]
  rfl

/-- False as stated (it quantifies over ill-formed states): `C13.shrink_optout_never_decreases_target_fails`
    (Props/Targets.lean; witness: a chunk whose position lies past its end) and the corrected statements
    `C13.shrink_optout_never_decreases_corrected` (states satisfying `GeomInv`) / `…_reachable`; step level:
    `C13.shrink_optout_reachable` (Props/Hist2.lean).  What it says: through `WithoutShrink` a shrink whose
    alignment does NOT fit allocates a new block; the allocated byte count then grows, it never decreases (the
    `SHRINKS = false` arm of `shrink` is covered by `C13.shrink_optout_reachable`). -/
def shrink_optout_never_decreases_target : Prop :=
  ∀ (cfg : Cfg) (s s' : State) (ptr oldSize : Nat) (newL : Layout) (r : Except AErr (Nat × Nat)),
    shrinkWithoutShrink cfg s ptr oldSize newL = .ok (s', r) →
    (stats cfg s).allocated ≤ (stats cfg s').allocated

/-! ## Part 2: a block that is not the newest one -/

/-- deallocating it reclaims nothing: the whole state (positions, other blocks, bytes) is unchanged -/
theorem deallocate_not_last (cfg : Cfg) (s : State) (ptr size : Nat)
    (hl : isLast cfg s ptr size = false) :
    deallocate cfg s ptr size = .ok s :=
  deallocate_noop (.inr hl)

/-- shrinking it (alignment fits) reclaims nothing either -/
theorem shrink_not_last (cfg : Cfg) (s : State) (ptr oldSize : Nat) (newL : Layout)
    (hsz : newL.size ≤ oldSize) (hfit : alignFits ptr newL.align = true)
    (hl : isLast cfg s ptr oldSize = false) :
    shrink cfg s ptr oldSize newL = .ok (s, .ok (ptr, oldSize)) :=
  shrink_noop hsz hfit (.inr hl)

theorem shrinkSlice_not_last (cfg : Cfg) (s : State) (ptr oldSize newSize ealign : Nat)
    (hl : isLast cfg s ptr oldSize = false) :
    shrinkSlice cfg s ptr oldSize newSize ealign = .ok (s, none) :=
  shrinkSlice_noop (.inr hl)

/-- in a history: deallocating a block that is not the newest one leaves the arena (chunks, current
    chunk, positions, bytes) and every other live block alone, through every wrapper -/
theorem step_deallocate_not_last (cfg : Cfg) (g : GState) (b : Nat) (blk : Block) (via : Via)
    (hp : g.s.prepared = none) (hb : findBlock g.s b = .ok blk)
    (hl : isLast cfg g.s blk.addr blk.size = false) :
    stepCore cfg g (.deallocate b via) = .ok ({ g with s := removeBlock g.s b }, .unit) :=
  stepCore_deallocate_noop hp hb (.inr (deallocate_noop (.inr hl)))

/-! ## Part 3: the newest block is reclaimed — allocate, deallocate, allocate again -/

/-- Upwards.  After a successful allocation of `L` (size a multiple of the minimum alignment) the block
    is the newest one; deallocating it moves the position back to its address; allocating `L` again
    returns the SAME address and leads to the SAME state as after the first allocation. -/
theorem realloc_same_up (cfg : Cfg) (s s1 : State) (L : Layout) (p x : Nat)
    (hup : cfg.up = true) (hd : cfg.deallocates = true)
    (hv : C11.Valid true (bumpProps cfg s L Hints.custom)) (hms : s.minAlign ∣ L.size)
    (h1 : tryCur cfg .alloc s L Hints.custom = .ok (some ((p, x), s1))) :
    isLast cfg s1 p L.size = true ∧
    ∃ s2, deallocate cfg s1 p L.size = .ok s2 ∧ curPos cfg s2 = p ∧
      tryCur cfg .alloc s2 L Hints.custom = .ok (some ((p, x), s1)) := by
  simpa only [hup, ↓reduceIte] using Ctrl.realloc_same hd (hup ▸ hv) hms h1

/-- Downwards: the same law.  (After the deallocation the position is the END of the block, i.e.
    padding that the first allocation needed below the old position is not given back — and need
    not be: the next allocation of `L` lands on the same address.) -/
theorem realloc_same_down (cfg : Cfg) (s s1 : State) (L : Layout) (p x : Nat)
    (hup : cfg.up = false) (hd : cfg.deallocates = true)
    (hv : C11.Valid false (bumpProps cfg s L Hints.custom)) (hms : s.minAlign ∣ L.size)
    (h1 : tryCur cfg .alloc s L Hints.custom = .ok (some ((p, x), s1))) :
    isLast cfg s1 p L.size = true ∧
    ∃ s2, deallocate cfg s1 p L.size = .ok s2 ∧ curPos cfg s2 = p + L.size ∧
      tryCur cfg .alloc s2 L Hints.custom = .ok (some ((p, x), s1)) := by
  simpa only [hup, Bool.false_eq_true, ↓reduceIte] using Ctrl.realloc_same hd (hup ▸ hv) hms h1

/-! ## Part 4: growing the newest block upwards happens in place -/

/-- upward arena, newest block, alignment fits, room left in the chunk: `grow` returns the SAME address,
    copies nothing, and only moves the position to the (aligned) new end of the block -/
theorem grow_in_place_up (cfg : Cfg) (s : State) (ptr oldSize : Nat) (newL : Layout) (i : Nat) (c : Chunk)
    (hup : cfg.up = true) (hcur : s.cur = .chunk i) (hget : s.chunks[i]? = some c)
    (hm : MinAlignOk s.minAlign)
    (hlast : isLast cfg s ptr oldSize = true) (hfit : alignFits ptr newL.align = true)
    (hsz : oldSize ≤ newL.size) (hroom : ptr + newL.size ≤ c.contentEnd cfg)
    (hend : c.contentEnd cfg + 16 ≤ 2 ^ 64) :
    grow cfg s ptr oldSize newL = .ok (setCurPos s (Spec.upAlign (ptr + newL.size) s.minAlign), .ok ptr) := by
  have hc : CurChunk s i c := ⟨hcur, hget⟩
  have hle := hm.le
  unfold grow
  have ha : Rs.assert (decide (newL.size ≥ oldSize)) = .ok () := assert_decide hsz
  have hrem : newL.size ≤ c.contentEnd cfg - ptr := by omega
  simp only [ha, liftM_ok, R_ok_bind, hup, hlast, hfit, Bool.and_self, ↓reduceIte, hc.curChunk?,
    sub_ok (show ptr ≤ c.contentEnd cfg by omega), hrem,
    add_ok' (show ptr + newL.size < 2 ^ 64 by omega),
    lib_up_align_eq hm.p2 hm.lt64 (show ptr + newL.size + (s.minAlign - 1) < 2 ^ 64 by omega)]
  rfl

/-- … and the new position stays inside the chunk -/
theorem grow_in_place_pos (cfg : Cfg) (s : State) (ptr : Nat) (newL : Layout) (c : Chunk)
    (hm : MinAlignOk s.minAlign) (hroom : ptr + newL.size ≤ c.contentEnd cfg)
    (h16 : 16 ∣ c.contentEnd cfg) :
    ptr + newL.size ≤ Spec.upAlign (ptr + newL.size) s.minAlign ∧
    Spec.upAlign (ptr + newL.size) s.minAlign ≤ c.contentEnd cfg :=
  ⟨le_upAlign _ hm.pos,
   upAlign_le_of_dvd hm.pos (Nat.dvd_trans (hm.p2.dvd_of_le P2.sixteen hm.le) h16) hroom⟩

/-! ## Non-vacuity: the hypotheses hold on concrete states (`Lemmas/CtrlEx.lean`) -/

example : shrink { wCfg with shrinks := false } exUp 0x10030 16 { size := 8, align := 8 } = .ok (exUp, .ok (0x10030, 16)) :=
  shrink_optout _ _ _ _ _ rfl (by decide) rfl

example : stepCore wCfg exG (.deallocate 0 .plain) = .ok ({ exG with s := removeBlock exG.s 0 }, .unit) :=
  step_deallocate_not_last _ _ 0 exBlk _ rfl rfl rfl

example : shrink wCfg exG.s exBlk.addr exBlk.size { size := 8, align := 8 } = .ok (exG.s, .ok (exBlk.addr, exBlk.size)) :=
  shrink_not_last _ _ _ _ _ (by decide) rfl rfl

example : stepCore wCfg exG (.deallocate 0 .withoutDealloc) = .ok ({ exG with s := removeBlock exG.s 0 }, .unit) :=
  step_deallocate_withoutDealloc _ _ 0 exBlk rfl rfl

example : ∃ g', stepCore wCfg exG (.shrink 0 { size := 8, align := 8 } .withoutShrink) =
    .ok (g', .block 1 exBlk.addr 8) ∧ g'.s.chunks = exG.s.chunks ∧ g'.s.cur = exG.s.cur ∧
      stats wCfg g'.s = stats wCfg exG.s :=
  step_shrink_withoutShrink_fits _ _ 0 exBlk _ ⟨⟨3, by decide, rfl⟩, by decide⟩ rfl rfl (by decide) rfl

/-- upwards: allocate 24 bytes at 0x10040, deallocate, allocate again: 0x10040 again -/
example : isLast wCfg (setCurPos exUp 0x10058) 0x10040 24 = true ∧
    ∃ s2, deallocate wCfg (setCurPos exUp 0x10058) 0x10040 24 = .ok s2 ∧ curPos wCfg s2 = 0x10040 ∧
      tryCur wCfg .alloc s2 exL Hints.custom = .ok (some ((0x10040, 0), setCurPos exUp 0x10058)) :=
  realloc_same_up wCfg exUp _ exL 0x10040 0 rfl rfl (exUp_valid exL exL_valid _ (custom_sma _)) ⟨3, rfl⟩ rfl

/-- downwards: allocate 24 bytes at 0x100A8, deallocate, allocate again: 0x100A8 again -/
example : isLast dCfg (setCurPos exDown 0x100A8) 0x100A8 24 = true ∧
    ∃ s2, deallocate dCfg (setCurPos exDown 0x100A8) 0x100A8 24 = .ok s2 ∧ curPos dCfg s2 = 0x100A8 + 24 ∧
      tryCur dCfg .alloc s2 exL Hints.custom = .ok (some ((0x100A8, 0), setCurPos exDown 0x100A8)) :=
  realloc_same_down dCfg exDown _ exL 0x100A8 0 rfl rfl (exDown_valid exL exL_valid _ (custom_sma _)) ⟨3, rfl⟩ rfl

/-- the 16-byte block that ends at the position grows to 32 bytes in place -/
example : grow wCfg exUp 0x10030 16 { size := 32, align := 8 } =
    .ok (setCurPos exUp (Spec.upAlign (0x10030 + 32) 8), .ok 0x10030) :=
  grow_in_place_up wCfg exUp 0x10030 16 _ 0 exChunkUp rfl rfl rfl minAlign8 rfl rfl (by decide) (by decide) (by decide)

end C13
