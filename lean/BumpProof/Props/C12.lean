/-
  Props/C12.lean — property C12: a fresh chunk always fits the request that caused
  it; sizes never wrap.

  `Gen.SizeConfig.*` is regenerated from /repo/src/chunk/size_config.rs on every
  run; `Spec.*` is the wide-integer (unbounded `Nat`) specification.
-/
import BumpProof.Lemmas.SizeEq

namespace C12
open Gen.SizeConfig Rs Spec

/-! ## Generated code = wide-integer specification: never wraps, never panics, overflow ⇒ `none` -/

/- `have _ := h` in this file marks a hypothesis that the proof does not need. -/
theorem calc_size_from_hint_eq (up : Bool) (H : Layout) (hH : HeaderOK H) (hint : Nat) (hh : hint < 2^64) :
    calc_size_from_hint (mkCfg up H) hint = .ok (calcSize up H hint) :=
  have _ := hh
  Lemmas.calc_size_from_hint_eq up H hH hint

/-- `none` is returned exactly when the wide-integer size does not fit in `usize` -/
theorem calcSize_none_iff (up : Bool) (H : Layout) (hint : Nat) :
    calcSize up H hint = none ↔ 2^64 ≤ calcSizeRaw H hint := by
  refine ⟨fun h => Decidable.by_contra fun hr => ?_, fun h => if_pos h⟩
  unfold calcSize at h
  simp only [ge_iff_le, hr, ↓reduceIte] at h
  split at h <;> cases h

theorem calc_hint_from_capacity_eq (up : Bool) (H : Layout) (hH : HeaderOK H) (L : Layout) (hL : L.Valid) :
    calc_hint_from_capacity (mkCfg up H) L =
      .ok (if hintFromCapacity up H L < 2^64 then some (hintFromCapacity up H L) else none) := by
  open Lemmas in
  unfold calc_hint_from_capacity
  have hlt : L.size + (L.align - H.align) < 2 ^ 64 := by
    have := hL.2
    rw [IMAX_eq] at this
    rw [two_pow_64]
    omega
  have e : (mkCfg up H).chunk_header_layout = H := rfl
  simp only [e, Rs.saturating_sub, Size.checked_add_some hlt]
  rw [calc_hint_from_capacity_bytes_eq up H hH]
  rfl

theorem calc_hint_from_capacity_bytes_eq (up : Bool) (H : Layout) (hH : HeaderOK H) (bytes : Nat) (hb : bytes < 2^64) :
    calc_hint_from_capacity_bytes (mkCfg up H) bytes =
      .ok (if hintFromBytes up H bytes < 2^64 then some (hintFromBytes up H bytes) else none) :=
  have _ := hb
  Lemmas.calc_hint_from_capacity_bytes_eq up H hH bytes

theorem align_size_eq (up : Bool) (H : Layout) (hH : HeaderOK H) (g : Nat) (hg : g < 2^64) :
    align_size (mkCfg up H) g = .ok (downAlign g (sizeAlign up H)) :=
  Lemmas.align_size_eq up H hH g hg

/-! ## Computed sizes: multiples of 16 (and of the header alignment downwards), room for the
    header and the requested capacity -/

theorem calcSize_some {up : Bool} {H : Layout} (hH : HeaderOK H) {hint s : Nat}
    (h : calcSize up H hint = some s) :
    16 ∣ s ∧ sizeAlign up H ∣ s ∧ H.size ≤ s ∧ hint ≤ s + 16 ∧ s < 2^64 :=
  Lemmas.calcSize_some hH h

/-- whatever the base allocator grants (`g ≥ s`), the aligned size the arena uses is between the
    requested and the granted size (memory fitting), a multiple of 16 and of the header alignment
    when bumping downwards -/
theorem align_size_fits {up : Bool} {H : Layout} (hH : HeaderOK H) {hint s g : Nat}
    (h : calcSize up H hint = some s) (hg : s ≤ g) :
    s ≤ downAlign g (sizeAlign up H) ∧ downAlign g (sizeAlign up H) ≤ g ∧
    16 ∣ downAlign g (sizeAlign up H) ∧ sizeAlign up H ∣ downAlign g (sizeAlign up H) :=
  Lemmas.align_size_fits hH h hg

/-- a later chunk is never smaller than twice the previous one less 16 bytes
    (`append_for` asks for `max(required, 2 * prev)`) -/
theorem grow_ge {up : Bool} {H : Layout} (hH : HeaderOK H) {prev req s : Nat}
    (h : calcSize up H (Nat.max req (2 * prev)) = some s) : 2 * prev ≤ s + 16 :=
  Lemmas.grow_ge hH h

/-- hence a later chunk is STRICTLY larger than its predecessor as soon as the predecessor is larger than 16 bytes
    (every real chunk is: its size is a multiple of 16 that also holds a header) — the computed-size half of C10's
    "each later chunk strictly larger than its predecessor" -/
theorem grow_strict {up : Bool} {H : Layout} (hH : HeaderOK H) {prev req s : Nat} (hp : 16 < prev)
    (h : calcSize up H (Nat.max req (2 * prev)) = some s) : prev < s :=
  Lemmas.calcSize_gt hH h (Nat.le_max_right _ _) hp

theorem calcSize_mono {up : Bool} {H : Layout} (hH : HeaderOK H) {h1 h2 s1 s2 : Nat} (hle : h1 ≤ h2)
    (e1 : calcSize up H h1 = some s1) (e2 : calcSize up H h2 = some s2) : s1 ≤ s2 := by
  open Lemmas in
  rw [(calcSize_eq_of_some hH e1).2, (calcSize_eq_of_some hH e2).2]
  exact Nat.sub_le_sub_right (Size.raw_mono hH hle) _

/-! ## Fit: the layout that caused a chunk can be allocated (and prepared) in the fresh chunk,
    for every header layout, both directions, every minimum chunk size / growth hint (any
    `hint ≥ hintFromCapacity`), every granted size `g ≥ s` and every block address `p`. -/

theorem fresh_fits_up {H : Layout} (hH : HeaderOK H) {L : Layout} (hL : L.Valid) {ma : Nat}
    (hma : ma = 1 ∨ ma = 2 ∨ ma = 4 ∨ ma = 8 ∨ ma = 16)
    {hint s g p : Nat} (hhint : hintFromCapacity true H L ≤ hint)
    (hs : calcSize true H hint = some s) (hg : s ≤ g) (hp : H.align ∣ p) :
    let s' := downAlign g (sizeAlign true H)
    let r := freshRange true H p s'
    (∃ x, bumpUp r.1 r.2 L.size L.align ma = some x) ∧
    (L.align ∣ L.size → ∃ x, prepareUp r.1 r.2 L.size L.align = some x) :=
  have _ := hma
  Lemmas.fresh_fits_up hH hL hhint hs hg hp

theorem fresh_fits_down {H : Layout} (hH : HeaderOK H) {L : Layout} (hL : L.Valid) {ma : Nat}
    (hma : ma = 1 ∨ ma = 2 ∨ ma = 4 ∨ ma = 8 ∨ ma = 16)
    {hint s g p : Nat} (hhint : hintFromCapacity false H L ≤ hint)
    (hs : calcSize false H hint = some s) (hg : s ≤ g) (hp : H.align ∣ p) :
    let s' := downAlign g (sizeAlign false H)
    let r := freshRange false H p s'
    (∃ x, bumpDown r.1 r.2 L.size L.align ma = some x) ∧
    (L.align ∣ L.size → ∃ x, prepareDown r.1 r.2 L.size L.align = some x) :=
  Lemmas.fresh_fits_down hH hL hma hhint hs hg hp

/-! ## Non-vacuity -/

/-- header of `Bump<Global>` (zero-sized base allocator) -/
def H0 : Layout := { size := 32, align := 16 }
/-- header of a zero-sized base allocator of alignment 64 (four pointers padded to 64; an 8-byte one gives size 128) -/
def H64 : Layout := { size := 64, align := 64 }

example : HeaderOK H0 := ⟨⟨4, by decide, by decide, by decide⟩, by decide, by decide, by decide⟩
example : HeaderOK H64 := ⟨⟨6, by decide, by decide, by decide⟩, by decide, by decide, by decide⟩
example : calcSize true H0 512 = some 496 := by decide
example : calcSize false H64 (hintFromCapacity false H64 { size := 1000, align := 256 }) = some 2048 := by decide

end C12
