/-
  Props/C17Family.lean — property C17 for the high-level typed family (`alloc`, `alloc_with`,
  `alloc_default`, `alloc_uninit`, `alloc_slice_copy/_clone/_fill/_fill_with/_move`, `alloc_str`,
  `alloc_cstr(_from_str)`, `alloc_uninit_slice(_for)`, `alloc_iter(_exact)` and their `try_` twins).

  `Arena/Family.lean` gives every entry point its denotation in the model's operation alphabet (the
  harness logs exactly these lists when it drives the real methods).  Here: the allocating step of every
  such denotation IS the step of `Allocator::allocate` with the entry point's layout — same outcome, same
  successor state (address, positions, chunks, ghost block) — whichever hints the entry point passes and
  whether it is reached statically or through a trait object.  Hence any two entry points asked for equal
  layouts are interchangeable, and so are whole calls (allocation + contents, or allocation + unwinding).
  (`alloc_iter_mut(_rev)` denote prepare/commit sequences of C15; they are listed in `Entry` but are
  not claimed equal to a plain `allocate`: the committed slice is not re-aligned to the minimum alignment.)
-/
import BumpProof.Arena.Family
import BumpProof.Props.C17

namespace C17
open Arena Rs Ctrl Lemmas

/-- the hints an entry point passes are truthful for its layout as soon as `align_of::<T>()` divides
    `size_of::<T>()` (true of every Rust type) -/
theorem entry_hints_truthful (e : Entry) (es ea len : Nat) (dyn : Bool) (hdiv : ea ∣ es) :
    Truthful (e.layout es ea len) (e.hints dyn) := by
  intro _
  -- the alternatives are the three shapes of `Entry.layout`: one value, an array, text (alignment 1)
  cases e <;> simp only [Entry.layout] <;>
    first
      | exact hdiv
      | exact Nat.dvd_trans hdiv (Nat.dvd_mul_right es len)
      | exact Nat.one_dvd _

/-- **Every entry point of the family allocates exactly like `Allocator::allocate` of its layout**:
    same result, same successor state — for every entry point, element layout, length, state, and both
    for the static handle (compile-time hints) and the trait object (no hints). -/
theorem family_step_eq_allocate (cfg : Cfg) (g : GState) (e : Entry) (es ea len : Nat) (dyn : Bool)
    (hdiv : ea ∣ es)
    (hv : C11.Valid cfg.up (bumpProps cfg g.s (e.layout es ea len) Hints.custom)) :
    stepCore cfg g (.allocLayout (e.layout es ea len) (e.hints dyn))
      = stepCore cfg g (.allocate (e.layout es ea len) false .plain) :=
  step_allocLayout_eq_allocate cfg g _ _ hv (entry_hints_truthful e es ea len dyn hdiv)

/-- two entry points (possibly of different element types, one static and one through `dyn`) asked for the
    same layout are interchangeable: e.g. `alloc_slice_copy(&[u32; 6])`, `alloc_iter_exact` of 6 `u32`s,
    `alloc::<[u32; 6]>` and `alloc_uninit_slice::<u32>(6)` through `dyn BumpAllocatorCoreScope` -/
theorem family_entries_interchangeable (cfg : Cfg) (g : GState) (e1 e2 : Entry)
    (es1 ea1 len1 es2 ea2 len2 : Nat) (dyn1 dyn2 : Bool)
    (hdiv1 : ea1 ∣ es1) (hdiv2 : ea2 ∣ es2)
    (hL : e1.layout es1 ea1 len1 = e2.layout es2 ea2 len2)
    (hv : C11.Valid cfg.up (bumpProps cfg g.s (e1.layout es1 ea1 len1) Hints.custom)) :
    stepCore cfg g (.allocLayout (e1.layout es1 ea1 len1) (e1.hints dyn1))
      = stepCore cfg g (.allocLayout (e2.layout es2 ea2 len2) (e2.hints dyn2)) := by
  rw [family_step_eq_allocate cfg g e1 es1 ea1 len1 dyn1 hdiv1 hv]
  rw [hL] at hv
  rw [family_step_eq_allocate cfg g e2 es2 ea2 len2 dyn2 hdiv2 hv, hL]

/-- shape of the denotation of a returning call that allocates and does not go through `MutBumpVec` -/
theorem family_ops_shape (e : Entry) (es ea len seed : Nat) (dyn : Bool) (blk : Nat)
    (ha : e.allocates es len = true) (hp : e.viaPrepare = false) :
    e.ops es ea len seed dyn blk = [.allocLayout (e.layout es ea len) (e.hints dyn), .write blk seed] := by
  simp [Entry.ops, ha, hp]

theorem family_opsUnwound_shape (e : Entry) (es ea len seed : Nat) (dyn : Bool) (blk : Nat)
    (ha : e.allocates es len = true) (hp : e.viaPrepare = false) :
    e.opsUnwound es ea len seed dyn blk
      = [.allocLayout (e.layout es ea len) (e.hints dyn),
         .deallocate blk (if e.viaBumpVec then .plain else .withoutDealloc)] := by
  simp [Entry.opsUnwound, ha, hp]

theorem runOps_cons_congr (cfg : Cfg) (g : GState) (op1 op2 : Op) (rest : List Op)
    (h : stepCore cfg g op1 = stepCore cfg g op2) :
    runOps cfg g (op1 :: rest) = runOps cfg g (op2 :: rest) := by
  simp only [runOps, h]

/-- **A whole call of the family = `Allocator::allocate` of its layout followed by the owner writing the
    contents**: every outcome and the final state (positions, chunks, live blocks, memory bytes) agree. -/
theorem family_call_eq_allocate_write (cfg : Cfg) (g : GState) (e : Entry) (es ea len seed : Nat) (dyn : Bool)
    (blk : Nat) (hdiv : ea ∣ es) (ha : e.allocates es len = true) (hp : e.viaPrepare = false)
    (hv : C11.Valid cfg.up (bumpProps cfg g.s (e.layout es ea len) Hints.custom)) :
    runOps cfg g (e.ops es ea len seed dyn blk)
      = runOps cfg g [.allocate (e.layout es ea len) false .plain, .write blk seed] := by
  rw [family_ops_shape e es ea len seed dyn blk ha hp]
  exact runOps_cons_congr cfg g _ _ _ (family_step_eq_allocate cfg g e es ea len dyn hdiv hv)

/-- … and a call unwound by a panicking callback = `allocate` followed by the end of the block
    (`deallocate` for the `BumpVec`-based entry points, nothing reclaimed for the others) -/
theorem family_unwound_eq_allocate_dealloc (cfg : Cfg) (g : GState) (e : Entry) (es ea len seed : Nat) (dyn : Bool)
    (blk : Nat) (hdiv : ea ∣ es) (ha : e.allocates es len = true) (hp : e.viaPrepare = false)
    (hv : C11.Valid cfg.up (bumpProps cfg g.s (e.layout es ea len) Hints.custom)) :
    runOps cfg g (e.opsUnwound es ea len seed dyn blk)
      = runOps cfg g [.allocate (e.layout es ea len) false .plain,
                      .deallocate blk (if e.viaBumpVec then .plain else .withoutDealloc)] := by
  rw [family_opsUnwound_shape e es ea len seed dyn blk ha hp]
  exact runOps_cons_congr cfg g _ _ _ (family_step_eq_allocate cfg g e es ea len dyn hdiv hv)

/-- two complete calls through different entry points with equal layouts and equal contents -/
theorem family_calls_interchangeable (cfg : Cfg) (g : GState) (e1 e2 : Entry)
    (es1 ea1 len1 es2 ea2 len2 seed : Nat) (dyn1 dyn2 : Bool) (blk : Nat)
    (hdiv1 : ea1 ∣ es1) (hdiv2 : ea2 ∣ es2)
    (ha1 : e1.allocates es1 len1 = true) (hp1 : e1.viaPrepare = false)
    (ha2 : e2.allocates es2 len2 = true) (hp2 : e2.viaPrepare = false)
    (hL : e1.layout es1 ea1 len1 = e2.layout es2 ea2 len2)
    (hv : C11.Valid cfg.up (bumpProps cfg g.s (e1.layout es1 ea1 len1) Hints.custom)) :
    runOps cfg g (e1.ops es1 ea1 len1 seed dyn1 blk) = runOps cfg g (e2.ops es2 ea2 len2 seed dyn2 blk) := by
  rw [family_call_eq_allocate_write cfg g e1 es1 ea1 len1 seed dyn1 blk hdiv1 ha1 hp1 hv]
  rw [hL] at hv
  rw [family_call_eq_allocate_write cfg g e2 es2 ea2 len2 seed dyn2 blk hdiv2 ha2 hp2 hv, hL]

/-- zero-sized element types: every entry point except `alloc_uninit_slice(_for)` (and the text ones, whose element
    is `u8`) short-circuits — the empty denotation, returning or unwinding -/
theorem family_zst_no_ops (e : Entry) (ea len seed : Nat) (dyn : Bool) (blk : Nat)
    (ht : e.isText = false) (hz : e.zstReachesAllocator = false) :
    e.ops 0 ea len seed dyn blk = [] ∧ e.opsUnwound 0 ea len seed dyn blk = [] := by
  simp [Entry.ops, Entry.opsUnwound, Entry.allocates, ht, hz]

/-- … and exactly those: the denotation for a zero-sized element type is empty iff the entry point is not
    `alloc_uninit_slice`, `alloc_uninit_slice_for` or a text entry point -/
theorem family_zst_no_ops_iff (e : Entry) (ea len seed : Nat) (dyn : Bool) (blk : Nat) :
    e.ops 0 ea len seed dyn blk = [] ↔ (e.isText = false ∧ e.zstReachesAllocator = false) := by
  have h : e.allocates 0 len = (e.isText || e.zstReachesAllocator) := rfl
  unfold Entry.ops
  rw [h]
  cases e.isText <;> cases e.zstReachesAllocator <;> cases e.viaPrepare <;> simp

/-- `alloc_uninit_slice(_for)` of a zero-sized type: a size-0 request with the alignment of `T` … -/
theorem family_zst_uninit_ops (e : Entry) (ea len seed : Nat) (dyn : Bool) (blk : Nat) (hz : e.zstReachesAllocator = true) :
    e.ops 0 ea len seed dyn blk = [.allocLayout { size := 0, align := ea } (e.hints dyn), .write blk seed] := by
  cases e <;> simp_all [Entry.ops, Entry.allocates, Entry.isText, Entry.zstReachesAllocator, Entry.viaPrepare, Entry.layout]

/-- … which steps exactly like `Allocator::allocate(Layout(0, align_of::<T>()))` (so it pads the bump position) -/
theorem family_zst_uninit_step (cfg : Cfg) (g : GState) (e : Entry) (ea len : Nat) (dyn : Bool)
    (hv : C11.Valid cfg.up (bumpProps cfg g.s (e.layout 0 ea len) Hints.custom)) :
    stepCore cfg g (.allocLayout (e.layout 0 ea len) (e.hints dyn)) = stepCore cfg g (.allocate (e.layout 0 ea len) false .plain) :=
  family_step_eq_allocate cfg g e 0 ea len dyn (Nat.dvd_zero ea) hv

/-! ## Non-vacuity (the concrete upward state `exUp` of `Lemmas/CtrlEx.lean`: 24 bytes, align 8) -/

example : (Entry.sliceCopy.layout 8 8 3 = exL) ∧ (Entry.alloc.layout 24 8 1 = exL) ∧ (Entry.cstr.layout 1 1 23).size = 24 :=
  ⟨rfl, rfl, rfl⟩

/-- `alloc_slice_copy(&[u64; 3])` on the static handle steps like `allocate(Layout(24, 8))` -/
example : stepCore wCfg ⟨exUp, []⟩ (.allocLayout (Entry.sliceCopy.layout 8 8 3) (Entry.sliceCopy.hints false))
    = stepCore wCfg ⟨exUp, []⟩ (.allocate exL false .plain) :=
  family_step_eq_allocate wCfg ⟨exUp, []⟩ .sliceCopy 8 8 3 false ⟨1, rfl⟩ (exUp_valid exL exL_valid _ (custom_sma _))

/-- `alloc_iter_exact` of 3 `u64`s through `dyn` versus `alloc::<[u64; 3]>` on the static handle -/
example : stepCore wCfg ⟨exUp, []⟩ (.allocLayout (Entry.iterExact.layout 8 8 3) (Entry.iterExact.hints true))
    = stepCore wCfg ⟨exUp, []⟩ (.allocLayout (Entry.alloc.layout 24 8 1) (Entry.alloc.hints false)) :=
  family_entries_interchangeable wCfg ⟨exUp, []⟩ .iterExact .alloc 8 8 3 24 8 1 true false ⟨1, rfl⟩ ⟨3, rfl⟩ rfl
    (exUp_valid exL exL_valid _ (custom_sma _))

/-- the whole call, contents included -/
example : runOps wCfg ⟨exUp, []⟩ (Entry.sliceFillWith.ops 8 8 3 5 false 1)
    = runOps wCfg ⟨exUp, []⟩ [.allocate exL false .plain, .write 1 5] :=
  family_call_eq_allocate_write wCfg ⟨exUp, []⟩ .sliceFillWith 8 8 3 5 false 1 ⟨1, rfl⟩ rfl rfl
    (exUp_valid exL exL_valid _ (custom_sma _))

/-- … and neither side is a fault: the block (id 1) is placed at the bump position 0x10040, the write succeeds -/
example : (runOps wCfg ⟨exUp, []⟩ (Entry.sliceFillWith.ops 8 8 3 5 false 1)).toOption.map (·.2)
    = some [.block 1 0x10040 24, .unit] := by rfl

/-- unwinding: `alloc_iter_exact` gives the buffer back (position 0x10040 again), `alloc_slice_fill_with` does not -/
example : (runOps wCfg ⟨exUp, []⟩ (Entry.iterExact.opsUnwound 8 8 3 5 true 1)).toOption.map (fun x => curPos wCfg x.1.s) = some 0x10040
    ∧ (runOps wCfg ⟨exUp, []⟩ (Entry.sliceFillWith.opsUnwound 8 8 3 5 true 1)).toOption.map (fun x => curPos wCfg x.1.s) = some 0x10058 :=
  ⟨by rfl, by rfl⟩


/-- zero-sized `[u64; 0]` (size 0, align 8): `alloc_slice_copy` denotes nothing, `alloc_uninit_slice` a size-0 request -/
example : Entry.sliceCopy.ops 0 8 5 7 false 1 = []
    ∧ Entry.uninitSlice.ops 0 8 5 7 false 1 = [.allocLayout { size := 0, align := 8 } Hints.array, .write 1 7] :=
  ⟨(family_zst_no_ops .sliceCopy 8 5 7 false 1 rfl rfl).1, family_zst_uninit_ops .uninitSlice 8 5 7 false 1 rfl⟩

end C17
