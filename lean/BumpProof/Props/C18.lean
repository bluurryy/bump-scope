/-
  Props/C18.lean — property C18 (position part): changing the minimum alignment keeps the bump
  position aligned.  `align_to::<N>` (entry of `aligned`, `scoped_aligned`, `with_settings`),
  `BumpAlignGuard::drop` (exit of a lowering `aligned`: the current chunk AND the chunk the guard was created in,
  finding C18-e), `reset_to` (exit of `scoped_aligned`),
  the position after every allocation, and the runtime checks of `with_settings`.
-/
import BumpProof.Lemmas.AlignChunk
import BumpProof.Props.C10

namespace C18
open Arena Rs

variable {cfg : Cfg} {s : State}

/-! ## `align_to::<N>` -/

/-- After `align_to::<N>` the position of the current chunk is a multiple of `N` (and still of the old
    minimum alignment), lies in the content range, and has moved less than `N` bytes, never towards
    the allocated side (so no handed-out byte is touched).  For `N ≤ MIN_ALIGN` nothing changes. -/
theorem alignTo_position (hc : CfgOK cfg) (h : GeomInv cfg s) {n : Nat} (hn : MinAlignOK n)
    {s' : State} (he : alignTo cfg s n = .ok s') {i : Nat} (hcur : s.cur = .chunk i) :
    ∃ c, s.chunks[i]? = some c ∧ s'.cur = .chunk i ∧
      n ∣ curPos cfg s' ∧ s.minAlign ∣ curPos cfg s' ∧
      c.contentStart cfg ≤ curPos cfg s' ∧ curPos cfg s' ≤ c.contentEnd cfg ∧
      (n ≤ s.minAlign → s' = s) ∧
      (if cfg.up then c.pos ≤ curPos cfg s' ∧ curPos cfg s' < c.pos + n
       else curPos cfg s' ≤ c.pos ∧ c.pos < curPos cfg s' + n) := by
  rw [Fn.alignTo_eq] at he
  split at he
  · -- the minimum alignment is raised: the position is re-aligned as by `BumpAlignGuard::drop`
    rename_i hgt
    obtain ⟨c, h1, h2, h3, h4, h5, h6⟩ := alignGuardDrop_position hc h hn he hcur
    have p := ((alignGuardDrop_ok hc h hn).1 _ he).1
    obtain ⟨_, _, _, _, hd'⟩ := C10.curPos_in_range p.inv h2
    exact ⟨c, h1, h2, h3, p.minAlign ▸ hd', h4, h5, fun hle => absurd hgt (Nat.not_lt.2 hle), h6⟩
  · -- nothing happens: the position is already a multiple of the lower alignment
    rename_i hgt
    cases he
    obtain ⟨c, hi, hw, hd⟩ := h.curChunk hcur
    have hp := curPos_chunk (cfg := cfg) hcur hi
    have hnd : n ∣ c.pos := Nat.dvd_trans (hn.p2.dvd_of_le h.minAlign.p2 (Nat.le_of_not_lt hgt)) hd
    have hnp := hn.pos
    rw [hp]
    refine ⟨c, hi, hcur, hnd, hd, hw.pos_ge, hw.pos_le, fun _ => rfl, ?_⟩
    split <;> omega

theorem alignTo_noFault (hc : CfgOK cfg) (h : GeomInv cfg s) {n : Nat} (hn : MinAlignOK n) :
    ∃ s', alignTo cfg s n = .ok s' := C10.alignTo_noFault hc h hn

/-- entering `aligned::<N>` / `with_settings`: the state with the new minimum alignment satisfies the invariant -/
theorem alignTo_new_minAlign (hc : CfgOK cfg) (h : GeomInv cfg s) {n : Nat} (hn : MinAlignOK n)
    {s' : State} (he : alignTo cfg s n = .ok s') : GeomInv cfg { s' with minAlign := n } :=
  (C10.alignTo_inv hc h hn he).2.1

example : ∃ s', alignTo exCfg exState 16 = .ok s' := alignTo_noFault exCfg_ok exState_inv (by unfold MinAlignOK; omega)

/-! ## `BumpAlignGuard::drop` -/

/-- When a lowering `aligned::<N>` region ends (also by unwinding: the guard's `drop` runs) the position
    is again a multiple of the outer minimum alignment, inside the content range, moved by less than
    `outer` bytes towards the free side only.  (`alignGuardDrop` is the first half of the guard's `drop`,
    `align_chunk(current)`; the second half `alignChunkAt` — the chunk the guard STARTED in, when that is another
    chunk — does not touch the current chunk: `alignGuard_drop_position` below is the same statement for the
    whole `drop`.) -/
theorem alignGuardDrop_position (hc : CfgOK cfg) (h : GeomInv cfg s) {outer : Nat} (hn : MinAlignOK outer)
    {s' : State} (he : alignGuardDrop cfg s outer = .ok s') {i : Nat} (hcur : s.cur = .chunk i) :
    ∃ c, s.chunks[i]? = some c ∧ s'.cur = .chunk i ∧ outer ∣ curPos cfg s' ∧
      c.contentStart cfg ≤ curPos cfg s' ∧ curPos cfg s' ≤ c.contentEnd cfg ∧
      (if cfg.up then c.pos ≤ curPos cfg s' ∧ curPos cfg s' < c.pos + outer
       else curPos cfg s' ≤ c.pos ∧ c.pos < curPos cfg s' + outer) :=
  Arena.alignGuardDrop_position hc h hn he hcur

theorem alignGuardDrop_outer_minAlign (hc : CfgOK cfg) (h : GeomInv cfg s) {outer : Nat} (hn : MinAlignOK outer)
    {s' : State} (he : alignGuardDrop cfg s outer = .ok s') : GeomInv cfg { s' with minAlign := outer } :=
  (C10.alignGuardDrop_inv hc h hn he).2.1

example : ∃ s', alignGuardDrop exCfg exState 16 = .ok s' :=
  C10.alignGuardDrop_noFault exCfg_ok exState_inv (by unfold MinAlignOK; omega)

/-- Second half of `BumpAlignGuard::drop` (`if self.start.header != current.header { align_chunk(self.start) }`,
    finding C18-e, crate commit 58eb2b5): the chunk `j` that was current when the guard was created — the
    chunk a scope still points at when the region ran on a by-value copy of it that moved on to another
    chunk — is re-aligned too.  Afterwards its position is a multiple of the outer minimum alignment (when it IS
    the current chunk nothing is done: `alignGuardDrop` has aligned it, hypothesis `hal`), it lies in the content
    range and has moved by less than `outer` bytes towards the free side only (no handed-out byte is given
    away); every other chunk, in particular the current one, and the choice of the current chunk are untouched.
    So AT `alignedExit` THE POSITION OF ONE CHUNK OTHER THAN THE CURRENT ONE MAY MOVE UP (DOWN for downwards
    bumping) BY LESS THAN `outer` BYTES. -/
theorem alignChunkAt_position (hc : CfgOK cfg) (h : GeomInv cfg s) {outer : Nat} (hn : MinAlignOK outer)
    {j : Nat} {c : Chunk} (hj : s.chunks[j]? = some c) (hal : s.cur = .chunk j → outer ∣ c.pos)
    {s' : State} (he : alignChunkAt cfg s outer (.chunk j) = .ok s') :
    ∃ c', s'.chunks[j]? = some c' ∧ outer ∣ c'.pos ∧ c'.base = c.base ∧ c'.size = c.size ∧
      c.contentStart cfg ≤ c'.pos ∧ c'.pos ≤ c.contentEnd cfg ∧
      (if cfg.up then c.pos ≤ c'.pos ∧ c'.pos < c.pos + outer else c'.pos ≤ c.pos ∧ c.pos < c'.pos + outer) ∧
      (∀ k, k ≠ j → s'.chunks[k]? = s.chunks[k]?) ∧ s'.cur = s.cur ∧ curPos cfg s' = curPos cfg s := by
  have hw := h.chunks j c hj
  rw [alignChunkAt_eq hc hn hj hw] at he
  split at he
  · rename_i hcur
    cases he
    refine ⟨c, hj, hal hcur, rfl, rfl, hw.pos_ge, hw.pos_le, ?_, fun _ _ => rfl, rfl, rfl⟩
    have hnp := hn.pos
    split <;> omega
  · rename_i hcur
    cases he
    obtain ⟨_, e2, e3, e4⟩ := hw.alignPos_ok hc hn hw.pos_ge hw.pos_le cfg.up
    exact ⟨{ c with pos := alignPos cfg.up outer c.pos }, setPos_getElem?_self hj _, e4, rfl, rfl, e2, e3,
      alignPos_near c.pos hn.pos, fun k hk => setPos_getElem?_ne s _ (Ne.symm hk), rfl, curPos_setPos_other hcur⟩

/-- non-vacuity of `alignChunkAt_position`: chunk 1 of the example arena while chunk 0 is current -/
example : exState.chunks[1]? = some exChunk2 ∧ (exState.cur = .chunk 1 → 16 ∣ exChunk2.pos) ∧
    ∃ s', alignChunkAt exCfg exState 16 (.chunk 1) = .ok s' :=
  ⟨rfl, fun h => by simp [exState] at h, C10.alignChunkAt_noFault exCfg_ok exState_inv (by unfold MinAlignOK; omega) _⟩

/-- `alignGuardDrop_position` for the WHOLE `BumpAlignGuard::drop` (`alignGuardDrop`, then `alignChunkAt` for the
    chunk `st` the guard started in): the current position ends as a multiple of the outer minimum alignment,
    inside the content range, moved by less than `outer` bytes towards the free side only; and the state with
    the outer minimum alignment satisfies the geometry invariant. -/
theorem alignGuard_drop_position (hc : CfgOK cfg) (h : GeomInv cfg s) {outer : Nat} (hn : MinAlignOK outer) {st : Cur}
    {s1 s' : State} (he1 : alignGuardDrop cfg s outer = .ok s1) (he2 : alignChunkAt cfg s1 outer st = .ok s')
    {i : Nat} (hcur : s.cur = .chunk i) :
    (∃ c, s.chunks[i]? = some c ∧ s'.cur = .chunk i ∧ outer ∣ curPos cfg s' ∧
      c.contentStart cfg ≤ curPos cfg s' ∧ curPos cfg s' ≤ c.contentEnd cfg ∧
      (if cfg.up then c.pos ≤ curPos cfg s' ∧ curPos cfg s' < c.pos + outer
       else curPos cfg s' ≤ c.pos ∧ c.pos < curPos cfg s' + outer)) ∧
    GeomInv cfg { s' with minAlign := outer } := by
  obtain ⟨c, h1, h2, h3⟩ := alignGuardDrop_position hc h hn he1 hcur
  obtain ⟨g1, g2, _⟩ := C10.alignGuardDrop_inv hc h hn he1
  refine ⟨⟨c, h1, (alignChunkAt_cur_eq he2).trans h2, ?_⟩, (C10.alignChunkAt_inv hc g1 hn he2).2.1 g2⟩
  rw [curPos_alignChunkAt he2]; exact h3

theorem alignGuard_drop_noFault (hc : CfgOK cfg) (h : GeomInv cfg s) {outer : Nat} (hn : MinAlignOK outer) (st : Cur) :
    ∃ s1 s', alignGuardDrop cfg s outer = .ok s1 ∧ alignChunkAt cfg s1 outer st = .ok s' := by
  obtain ⟨s1, e1⟩ := C10.alignGuardDrop_noFault hc h hn
  obtain ⟨s', e2⟩ := C10.alignChunkAt_noFault hc (C10.alignGuardDrop_inv hc h hn e1).1 hn st
  exact ⟨s1, s', e1, e2⟩

/-- non-vacuity: a guard created in chunk 1 of the example arena and dropped while chunk 0 is current -/
example : ∃ s1 s', alignGuardDrop exCfg exState 16 = .ok s1 ∧ alignChunkAt exCfg s1 16 (.chunk 1) = .ok s' :=
  alignGuard_drop_noFault exCfg_ok exState_inv (by unfold MinAlignOK; omega) _

/-- `reset_to` leaves the position a multiple of the minimum alignment of the handle that resets (the
    checkpoint may stem from a region with a lower one), and it is EXACTLY the checkpoint address when
    that address is already aligned — e.g. when `scoped_aligned` returns: the checkpoint was taken
    by the outer handle before `align_to`. -/
theorem resetTo_position (hc : CfgOK cfg) (h : GeomInv cfg s) {cp : Checkpoint} (hcp : CheckpointOK cfg s cp)
    {s' : State} (he : resetTo cfg s cp = .ok s') {i : Nat} (hk : cp.cur = .chunk i) :
    s'.cur = .chunk i ∧ s.minAlign ∣ curPos cfg s' ∧ (s.minAlign ∣ cp.addr → curPos cfg s' = cp.addr) := by
  obtain ⟨g1, g2⟩ := ((resetTo_ok hc h hcp).1 _ he).2 i hk
  refine ⟨g1, by rw [g2]; exact alignPos_dvd _ _ _, ?_⟩
  intro hd
  rw [g2, alignPos_eq_self h.minAlign.pos hd]

example : CheckpointOK exCfg exState { cur := .chunk 0, addr := 0x10000 + 32 + 3 } :=
  ⟨exChunk, rfl, by decide, by decide⟩

/-- `scoped_aligned::<N>` exit: the guard was created by the OUTER handle, so `reset_to` runs with the
    outer minimum alignment `outer` while the arena is still in the inner region (minimum alignment
    `s.minAlign`, possibly lower).  It does not fault, re-establishes the invariant for `outer`, and the
    position is exactly the entry position (the checkpoint was taken by the outer handle, hence
    `outer`-aligned). -/
theorem resetTo_outer (hc : CfgOK cfg) (h : GeomInv cfg s) {outer : Nat} (ho : MinAlignOK outer) {cp : Checkpoint}
    (hcp : CheckpointOK cfg s cp) :
    ∃ s', resetTo cfg { s with minAlign := outer } cp = .ok s' ∧ GeomInv cfg s' ∧ s'.minAlign = outer ∧
      SameShape s s' ∧
      (∀ i, cp.cur = .chunk i → s'.cur = .chunk i ∧ outer ∣ curPos cfg s' ∧
        (outer ∣ cp.addr → curPos cfg s' = cp.addr)) := by
  obtain ⟨s1, e1, m, e6⟩ := (resetTo_ok_min hc h ho hcp).total
  refine ⟨s1, e1, m.inv, m.minAlign, m.shape, ?_⟩
  intro i hi
  obtain ⟨g1, g2⟩ := e6 i hi
  refine ⟨g1, by rw [g2]; exact alignPos_dvd _ _ _, ?_⟩
  intro hd
  rw [g2, alignPos_eq_self ho.pos hd]

/-- leaving a raising `aligned::<N>` region (or any switch to a LOWER minimum alignment) needs no
    re-alignment: the position is already a multiple of the lower alignment -/
theorem lower_minAlign (h : GeomInv cfg s) {m : Nat} (hm : MinAlignOK m) (hle : m ≤ s.minAlign) :
    GeomInv cfg { s with minAlign := m } :=
  h.lowerMinAlign hm hle

example : MinAlignOK 2 ∧ 2 ≤ exState.minAlign := ⟨Or.inr (Or.inl rfl), by decide⟩

/-! ## every allocation keeps the position aligned -/

/-- after `RawChunk::alloc` the position is a multiple of the minimum alignment in force -/
theorem tryCur_alloc_position (hc : CfgOK cfg) (h : GeomInv cfg s) {L : Layout} {hints : Hints} (hL : L.Valid)
    (hh : hints.sma = true → L.align ∣ L.size) {v : Nat × Nat} {s' : State}
    (he : tryCur cfg .alloc s L hints = .ok (some (v, s'))) :
    s.minAlign ∣ curPos cfg s' ∧ L.align ∣ v.1 := by
  obtain ⟨i, c, np, hcur, hi, hs', _, _, h3, h4, _⟩ := C10.tryCur_alloc_block hc h hL hh he
  subst hs'
  rw [curPos_setCurPos hcur hi]
  exact ⟨h3, h4⟩

/-- the same through the slow path (`alloc` / `alloc_sized` / … including chunk switches while the
    alignment is lowered): the position of the chunk that is current afterwards is aligned -/
theorem allocGeneric_position (hc : CfgOK cfg) (h : GeomInv cfg s) (hr : RespsOK cfg s) (k : Kind)
    {L : Layout} {hints hSlow : Hints} (hL : L.Valid) (hh : hints.sma = true → L.align ∣ L.size)
    (hhs : hSlow.sma = true → L.align ∣ L.size) (hk : k = .range → L.align ∣ L.size)
    {s' : State} {r : Except AErr (Nat × Nat)} (he : allocGeneric cfg k s L hints hSlow = .ok (s', r))
    {j : Nat} (hj : s'.cur = .chunk j) : s.minAlign ∣ curPos cfg s' := by
  have p := C10.allocGeneric_inv hc h hr k hL hh hhs hk he
  obtain ⟨_, _, _, _, hd⟩ := C10.curPos_in_range p.inv hj
  exact p.minAlign ▸ hd

/-! ## the runtime checks of `with_settings` -/

/-- the `with_settings` step once its guards (no open region: `hf`, nothing prepared: `hp`, a supported `MIN_ALIGN`) are
    passed: the two run-time checks of `ensure_satisfies_settings`, then `align_to`; both theorems below rest on it -/
theorem stepCore_withSettings {g : GState} {n : Nat} (ga cl : Bool) (hn : MinAlignOK n)
    (hf : g.s.frames = []) (hp : g.s.prepared = none) :
    stepCore cfg g (.withSettings n ga cl) =
      if (!cl && g.s.cur == .claimed) = true then .ok (g, .panic "claimed")
      else if (ga && g.s.cur == .unallocated) = true then .ok (g, .panic "unallocated")
      else alignTo cfg g.s n >>= fun s' => pure ({ g with s := { s' with minAlign := n } }, .unit) := by
  have h1 : noFrames g.s = .ok () := by unfold noFrames; rw [hf]; rfl
  have h2 : noPrepared g.s = .ok () := by unfold noPrepared; rw [hp]; rfl
  have h3 : (!(n == 1 || n == 2 || n == 4 || n == 8 || n == 16)) = false := by
    rcases hn with h | h | h | h | h <;> subst h <;> rfl
  -- the branch of `stepCore`, by unfolding
  show (noFrames g.s >>= fun _ => noPrepared g.s >>= fun _ => _) = _
  simp only [h1, h2, h3, r_ok_bind, Bool.false_eq_true, ↓reduceIte]
  rfl

/-- `with_settings` panics exactly when it needs an unclaimed arena but is claimed, or needs an
    allocated arena but is unallocated; it never faults -/
theorem withSettings_panics_iff (hc : CfgOK cfg) {g : GState} (h : GeomInv cfg g.s) {n : Nat} (ga cl : Bool)
    (hn : MinAlignOK n) (hf : g.s.frames = []) (hp : g.s.prepared = none) :
    (∃ g' out, stepCore cfg g (.withSettings n ga cl) = .ok (g', out)) ∧
    ((∃ g' msg, stepCore cfg g (.withSettings n ga cl) = .ok (g', .panic msg)) ↔
      ((cl = false ∧ g.s.cur = .claimed) ∨ (ga = true ∧ g.s.cur = .unallocated))) := by
  rw [stepCore_withSettings ga cl hn hf hp, ← not_and_beq, ← and_beq]
  obtain ⟨s1, e1⟩ := C10.alignTo_noFault hc h hn
  by_cases hA : (!cl && g.s.cur == .claimed) = true
  · simp only [hA, ↓reduceIte]
    exact ⟨⟨_, _, rfl⟩, fun _ => Or.inl trivial, fun _ => ⟨_, _, rfl⟩⟩
  · simp only [hA]
    by_cases hB : (ga && g.s.cur == .unallocated) = true
    · simp only [hB, ↓reduceIte]
      exact ⟨⟨_, _, rfl⟩, fun _ => Or.inr trivial, fun _ => ⟨_, _, rfl⟩⟩
    · simp only [hB, e1, r_ok_bind]
      exact ⟨⟨_, _, rfl⟩, fun ⟨g', msg, hx⟩ => (by cases hx), fun hx => hx.elim (fun e => by cases e) (fun e => by cases e)⟩

/-- when `with_settings` does not panic the new handle's minimum alignment holds for the position -/
theorem withSettings_ok (hc : CfgOK cfg) {g : GState} (h : GeomInv cfg g.s) {n : Nat} (ga cl : Bool)
    (hn : MinAlignOK n) (hf : g.s.frames = []) (hp : g.s.prepared = none)
    (hA : ¬ (cl = false ∧ g.s.cur = .claimed)) (hB : ¬ (ga = true ∧ g.s.cur = .unallocated)) :
    ∃ g', stepCore cfg g (.withSettings n ga cl) = .ok (g', .unit) ∧ GeomInv cfg g'.s ∧ g'.s.minAlign = n := by
  rw [stepCore_withSettings ga cl hn hf hp]
  obtain ⟨s1, e1⟩ := C10.alignTo_noFault hc h hn
  simp only [mt not_and_beq.1 hA, mt and_beq.1 hB, e1, r_ok_bind]
  exact ⟨_, rfl, (C10.alignTo_inv hc h hn e1).2.1, rfl⟩

example : (initState exCfg).frames = [] ∧ (initState exCfg).prepared = none := ⟨rfl, rfl⟩

end C18
