/-
  Props/C17.lean — property C17: all allocation entry points are interchangeable.

  In the model an entry point is (a) a set of layout hints (`Hints.sized` = `alloc_sized::<T>`,
  `Hints.array` = `alloc_slice::<T>`, `Hints.custom` = the generic `Layout` path / `Allocator`
  interface / trait objects), (b) a wrapper (`Via`), (c) for `reserve` the typed method versus the
  `dyn BumpAllocatorCore` implementation.  Part 1: the hints never matter.  Part 2: the wrappers do not
  matter where they forward unchanged (`allocate`, `grow`, `deallocate` through `WithoutShrink`, `shrink` through
  `WithoutDealloc`); `WithoutDealloc::deallocate` and `WithoutShrink::shrink` do differ.  Part 3: `reserve` — the typed and the `dyn` implementation agree when the request fits
  the current chunk and are observably DIFFERENT otherwise (finding C17-a, witness included).
-/
import BumpProof.Lemmas.CtrlEx
namespace C17
open Arena Rs Ctrl Lemmas

/-! ## Part 1: typed fast paths = generic layout path -/

/-- on the current chunk: all truthful hints give the same answer and the same new state, for every
    kind of request (allocate, prepare, prepare a range) -/
theorem tryCur_hint_independent (cfg : Cfg) (k : Kind) (s : State) (L : Layout) (h1 h2 : Hints)
    (hv : C11.Valid cfg.up (bumpProps cfg s L h1)) (ht : Truthful L h2) :
    tryCur cfg k s L h1 = tryCur cfg k s L h2 := by
  rw [tryCur_eq_of_valid hv, tryCur_eq_of_valid (valid_hints hv ht)]

/-- fast path + slow path (`RawBump::alloc` / `alloc_sized` / `alloc_slice` / `prepare_*`) -/
theorem allocGeneric_hint_independent (cfg : Cfg) (k : Kind) (s : State) (L : Layout) (h1 h2 hs : Hints)
    (hv : C11.Valid cfg.up (bumpProps cfg s L h1)) (ht : Truthful L h2) :
    allocGeneric cfg k s L h1 hs = allocGeneric cfg k s L h2 hs := by
  unfold allocGeneric
  rw [tryCur_hint_independent cfg k s L h1 h2 hv ht]

/-- In a history: `try_allocate_sized` / `try_allocate_slice` / `try_allocate_layout` (any truthful hints)
    and `Allocator::allocate` produce the same result AND the same successor state (same address,
    same chunks, same positions, same ghost block). -/
theorem step_allocLayout_eq_allocate (cfg : Cfg) (g : GState) (L : Layout) (h : Hints)
    (hv : C11.Valid cfg.up (bumpProps cfg g.s L Hints.custom)) (ht : Truthful L h) :
    stepCore cfg g (.allocLayout L h) = stepCore cfg g (.allocate L false .plain) := by
  have hsma : (h.sma && L.size % L.align != 0) = false := by
    cases hs : h.sma
    · rfl
    · simp [Nat.mod_eq_zero_of_dvd (ht hs)]
  unfold stepCore alloc
  simp only [hsma, Bool.false_eq_true, ↓reduceIte, allocGeneric_hint_independent cfg .alloc g.s L h Hints.custom
    Hints.custom (valid_hints hv ht) (custom_sma L)]
  cases validLayout L with
  | error e => rfl
  | ok u =>
    cases noPrepared g.s with
    | error e => rfl
    | ok u2 =>
      simp only [R_ok_bind]
      cases allocGeneric cfg .alloc g.s L Hints.custom Hints.custom with
      | error e => rfl
      | ok sr =>
        obtain ⟨s1, _ | ⟨p, q⟩⟩ := sr <;> rfl

/-- two typed entry points against each other (e.g. `alloc_sized::<[T; N]>` vs `alloc_slice::<T>`) -/
theorem step_allocLayout_hints (cfg : Cfg) (g : GState) (L : Layout) (h1 h2 : Hints)
    (hv : C11.Valid cfg.up (bumpProps cfg g.s L Hints.custom)) (ht1 : Truthful L h1) (ht2 : Truthful L h2) :
    stepCore cfg g (.allocLayout L h1) = stepCore cfg g (.allocLayout L h2) := by
  rw [step_allocLayout_eq_allocate cfg g L h1 hv ht1, step_allocLayout_eq_allocate cfg g L h2 hv ht2]

/-! ## Part 2: wrappers and references forward unchanged -/

/-- The Rust wrappers forward these calls to the same `allocator_impl` function, and `stepCore` does not look at
    `via` in these cases: the next four hold by `rfl`. -/
theorem step_allocate_via (cfg : Cfg) (g : GState) (L : Layout) (z : Bool) (via1 via2 : Via) :
    stepCore cfg g (.allocate L z via1) = stepCore cfg g (.allocate L z via2) := rfl

theorem step_grow_via (cfg : Cfg) (g : GState) (b : Nat) (L : Layout) (z : Bool) (via1 via2 : Via) :
    stepCore cfg g (.grow b L z via1) = stepCore cfg g (.grow b L z via2) := rfl

theorem step_deallocate_withoutShrink (cfg : Cfg) (g : GState) (b : Nat) :
    stepCore cfg g (.deallocate b .withoutShrink) = stepCore cfg g (.deallocate b .plain) := rfl

theorem step_shrink_withoutDealloc (cfg : Cfg) (g : GState) (b : Nat) (L : Layout) :
    stepCore cfg g (.shrink b L .withoutDealloc) = stepCore cfg g (.shrink b L .plain) := rfl

/-! ## Part 3: `reserve` — typed method versus `dyn BumpAllocatorCore` -/

/-- when the request fits the free space of the current chunk both implementations do nothing -/
theorem reserve_agree_when_fits (cfg : Cfg) (s : State) (i : Nat) (c : Chunk) (n : Nat)
    (hcur : s.cur = .chunk i) (hget : s.chunks[i]? = some c)
    (hv : C11.Valid cfg.up (bumpProps cfg s { size := n, align := 1 } Hints.custom))
    (hle : (freeRange cfg s).1 ≤ (freeRange cfg s).2)
    (hn : n ≤ c.remaining cfg) :
    reserve cfg s n = .ok (s, .ok ()) ∧ reserveDyn cfg s n = .ok (s, .ok ()) :=
  ⟨reserve_fits ⟨hcur, hget⟩ hn, reserveDyn_fits ⟨hcur, hget⟩ hv hle hn⟩

theorem step_reserve_agree_when_fits (cfg : Cfg) (g : GState) (i : Nat) (c : Chunk) (n : Nat)
    (hcur : g.s.cur = .chunk i) (hget : g.s.chunks[i]? = some c)
    (hv : C11.Valid cfg.up (bumpProps cfg g.s { size := n, align := 1 } Hints.custom))
    (hle : (freeRange cfg g.s).1 ≤ (freeRange cfg g.s).2)
    (hn : n ≤ c.remaining cfg) :
    stepCore cfg g (.reserve n true) = stepCore cfg g (.reserve n false) := by
  obtain ⟨h1, h2⟩ := reserve_agree_when_fits cfg g.s i c n hcur hget hv hle hn
  unfold stepCore
  simp only [h1, h2, ↓reduceIte, Bool.false_eq_true]

/-- **Known deviation C17-a.**  When the request does NOT fit the current chunk but a later chunk has
    room, the typed `reserve` leaves the current chunk alone, whereas the trait-object `reserve`
    (built on `prepare_allocation`) makes the later chunk current: the two entry points are
    observably different (the rest of the current chunk is skipped).  Concrete witness: a 256-byte
    chunk with 16 free bytes followed by an empty 512-byte chunk, `reserve(64)`. -/
theorem reserve_dyn_differs :
    ∃ (cfg : Cfg) (s s1 s2 : State) (n : Nat),
      reserve cfg s n = .ok (s1, .ok ()) ∧ reserveDyn cfg s n = .ok (s2, .ok ()) ∧
      s1.cur = s.cur ∧ s2.cur ≠ s.cur ∧ curPos cfg s1 = curPos cfg s ∧ curPos cfg s2 ≠ curPos cfg s :=
  ⟨wCfg, wState, wState, { wState with chunks := [wChunk0, wChunk1.resetPos wCfg], cur := .chunk 1 }, 64,
    by rfl, by rfl, rfl, by decide, rfl, by decide⟩

/-! ## Non-vacuity: the hypotheses hold on concrete states (`Lemmas/CtrlEx.lean`) -/

example : tryCur wCfg .alloc exUp exL Hints.sized = tryCur wCfg .alloc exUp exL Hints.custom :=
  tryCur_hint_independent _ _ _ _ _ _ (exUp_valid exL exL_valid _ (fun _ => ⟨3, rfl⟩)) (custom_sma _)

example : stepCore wCfg ⟨exUp, []⟩ (.allocLayout exL Hints.array) = stepCore wCfg ⟨exUp, []⟩ (.allocate exL false .plain) :=
  step_allocLayout_eq_allocate _ _ _ _ (exUp_valid exL exL_valid _ (custom_sma _)) (fun _ => ⟨3, rfl⟩)

/-- 16 bytes are free in the current chunk of `wState`: a reserve of 16 fits -/
example : reserve wCfg wState 16 = .ok (wState, .ok ()) ∧ reserveDyn wCfg wState 16 = .ok (wState, .ok ()) :=
  reserve_agree_when_fits wCfg wState 0 wChunk0 16 rfl rfl
    (wState_valid _ ⟨⟨0, by decide, rfl⟩, by decide⟩ _ (custom_sma _)) (by decide) (by decide)

end C17
