/-
  Props/C14.lean — property C14: a claimed allocator is inert until the claim ends,
  then resumes.

  While a claim guard lives, the ORIGINAL handle holds the static `claimed` dummy chunk
  (`State.cur = .claimed`); the claimant works on the real chunks.  Part 1 is about the
  model functions evaluated on a state with `cur = .claimed`, part 2 about `stepCore`
  (`Op.onClaimed op` = `op` addressed to the original handle), the third section about
  `Op.claim` / `Op.claimEnd`: the original handle resumes where the guard stopped.
-/
import BumpProof.Lemmas.CtrlEx


namespace C14
open Arena Rs Ctrl

/-! ## Part 1: the model functions on a claimed handle -/

/-- the free range a claimed handle computes is the dummy range of capacity −16 -/
theorem bumpProps_dummy (cfg : Cfg) (s : State) (L : Layout) (h : Hints) (hc : s.cur = .claimed) :
    C11.Dummy (bumpProps cfg s L h) :=
  dummy_of_freeRange L h (freeRange_claimed cfg hc)

/-- … and it satisfies the precondition of the bump computations (so they neither overflow nor
    trip a debug assertion) -/
theorem bumpProps_valid (cfg : Cfg) (s : State) (L : Layout) (h : Hints) (up : Bool) (hc : s.cur = .claimed)
    (hm : MinAlignOk s.minAlign) (hL : L.Valid) (ht : Truthful L h) :
    C11.Valid up (bumpProps cfg s L h) :=
  valid_of_dummy up (freeRange_claimed cfg hc) hm hL ht

/-- every fast path (`alloc`, `prepare_allocation`, `prepare_allocation_range`), for every layout
    and all truthful hints, answers "does not fit" without a fault -/
theorem tryCur_none (cfg : Cfg) (k : Kind) (s : State) (L : Layout) (h : Hints) (hc : s.cur = .claimed)
    (hm : MinAlignOk s.minAlign) (hL : L.Valid) (ht : Truthful L h) :
    tryCur cfg k s L h = .ok none :=
  tryCur_dummy k (valid_of_dummy cfg.up (freeRange_claimed cfg hc) hm hL ht)
    (dummy_of_freeRange L h (freeRange_claimed cfg hc))

/-- the slow path refuses with `claimed` and leaves the state alone (no base-allocator traffic) -/
theorem inAnotherChunk_claimed (cfg : Cfg) (k : Kind) (s : State) (L : Layout) (h : Hints)
    (hc : s.cur = .claimed) :
    inAnotherChunk cfg k s L h = .ok (s, .error .claimed) := by
  unfold inAnotherChunk
  simp only [hc]
  rfl

theorem allocGeneric_claimed (cfg : Cfg) (k : Kind) (s : State) (L : Layout) (h hs : Hints)
    (hc : s.cur = .claimed) (hm : MinAlignOk s.minAlign) (hL : L.Valid) (ht : Truthful L h) :
    allocGeneric cfg k s L h hs = .ok (s, .error .claimed) := by
  unfold allocGeneric
  rw [tryCur_none cfg k s L h hc hm hL ht]
  exact inAnotherChunk_claimed cfg k s L hs hc

theorem alloc_claimed (cfg : Cfg) (s : State) (L : Layout)
    (hc : s.cur = .claimed) (hm : MinAlignOk s.minAlign) (hL : L.Valid) :
    alloc cfg s L = .ok (s, .error .claimed) := by
  unfold alloc
  rw [allocGeneric_claimed cfg .alloc s L _ _ hc hm hL (custom_sma L)]
  rfl

theorem reserve_claimed (cfg : Cfg) (s : State) (n : Nat) (hc : s.cur = .claimed) :
    reserve cfg s n = .ok (s, .error .claimed) := by
  unfold reserve
  simp only [hc]
  rfl

/-- `dyn` reserve: refused as well (a request beyond `isize::MAX` is refused before the handle is looked at) -/
theorem reserveDyn_claimed (cfg : Cfg) (s : State) (n : Nat) (hc : s.cur = .claimed)
    (hm : MinAlignOk s.minAlign) :
    reserveDyn cfg s n = .ok (s, .error (if n ≤ Rs.IMAX then .claimed else .capacityOverflow)) := by
  unfold reserveDyn layoutOk
  by_cases hn : n ≤ Rs.IMAX
  · simp only [Nat.sub_self, Nat.add_zero, hn, decide_true, Bool.not_true, Bool.false_eq_true, ↓reduceIte,
      allocGeneric_claimed cfg .range s _ _ _ hc hm (bytes_layout_valid hn) (custom_sma _)]
    rfl
  · simp only [Nat.sub_self, Nat.add_zero, hn, decide_false, Bool.not_false, ↓reduceIte]
    rfl

/-- the position a claimed handle reports is the dummy address; a block of a real chunk is never
    "the last allocation" of the claimed handle -/
theorem isLast_claimed (cfg : Cfg) (s : State) (ptr size : Nat) (hc : s.cur = .claimed) :
    isLast cfg s ptr size = (if cfg.up then ptr + size == dummyAddr + 16 else ptr == dummyAddr) := by
  unfold isLast curPos
  simp only [hc]
  cases cfg.up <;> rfl

theorem isLast_claimed_false (cfg : Cfg) (s : State) (ptr size : Nat) (hc : s.cur = .claimed)
    (hb : ptr + size < dummyAddr) : isLast cfg s ptr size = false := by
  rw [isLast_claimed cfg s ptr size hc]
  cases cfg.up
  · simp only [Bool.false_eq_true, ↓reduceIte, beq_eq_false_iff_ne]; omega
  · simp only [↓reduceIte, beq_eq_false_iff_ne]; omega

/-- `deallocate` of a block that is not the handle's newest one does nothing; for a claimed handle no block of a
    real chunk is (`isLast_claimed_false`) -/
theorem deallocate_claimed (cfg : Cfg) (s : State) (ptr size : Nat)
    (hl : isLast cfg s ptr size = false) :
    deallocate cfg s ptr size = .ok s :=
  deallocate_noop (.inr hl)

/-- `grow` is a request for memory: refused, state unchanged -/
theorem grow_claimed (cfg : Cfg) (s : State) (ptr oldSize : Nat) (newL : Layout)
    (hc : s.cur = .claimed) (hm : MinAlignOk s.minAlign) (hL : newL.Valid) (hsz : oldSize ≤ newL.size)
    (hl : isLast cfg s ptr oldSize = false) :
    grow cfg s ptr oldSize newL = .ok (s, .error .claimed) := by
  unfold grow
  have ha : Rs.assert (decide (newL.size ≥ oldSize)) = .ok () := Lemmas.assert_decide hsz
  simp only [ha, liftM_ok, R_ok_bind, hl, Bool.false_and, Bool.false_eq_true, ↓reduceIte,
    alloc_claimed cfg s newL hc hm hL]
  cases cfg.up <;> rfl

/-- `shrink` (alignment fits) of a block that is not the handle's newest one returns the block as it is; for a
    claimed handle: `isLast_claimed_false` -/
theorem shrink_claimed (cfg : Cfg) (s : State) (ptr oldSize : Nat) (newL : Layout)
    (hsz : newL.size ≤ oldSize) (hfit : alignFits ptr newL.align = true)
    (hl : isLast cfg s ptr oldSize = false) :
    shrink cfg s ptr oldSize newL = .ok (s, .ok (ptr, oldSize)) :=
  shrink_noop hsz hfit (.inr hl)

/-- the statistics of a claimed handle describe an empty arena -/
theorem stats_claimed (cfg : Cfg) (s : State) (hc : s.cur = .claimed) : stats cfg s = ⟨0, 0, 0, 0, 0⟩ := by
  unfold stats
  simp only [hc]

/-! ## Part 2: operations addressed to the claimed handle in a history -/

def HasClaim (g : GState) : Prop := Frame.claim ∈ g.s.frames

theorem onClaimed_allocate (cfg : Cfg) (g : GState) (L : Layout) (z : Bool) (via : Via)
    (hcl : HasClaim g) (hm : MinAlignOk g.s.minAlign) (hL : L.Valid) :
    stepCore cfg g (.onClaimed (.allocate L z via)) = .ok (g, .err .claimed) := by
  unfold stepCore
  simp only [any_claim hcl, Bool.not_true, Bool.false_eq_true, ↓reduceIte, validLayout_ok hL, R_ok_bind,
    alloc_claimed cfg { g.s with cur := .claimed } L rfl hm hL]
  rfl

theorem onClaimed_allocLayout (cfg : Cfg) (g : GState) (L : Layout) (h : Hints)
    (hcl : HasClaim g) (hm : MinAlignOk g.s.minAlign) (hL : L.Valid) (ht : Truthful L h) :
    stepCore cfg g (.onClaimed (.allocLayout L h)) = .ok (g, .err .claimed) := by
  unfold stepCore
  simp only [any_claim hcl, Bool.not_true, Bool.false_eq_true, ↓reduceIte, validLayout_ok hL, R_ok_bind,
    allocGeneric_claimed cfg .alloc { g.s with cur := .claimed } L h Hints.custom rfl hm hL ht]
  rfl

theorem onClaimed_reserve (cfg : Cfg) (g : GState) (n : Nat) (dyn : Bool)
    (hcl : HasClaim g) (hm : MinAlignOk g.s.minAlign) :
    stepCore cfg g (.onClaimed (.reserve n dyn)) =
      .ok (g, .err (if dyn = true ∧ ¬ n ≤ Rs.IMAX then .capacityOverflow else .claimed)) := by
  unfold stepCore
  simp only [any_claim hcl, Bool.not_true, Bool.false_eq_true, ↓reduceIte]
  cases dyn
  · simp only [Bool.false_eq_true, ↓reduceIte, false_and, reserve_claimed cfg { g.s with cur := .claimed } n rfl]
    rfl
  · simp only [↓reduceIte, true_and, reserveDyn_claimed cfg { g.s with cur := .claimed } n rfl hm]
    by_cases hn : n ≤ Rs.IMAX <;> simp only [hn, ↓reduceIte, not_true_eq_false, not_false_eq_true] <;> rfl

theorem onClaimed_grow (cfg : Cfg) (g : GState) (b : Nat) (blk : Block) (L : Layout) (z : Bool) (via : Via)
    (hcl : HasClaim g) (hm : MinAlignOk g.s.minAlign) (hL : L.Valid)
    (hb : findBlock g.s b = .ok blk) (hsz : blk.size ≤ L.size)
    (hl : isLast cfg { g.s with cur := .claimed } blk.addr blk.size = false) :
    stepCore cfg g (.onClaimed (.grow b L z via)) = .ok (g, .err .claimed) := by
  unfold stepCore
  simp only [any_claim hcl, Bool.not_true, Bool.false_eq_true, ↓reduceIte, validLayout_ok hL, R_ok_bind, hb,
    Nat.not_lt.2 hsz, grow_claimed cfg { g.s with cur := .claimed } blk.addr blk.size L rfl hm hL hsz hl]
  rfl

theorem onClaimed_claim (cfg : Cfg) (g : GState) (hcl : HasClaim g) :
    stepCore cfg g (.onClaimed .claim) = .ok (g, .panic "bump allocator is already claimed") := by
  unfold stepCore
  simp only [any_claim hcl, Bool.not_true, Bool.false_eq_true, ↓reduceIte]
  rfl

/-- `deallocate` through the claimed handle changes nothing in the arena: only the ghost block is forgotten -/
theorem onClaimed_deallocate (cfg : Cfg) (g : GState) (b : Nat) (blk : Block) (via : Via)
    (hcl : HasClaim g) (hb : findBlock g.s b = .ok blk)
    (hl : isLast cfg { g.s with cur := .claimed } blk.addr blk.size = false) :
    stepCore cfg g (.onClaimed (.deallocate b via)) = .ok ({ g with s := removeBlock g.s b }, .unit) := by
  unfold stepCore
  simp only [any_claim hcl, Bool.not_true, Bool.false_eq_true, ↓reduceIte, R_ok_bind, hb,
    deallocate_claimed cfg { g.s with cur := .claimed } blk.addr blk.size hl]
  rfl

/-- `shrink` through the claimed handle (alignment fits): same address, same size, arena untouched -/
theorem onClaimed_shrink (cfg : Cfg) (g : GState) (b : Nat) (blk : Block) (L : Layout) (via : Via)
    (hcl : HasClaim g) (hL : L.Valid) (hb : findBlock g.s b = .ok blk) (hsz : L.size ≤ blk.size)
    (hfit : alignFits blk.addr L.align = true)
    (hl : isLast cfg { g.s with cur := .claimed } blk.addr blk.size = false) :
    ∃ g', stepCore cfg g (.onClaimed (.shrink b L via)) = .ok (g', .block g.s.nextId blk.addr blk.size) ∧
      g'.s.chunks = g.s.chunks ∧ g'.s.cur = g.s.cur ∧ g'.marks = g.marks ∧ g'.s.frames = g.s.frames := by
  refine ⟨{ g with s := (okOut (removeBlock g.s b) blk.addr blk.size L.align (Nat.min blk.init blk.size)).1 },
    ?_, rfl, rfl, rfl, rfl⟩
  unfold stepCore
  simp only [any_claim hcl, Bool.not_true, Bool.false_eq_true, ↓reduceIte, validLayout_ok hL, R_ok_bind, hb,
    Nat.not_lt.2 hsz, hfit, shrink_claimed cfg { g.s with cur := .claimed } blk.addr blk.size L hsz hfit hl]
  rfl

/-! ## Claim … claim end: the original handle resumes exactly where the guard stopped -/

/-- taking a claim hands the claimant the very chunks / position / blocks the original had -/
theorem claim_view (cfg : Cfg) (g : GState) (hp : g.s.prepared = none) (hc : cfg.claimable = true) :
    stepCore cfg g .claim = .ok ({ g with s := { g.s with frames := .claim :: g.s.frames } }, .unit) := by
  unfold stepCore
  simp only [noPrepared, hp, Option.isNone_none, ↓reduceIte, R_pure_bind, hc, Bool.not_true, Bool.false_eq_true]
  rfl

/-- dropping the guard: everything done through the guard (chunks, current chunk, positions, live
    blocks, bytes) is kept by the original handle; only the claim frame disappears -/
theorem claimEnd_resume (cfg : Cfg) (g : GState) (rest : List Frame) (hp : g.s.prepared = none)
    (hf : g.s.frames = .claim :: rest) :
    stepCore cfg g .claimEnd = .ok ({ g with s := { g.s with frames := rest } }, .unit) := by
  unfold stepCore
  simp only [noPrepared, hp, Option.isNone_none, ↓reduceIte, R_pure_bind, hf]
  rfl

/-- claim immediately followed by the end of the claim is the identity -/
theorem claim_claimEnd (cfg : Cfg) (g : GState) (hp : g.s.prepared = none) (hc : cfg.claimable = true) :
    ∃ g1, stepCore cfg g .claim = .ok (g1, .unit) ∧ g1.s.cur = g.s.cur ∧ g1.s.chunks = g.s.chunks ∧
      HasClaim g1 ∧ stepCore cfg g1 .claimEnd = .ok (g, .unit) := by
  refine ⟨_, claim_view cfg g hp hc, rfl, rfl, ?_, ?_⟩
  · exact List.mem_cons_self
  · exact claimEnd_resume cfg { g with s := { g.s with frames := .claim :: g.s.frames } } g.s.frames hp rfl

/-! ## Non-vacuity: the hypotheses hold on concrete states (`Lemmas/CtrlEx.lean`) -/

example : tryCur wCfg .range exClaimed exL Hints.sized = .ok none :=
  tryCur_none _ _ _ _ _ rfl minAlign8 exL_valid (fun _ => ⟨3, rfl⟩)

example : isLast wCfg exClaimed exBlk.addr exBlk.size = false :=
  isLast_claimed_false _ _ _ _ rfl (by decide)

example : grow wCfg exClaimed exBlk.addr exBlk.size { size := 32, align := 8 } = .ok (exClaimed, .error .claimed) :=
  grow_claimed _ _ _ _ _ rfl minAlign8 ⟨⟨3, by decide, rfl⟩, by decide⟩ (by decide)
    (isLast_claimed_false _ _ _ _ rfl (by decide))

example : reserveDyn wCfg exClaimed 100 = .ok (exClaimed, .error .claimed) :=
  reserveDyn_claimed _ _ _ rfl minAlign8

example : HasClaim exG := List.mem_cons_self

example : stepCore wCfg exG (.onClaimed (.allocLayout exL Hints.sized)) = .ok (exG, .err .claimed) :=
  onClaimed_allocLayout _ _ _ _ List.mem_cons_self minAlign8 exL_valid (fun _ => ⟨3, rfl⟩)

example : stepCore wCfg exG (.onClaimed (.allocate exL true .withoutShrink)) = .ok (exG, .err .claimed) :=
  onClaimed_allocate _ _ _ _ _ List.mem_cons_self minAlign8 exL_valid

example : stepCore wCfg exG (.onClaimed (.reserve 1000 true)) = .ok (exG, .err .claimed) :=
  onClaimed_reserve _ _ 1000 true List.mem_cons_self minAlign8

example : stepCore wCfg exG (.onClaimed .claim) = .ok (exG, .panic "bump allocator is already claimed") :=
  onClaimed_claim _ _ List.mem_cons_self

example : stepCore wCfg exG (.onClaimed (.grow 0 { size := 32, align := 8 } false .plain)) = .ok (exG, .err .claimed) :=
  onClaimed_grow _ _ 0 exBlk _ _ _ List.mem_cons_self minAlign8 ⟨⟨3, by decide, rfl⟩, by decide⟩ rfl (by decide)
    (isLast_claimed_false _ _ _ _ rfl (by decide))

example : stepCore wCfg exG (.onClaimed (.deallocate 0 .plain)) = .ok ({ exG with s := removeBlock exG.s 0 }, .unit) :=
  onClaimed_deallocate _ _ 0 exBlk _ List.mem_cons_self rfl (isLast_claimed_false _ _ _ _ rfl (by decide))

example : ∃ g', stepCore wCfg exG (.onClaimed (.shrink 0 { size := 8, align := 8 } .plain)) =
    .ok (g', .block 1 exBlk.addr exBlk.size) ∧ g'.s.chunks = exG.s.chunks ∧ g'.s.cur = exG.s.cur ∧
      g'.marks = exG.marks ∧ g'.s.frames = exG.s.frames :=
  onClaimed_shrink _ _ 0 exBlk _ .plain List.mem_cons_self ⟨⟨3, by decide, rfl⟩, by decide⟩ rfl (by decide) rfl
    (isLast_claimed_false _ _ _ _ rfl (by decide))

example : ∃ g1, stepCore wCfg ⟨exUp, []⟩ .claim = .ok (g1, .unit) ∧ g1.s.cur = exUp.cur ∧ g1.s.chunks = exUp.chunks ∧
    HasClaim g1 ∧ stepCore wCfg g1 .claimEnd = .ok (⟨exUp, []⟩, .unit) :=
  claim_claimEnd _ _ rfl rfl

end C14
