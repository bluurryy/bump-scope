/-
  Props/Hist2.lean — the properties C03, C07, C10, C13, C14, C15, C18 over ALL FINITE HISTORIES: what the step-level
  theorems of `Props/Cxx.lean` say of one call under explicit hypotheses holds here from every reachable state, by the
  inductive invariant `Arena.Hist.Inv` (Arena/Hist.lean, Props/Hist.lean).

  One namespace per property (`C07`, `C03`, …).  Helper lemmas: the `Lemmas/Hist*` modules imported below.
-/
import BumpProof.Lemmas.HistAllocatedTryWith
import BumpProof.Lemmas.HistClaimedHandle
import BumpProof.Lemmas.HistExamplesInside
import BumpProof.Lemmas.HistFailedStep
import BumpProof.Lemmas.HistFrameIrrelRun
import BumpProof.Lemmas.HistPreparedLife

set_option linter.unusedSimpArgs false
set_option linter.unusedVariables false

/-! # C07 — a reported allocation failure leaves everything intact, in every history -/

namespace C07
open Arena Arena.Hist Ledger Rs

variable {cfg : Cfg} {g g' : GState}

/-- FROM ANY REACHABLE STATE, for EVERY operation (all 34 constructors, every wrapper, both handles): if the
    step reports an allocation error (`Out.err e`: refusal of the base allocator at any point of the slow path,
    size overflow, claimed handle) then
    * the state afterwards is again reachable and satisfies the invariant of histories — the arena keeps
      working: every theorem about reachable states applies to every continuation;
    * the ghost state is untouched: same live blocks (nothing leaked, nothing forgotten), same open
      scopes / claims / aligned regions and their marks, same checkpoints, same prepared allocation, same
      minimum alignment;
    * no chunk was added, removed or moved and NO BYTE of any chunk was written (`geometry`), so every byte
      of the address space reads as before — in particular the contents of every live block;
    * the current chunk is the same, and the bump positions of all chunks up to and including it are the
      same; hence the current position and `stats().allocated()` are unchanged;
    * at most one request was made to the base allocator (an `alloc` with the header alignment), and none at
      all unless the error is the refusal `AErr.alloc`. -/
theorem failed_step_keeps_everything (hc : CfgOK cfg) (h : Reachable cfg g) {op : Op} {resps : List BaseResp}
    {e : AErr} {reqs : List BaseReq} (hcov : op.Covered) (henv : EnvOK cfg g resps)
    (hs : step cfg g op resps = .ok (g', .err e, reqs)) :
    Reachable cfg g' ∧ Inv cfg g' ∧
    (g'.s.live = g.s.live ∧ g'.marks = g.marks ∧ g'.s.frames = g.s.frames ∧ g'.s.userCps = g.s.userCps ∧
      g'.s.prepared = g.s.prepared ∧ g'.s.minAlign = g.s.minAlign ∧ g'.s.nextId = g.s.nextId) ∧
    geometry g'.s = geometry g.s ∧ (∀ a, readByte g'.s a = readByte g.s a) ∧
    (g'.s.cur = g.s.cur ∧
      (∀ i, g.s.cur = .chunk i → ∀ j, j ≤ i → (g'.s.chunks[j]?).map (·.pos) = (g.s.chunks[j]?).map (·.pos)) ∧
      curPos cfg g'.s = curPos cfg g.s ∧ (stats cfg g'.s).allocated = (stats cfg g.s).allocated) ∧
    ((reqs = [] ∨ ∃ size, reqs = [BaseReq.alloc size cfg.hdr.align]) ∧ (e ≠ .alloc → reqs = [])) := by
  obtain ⟨h1, h2, h3⟩ := step_ok hs
  obtain ⟨⟨hi, hq, hquiet⟩, hm⟩ := stepCore_err_keeps h1 e rfl
  -- `hi` speaks of `(install g resps).s`; `Intact` mentions neither `reqs` nor `resps`, so its fields are those for `g.s`
  have hi' : Intact g.s g'.s := ⟨hi.live, hi.ghost, hi.geometry, hi.pos, hi.noCur, hi.cur, hi.sameCur⟩
  obtain ⟨g1, g2, g3, g4, g5, g6⟩ := hi'.ghost
  refine ⟨h.snoc hcov henv hs, inv_step hcov (h.inv hc) henv hs, ⟨hi'.live, hm, g2, g4, g5, g1, g3⟩,
    hi'.geometry, fun a => Mem.readByte_congr hi'.geometry a, ⟨hi'.sameCur, hi'.pos, hi'.curPos cfg, allocated_of_intact (h.inv hc).geom hi'⟩, ?_, ?_⟩
  · rw [h3]; exact hq
  · intro hne
    rw [h3]
    exact (hquiet hne).1

/-- NO PANIC ON FAILURE: from any reachable state, when the base allocator REFUSES every request of the step
    (`AllFail`; `maxRequests` responses are pending), an operation covered by the no-fault theorem
    (`Op.noFaultCovered`) never ends in an overflow, a failed
    debug assertion or undefined behaviour (`Fault.isBug`): `step` returns normally — and if it reports the error
    (`Out.err`), `failed_step_keeps_everything` applies, since a refusing allocator is a correct environment — or
    ends in a `.contract` fault: the caller violated the documented contract, or the step asked the base allocator
    fewer times than responses were supplied (the model's own guard at the end of `step`, which every step that
    stays on the fast path runs into here).  (Coverage as in `C10.reachable_noFault_partial`.) -/
theorem no_panic_on_failure (hc : CfgOK cfg) (h : Reachable cfg g) {op : Op} {resps : List BaseResp}
    (hcov : op.noFaultCovered = true) (hall : AllFail resps) (hlen : maxRequests op ≤ resps.length) :
    EnvOK cfg g resps ∧ ∀ f, step cfg g op resps = .error f → ¬ Fault.isBug f :=
  ⟨envOK_allFail g hall,
   C10.reachable_noFault_partial hc h hcov (envOK_allFail g hall) (answered_of_allFail g op hall hlen)⟩

/-! non-vacuity: the state after `create, allocate 24, allocate 40` (two live blocks, 496-byte chunk) is
    reachable; a 600-byte allocation needs a second chunk, the base allocator refuses -/

theorem exReach3 : Reachable exCfg exG3 := exReach3'

example : ∃ g' reqs, Reachable exCfg exG3 ∧ (Op.allocate exL3 false .plain).Covered ∧ EnvOK exCfg exG3 [.fail] ∧
    step exCfg exG3 (.allocate exL3 false .plain) [.fail] = .ok (g', .err .alloc, reqs) ∧ reqs = [.alloc 1008 16] :=
  exG3_eq ▸ ⟨_, _, exReach3lit, by decide, envOK_allFail _ fun _ => List.mem_singleton.1, rfl, rfl⟩

example : (Op.allocate exL3 false .plain).noFaultCovered = true ∧ AllFail [BaseResp.fail] ∧
    maxRequests (.allocate exL3 false .plain) ≤ [BaseResp.fail].length :=
  ⟨rfl, fun _ => List.mem_singleton.1, by decide⟩

end C07

/-! # C03 — leaving a scope restores the allocator exactly, whatever happened inside -/

namespace C03
open Arena Arena.Hist Ledger Rs

variable {cfg : Cfg}

/-- `g3` is "restored" relative to `g`: same `stats().allocated()`; if `g` had a current chunk, the same chunk is
    current and the bump position is EXACTLY the one of `g` (if `g` was unallocated, nothing is allocated:
    `allocated = 0`); every chunk of `g` is still there at the same index with the same address range (chunks
    acquired in between are kept too: see the `logReleases = []` conclusions); the open regions, their marks
    and the minimum alignment are those of `g`; every live block is older than `g` (blocks created in between are
    dead). -/
structure Restored (cfg : Cfg) (g g3 : GState) : Prop where
  allocated : (stats cfg g3.s).allocated = (stats cfg g.s).allocated
  position : ∀ i, g.s.cur = .chunk i → g3.s.cur = .chunk i ∧ curPos cfg g3.s = curPos cfg g.s
  chunks : ChunksCov g.s g3.s
  regions : g3.s.frames = g.s.frames ∧ g3.marks = g.marks ∧ g3.s.minAlign = g.s.minAlign
  inside_dead : ∀ b ∈ g3.s.live, b.id < g.s.nextId

/-- SCOPE ROUND TRIP, over all histories.  From ANY reachable state `g`: enter a scope (`scope_guard()` / `scoped`),
    run ANY finite covered history `w` under a correct base allocator that never leaves the scope
    (`Above`: the region stack never drops below the one at entry — inner scopes, claims, aligned regions, chunk
    growth, prepared allocations, reallocation, checkpoints … are all allowed) and ends at the nesting level of
    the entry, then leave the scope (guard drop / closure return).  Then
    * the arena is `Restored`: allocated byte count, current chunk and bump position are exactly those of `g`;
    * neither entering, nor anything inside, nor leaving released a chunk, and entering / leaving made no
      base-allocator request at all: chunks acquired inside remain available;
    * every block that was live in `g` and was neither freed / reallocated nor written inside (`KeptThrough`) is
      still live with unchanged bytes; every block created inside is dead;
    * the final state is reachable again (so all of this applies to the next scope). -/
theorem scope_restores (hc : CfgOK cfg) {g g1 g2 g3 : GState} (h : Reachable cfg g)
    {o1 o3 : Out} {q1 q3 : List BaseReq} {w : List (Op × List BaseResp)}
    (h1 : step cfg g .scopeEnter [] = .ok (g1, o1, q1))
    (hcov : AllCovered w) (henv : RunEnvOK cfg g1 w) (hrun : runOps cfg g1 w = .ok g2)
    (habove : Above cfg g1.s.frames g1 w) (hbal : g2.s.frames = g1.s.frames)
    (h3 : step cfg g2 .scopeExit [] = .ok (g3, o3, q3)) :
    Restored cfg g g3 ∧ Reachable cfg g3 ∧ q1 = [] ∧ q3 = [] ∧
    (∀ log, runLog cfg g1 w = .ok (g2, log) → logReleases log = []) ∧
    (∀ b ∈ g.s.live, C02.KeptThrough cfg b g1 w →
      b ∈ g3.s.live ∧ ∀ k, k < b.size → readByte g3.s (b.addr + k) = readByte g.s (b.addr + k)) := by
  have e1 := (ok_scopeEnter (step_ok h1).1).2.1
  have R : Region cfg (.scope (checkpoint cfg g.s)) g g1 g2 w :=
    region hc h (op1 := .scopeEnter) rfl rfl h1 (by rw [e1]; rfl) hcov henv hrun habove hbal
  obtain ⟨_, cp, rest, m, ms, s3, xf, xm, xr, e3, _⟩ := ok_scopeExit (step_ok h3).1
  -- the frame and the mark found are those the entry made
  cases (show g2.s.frames = _ from xf).symm.trans (R.body.frames.trans R.frames1)
  cases (show g2.marks = _ from xm).symm.trans (R.body.marks.trans R.marks1)
  have hr : resetTo cfg { (install g2 []).s with minAlign := g.s.minAlign } (checkpoint cfg g.s) = .ok s3 := by
    rw [← R.minAlign1, ← R.body.minAlign]; exact xr
  obtain ⟨⟨a1, a2, a3, a4, a5⟩, hr3, hq3, hnr, hby⟩ := R.body.restores hc h (op3 := .scopeExit) rfl nofun h3 hr e3
    (fun b hb _ k _ => by rw [e1]; rfl)
  exact ⟨⟨a1, a2, a3, a4, a5⟩, hr3, by rw [(step_ok h1).2.2, e1]; rfl, hq3, hnr, hby⟩

/-- `scoped_aligned::<N>` ROUND TRIP, over all histories: as `scope_restores`, for a region that also changes the
    minimum alignment to `n` (raising or lowering it).  The checkpoint is taken by the outer handle before the
    position is aligned for `n`, and the exit resets with the OUTER minimum alignment: the bump position after the
    exit is EXACTLY the entry position, whatever `n` is and whatever happened inside. -/
theorem scopedAligned_restores (hc : CfgOK cfg) {g g1 g2 g3 : GState} (h : Reachable cfg g) {n : Nat}
    {o1 o3 : Out} {q1 q3 : List BaseReq} {w : List (Op × List BaseResp)}
    (h1 : step cfg g (.scopedAlignedEnter n) [] = .ok (g1, o1, q1))
    (hcov : AllCovered w) (henv : RunEnvOK cfg g1 w) (hrun : runOps cfg g1 w = .ok g2)
    (habove : Above cfg g1.s.frames g1 w) (hbal : g2.s.frames = g1.s.frames)
    (h3 : step cfg g2 .scopedAlignedExit [] = .ok (g3, o3, q3)) :
    Restored cfg g g3 ∧ Reachable cfg g3 ∧ q1 = [] ∧ q3 = [] ∧
    (∀ log, runLog cfg g1 w = .ok (g2, log) → logReleases log = []) ∧
    (∀ b ∈ g.s.live, C02.KeptThrough cfg b g1 w →
      b ∈ g3.s.live ∧ ∀ k, k < b.size → readByte g3.s (b.addr + k) = readByte g.s (b.addr + k)) := by
  obtain ⟨_, hn, s1, ha, e1, _⟩ := ok_scopedAlignedEnter (step_ok h1).1
  have R : Region cfg (.scopedAligned (checkpoint cfg g.s) g.s.minAlign) g g1 g2 w :=
    region hc h (op1 := .scopedAlignedEnter n) rfl rfl h1 (by rw [e1]; rfl) hcov henv hrun habove hbal
  obtain ⟨_, cp, outer, rest, m, ms, s3, xf, xm, xr, e3, _⟩ := ok_scopedAlignedExit (step_ok h3).1
  cases (show g2.s.frames = _ from xf).symm.trans (R.body.frames.trans R.frames1)
  cases (show g2.marks = _ from xm).symm.trans (R.body.marks.trans R.marks1)
  obtain ⟨⟨a1, a2, a3, a4, a5⟩, hr3, hq3, hnr, hby⟩ := R.body.restores hc h (op3 := .scopedAlignedExit) rfl nofun h3 xr e3
    (fun b hb hb1 => bytes_step (h.inv hc) (envOK_nil g) h1 b hb hb1 nofun)
  exact ⟨⟨a1, a2, a3, a4, a5⟩, hr3, by rw [(step_ok h1).2.2, e1]; exact (Quiet.of_path (Fn.alignTo_path ha)).1, hq3, hnr, hby⟩

/-- `checkpoint()` … `reset_to(checkpoint)`, over all histories.  From ANY reachable state `g` take a checkpoint,
    run ANY finite covered history `w` that contains no exclusive-access operation (`drop`, `reset`,
    `reset_to_start`, `with_settings`: they invalidate checkpoints), never closes a region that was open when the
    checkpoint was taken (`Above`) and ends at that nesting level with the checkpoint still registered
    (`hstill`: it was neither overwritten nor discarded by the end of an older scope), then `reset_to` it:
    the arena is `Restored` exactly as by a scope exit. -/
theorem checkpoint_resetTo_restores (hc : CfgOK cfg) {g g1 g2 g3 : GState} (h : Reachable cfg g) {k : Nat}
    {o1 o3 : Out} {q1 q3 : List BaseReq} {w : List (Op × List BaseResp)}
    (h1 : step cfg g (.checkpoint k) [] = .ok (g1, o1, q1))
    (hcov : AllCovered w) (henv : RunEnvOK cfg g1 w) (hrun : runOps cfg g1 w = .ok g2) (hnb : NoBare w)
    (habove : Above cfg g.s.frames g1 w) (hbal : g2.s.frames = g.s.frames)
    (hstill : g2.s.userCps.find? (·.1 == k) = some (k, checkpoint cfg g.s, g.s.nextId))
    (h3 : step cfg g2 (.resetTo k) [] = .ok (g3, o3, q3)) :
    Restored cfg g g3 ∧ Reachable cfg g3 ∧ q1 = [] ∧ q3 = [] ∧
    (∀ log, runLog cfg g1 w = .ok (g2, log) → logReleases log = []) ∧
    (∀ b ∈ g.s.live, C02.KeptThrough cfg b g1 w →
      b ∈ g3.s.live ∧ ∀ k, k < b.size → readByte g3.s (b.addr + k) = readByte g.s (b.addr + k)) := by
  have e1 := (ok_checkpoint (step_ok h1).1).2.2.1
  -- `checkpoint` opens no region: the body runs at the level of `g` itself
  have hf1 : g1.s.frames = g.s.frames := by rw [e1]; rfl
  have B : Body cfg g.s g1 g2 w :=
    body hc (h.snoc (op := .checkpoint k) rfl (envOK_nil g) h1) (by rw [e1]; exact ChunksCov.refl _) hcov henv hrun
      (Or.inr hnb) (hf1 ▸ habove) (hbal.trans hf1.symm)
  have hm2 : g2.marks = g.marks := B.marks.trans (by rw [e1]; rfl)
  have hma2 : g2.s.minAlign = g.s.minAlign := B.minAlign.trans (by rw [e1]; rfl)
  obtain ⟨_, x, cp, mark, s3, xfind, _, _, xr, e3, _⟩ := ok_resetTo (step_ok h3).1
  cases Option.some.inj ((show g2.s.userCps.find? (·.1 == k) = _ from xfind).symm.trans hstill)
  have hr : resetTo cfg { (install g2 []).s with minAlign := g.s.minAlign } (checkpoint cfg g.s) = .ok s3 := by
    rw [← hma2]; exact xr
  have e3' : g3 = ⟨killFrom { s3 with frames := g.s.frames } g.s.nextId, g.marks⟩ := by
    rw [e3, ← hm2, ← hbal, ← show s3.frames = g2.s.frames from (Trail.of_path (Fn.resetTo_path xr)).frames]; rfl
  obtain ⟨⟨a1, a2, a3, a4, a5⟩, hr3, hq3, hnr, hby⟩ := B.restores hc h (op3 := .resetTo k) rfl nofun h3 hr e3'
    (fun b hb hb1 => bytes_step (h.inv hc) (envOK_nil g) h1 b hb hb1 nofun)
  exact ⟨⟨a1, a2, a3, a4, a5⟩, hr3, by rw [(step_ok h1).2.2, e1]; rfl, hq3, hnr, hby⟩

/-- `alloc_try_with(_mut)` whose closure returns `Err` (without allocating itself), in every history: from any
    reachable state, whatever path the allocation of the `Result` took (current chunk, a later chunk, a new chunk
    from the base allocator), the arena is rewound to the checkpoint taken before it: allocated byte count,
    current chunk and bump position are exactly those before the call, the live blocks are the same, every chunk
    is still in place (a chunk acquired for the `Result` remains available), regions, marks and minimum
    alignment are unchanged. -/
theorem tryWith_err_restores (hc : CfgOK cfg) {g g' : GState} (h : Reachable cfg g) {L : Layout} {off vsize : Nat}
    {mut_ : Bool} {resps : List BaseResp} {reqs : List BaseReq}
    (hcov : (Op.allocTryWith L off vsize false none mut_).Covered) (henv : EnvOK cfg g resps)
    (hs : step cfg g (.allocTryWith L off vsize false none mut_) resps = .ok (g', .none_, reqs)) :
    (stats cfg g'.s).allocated = (stats cfg g.s).allocated ∧
    (∀ i, g.s.cur = .chunk i → g'.s.cur = .chunk i ∧ curPos cfg g'.s = curPos cfg g.s) ∧
    ChunksCov g.s g'.s ∧ g'.s.live = g.s.live ∧ g'.s.nextId = g.s.nextId ∧
    (g'.s.frames = g.s.frames ∧ g'.marks = g.marks ∧ g'.s.minAlign = g.s.minAlign) :=
  Arena.Hist.tryWith_err_restores (g := install g resps) ((h.inv hc).install resps) henv.1 henv.2 hcov.tryWith (step_ok hs).1

/- The examples of this file run whole histories on `exG3` (chunks of 496 and 1008 bytes).  Each region is one run of
   the Boolean checker `regionCheck` (`Lemmas/HistExamplesInside.lean`: environment, stack, run and what else is claimed
   of the states) on the written-out state `exG3lit`, evaluated by the kernel (`decide +kernel`). -/
set_option maxRecDepth 1000000 in
/-- non-vacuity: from the reachable `exG3` (one 496-byte chunk, two live blocks) enter a scope, allocate 600 bytes
    (a second chunk is acquired), open and close an inner scope with another allocation, leave the scope -/
example : ∃ g1 g2 g3 o1 o3 q1 q3, Reachable exCfg exG3 ∧ step exCfg exG3 .scopeEnter [] = .ok (g1, o1, q1) ∧
    AllCovered exInner ∧ RunEnvOK exCfg g1 exInner ∧ runOps exCfg g1 exInner = .ok g2 ∧
    Above exCfg g1.s.frames g1 exInner ∧ g2.s.frames = g1.s.frames ∧
    step exCfg g2 .scopeExit [] = .ok (g3, o3, q3) ∧ g2.s.chunks.length = 2 ∧ g3.s.cur = .chunk 0 := by
  obtain ⟨g1, g2, g3, o1, o3, q1, q3, h1, he, hr, ha, h3, hx⟩ := regionCheck_sound (cfg := exCfg) (g := exG3)
    (enter := .scopeEnter) (exit := .scopeExit) (w := exInner) (base := fun g1 => g1.s.frames)
    (extra := fun g1 g2 g3 => decide (g2.s.frames = g1.s.frames ∧ g2.s.chunks.length = 2 ∧ g3.s.cur = .chunk 0))
    (exG3_eq ▸ by decide +kernel)
  have ⟨x1, x2, x3⟩ := of_decide_eq_true hx
  exact ⟨g1, g2, g3, o1, o3, q1, q3, exReach3', h1, exInner_covered, he, hr, ha, x1, h3, x2, x3⟩

set_option maxRecDepth 1000000 in
/-- the same history inside `scoped_aligned::<16>` (outer minimum alignment 8) -/
example : ∃ g1 g2 g3 o1 o3 q1 q3, step exCfg exG3 (.scopedAlignedEnter 16) [] = .ok (g1, o1, q1) ∧
    AllCovered exInner ∧ RunEnvOK exCfg g1 exInner ∧ runOps exCfg g1 exInner = .ok g2 ∧
    Above exCfg g1.s.frames g1 exInner ∧ g2.s.frames = g1.s.frames ∧
    step exCfg g2 .scopedAlignedExit [] = .ok (g3, o3, q3) :=
  exRegion (.scopedAlignedEnter 16) (.scopedAlignedExit) (by decide +kernel)

set_option maxRecDepth 1000000 in
/-- … and between `checkpoint 7` and `reset_to 7` -/
example : ∃ g1 g2 g3 o1 o3 q1 q3, step exCfg exG3 (.checkpoint 7) [] = .ok (g1, o1, q1) ∧
    AllCovered exInner ∧ RunEnvOK exCfg g1 exInner ∧ runOps exCfg g1 exInner = .ok g2 ∧ NoBare exInner ∧
    Above exCfg exG3.s.frames g1 exInner ∧ g2.s.frames = exG3.s.frames ∧
    g2.s.userCps.find? (·.1 == 7) = some (7, checkpoint exCfg exG3.s, exG3.s.nextId) ∧
    step exCfg g2 (.resetTo 7) [] = .ok (g3, o3, q3) := by
  obtain ⟨g1, g2, g3, o1, o3, q1, q3, h1, he, hr, ha, h3, hx⟩ := regionCheck_sound (cfg := exCfg) (g := exG3)
    (enter := .checkpoint 7) (exit := .resetTo 7) (w := exInner) (base := fun _ => exG3.s.frames)
    (extra := fun _ g2 _ => decide (g2.s.frames = exG3.s.frames ∧
      g2.s.userCps.find? (·.1 == 7) = some (7, checkpoint exCfg exG3.s, exG3.s.nextId))) (exG3_eq ▸ by decide +kernel)
  have ⟨x1, x2⟩ := of_decide_eq_true hx
  exact ⟨g1, g2, g3, o1, o3, q1, q3, h1, exInner_covered, he, hr, noBare_of_check (by decide), ha, x1, x2, h3⟩

/-- `alloc_try_with` of a 512-byte `Result` that does not fit the first chunk any more: a second chunk is acquired,
    the closure returns `Err` -/
example : ∃ g' reqs, (Op.allocTryWith { size := 512, align := 8 } 8 500 false none false).Covered ∧
    EnvOK exCfg exG3 [.granted 0x20000 1008] ∧
    step exCfg exG3 (.allocTryWith { size := 512, align := 8 } 8 500 false none false) [.granted 0x20000 1008] =
      .ok (g', .none_, reqs) :=
  exG3_eq ▸ ⟨_, _, by decide, envCheck_sound (by rfl), rfl⟩

end C03

/-! # C14 — a claimed allocator is inert until the claim ends -/

namespace C14
open Arena Arena.Hist Ledger Rs

variable {cfg : Cfg}

/-- FROM ANY REACHABLE STATE, every operation addressed to the ORIGINAL handle while a claim guard is alive
    (`Op.onClaimed op`; the step is a contract violation unless a claim frame is open) that does not fault:
    * leaves the arena completely alone: same chunk list (hence the same positions and the same bytes
      everywhere), same current chunk, same regions, marks, minimum alignment, checkpoints, prepared allocation;
    * makes no base-allocator request and consumes no response;
    * has one of the four `ClaimedOutcome`s: a second `claim` panics; `allocate` / typed allocation / `grow` /
      `reserve` report `AErr.claimed` (a `dyn` reserve above `isize::MAX`: `capacityOverflow`); `deallocate` only
      forgets the ghost block; `shrink` hands the block back with the same address and size;
    * leads to a reachable state again. -/
theorem claimed_ops_inert_reachable (hc : CfgOK cfg) {g g' : GState} (h : Reachable cfg g) {op : Op}
    {resps : List BaseResp} {out : Out} {reqs : List BaseReq} (henv : EnvOK cfg g resps)
    (hs : step cfg g (.onClaimed op) resps = .ok (g', out, reqs)) :
    Frame.claim ∈ g.s.frames ∧ resps = [] ∧ reqs = [] ∧ Reachable cfg g' ∧
    (g'.s.chunks = g.s.chunks ∧ g'.s.cur = g.s.cur ∧ g'.s.frames = g.s.frames ∧ g'.marks = g.marks ∧
     g'.s.minAlign = g.s.minAlign ∧ g'.s.userCps = g.s.userCps ∧ g'.s.prepared = g.s.prepared) ∧
    (∀ a, readByte g'.s a = readByte g.s a) ∧ curPos cfg g'.s = curPos cfg g.s ∧ stats cfg g'.s = stats cfg g.s ∧
    ClaimedOutcome cfg (install g []) g' op out := by
  obtain ⟨h1, h2, h3⟩ := step_ok hs
  obtain ⟨hm, ho⟩ := onClaimed_outcome h1
  have key : resps = [] ∧ g'.s.reqs = [] ∧ (g'.s.chunks = g.s.chunks ∧ g'.s.cur = g.s.cur ∧ g'.s.frames = g.s.frames ∧
      g'.marks = g.marks ∧ g'.s.minAlign = g.s.minAlign ∧ g'.s.userCps = g.s.userCps ∧ g'.s.prepared = g.s.prepared) := by
    rcases ho with ⟨_, _, _, e⟩ | ⟨_, _, e, _⟩ | ⟨_, _, _, _, e⟩ | ⟨_, _, _, _, _, _, _, e⟩ <;>
      (rw [e] at h2 ⊢; exact ⟨h2, rfl, rfl, rfl, rfl, rfl, rfl, rfl, rfl⟩)
  obtain ⟨hr, hq, hst⟩ := key
  subst hr
  refine ⟨hm, rfl, by rw [h3]; exact hq, h.snoc (op := .onClaimed op) rfl henv hs, hst, ?_, ?_, ?_, ho⟩
  · intro a
    unfold readByte; rw [hst.1]
  · unfold curPos; rw [hst.1, hst.2.1]
  · unfold stats; rw [hst.1, hst.2.1]

/-- CLAIM … CLAIM END, over all histories.  From ANY reachable state `g`: take a claim guard, run ANY finite covered
    history `w` through the guard that never ends the claim (`Above`: the region stack never drops below the claim
    frame — inner scopes, nested claims, aligned regions, chunk growth, operations addressed to the claimed
    original … are all allowed) and is back at the level of the claim at its end (scopes opened through the guard
    were closed), then drop the guard.  Then THE ORIGINAL HANDLE CONTINUES EXACTLY WHERE THE GUARD STOPPED:
    * the final state `g3` is the state `g2` the guard stopped in — same chunks, current chunk, positions, bytes,
      live blocks, ids, checkpoints, prepared allocation — with only the claim frame removed;
    * its open regions, marks and minimum alignment are those of `g` before the claim; every chunk `g` had is
      still in place and nothing was released in between;
    * every block that was live in `g` and was neither freed / reallocated nor written through the guard is live
      with unchanged bytes; `g3` is reachable. -/
theorem claim_resumes (hc : CfgOK cfg) {g g1 g2 g3 : GState} (h : Reachable cfg g)
    {o1 o3 : Out} {q1 q3 : List BaseReq} {w : List (Op × List BaseResp)}
    (h1 : step cfg g .claim [] = .ok (g1, o1, q1))
    (hcov : AllCovered w) (henv : RunEnvOK cfg g1 w) (hrun : runOps cfg g1 w = .ok g2)
    (habove : Above cfg g1.s.frames g1 w) (hbal : g2.s.frames = g1.s.frames)
    (h3 : step cfg g2 .claimEnd [] = .ok (g3, o3, q3)) :
    (g3.s.chunks = g2.s.chunks ∧ g3.s.cur = g2.s.cur ∧ g3.s.live = g2.s.live ∧ g3.s.nextId = g2.s.nextId ∧
      g3.s.userCps = g2.s.userCps ∧ g3.s.prepared = g2.s.prepared ∧ (∀ a, readByte g3.s a = readByte g2.s a)) ∧
    (g3.s.frames = g.s.frames ∧ g3.marks = g.marks ∧ g3.s.minAlign = g.s.minAlign) ∧
    ChunksCov g.s g3.s ∧ (∀ log, runLog cfg g1 w = .ok (g2, log) → logReleases log = []) ∧ q1 = [] ∧ q3 = [] ∧
    (∀ b ∈ g.s.live, C02.KeptThrough cfg b g1 w →
      b ∈ g3.s.live ∧ ∀ k, k < b.size → readByte g3.s (b.addr + k) = readByte g.s (b.addr + k)) ∧
    Reachable cfg g3 := by
  obtain ⟨_, _, e1, _⟩ := ok_claim (step_ok h1).1
  have R : Region cfg .claim g g1 g2 w :=
    region hc h (op1 := .claim) rfl rfl h1 (by rw [e1]; rfl) hcov henv hrun habove hbal
  obtain ⟨_, rest, xf, e3, _⟩ := ok_claimEnd (step_ok h3).1
  obtain ⟨_, hfr3, hm3, hma3, hcov3, hreach3⟩ := R.close (op3 := .claimEnd) rfl h3 (f' := .claim) (by rw [e3]; exact xf)
  refine ⟨?_, ⟨hfr3, hm3, hma3⟩, hcov3, R.body.noRelease, by rw [(step_ok h1).2.2, e1]; rfl,
    by rw [(step_ok h3).2.2, e3]; rfl, fun b hb hk => ?_, hreach3⟩
  · subst e3; exact ⟨rfl, rfl, rfl, rfl, rfl, rfl, fun a => rfl⟩
  · obtain ⟨hb2, hby2⟩ := R.body.kept b hk
    subst e3
    exact ⟨hb2, fun k hkk => (hby2 k hkk).trans (by rw [e1]; rfl)⟩

/-- THE CLAIM IS TRANSPARENT (for every state `g`, reachable or not, and every configuration): take a claim guard,
    run ANY finite history `w` through the guard that contains no operation addressed to the claimed original
    handle, never ends the claim (`Above`) and is back at the level of the claim at its end, drop the guard.  Then
    running `w` ALONE from `g` (no claim at all) succeeds as well, makes exactly the same base-allocator requests
    with the same responses step by step (`log`), and ends in the same state (`g3 = install g2 []`: equal up to the list of
    requests of the very last step, which is empty after `claimEnd`).  The original handle therefore continues
    exactly where the guard stopped, as if the work had been done through the original handle itself.
    (Proof: no function of the model reads the region stack below its top — `Lemmas/HistFrameIrrel{Fn,Step,Run}.lean`.) -/
theorem claim_is_transparent {g g1 g2c g3 : GState} {w : List (Op × List BaseResp)} {o1 o3 : Out}
    {q1 q3 : List BaseReq} {log : List LogEntry} (hw : ∀ x ∈ w, ∀ op', x.1 ≠ .onClaimed op')
    (h1 : step cfg g .claim [] = .ok (g1, o1, q1))
    (hrun : runLog cfg g1 w = .ok (g2c, log)) (habove : Above cfg g1.s.frames g1 w) (hbal : g2c.s.frames = g1.s.frames)
    (h3 : step cfg g2c .claimEnd [] = .ok (g3, o3, q3)) :
    ∃ g2, runLog cfg g w = .ok (g2, log) ∧ g3 = install g2 [] :=
  claim_transparent hw h1 hrun habove hbal h3

/-- non-vacuity: `exG3`, then `claim`: a reachable state with an open claim; `allocate` on the original handle -/
def exClaimOps : List (Op × List BaseResp) := exOps3 ++ [(.claim, [])]

set_option maxRecDepth 1000000 in
example : ∃ g g' reqs, Reachable exCfg g ∧ EnvOK exCfg g [] ∧
    step exCfg g (.onClaimed (.allocate exL1 false .plain)) [] = .ok (g', .err .claimed, reqs) :=
  ⟨exGClaim, _, _, ⟨exClaimOps, exClaim_run⟩, envOK_nil _, rfl⟩

set_option maxRecDepth 1000000 in
/-- hypotheses of `claim_resumes`: the example history run through a claim guard -/
example : ∃ g1 g2 g3 o1 o3 q1 q3, step exCfg exG3 .claim [] = .ok (g1, o1, q1) ∧
    AllCovered exInner ∧ RunEnvOK exCfg g1 exInner ∧ runOps exCfg g1 exInner = .ok g2 ∧
    Above exCfg g1.s.frames g1 exInner ∧ g2.s.frames = g1.s.frames ∧
    step exCfg g2 .claimEnd [] = .ok (g3, o3, q3) :=
  exRegion .claim .claimEnd exClaim_check

set_option maxRecDepth 1000000 in
/-- hypotheses of `claim_is_transparent` for the example history (it contains no `onClaimed`) -/
example : ∃ g1 g2c g3 o1 o3 q1 q3 log, (∀ x ∈ exInner, ∀ op', x.1 ≠ .onClaimed op') ∧
    step exCfg exG3 .claim [] = .ok (g1, o1, q1) ∧ runLog exCfg g1 exInner = .ok (g2c, log) ∧
    Above exCfg g1.s.frames g1 exInner ∧ g2c.s.frames = g1.s.frames ∧
    step exCfg g2c .claimEnd [] = .ok (g3, o3, q3) :=
  by
  obtain ⟨g1, g2, g3, o1, o3, q1, q3, h1, -, -, hr, ha, hb, h3⟩ := exRegion .claim .claimEnd exClaim_check
  obtain ⟨log, hl⟩ := runOps_runLog _ _ _ hr
  exact ⟨g1, g2, g3, o1, o3, q1, q3, log,
    (by intro x hx op' h; simp only [exInner, List.mem_cons, List.not_mem_nil, or_false] at hx
        rcases hx with rfl | rfl | rfl | rfl <;> cases h),
    h1, hl, ha, hb, h3⟩

end C14

/-! # C18 — inside `aligned::<N>` / `scoped_aligned::<N>` the position is a multiple of `N`; afterwards of the outer one -/

namespace C18
open Arena Arena.Hist Ledger Rs

variable {cfg : Cfg}

/-- in every reachable state the bump position is a multiple of the minimum alignment IN FORCE (the one of the
    innermost `aligned` / `scoped_aligned` / `with_settings`), after every operation of every history -/
theorem reachable_pos_aligned (hc : CfgOK cfg) {g : GState} (h : Reachable cfg g) :
    MinAlignOK g.s.minAlign ∧ ∀ i, g.s.cur = .chunk i → g.s.minAlign ∣ curPos cfg g.s :=
  ⟨(h.inv hc).geom.minAlign, h.pos_aligned hc rfl⟩

/-- `aligned::<N>` OVER ALL HISTORIES.  From any reachable state `g`: enter `aligned::<n>` (raising or lowering
    the minimum alignment), run ANY finite covered history `w` inside the region (`Above`) that ends at the nesting
    level of the region, leave it.  Then
    * at entry `n` is a supported alignment, it is the minimum alignment in force and the position is a multiple of `n`;
    * at the end of `w` (and, taking prefixes of `w`, whenever the history is back at the level of the region) the
      minimum alignment in force is still `n` and the position is a multiple of `n`; in every intermediate state it
      is a multiple of the alignment in force there (`reachable_pos_aligned`);
    * after `aligned` returns the minimum alignment is the OUTER one again, the position is a multiple of it, and
      the open regions and marks are those of `g`.
    (When a LOWERING region ends, `BumpAlignGuard::drop` also re-aligns the chunk the region STARTED in if that is not
    the current one any more — finding C18-e —, so the position of that one chunk may move towards the free side by
    less than the outer minimum alignment at `alignedExit`: `aligned_lower_realigns_start_chunk` below.) -/
theorem aligned_region_positions (hc : CfgOK cfg) {g g1 g2 g3 : GState} (h : Reachable cfg g) {n : Nat}
    {o1 o3 : Out} {q1 q3 : List BaseReq} {w : List (Op × List BaseResp)}
    (h1 : step cfg g (.alignedEnter n) [] = .ok (g1, o1, q1))
    (hcov : AllCovered w) (henv : RunEnvOK cfg g1 w) (hrun : runOps cfg g1 w = .ok g2)
    (habove : Above cfg g1.s.frames g1 w) (hbal : g2.s.frames = g1.s.frames)
    (h3 : step cfg g2 .alignedExit [] = .ok (g3, o3, q3)) :
    (MinAlignOK n ∧ g1.s.minAlign = n ∧ ∀ i, g1.s.cur = .chunk i → n ∣ curPos cfg g1.s) ∧
    (g2.s.minAlign = n ∧ ∀ i, g2.s.cur = .chunk i → n ∣ curPos cfg g2.s) ∧
    (g3.s.minAlign = g.s.minAlign ∧ (∀ i, g3.s.cur = .chunk i → g.s.minAlign ∣ curPos cfg g3.s) ∧
      g3.s.frames = g.s.frames ∧ g3.marks = g.marks) ∧ Reachable cfg g3 := by
  obtain ⟨hn, f, _, hf1, hma1, _⟩ := alignedEnter_form (step_ok h1).1
  have R : Region cfg f g g1 g2 w := region hc h (op1 := .alignedEnter n) rfl rfl h1 hf1 hcov henv hrun habove hbal
  obtain ⟨_, f', _, xf, _⟩ := alignedExit_form (step_ok h3).1
  obtain ⟨_, hfr3, hm3, hma3, _, hreach3⟩ := R.close (op3 := .alignedExit) rfl h3 xf
  have hma2 : g2.s.minAlign = n := R.body.minAlign.trans hma1
  exact ⟨⟨hn, hma1, R.reach1.pos_aligned hc hma1⟩, ⟨hma2, R.body.reach2.pos_aligned hc hma2⟩,
    ⟨hma3, hreach3.pos_aligned hc hma3, hfr3, hm3⟩, hreach3⟩

/-- THE REPAIR OF FINDING C18-e (by-value copy + `aligned::<lower>` + chunk switch), OVER ALL HISTORIES.  From any
    reachable state `g` whose current chunk is `j`: enter a LOWERING `aligned::<n>` (`n < MIN_ALIGN`), run ANY finite
    covered history `w` that ends with the same open regions (it may allocate with alignment 1 in chunk `j`, outgrow
    it and move on to other chunks, reset back, …), leave the region.  Then chunk `j` — the chunk a scope still
    points at when the region ran on a `by_value()` copy of it, whose current chunk is never written back — has a
    bump position that is a multiple of the OUTER minimum alignment again, whether or not it is still the current
    chunk (were only the current chunk re-aligned, the next typed allocation of the original scope would come out
    misaligned).  `Above` is not needed. -/
theorem aligned_lower_realigns_start_chunk (hc : CfgOK cfg) {g g1 g2 g3 : GState} (h : Reachable cfg g) {n : Nat}
    (hlt : n < g.s.minAlign) {o1 o3 : Out} {q1 q3 : List BaseReq} {w : List (Op × List BaseResp)}
    (h1 : step cfg g (.alignedEnter n) [] = .ok (g1, o1, q1))
    (hcov : AllCovered w) (henv : RunEnvOK cfg g1 w) (hrun : runOps cfg g1 w = .ok g2)
    (hbal : g2.s.frames = g1.s.frames)
    (h3 : step cfg g2 .alignedExit [] = .ok (g3, o3, q3)) {j : Nat} (hj : g.s.cur = .chunk j) :
    ∃ c, g3.s.chunks[j]? = some c ∧ g.s.minAlign ∣ c.pos ∧ g3.s.minAlign = g.s.minAlign := by
  have hreach1 : Reachable cfg g1 := h.snoc (op := .alignedEnter n) rfl (envOK_nil g) h1
  have hreach2 : Reachable cfg g2 := hreach1.append hcov henv hrun
  have hi2 := (hreach2.inv hc).install []
  obtain ⟨_, _, _, ⟨_, e1⟩ | ⟨hle, _⟩⟩ := ok_alignedEnter (step_ok h1).1
  case inr => exact absurd hlt (Nat.not_lt.2 hle)
  have hf1 : g1.s.frames = .alignedLower g.s.minAlign (.chunk j) :: g.s.frames := by rw [e1, ← hj]; rfl
  have hf2 : (install g2 []).s.frames = .alignedLower g.s.minAlign (.chunk j) :: g.s.frames := hbal.trans hf1
  obtain ⟨_, _, ⟨_, _, _, s1, s', hf', ha, hb, e3⟩ | ⟨_, _, hf', _⟩⟩ := ok_alignedExit (step_ok h3).1 <;>
    cases hf2.symm.trans hf'
  have hfr := hi2.frames
  rw [hf2] at hfr
  simp only [FramesOK] at hfr
  obtain ⟨ho, ⟨c2, hc2⟩, _⟩ := hfr
  obtain ⟨G1, G2, sh, _, _⟩ := C10.alignGuardDrop_inv hc hi2.geom ho ha
  obtain ⟨c1, hc1, _, _⟩ := ChunksCov.of_shape sh j c2 hc2
  have hal : s1.cur = .chunk j → g.s.minAlign ∣ c1.pos := by
    intro hcur
    obtain ⟨c, hcj, hd⟩ := G2.cur j hcur
    have : s1.chunks[j]? = some c := hcj
    rw [hc1] at this; cases this
    exact hd
  obtain ⟨c', h1', h2', _⟩ := C18.alignChunkAt_position hc G1 ho hc1 hal hb
  subst e3
  exact ⟨c', h1', h2', rfl⟩

/-- `scoped_aligned::<N>`: at entry the position is a multiple of `n`; after it returns the position is EXACTLY the
    entry position (and everything else is restored: `C03.scopedAligned_restores`) -/
theorem scopedAligned_positions (hc : CfgOK cfg) {g g1 g2 g3 : GState} (h : Reachable cfg g) {n : Nat}
    {o1 o3 : Out} {q1 q3 : List BaseReq} {w : List (Op × List BaseResp)}
    (h1 : step cfg g (.scopedAlignedEnter n) [] = .ok (g1, o1, q1))
    (hcov : AllCovered w) (henv : RunEnvOK cfg g1 w) (hrun : runOps cfg g1 w = .ok g2)
    (habove : Above cfg g1.s.frames g1 w) (hbal : g2.s.frames = g1.s.frames)
    (h3 : step cfg g2 .scopedAlignedExit [] = .ok (g3, o3, q3)) :
    (MinAlignOK n ∧ g1.s.minAlign = n ∧ ∀ i, g1.s.cur = .chunk i → n ∣ curPos cfg g1.s) ∧
    (g2.s.minAlign = n ∧ ∀ i, g2.s.cur = .chunk i → n ∣ curPos cfg g2.s) ∧
    (g3.s.minAlign = g.s.minAlign ∧ ∀ i, g.s.cur = .chunk i → g3.s.cur = .chunk i ∧ curPos cfg g3.s = curPos cfg g.s) := by
  obtain ⟨_, hn, s1, ha, e1, _⟩ := ok_scopedAlignedEnter (step_ok h1).1
  have hma1 : g1.s.minAlign = n := by rw [e1]
  have R : Region cfg (.scopedAligned (checkpoint cfg g.s) g.s.minAlign) g g1 g2 w :=
    region hc h (op1 := .scopedAlignedEnter n) rfl rfl h1 (by rw [e1]; rfl) hcov henv hrun habove hbal
  have hma2 : g2.s.minAlign = n := R.body.minAlign.trans hma1
  obtain ⟨hres, _⟩ := C03.scopedAligned_restores hc h h1 hcov henv hrun habove hbal h3
  exact ⟨⟨hn, hma1, R.reach1.pos_aligned hc hma1⟩, ⟨hma2, R.body.reach2.pos_aligned hc hma2⟩, hres.regions.2.2, hres.position⟩

set_option maxRecDepth 1000000 in
/-- non-vacuity: `aligned::<16>` around the example history (the outer minimum alignment is 8) … -/
example : ∃ g1 g2 g3 o1 o3 q1 q3, Reachable exCfg exG3 ∧ step exCfg exG3 (.alignedEnter 16) [] = .ok (g1, o1, q1) ∧
    AllCovered exInner ∧ RunEnvOK exCfg g1 exInner ∧ runOps exCfg g1 exInner = .ok g2 ∧
    Above exCfg g1.s.frames g1 exInner ∧ g2.s.frames = g1.s.frames ∧
    step exCfg g2 .alignedExit [] = .ok (g3, o3, q3) := by
  obtain ⟨g1, g2, g3, o1, o3, q1, q3, h⟩ := exRegion (.alignedEnter 16) .alignedExit (by decide +kernel)
  exact ⟨g1, g2, g3, o1, o3, q1, q3, exReach3', h⟩

set_option maxRecDepth 1000000 in
/-- … and `aligned::<1>` (lowering) -/
example : ∃ g1 g2 g3 o1 o3 q1 q3, step exCfg exG3 (.alignedEnter 1) [] = .ok (g1, o1, q1) ∧
    AllCovered exInner ∧ RunEnvOK exCfg g1 exInner ∧ runOps exCfg g1 exInner = .ok g2 ∧
    Above exCfg g1.s.frames g1 exInner ∧ g2.s.frames = g1.s.frames ∧
    step exCfg g2 .alignedExit [] = .ok (g3, o3, q3) :=
  exRegion (.alignedEnter 1) .alignedExit exAligned1_check

set_option maxRecDepth 1000000 in
/-- hypotheses of `aligned_lower_realigns_start_chunk`: `aligned::<1>` around the example history, entered while
    chunk 0 is current (outer minimum alignment 8) -/
example : ∃ g1 g2 g3 o1 o3 q1 q3, Reachable exCfg exG3 ∧ 1 < exG3.s.minAlign ∧
    step exCfg exG3 (.alignedEnter 1) [] = .ok (g1, o1, q1) ∧
    AllCovered exInner ∧ RunEnvOK exCfg g1 exInner ∧ runOps exCfg g1 exInner = .ok g2 ∧
    g2.s.frames = g1.s.frames ∧ step exCfg g2 .alignedExit [] = .ok (g3, o3, q3) ∧ exG3.s.cur = .chunk 0 := by
  obtain ⟨g1, g2, g3, o1, o3, q1, q3, h1, hc, he, hr, _, hb, h3⟩ := exRegion (.alignedEnter 1) .alignedExit exAligned1_check
  exact ⟨g1, g2, g3, o1, o3, q1, q3, exReach3', exG3_eq ▸ (by decide : 1 < exG3lit.s.minAlign), h1, hc, he, hr,
    hb, h3, exG3_eq ▸ (rfl : exG3lit.s.cur = .chunk 0)⟩

set_option maxRecDepth 1000000 in
/-- hypotheses of `scopedAligned_positions` (lowering to 1) -/
example : ∃ g1 g2 g3 o1 o3 q1 q3, step exCfg exG3 (.scopedAlignedEnter 1) [] = .ok (g1, o1, q1) ∧
    AllCovered exInner ∧ RunEnvOK exCfg g1 exInner ∧ runOps exCfg g1 exInner = .ok g2 ∧
    Above exCfg g1.s.frames g1 exInner ∧ g2.s.frames = g1.s.frames ∧
    step exCfg g2 .scopedAlignedExit [] = .ok (g3, o3, q3) :=
  exRegion (.scopedAlignedEnter 1) (.scopedAlignedExit) (by decide +kernel)

end C18

/-! # C15 — exclusive-borrow collections use free space without moving the pointer -/

namespace C15
open Arena Arena.Hist Ledger Rs

variable {cfg : Cfg}

/-- THE LIFE OF AN UNFINISHED COLLECTION, over all histories.  From any reachable state `g` whose current chunk is
    `i`: ANY finite history of `prepare` / `prepareSlice` (creation and every later growth, also into bigger
    chunks that the base allocator has to provide) and `fillPrepared` steps, in any order and number, ending in `g2`;
    then the collection is dropped without being finalised (`abandonPrepared`), giving `g3`.  In `g2` and in `g3`:
    * the bump position of every chunk up to and including chunk `i` is what it was in `g` (at most a later chunk
      became the current one), every chunk of `g` is still in place;
    * the live blocks are exactly those of `g` and every byte of every one of them is unchanged;
    * regions, marks and minimum alignment are those of `g`; after the drop no prepared allocation is outstanding;
    * `g3` is reachable. -/
theorem prepared_region_positions (hc : CfgOK cfg) {g g2 g3 : GState} (h : Reachable cfg g) {i : Nat}
    (hcur : g.s.cur = .chunk i) {w : List (Op × List BaseResp)} {o3 : Out} {q3 : List BaseReq}
    (hcov : AllCovered w) (henv : RunEnvOK cfg g w) (hpf : AllPrepFill w) (hrun : runOps cfg g w = .ok g2)
    (h3 : step cfg g2 .abandonPrepared [] = .ok (g3, o3, q3)) :
    (PrepKept i g.s g2.s ∧ g2.marks = g.marks ∧
      ∀ b ∈ g.s.live, ∀ k, k < b.size → readByte g2.s (b.addr + k) = readByte g.s (b.addr + k)) ∧
    (PrepKept i g.s g3.s ∧ g3.marks = g.marks ∧ g3.s.prepared = none ∧
      ∀ b ∈ g.s.live, ∀ k, k < b.size → readByte g3.s (b.addr + k) = readByte g.s (b.addr + k)) ∧
    Reachable cfg g3 := by
  have hi := h.inv hc
  obtain ⟨hi2, k2, m2, b2⟩ := prepKept_runOps (i := i) (s0 := g.s) (m0 := g.marks) w g g2 hi hcov henv hpf hrun
    (PrepKept.refl hcur) rfl (fun _ _ _ _ => rfl)
  have e3 := (ok_abandonPrepared (step_ok h3).1).1
  have hreach2 : Reachable cfg g2 := h.append hcov henv hrun
  refine ⟨⟨k2, m2, b2⟩, ?_, hreach2.snoc (op := .abandonPrepared) rfl (envOK_nil g2) h3⟩
  subst e3
  -- `PrepKept` does not mention the field `prepared` that `abandonPrepared` clears
  exact ⟨⟨k2.pos, k2.live, k2.frames, k2.minAlign, k2.cov, k2.cur⟩, m2, rfl, b2⟩

/-- non-vacuity: a `MutBumpVec<u64>` created in `exG3` with room for 4 elements, filled with 2, grown to 100
    elements (needs a second chunk, granted by the base allocator), filled with 3 -/
def exPrepOps : List (Op × List BaseResp) :=
  [(.prepareSlice 8 8 4 false, []), (.fillPrepared 2 0, []), (.prepareSlice 8 8 100 false, [.granted 0x20000 1008]),
   (.fillPrepared 3 0, [])]

set_option maxRecDepth 1000000 in
example : ∃ g2 g3 o3 q3, Reachable exCfg exG3 ∧ exG3.s.cur = .chunk 0 ∧ AllCovered exPrepOps ∧
    RunEnvOK exCfg exG3 exPrepOps ∧ AllPrepFill exPrepOps ∧ runOps exCfg exG3 exPrepOps = .ok g2 ∧
    step exCfg g2 .abandonPrepared [] = .ok (g3, o3, q3) ∧ g2.s.cur = .chunk 1 := by
  obtain ⟨g2, g3, o3, q3, he, hr, -, h3, hx⟩ := runThen_sound (cfg := exCfg) (base := []) (g := exG3) (w := exPrepOps)
    (exit := .abandonPrepared) (extra := fun g2 _ => decide (g2.s.cur = .chunk 1)) (exG3_eq ▸ by decide +kernel)
  exact ⟨g2, g3, o3, q3, exReach3', exG3_eq ▸ (rfl : exG3lit.s.cur = .chunk 0), coveredCheck_sound (by decide), he,
    List.all_eq_true.1 (by decide), hr, h3, of_decide_eq_true hx⟩

end C15

/-! # C13 — the allocated byte count decreases only by reclaiming, leaving a scope, or a reset -/

namespace C13
open Arena Arena.Hist Ledger Rs

variable {cfg : Cfg}

/-- FROM ANY REACHABLE STATE: every operation that is NOT one of `Op.mayReclaim` — i.e. everything except `drop`,
    `deallocate` / `shrink` (not through the opt-out wrappers), `shrink_slice`, `scopeExit`, `scopedAlignedExit`,
    `reset_to`, `reset`, `reset_to_start` — never makes `stats().allocated()` smaller.  In particular `allocate`,
    the typed allocations, `grow` (it never gives anything back), `reserve`, `prepare*`, `fillPrepared`,
    `commit*`, `abandonPrepared`, `alloc_try_with(_mut)` (`Ok`: the position ends past the value; `Err`: the
    checkpoint taken before is restored or nothing is undone), `write`, `split`, `checkpoint`, `scopeEnter`,
    `claim` / `claimEnd`, everything on the claimed handle, `aligned*` entry AND exit, `with_settings`, the
    constructors, `WithoutDealloc::deallocate` and `WithoutShrink::shrink`. -/
theorem never_decreases (hc : CfgOK cfg) {g g' : GState} (h : Reachable cfg g) {op : Op} {resps : List BaseResp}
    {out : Out} {reqs : List BaseReq} (hcov : op.Covered) (henv : EnvOK cfg g resps)
    (hnr : op.mayReclaim = false) (hs : step cfg g op resps = .ok (g', out, reqs)) :
    (stats cfg g.s).allocated ≤ (stats cfg g'.s).allocated :=
  stepCore_adv_full (g := install g resps) hcov ((h.inv hc).install resps) henv.1 henv.2 hnr (step_ok hs).1

/-- THE LIST IS EXACT in the sense of C13: if a step of any history makes the allocated byte count strictly smaller,
    the operation is a reclaiming `deallocate` / `shrink` / `shrink_slice`, the end of a scope (`scopeExit`,
    `scopedAlignedExit`, `reset_to`), a reset (`reset`, `reset_to_start`) or `drop` -/
theorem allocated_decreases_only_by (hc : CfgOK cfg) {g g' : GState} (h : Reachable cfg g) {op : Op}
    {resps : List BaseResp} {out : Out} {reqs : List BaseReq} (hcov : op.Covered) (henv : EnvOK cfg g resps)
    (hs : step cfg g op resps = .ok (g', out, reqs))
    (hdec : (stats cfg g'.s).allocated < (stats cfg g.s).allocated) : op.mayReclaim = true := by
  cases h1 : op.mayReclaim
  · have := never_decreases hc h hcov henv h1 hs
    omega
  · rfl

/-- OPT-OUT of deallocation, in every history: with `DEALLOCATES = false`, or through `WithoutDealloc`, a
    `deallocate` never changes any statistic (it is valid, and only the ghost block is forgotten) -/
theorem deallocate_optout_reachable {g g' : GState} {b : Nat} {via : Via} {resps : List BaseResp} {out : Out}
    {reqs : List BaseReq} (hopt : via = .withoutDealloc ∨ cfg.deallocates = false)
    (hs : step cfg g (.deallocate b via) resps = .ok (g', out, reqs)) : stats cfg g'.s = stats cfg g.s :=
  stats_deallocate_optout (g := install g resps) hopt (step_ok hs).1

/-- OPT-OUT of shrinking, in every history: with `SHRINKS = false`, or through `WithoutShrink`, a `shrink` never
    decreases the allocated byte count (it may allocate when the alignment is raised).
    (`C13.shrink_optout_never_decreases_target`, which fails for ill-formed states, holds of reachable ones.) -/
theorem shrink_optout_reachable (hc : CfgOK cfg) {g g' : GState} (h : Reachable cfg g) {b : Nat} {L : Layout} {via : Via}
    {resps : List BaseResp} {out : Out} {reqs : List BaseReq} (henv : EnvOK cfg g resps)
    (hopt : via = .withoutShrink ∨ cfg.shrinks = false)
    (hs : step cfg g (.shrink b L via) resps = .ok (g', out, reqs)) :
    (stats cfg g.s).allocated ≤ (stats cfg g'.s).allocated :=
  adv_shrink_optout (g := install g resps) ((h.inv hc).install resps) henv.1 hopt (step_ok hs).1

/-- … and with `SHRINKS = false` `shrink_slice` changes no statistic -/
theorem shrinkSlice_optout_reachable {g g' : GState} {b n : Nat} {resps : List BaseResp} {out : Out}
    {reqs : List BaseReq} (hsh : cfg.shrinks = false)
    (hs : step cfg g (.shrinkSlice b n) resps = .ok (g', out, reqs)) : stats cfg g'.s = stats cfg g.s :=
  stats_shrinkSlice_optout (g := install g resps) hsh (step_ok hs).1

/-- non-vacuity: a `grow` of the newest block of `exG3` (in place) and a `deallocate` through `WithoutDealloc` -/
example : ∃ g' out reqs, Reachable exCfg exG3 ∧ (Op.grow 1 { size := 80, align := 16 } false .plain).Covered ∧
    EnvOK exCfg exG3 [] ∧ (Op.grow 1 { size := 80, align := 16 } false .plain).mayReclaim = false ∧
    step exCfg exG3 (.grow 1 { size := 80, align := 16 } false .plain) [] = .ok (g', out, reqs) :=
  exG3_eq ▸ ⟨_, _, _, exReach3lit, rfl, envOK_nil _, rfl, rfl⟩

example : ∃ g' out reqs, step exCfg exG3 (.deallocate 1 .withoutDealloc) [] = .ok (g', out, reqs) := exG3_eq ▸ ⟨_, _, _, rfl⟩

/-- `WithoutShrink::shrink` of the newest block (40 → 8 bytes) -/
example : ∃ g' out reqs, EnvOK exCfg exG3 [] ∧
    step exCfg exG3 (.shrink 1 { size := 8, align := 16 } .withoutShrink) [] = .ok (g', out, reqs) :=
  exG3_eq ▸ ⟨_, _, _, envOK_nil _, rfl⟩

/-- the hypothesis of `allocated_decreases_only_by` is met by a plain `deallocate` of the newest block -/
example : ∃ g' out reqs, step exCfg exG3 (.deallocate 1 .plain) [] = .ok (g', out, reqs) ∧
    (stats exCfg g'.s).allocated < (stats exCfg exG3.s).allocated := exG3_eq ▸ ⟨_, _, _, rfl, by decide⟩

end C13

/-! # C10 — no fault on the claimed handle when the base allocator hands out user-space addresses -/

namespace C10
open Arena Arena.Hist Ledger Rs

variable {cfg : Cfg}

/-- when every block granted during the history ends at or below `2^62` (`ReachableLow`: the stronger environment
    hypothesis, true of every user-space address), every chunk of every reachable state does -/
theorem reachable_chunks_low (hc : CfgOK cfg) {g : GState} (h : ReachableLow cfg g) :
    ∀ c ∈ g.s.chunks, c.base + c.size ≤ 2 ^ 62 := h.chunksLow hc

/-- … so no non-empty live block sits at the address of the static dummy chunk header (`dummyAddr = 2^62 + 80`):
    `DummyApart` restricted to non-empty blocks -/
theorem reachable_dummyApart_nonempty (hc : CfgOK cfg) {g : GState} (h : ReachableLow cfg g) :
    ∀ blk ∈ g.s.live, 0 < blk.size → isLast cfg { g.s with cur := .claimed } blk.addr blk.size = false :=
  h.dummyApart_nonempty hc

/-- THE THREE CASES `C10.reachable_noFault_partial` LEAVES OPEN — `grow` / `deallocate` / `shrink` of a block through
    the CLAIMED handle — never end in an overflow, a failed debug assertion or undefined behaviour, from any state
    reached with low grants, PROVIDED the addressed block is not zero-sized (partial: see the target below). -/
theorem reachable_noFault_claimed_blocks_partial (hc : CfgOK cfg) {g : GState} (h : ReachableLow cfg g) {b : Nat}
    {op : Op} {resps : List BaseResp}
    (hop : (∃ L z via, op = .grow b L z via) ∨ (∃ via, op = .deallocate b via) ∨ (∃ L via, op = .shrink b L via))
    (hnz : ∀ blk, findBlock g.s b = .ok blk → 0 < blk.size) :
    ∀ f, step cfg g (.onClaimed op) resps = .error f → ¬ Fault.isBug f := by
  intro f hf hb
  exact noFault_onClaimed_addressed (g := install g resps) ((h.reachable.inv hc).install resps)
    (fun blk hblk => h.dummyApart_nonempty hc blk (Mem.findBlock_ok hblk).1 (hnz blk hblk)) hop f (step_bug hf hb) hb

/-- the same for every block, zero-sized ones included; with `C10.reachable_noFault_partial` this is the full no-fault
    theorem.  Proved as stated: `C10.reachable_noFault_claimed_blocks_holds` in Props/Targets.lean (every live block, also
    an empty one, ends at or below `2^62`: `Arena.Hist.ReachableLow.blocksLow`, Lemmas/HistBlocksLow.lean). -/
def reachable_noFault_claimed_blocks_target : Prop :=
  ∀ (cfg : Cfg) (g : GState) (b : Nat) (op : Op) (resps : List BaseResp), CfgOK cfg → ReachableLow cfg g →
    ((∃ L z via, op = .grow b L z via) ∨ (∃ via, op = .deallocate b via) ∨ (∃ L via, op = .shrink b L via)) →
    ∀ f, step cfg g (.onClaimed op) resps = .error f → ¬ Fault.isBug f

set_option maxRecDepth 1000000 in
/-- non-vacuity: the state after `create, allocate 24, allocate 40, claim` is reached with low grants; block 1 has 40 bytes -/
example : ∃ g, ReachableLow exCfg g ∧ ∃ blk, findBlock g.s 1 = .ok blk ∧ 0 < blk.size :=
  ⟨exGClaim, ⟨C14.exClaimOps, exClaim_run.1, exClaim_run.2.1, lowCheck_sound (by decide), exClaim_run.2.2⟩, _, rfl, by decide⟩

end C10
