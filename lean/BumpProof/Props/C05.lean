/-
  Props/C05.lean — property C05: every chunk is returned to the base allocator exactly once
  and fits.  Ledger view over the arena model (`Arena/Model.lean`): `s.reqs` is the
  list of calls made to the base allocator, `owned cfg s` the releases that are still due.

  Defines `owned`.
-/
import BumpProof.Lemmas.LedgerScope
import BumpProof.Lemmas.FnCreate
import BumpProof.Lemmas.LedgerEx

namespace C05
open Arena Rs Ledger

/-- the releases that are still due: one `dealloc` per chunk, with the address the base allocator
    returned, the (down-aligned) size in use and the header alignment -/
def owned (cfg : Cfg) (s : State) : List BaseReq := s.chunks.map (deallocReq cfg)

/-! ## Drop: every chunk is released exactly once -/

/-- `manually_drop` on an allocated arena whose current chunk exists: the requests issued are a
    permutation of the releases due (each chunk exactly once, nothing else), and afterwards the
    arena owns nothing. -/
theorem manuallyDrop_releases_all (cfg : Cfg) (s : State) {i : Nat}
    (hcur : s.cur = .chunk i) (hi : i < s.chunks.length) :
    ∃ l, (manuallyDrop cfg s).reqs = s.reqs ++ l ∧ l.Perm (owned cfg s) ∧
      owned cfg (manuallyDrop cfg s) = [] ∧ (manuallyDrop cfg s).cur = .unallocated ∧
      (manuallyDrop cfg s).resps = s.resps := by
  have hd : manuallyDrop cfg s = { s with
      reqs := s.reqs ++ ((s.chunks.take i).reverse ++ s.chunks.drop (i+1) ++ (s.chunks[i]?).toList).map (deallocReq cfg),
      chunks := [], cur := .unallocated, dropped := true } := by
    simp only [manuallyDrop, hcur]
  rw [hd]
  refine ⟨_, rfl, List.Perm.map _ ?_, rfl, rfl, rfl⟩
  rw [List.getElem?_eq_getElem hi, Option.toList_some, List.append_assoc]
  refine ((List.reverse_perm _).append (List.perm_append_singleton _ _)).trans ?_
  rw [← List.drop_eq_getElem_cons hi, List.take_append_drop]

/-- dropping an arena that never allocated (or whose chunks were handed to a claimant — leaked by
    design) makes no base-allocator call -/
theorem manuallyDrop_quiet (cfg : Cfg) (s : State) (hcur : s.cur = .unallocated ∨ s.cur = .claimed) :
    (manuallyDrop cfg s).reqs = s.reqs ∧ (manuallyDrop cfg s).chunks = s.chunks := by
  rcases hcur with h | h <;> simp only [manuallyDrop, h, and_self]

/-! ## `reset` keeps exactly the last (largest) chunk and releases the rest exactly once -/

theorem reset_releases (cfg : Cfg) (s : State) {i : Nat}
    (hcur : s.cur = .chunk i) (hi : i < s.chunks.length) :
    ∃ l last, s.chunks.getLast? = some last ∧
      (reset cfg s).reqs = s.reqs ++ l ∧ l.Perm (s.chunks.dropLast.map (deallocReq cfg)) ∧
      (reset cfg s).chunks = [last.resetPos cfg] ∧ (reset cfg s).cur = .chunk 0 ∧
      owned cfg (reset cfg s) = [deallocReq cfg last] ∧
      (last.resetPos cfg).allocated cfg = 0 := by
  have hne : s.chunks ≠ [] := List.ne_nil_of_length_pos (Nat.zero_lt_of_lt hi)
  have hr : reset cfg s = { s with
      reqs := s.reqs ++ ((s.chunks.take i).reverse ++ (s.chunks.drop i).dropLast).map (deallocReq cfg),
      chunks := [(s.chunks.getLast hne).resetPos cfg], cur := .chunk 0 } := by
    simp only [reset, hcur, List.getLast?_eq_some_getLast hne]
  rw [hr]
  refine ⟨_, _, List.getLast?_eq_some_getLast hne, rfl, List.Perm.map _ ?_, rfl, rfl, rfl, ?_⟩
  · have : s.chunks.dropLast = s.chunks.take i ++ (s.chunks.drop i).dropLast := by
      conv => lhs; rw [← List.take_append_drop i s.chunks]
      exact List.dropLast_append_of_ne_nil fun h0 => Nat.not_le.2 hi (List.drop_eq_nil_iff.1 h0)
    rw [this]
    exact (List.reverse_perm _).append_right _
  · unfold Chunk.allocated Chunk.resetPos
    cases cfg.up <;> simp [Chunk.contentStart, Chunk.contentEnd]

/-- chunk sizes grow strictly along the list (`append_for` at least doubles): the chunk `reset`
    keeps is the largest one -/
theorem reset_keeps_largest (s : State) {last : Chunk}
    (hinc : s.chunks.Pairwise (fun a b => a.size < b.size))
    (hlast : s.chunks.getLast? = some last) : ∀ c ∈ s.chunks, c.size ≤ last.size := by
  obtain ⟨ys, hys⟩ := List.getLast?_eq_some_iff.1 hlast
  rw [hys, List.pairwise_append] at hinc
  intro c hc
  rcases List.mem_append.1 (hys ▸ hc) with h | h
  · exact Nat.le_of_lt (hinc.2.2 c h last (List.mem_singleton.2 rfl))
  · rw [List.mem_singleton.1 h]; exact Nat.le_refl _

/-- `reset` of an arena without a current chunk does nothing -/
theorem reset_quiet (cfg : Cfg) (s : State) (hcur : s.cur = .unallocated ∨ s.cur = .claimed) :
    reset cfg s = s := by
  rcases hcur with h | h <;> simp only [reset, h]

/-! ## Operations without base-allocator traffic: nothing released, nothing acquired -/

theorem owned_setPos (cfg : Cfg) (s : State) (i p : Nat) : owned cfg (setPos s i p) = owned cfg s :=
  (Ext.setPos s p (Nat.zero_le i)).covC.map_eq (setPos_length s i p) fun _ _ => SamePlace.deallocReq cfg

theorem owned_setCurPos (cfg : Cfg) (s : State) (p : Nat) : owned cfg (setCurPos s p) = owned cfg s :=
  (pos_quiet (Or.inr ⟨p, rfl⟩)).2.2

theorem resetToStart_quiet (cfg : Cfg) (s : State) :
    (resetToStart cfg s).reqs = s.reqs ∧ (resetToStart cfg s).resps = s.resps ∧
    owned cfg (resetToStart cfg s) = owned cfg s := by
  unfold resetToStart
  split
  · split
    · exact ⟨rfl, rfl, rfl⟩
    · next hc => exact ⟨rfl, rfl, by rw [owned, owned, hc]; rfl⟩
  · exact ⟨rfl, rfl, rfl⟩

/-- leaving a scope / `reset_to`: no chunk is released (they stay available) and none acquired -/
theorem resetTo_quiet {cfg : Cfg} {s s' : State} {cp : Checkpoint} (h : resetTo cfg s cp = .ok s') :
    s'.reqs = s.reqs ∧ s'.resps = s.resps ∧ owned cfg s' = owned cfg s := by
  rcases resetTo_cases h with rfl | ⟨i, p, rfl⟩
  · exact resetToStart_quiet cfg s
  · exact ⟨rfl, rfl, owned_setPos cfg s i p⟩

theorem deallocate_quiet {cfg : Cfg} {s s' : State} {ptr size : Nat} (h : deallocate cfg s ptr size = .ok s') :
    s'.reqs = s.reqs ∧ s'.resps = s.resps ∧ owned cfg s' = owned cfg s :=
  pos_quiet (deallocate_cases h)

/-- the allocation fast path never talks to the base allocator -/
theorem tryCur_quiet {cfg : Cfg} {k : Kind} {s : State} {L : Layout} {h : Hints} {v : Nat × Nat} {s' : State}
    (e : tryCur cfg k s L h = .ok (some (v, s'))) :
    s'.reqs = s.reqs ∧ s'.resps = s.resps ∧ owned cfg s' = owned cfg s :=
  pos_quiet ((Fn.tryCur_some e).imp id (·.2))

theorem alignTo_quiet {cfg : Cfg} {s s' : State} {n : Nat} (h : alignTo cfg s n = .ok s') :
    s'.reqs = s.reqs ∧ s'.resps = s.resps ∧ owned cfg s' = owned cfg s :=
  pos_quiet (alignTo_cases h)

/-! ## Chunk creation: one request, and the chunk fits what was granted -/

/-- A granted request.  `NonDummyChunk::new` succeeds (no fault), issues exactly one `alloc` request
    with the header alignment, and links one chunk whose size in use — the size that will later be
    passed to `dealloc` — lies between the requested and the granted size and is a multiple of 16;
    the release uses the granted address and the same alignment. -/
theorem newChunk_granted {cfg : Cfg} {s : State} {size p g : Nat} {rest : List BaseResp}
    (hH : Spec.HeaderOK cfg.hdr) (hl : layoutOk size cfg.hdr.align = true)
    (hr : s.resps = .granted p g :: rest) (hg : size ≤ g) (hg64 : g < 2^64)
    (h16 : 16 ∣ size) (hsa : Spec.sizeAlign cfg.up cfg.hdr ∣ size) :
    ∃ c, newChunk cfg s size =
        .ok ({ s with reqs := s.reqs ++ [BaseReq.alloc size cfg.hdr.align], resps := rest,
                      chunks := s.chunks ++ [c] }, .ok s.chunks.length) ∧
      size ≤ c.size ∧ c.size ≤ g ∧ 16 ∣ c.size ∧ c.granted = g ∧ c.reqSize = size ∧
      deallocReq cfg c = .dealloc p c.size cfg.hdr.align := by
  have _ := h16  -- not needed: the aligned grant is a multiple of 16 whatever was asked for
  obtain ⟨hd16, hleg, -, hfits⟩ := Lemmas.alignedSize_props hH cfg.up g
  have hle := hfits size hsa hg
  refine ⟨Mem.freshChunk cfg p g size (Spec.downAlign g (Spec.sizeAlign cfg.up cfg.hdr)), ?_, hle, hleg, hd16,
    rfl, rfl, rfl⟩
  exact Fn.newChunk_iff.2 (.granted hl hr (sizeCfg_eq cfg ▸ C12.align_size_eq cfg.up cfg.hdr hH g hg64) hle
    (Nat.mod_eq_zero_of_dvd hd16))

/-- the same with the size coming from the proved size computation (C12): every size `calc_size`
    produces satisfies the divisibility hypotheses of `newChunk_granted` -/
theorem newChunk_granted_calcSize {cfg : Cfg} {s : State} {hint size p g : Nat} {rest : List BaseResp}
    (hH : Spec.HeaderOK cfg.hdr) (hs : Spec.calcSize cfg.up cfg.hdr hint = some size)
    (hl : layoutOk size cfg.hdr.align = true)
    (hr : s.resps = .granted p g :: rest) (hg : size ≤ g) (hg64 : g < 2^64) :
    ∃ c, newChunk cfg s size =
        .ok ({ s with reqs := s.reqs ++ [BaseReq.alloc size cfg.hdr.align], resps := rest,
                      chunks := s.chunks ++ [c] }, .ok s.chunks.length) ∧
      size ≤ c.size ∧ c.size ≤ g ∧ 16 ∣ c.size ∧ c.granted = g ∧ c.reqSize = size ∧
      deallocReq cfg c = .dealloc p c.size cfg.hdr.align := by
  obtain ⟨h16, hsa, _⟩ := C12.calcSize_some hH hs
  exact newChunk_granted hH hl hr hg hg64 h16 hsa

/-- A refused request: an error value (no fault), exactly one request, nothing linked — so nothing
    has to be released for it. -/
theorem newChunk_refused {cfg : Cfg} {s : State} {size : Nat} {rest : List BaseResp}
    (hl : layoutOk size cfg.hdr.align = true) (hr : s.resps = .fail :: rest) :
    newChunk cfg s size =
      .ok ({ s with reqs := s.reqs ++ [BaseReq.alloc size cfg.hdr.align], resps := rest }, .error .alloc) :=
  Fn.newChunk_iff.2 (.refused hl hr)

/-- An invalid layout is rejected before the base allocator is involved: no request at all. -/
theorem newChunk_invalid_layout {cfg : Cfg} {s : State} {size : Nat}
    (hl : layoutOk size cfg.hdr.align = false) :
    newChunk cfg s size = .ok (s, .error .capacityOverflow) :=
  Fn.newChunk_iff.2 (.overflow hl)

/-- Whatever `newChunk` does (any response, any size): at most one request, and the releases due grow
    by exactly the new chunk when it succeeds and not at all when it fails. -/
theorem newChunk_ledger {cfg : Cfg} {s s' : State} {size : Nat} {r : Except AErr Nat}
    (h : newChunk cfg s size = .ok (s', r)) :
    (s'.reqs = s.reqs ∨ s'.reqs = s.reqs ++ [BaseReq.alloc size cfg.hdr.align]) ∧
    ((∃ e, r = .error e) → owned cfg s' = owned cfg s) ∧
    ((∃ i, r = .ok i) → ∃ c, owned cfg s' = owned cfg s ++ [deallocReq cfg c] ∧
        size ≤ c.size ∧ 16 ∣ c.size ∧ c.reqSize = size) := by
  cases Fn.newChunk_iff.1 h with
  | overflow => exact ⟨Or.inl rfl, fun _ => rfl, fun ⟨i, hi⟩ => by cases hi⟩
  | refused => exact ⟨Or.inr rfl, fun _ => rfl, fun ⟨i, hi⟩ => by cases hi⟩
  | @granted p g size' _ _ _ _ hge h16 =>
    refine ⟨Or.inr rfl, fun ⟨e, he⟩ => (by cases he), fun _ => ⟨Mem.freshChunk cfg p g size size', ?_, hge,
      Nat.dvd_of_mod_eq_zero h16, rfl⟩⟩
    simp only [owned, List.map_append, List.map_cons, List.map_nil]

/-! ## An arena created unallocated never talks to the base allocator until memory is needed -/

/-- for an unallocated arena every operation that does not need memory leaves the request log
    untouched (and the arena unallocated) -/
theorem unallocated_quiet (cfg : Cfg) (s : State) (hcur : s.cur = .unallocated) (hch : s.chunks = []) :
    reset cfg s = s ∧ resetToStart cfg s = s ∧
    (manuallyDrop cfg s).reqs = s.reqs ∧
    (∀ ptr size s', deallocate cfg s ptr size = .ok s' → s'.reqs = s.reqs ∧ s'.chunks = []) ∧
    (∀ n s', alignTo cfg s n = .ok s' → s' = s) ∧
    (cfg.ga = false → resetTo cfg s (checkpoint cfg s) = .ok s) := by
  refine ⟨by simp only [reset, hcur], by simp only [resetToStart, hcur], by simp only [manuallyDrop, hcur],
    ?_, ?_, ?_⟩
  · intro ptr size s' h
    rcases Fn.deallocate_inv h with rfl | ⟨_, _, hc, _⟩
    · exact ⟨rfl, hch⟩
    · cases hcur.symm.trans hc
  · intro n s' h
    rcases alignTo_cases h with rfl | ⟨p, rfl⟩
    · rfl
    · unfold setCurPos; rw [hcur]
  · exact fun hga => (Fn.resetTo_unallocated hcur hga).trans (by simp only [resetToStart, hcur])

/-! ## Allocation never releases a chunk and never forgets one -/

/-- across any `Ext`-related pair of states the releases due only grow at the end -/
theorem owned_prefix_of_ext {cfg : Cfg} {n : Nat} {s s' : State} (h : Ext n s s') :
    owned cfg s = (owned cfg s').take s.chunks.length :=
  h.covC.map_prefix fun _ _ => SamePlace.deallocReq cfg

/-- `alloc` (fast and slow path, every outcome): the only request it can make is ONE `alloc` with the
    header alignment — never a release; every release that was due is still due, unchanged; when it
    reports an error the releases due are exactly the same (a refused chunk is not owed) -/
theorem alloc_never_releases {cfg : Cfg} {s s' : State} {L : Layout} {r : Except AErr Nat}
    (e : alloc cfg s L = .ok (s', r)) :
    (s'.reqs = s.reqs ∨ ∃ size, s'.reqs = s.reqs ++ [BaseReq.alloc size cfg.hdr.align]) ∧
    owned cfg s = (owned cfg s').take s.chunks.length ∧
    (∀ er, r = .error er → owned cfg s' = owned cfg s) := by
  obtain ⟨a1, a2, _, a4⟩ := alloc_frame e
  have hx := a1 0 (fun _ _ => Nat.zero_le _)
  exact ⟨a2, owned_prefix_of_ext hx, fun er he =>
    hx.covC.map_eq ((a4 er he).2.err er he).1 fun _ _ => SamePlace.deallocReq cfg⟩

theorem allocGeneric_never_releases {cfg : Cfg} {k : Kind} {s s' : State} {L : Layout} {h hs : Hints}
    {r : Except AErr (Nat × Nat)} (e : allocGeneric cfg k s L h hs = .ok (s', r)) :
    (s'.reqs = s.reqs ∨ ∃ size, s'.reqs = s.reqs ++ [BaseReq.alloc size cfg.hdr.align]) ∧
    owned cfg s = (owned cfg s').take s.chunks.length ∧
    (∀ er, r = .error er → owned cfg s' = owned cfg s) := by
  obtain ⟨a1, a2, _, a4⟩ := allocGeneric_frame e
  have hx := a1 0 (fun _ _ => Nat.zero_le _)
  exact ⟨a2, owned_prefix_of_ext hx, fun er he =>
    hx.covC.map_eq ((a4 er he).2.err er he).1 fun _ _ => SamePlace.deallocReq cfg⟩

theorem reserve_never_releases {cfg : Cfg} {s s' : State} {add : Nat} {r : Except AErr Unit}
    (e : reserve cfg s add = .ok (s', r)) :
    (s'.reqs = s.reqs ∨ ∃ size, s'.reqs = s.reqs ++ [BaseReq.alloc size cfg.hdr.align]) ∧
    owned cfg s = (owned cfg s').take s.chunks.length ∧
    (∀ er, r = .error er → owned cfg s' = owned cfg s) := by
  obtain ⟨a1, a2, _⟩ := reserve_frame e
  exact ⟨a2.reqs, owned_prefix_of_ext (a1 0), fun er he =>
    (a1 0).covC.map_eq (a2.err er he).1 fun _ _ => SamePlace.deallocReq cfg⟩

/-! ## The history-level ledger statement (proved in Props/Targets.lean) -/

/-- The ledger statement for one step of `stepCore`, from which it follows along every history that the multiset of
    blocks granted so far equals the multiset of blocks released so far plus the releases due (`owned`), hence that
    after `drop` everything granted has been released exactly once.  The two hypotheses are part of the arena
    invariant (`Arena/Inv`): the current chunk exists, an unallocated arena has no chunk; only the first is needed
    (`C05.history_ledger_holds`).
    PROVED AS STATED: `C05.history_ledger_holds` in Props/Targets.lean (from `Arena.Hist.stepCore_ledger`); the
    history-level forms are `C05.history_ledger`, `history_releases_match`, `history_drop_releases_all` (Props/Hist.lean). -/
def history_ledger_target : Prop :=
  ∀ (cfg : Cfg) (g g' : GState) (op : Op) (out : Out),
    (∀ i, g.s.cur = .chunk i → i < g.s.chunks.length) → (g.s.cur = .unallocated → g.s.chunks = []) →
    stepCore cfg g op = .ok (g', out) →
    ∃ l, g'.s.reqs = g.s.reqs ++ l ∧
      ∃ acquired : List Chunk,
        ((l.filter (fun q => match q with | .dealloc .. => true | _ => false)) ++ owned cfg g'.s).Perm
          (owned cfg g.s ++ acquired.map (deallocReq cfg)) ∧
        acquired.length ≤ (l.filter (fun q => match q with | .alloc .. => true | _ => false)).length

/-! ## Non-vacuity: concrete states satisfying the hypotheses (checked by evaluation) -/

section Examples
open Ledger.Ex

/-- drop of a two-chunk arena: both chunks released, each once -/
example : ∃ l, (manuallyDrop cfg0 s2).reqs = s2.reqs ++ l ∧ l.Perm (owned cfg0 s2) ∧
    owned cfg0 (manuallyDrop cfg0 s2) = [] ∧ (manuallyDrop cfg0 s2).cur = .unallocated ∧
    (manuallyDrop cfg0 s2).resps = s2.resps :=
  manuallyDrop_releases_all cfg0 s2 (i := 0) rfl (by decide)
example : (manuallyDrop cfg0 s2).reqs = [.dealloc 8192 1008 16, .dealloc 4096 496 16] := rfl
/-- the second chunk current: the order differs, the multiset does not -/
example : (manuallyDrop cfg0 s2later).reqs = [.dealloc 4096 496 16, .dealloc 8192 1008 16] := rfl
example : (reset cfg0 s2).reqs = [.dealloc 4096 496 16] ∧ (reset cfg0 s2).chunks.length = 1 := ⟨rfl, rfl⟩
example : s2.cur = .chunk 0 ∧ 0 < s2.chunks.length := ⟨rfl, by decide⟩
example : s2.chunks.Pairwise (fun a b => a.size < b.size) := by decide
/-- hypotheses of `newChunk_granted` for a 496-byte request answered with 512 bytes -/
example : Spec.HeaderOK cfg0.hdr ∧ layoutOk 496 cfg0.hdr.align = true ∧ 496 ≤ 512 ∧ 512 < 2^64 ∧ 16 ∣ 496 ∧
    Spec.sizeAlign cfg0.up cfg0.hdr ∣ 496 := ⟨hH0, by decide, by decide, by decide, by decide, by decide⟩
example : Spec.calcSize cfg0.up cfg0.hdr 512 = some 496 := by decide
example : ∃ c, newChunk cfg0 { sUnalloc with resps := [.granted 4096 512] } 496 =
      .ok ({ sUnalloc with reqs := [BaseReq.alloc 496 16], resps := [], chunks := [c] }, .ok 0) ∧
      496 ≤ c.size ∧ c.size ≤ 512 ∧ 16 ∣ c.size ∧ c.granted = 512 ∧ c.reqSize = 496 ∧
      deallocReq cfg0 c = .dealloc 4096 c.size 16 :=
  newChunk_granted (s := { sUnalloc with resps := [.granted 4096 512] }) hH0 (by decide) rfl (by decide) (by decide)
    (by decide) (by decide)
example : layoutOk (2^63) cfg0.hdr.align = false := by decide
example : (initState cfg0).cur = .unallocated ∧ (initState cfg0).chunks = [] := ⟨rfl, rfl⟩

end Examples

end C05
