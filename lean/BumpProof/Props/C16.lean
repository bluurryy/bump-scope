/-
  Props/C16.lean — property C16: splitting and merging owned slices partitions them exactly.

  Model: `Coll/Split.lean` (`splitOff` for `BumpBox<[T]>` / `FixedBumpVec` / `BumpVec`, `splitAt`,
  `splitFirst/Last`, `splitAtSpare`, `merge`), a part = slots + length + byte address.  For EVERY
  length, capacity (`BumpBox<[T]>`: `cap = len`), element size and range:
    * `split_off(start..end)` is defined (does not panic) exactly for `start ≤ end ≤ len`; the returned
      part holds `xs[start..end)`, `self` keeps `xs[..start) ++ xs[end..)` (documented order), every id
      of the original is in exactly one of the two, the capacities ADD UP to the original capacity,
      the logs stay with `self`;
    * `split_at(at)` is defined exactly for `at ≤ len` and yields `(xs[..at), xs[at..))`, adjacent in memory;
    * `merge` of adjacent parts is the inverse of `split_at` (contents, length, address) and it REJECTS the
      same two parts in the wrong order (they are not contiguous) — the implementation's address test;
    * `split_first` / `split_last`, `split_at_spare`.
    * `partition` (`partition_partitions`): for every predicate behaviour, either two adjacent boxes that together
      hold a permutation of the original values, or (the predicate panicked) the box dropped with every value once.
    * zero-sized elements, by counts (`Coll/Zst.lean`): `zst_split_off_partitions`, `zst_merge_partitions`.
    * `into_flattened` (`Coll/Flatten.lean`): `len` arrays of `N` become `len * N` elements in order, the claimed
      capacity `cap * N` is exactly the buffer, no destructor runs; zero-sized: `checked_mul`, `usize::MAX`.
  Independence of the parts afterwards is the arena's business (C01 + C02: separate live blocks).
-/
import BumpProof.Coll.Flatten
import BumpProof.Coll.Zst
import BumpProof.Lemmas.CollSplit

namespace C16
open Coll

/-- `split_off(start..end)` partitions exactly, in the documented order, and the capacities add up -/
theorem split_off_partitions (lay : Lay) (p : Part) (xs : List Id) (h : p.Holds xs) (start end_ : Nat)
    (hse : start ≤ end_) (hel : end_ ≤ xs.length) :
    ∃ s o, splitOff lay p start end_ = some (s, o) ∧
      o.vec.abs = (xs.take end_).drop start ∧ s.vec.abs = xs.take start ++ xs.drop end_ ∧
      (s.vec.abs ++ o.vec.abs).Perm xs ∧
      s.vec.len + o.vec.len = p.vec.len ∧ s.vec.cap + o.vec.cap = p.vec.cap ∧
      s.vec.len ≤ s.vec.cap ∧ o.vec.len ≤ o.vec.cap ∧
      s.vec.dropLog = p.vec.dropLog ∧ s.vec.escaped = p.vec.escaped := by
  obtain ⟨s, o, he, ho, hs, hc, hd, hes, -, -, -⟩ := splitOff_holds lay p xs h start end_ hse hel
  -- take start ++ drop end ++ range ~ take start ++ range ++ drop end = xs
  have hperm : (xs.take start ++ xs.drop end_ ++ (xs.take end_).drop start).Perm xs := by
    conv => rhs; rw [range_split_eq xs hse]
    rw [List.append_assoc]
    exact List.Perm.append_left _ List.perm_append_comm
  refine ⟨s, o, he, ho.abs, hs.abs, ?_, ?_, hc, hs.len_le_cap, ho.len_le_cap, hd, hes⟩
  · rw [ho.abs, hs.abs]; exact hperm
  · rw [← hs.2, ← ho.2, ← List.length_append, hperm.length_eq, h.2]

/-- the two buffers `[addr, addr + cap·size)` are DISJOINT, adjacent, and together exactly the original
    buffer: one part starts at the original address and is exactly as large as its capacity says, the
    other starts right behind it (or the returned part is the empty vector and `self` is untouched).
    So filling either part up to its capacity can never reach a slot of the other one. -/
theorem split_off_buffers_disjoint (lay : Lay) (p : Part) (xs : List Id) (h : p.Holds xs) (start end_ : Nat)
    (hse : start ≤ end_) (hel : end_ ≤ xs.length) :
    ∃ s o, splitOff lay p start end_ = some (s, o) ∧ s.vec.cap + o.vec.cap = p.vec.cap ∧
      ((o.vec.cap = 0 ∧ s = p) ∨
       (s.addr = p.addr ∧ o.addr = s.addr + s.vec.cap * lay.esize ∧
          o.addr + o.vec.cap * lay.esize = p.addr + p.vec.cap * lay.esize) ∨
       (o.addr = p.addr ∧ s.addr = o.addr + o.vec.cap * lay.esize ∧
          s.addr + s.vec.cap * lay.esize = p.addr + p.vec.cap * lay.esize)) := by
  obtain ⟨s, o, he, -, -, hc, -, -, -, -, hlay⟩ := splitOff_holds lay p xs h start end_ hse hel
  refine ⟨s, o, he, hc, ?_⟩
  rcases hlay with h1 | ⟨h1, h2⟩ | ⟨h1, h2⟩
  · exact Or.inl h1
  · refine Or.inr (Or.inl ⟨h1, by rw [h1, h2], ?_⟩)
    rw [h2, ← hc, Nat.add_mul]; omega
  · refine Or.inr (Or.inr ⟨h1, by rw [h1, h2], ?_⟩)
    rw [h2, ← hc, Nat.add_mul]; omega

/-- the range check: outside `start ≤ end ≤ len` the call panics and nothing is split -/
theorem split_off_rejects (lay : Lay) (p : Part) (start end_ : Nat) (h : start > end_ ∨ end_ > p.vec.len) :
    splitOff lay p start end_ = none := by
  unfold splitOff; simp only; rw [if_pos h]

/-- `split_at(at)`: two adjacent, exactly full halves -/
theorem split_at_partitions (lay : Lay) (p : Part) (xs : List Id) (h : p.Holds xs) (hbox : p.vec.cap = p.vec.len)
    (at_ : Nat) (hat : at_ ≤ xs.length) :
    ∃ l r, splitAt lay p at_ = some (l, r) ∧ l.vec.abs = xs.take at_ ∧ r.vec.abs = xs.drop at_ ∧
      l.vec.abs ++ r.vec.abs = xs ∧ l.vec.cap + r.vec.cap = p.vec.cap ∧
      l.addr = p.addr ∧ r.addr = l.addr + l.vec.len * lay.esize := by
  obtain ⟨l, r, he, hl, hr, c1, c2, a1, a2, n1, -⟩ := splitAt_holds lay p xs h hbox at_ hat
  refine ⟨l, r, he, hl.abs, hr.abs, by rw [hl.abs, hr.abs, List.take_append_drop], ?_, a1, by rw [a1, a2, n1]⟩
  rw [c1, c2, hbox, ← h.2, Nat.add_sub_cancel' hat]

theorem split_at_rejects (lay : Lay) (p : Part) (at_ : Nat) (h : at_ > p.vec.len) : splitAt lay p at_ = none := by
  unfold splitAt; simp only; rw [if_pos h]

/-- `merge` is the inverse of `split_at`: contents, length, capacity and address of the original -/
theorem merge_inverts_split_at (lay : Lay) (p : Part) (xs : List Id) (h : p.Holds xs) (hbox : p.vec.cap = p.vec.len)
    (at_ : Nat) (hat : at_ ≤ xs.length) :
    ∃ l r m, splitAt lay p at_ = some (l, r) ∧ merge lay l r = some m ∧
      m.vec.abs = xs ∧ m.vec.len = p.vec.len ∧ m.vec.cap = p.vec.cap ∧ m.addr = p.addr := by
  obtain ⟨l, r, he, hl, hr, c1, c2, a1, a2, n1, n2⟩ := splitAt_holds lay p xs h hbox at_ hat
  obtain ⟨m, hm, hmh, hmc, hma⟩ := merge_holds lay l r _ _ hl hr (by rw [a1, a2, n1])
  have hsum : l.vec.len + r.vec.len = p.vec.len := by rw [n1, n2, h.2.symm, Nat.add_sub_cancel' hat]
  refine ⟨l, r, m, he, hm, ?_, ?_, by rw [hmc, hsum, hbox], by rw [hma, a1]⟩
  · rw [hmh.abs, List.take_append_drop]
  · rw [← hmh.2, List.take_append_drop, h.2]

/-- the contiguity test: the same two (non-empty) halves in the wrong order are rejected -/
theorem merge_rejects_swapped (lay : Lay) (p : Part) (xs : List Id) (h : p.Holds xs) (hbox : p.vec.cap = p.vec.len)
    (at_ : Nat) (hat : at_ ≤ xs.length) (hsz : lay.esize > 0) (hne : xs ≠ []) :
    ∃ l r, splitAt lay p at_ = some (l, r) ∧ merge lay r l = none := by
  obtain ⟨l, r, he, hl, hr, c1, c2, a1, a2, n1, n2⟩ := splitAt_holds lay p xs h hbox at_ hat
  refine ⟨l, r, he, ?_⟩
  unfold merge
  rw [if_pos]
  rw [a1, a2, n2, Nat.add_assoc, ← Nat.add_mul, Nat.add_sub_cancel' hat]
  have := Nat.mul_pos (List.length_pos_iff.mpr hne) hsz
  omega

/-- `merge` refuses exactly the non-adjacent pairs (the implementation compares `self.end` with `other.start`) -/
theorem merge_defined_iff (lay : Lay) (a b : Part) :
    (merge lay a b).isSome = true ↔ a.addr + a.vec.len * lay.esize = b.addr := by
  unfold merge
  split <;> simp_all

/-- `split_first` / `split_last`: the single element and the rest, nothing else -/
theorem split_first_partitions (lay : Lay) (p : Part) (x : Id) (xs : List Id) (h : p.Holds (x :: xs)) (hbox : p.vec.cap = p.vec.len) :
    ∃ f r, splitFirst lay p = some (f, r) ∧ f.vec.abs = [x] ∧ r.vec.abs = xs := by
  have hl := h.2
  simp at hl
  obtain ⟨l, r, he, h1, h2, -⟩ := splitAt_holds lay p (x :: xs) h hbox 1 (by simp)
  refine ⟨l, r, ?_, by simpa using h1.abs, by simpa using h2.abs⟩
  unfold splitFirst; rw [if_neg (by omega)]; exact he

theorem split_last_partitions (lay : Lay) (p : Part) (xs : List Id) (x : Id) (h : p.Holds (xs ++ [x])) (hbox : p.vec.cap = p.vec.len) :
    ∃ l r, splitLast lay p = some (l, r) ∧ l.vec.abs = [x] ∧ r.vec.abs = xs := by
  have hl := h.2
  simp at hl
  obtain ⟨a, b, he, h1, h2, -⟩ := splitAt_holds lay p (xs ++ [x]) h hbox (p.vec.len - 1) (by simp; omega)
  have e : p.vec.len - 1 = xs.length := by omega
  refine ⟨b, a, ?_, ?_, ?_⟩
  · unfold splitLast; rw [if_neg (by omega), he]; rfl
  · rw [h2.abs, e]; simp
  · rw [h1.abs, e]; simp

theorem split_first_empty (lay : Lay) (p : Part) (h : p.vec.len = 0) : splitFirst lay p = none ∧ splitLast lay p = none := by
  unfold splitFirst splitLast; simp [h]

/-- `FixedBumpVec::split_at_spare`: the initialised part and the spare capacity tile the buffer -/
theorem split_at_spare_partitions (lay : Lay) (p : Part) (xs : List Id) (h : p.Holds xs) :
    (splitAtSpare lay p).1.vec.abs = xs ∧ (splitAtSpare lay p).1.vec.cap = p.vec.len ∧
    (splitAtSpare lay p).2.vec.len = 0 ∧ (splitAtSpare lay p).2.vec.cap = p.vec.cap - p.vec.len ∧
    (splitAtSpare lay p).1.addr = p.addr ∧ (splitAtSpare lay p).2.addr = p.addr + p.vec.len * lay.esize := by
  have hcap := h.len_le_cap
  obtain ⟨hs, hl⟩ := h
  obtain ⟨hL, -, cL, cR⟩ := cut_append lay p.addr (l := xs) (r := []) (k := p.vec.len) (c := p.vec.cap - p.vec.len) (n := 0)
    (hs.trans (by rw [List.append_nil])) hl.symm (Nat.zero_add _).symm rfl
  exact ⟨hL.abs, cL, rfl, cR, by simp [splitAtSpare, subPart], rfl⟩

/-- `partition(pred)` of a boxed slice, for EVERY predicate behaviour (oracle): either two adjacent boxes
    come back that together hold exactly the original values (each once; the order inside the parts is
    not preserved, as documented for `partition_in_place`) — or the predicate panicked and the box, which
    was moved into the call, has been dropped with every value in it exactly once -/
theorem partition_partitions (lay : Lay) (bombs : List Id) (p : Part) (xs : List Id) (h : p.Holds xs)
    (hbox : p.vec.cap = p.vec.len) (o : List Outcome) :
    ∃ res v' o', partition lay bombs p o = .ok (res, v', o') ∧
      (match res with
       | some (l, r) => (l.vec.abs ++ r.vec.abs).Perm xs ∧ l.vec.len + r.vec.len = p.vec.len ∧
                        l.addr = p.addr ∧ r.addr = l.addr + l.vec.len * lay.esize
       | none => v'.abs = [] ∧ ∃ ds, v'.dropLog = p.vec.dropLog ++ ds ∧ ds.Perm xs) := by
  have hl := h.2
  have hs : p.vec.slots = I xs := by
    have := h.1; rw [hbox] at this; simpa using this
  obtain ⟨v', res, o', ys', he, hs', hperm, hlen, hdl, hesc, hcnt⟩ :=
    partitionLoop_perm p.vec.len p.vec 0 p.vec.len 0 .firstFalse o xs hs (Nat.zero_add _) (Nat.le_of_eq hl.symm)
      (by intro h hh; cases hh) (by omega)
  unfold partition
  rw [he]
  have hyl : ys'.length = p.vec.len := by rw [hperm.length_eq]; exact hl
  cases res with
  | some tc =>
    have htc := hcnt tc rfl
    have hholds : ({ p with vec := v' } : Part).Holds ys' := by
      refine ⟨?_, by simp [hlen, hyl]⟩
      have : v'.cap = v'.len := by simp [Vec.cap, hs', hlen, hyl]
      simp [hs', this]
    obtain ⟨l, r, hsp, hl1, hr1, c1, c2, a1, a2, n1, n2⟩ := splitAt_holds lay { p with vec := v' } ys' hholds
      (by simp [Vec.cap, hs', hlen, hyl]) tc (by omega)
    refine ⟨_, _, _, rfl, ?_⟩
    simp only [hsp]
    exact ⟨by rw [hl1.abs, hr1.abs, List.take_append_drop]; exact hperm, by rw [n1, n2]; omega, a1, by rw [a1, a2, n1]⟩
  | none =>
    simp only
    have hd := dropRange_seg bombs ys' true (setLen v' 0) [] [] 0 (by simp [setLen, hs']) rfl
    rw [hlen, ← hyl, hd]
    refine ⟨_, _, _, rfl, ?_⟩
    simp only
    refine ⟨by simp [Vec.abs, setLen, idsOf], ys', by simp [setLen, hdl], hperm⟩

/-- zero-sized elements (by counts): `split_off` is defined exactly for `start ≤ end ≤ len`, the lengths of
    the two parts add up, the returned part has `end - start` values, and `merge` is the inverse -/
theorem zst_split_off_partitions (v : Zst.ZVec) (start end_ : Nat) :
    (match Zst.splitOff v start end_ with
     | none => start > end_ ∨ end_ > v.len
     | some (s, o) => start ≤ end_ ∧ end_ ≤ v.len ∧ o.len = end_ - start ∧ s.len + o.len = v.len ∧
                      (Zst.merge s o).len = v.len ∧ (Zst.merge s o).total = v.total) := by
  unfold Zst.splitOff
  by_cases h : start > end_ ∨ end_ > v.len
  · rw [if_pos h]; exact h
  · rw [if_neg h]
    have hse := Nat.not_lt.1 (not_or.1 h).1
    have hel := Nat.not_lt.1 (not_or.1 h).2
    have hsum : v.len - (end_ - start) + (end_ - start) = v.len :=
      Nat.sub_add_cancel (Nat.le_trans (Nat.sub_le ..) hel)
    simp only [Zst.merge, Zst.ZVec.total]
    exact ⟨hse, hel, trivial, hsum, hsum, by rw [hsum]; rfl⟩

/-- non-vacuity: a `FixedBumpVec` holding 1..6 with capacity 8 at address 4096, 16-byte elements:
    `split_off(1..3)` rotates the range to the front; capacities 2 + 6 -/
example : splitOff ⟨16, 8⟩ ⟨Vec.mk' [1, 2, 3, 4, 5, 6] 2, 4096⟩ 1 3 =
    some (⟨{ slots := I [1, 4, 5, 6] ++ H 2, len := 4 }, 4096 + 32⟩, ⟨{ slots := I [2, 3], len := 2 }, 4096⟩) := by decide

example : (⟨Vec.mk' [1, 2, 3, 4, 5, 6] 2, 4096⟩ : Part).Holds [1, 2, 3, 4, 5, 6] := by
  refine ⟨by decide, by decide⟩

/-- `merge` of two boxed slices of a ZERO-SIZED type (`bump_box.rs` l.2211-2220: both operands go through
    `into_raw`, i.e. NEITHER is dropped, the result has the sum of the lengths): no destructor runs, nothing is
    lost — and dropping the merged slice afterwards runs exactly `a.len + b.len` destructors, once each -/
theorem zst_merge_partitions (a b : Zst.ZVec) (bomb : Option Nat) (u : Bool) :
    (Zst.merge a b).len = a.len + b.len ∧ (Zst.merge a b).drops = a.drops + b.drops ∧
      (Zst.merge a b).total = a.total + b.total ∧
      (Zst.dropVec (Zst.merge a b) bomb u).1.drops = a.drops + b.drops + (a.len + b.len) ∧
      (Zst.dropVec (Zst.merge a b) bomb u).1.len = 0 := by
  simp only [Zst.merge, Zst.ZVec.total, Zst.dropVec, Zst.dropN, true_and, and_true]
  omega

/-- what the missing `other.into_raw()` would do: `other` is dropped at the end of `merge` AND again inside the
    merged slice — `b.len` destructor calls too many -/
example : (Zst.dropVec (Zst.merge { len := 2 } { len := 3 }) none false).1.drops = 5 ∧
    (Zst.dropVec (Zst.merge { len := 2 } (Zst.dropVec { len := 3 } none false).1 |> fun m => { m with len := 5 }) none false).1.drops = 8 := by
  decide

/-! ## `into_flattened` (`Coll/Flatten.lean`): `len` arrays of `N` become `len * N` elements -/

/-- `into_flattened` of a well-formed vector of arrays (`BumpBox<[[T;N]]>`, `FixedBumpVec`, `BumpVec`, `MutBumpVec`):
    the same elements in the same order, well-formed as a vector of `T`, the claimed capacity `cap * N` is
    EXACTLY the buffer (no slot is claimed that is not there, none is lost), and no destructor runs -/
theorem into_flattened_partitions (a : ArrVec) (xs : List Id) (h : a.Holds false xs) :
    (intoFlattened a).1.slots = I xs ++ H ((intoFlattened a).1.cap - (intoFlattened a).1.len) ∧
      (intoFlattened a).1.len = xs.length ∧ (intoFlattened a).1.abs = xs ∧
      (intoFlattened a).2 = (intoFlattened a).1.cap ∧ (intoFlattened a).1.len ≤ (intoFlattened a).2 ∧
      (intoFlattened a).1.dropLog = a.dropLog := by
  obtain ⟨hcap, hsh⟩ := intoFlattened_shape .fwd h.1 h.2.1 h.2.2
  exact ⟨hsh.1, h.1.symm, hsh.abs, hcap.symm, Nat.le_trans hsh.len_le_cap (Nat.le_of_eq hcap), rfl⟩

/-- the same for `MutBumpVecRev` (the arrays sit at the END of the buffer; the end pointer is kept) -/
theorem rev_into_flattened_partitions (a : ArrVec) (xs : List Id) (h : a.Holds true xs) :
    (intoFlattened a).1.slots = H ((intoFlattened a).1.cap - (intoFlattened a).1.len) ++ I xs ∧
      (intoFlattened a).1.len = xs.length ∧ (intoFlattened a).1.rabs = xs ∧
      (intoFlattened a).2 = (intoFlattened a).1.cap := by
  obtain ⟨hcap, hsh⟩ := intoFlattened_shape .bwd h.1 h.2.1 h.2.2
  exact ⟨hsh.1, h.1.symm, hsh.abs, hcap.symm⟩

/-- zero-sized `T`: the length is the product (or the `expect` panics on overflow), the capacity stays `usize::MAX` -/
theorem zst_into_flattened (usizeMax n arrLen : Nat) :
    intoFlattenedZst usizeMax n arrLen = (if arrLen * n ≤ usizeMax then some (arrLen * n, usizeMax) else none) := by
  unfold intoFlattenedZst
  by_cases h : arrLen * n > usizeMax <;> simp [h] <;> omega

/-- the degenerate array length `N = 0` (sized `T`): the source elements `[T; 0]` are zero-sized, so the source
    reports capacity `usize::MAX`, but the flattened vector of sized `T` holds nothing and must CLAIM nothing:
    `len = 0`, capacity `arrCap * 0 = 0` (a full `FixedBumpVec`; no slot is claimed on the dangling pointer) —
    `into_flattened_partitions` covers it (its hypotheses hold for `n = 0`, `flat = []`) -/
theorem into_flattened_zero (a : ArrVec) (hn : a.n = 0) (hf : a.flat = []) (hc : a.arrLen ≤ a.arrCap) :
    a.Holds false [] ∧ (intoFlattened a).1.len = 0 ∧ (intoFlattened a).2 = 0 ∧ (intoFlattened a).1.cap = 0 := by
  refine ⟨⟨by simp [hn], hc, by simp [hn, hf]⟩, by simp [intoFlattened, hn], by simp [intoFlattened, hn], by simp [intoFlattened, Vec.cap, hf]⟩

example : intoFlattened { n := 0, arrLen := 3, arrCap := 18446744073709551615, flat := [] } = ({ slots := [], len := 0 }, 0) := by
  decide

/-- `N = 1`: nothing changes but the element type -/
example : intoFlattened { n := 1, arrLen := 2, arrCap := 3, flat := I [1, 2] ++ H 1 } = ({ slots := I [1, 2] ++ H 1, len := 2 }, 3) := by
  decide

/-- non-vacuity: two arrays of two in a buffer for three arrays -/
example : (intoFlattened { n := 2, arrLen := 2, arrCap := 3, flat := I [1, 2, 3, 4] ++ H 2 }) =
    ({ slots := I [1, 2, 3, 4] ++ H 2, len := 4 }, 6) := by decide

example : ({ n := 2, arrLen := 2, arrCap := 3, flat := I [1, 2, 3, 4] ++ H 2 } : ArrVec).Holds false [1, 2, 3, 4] := by
  refine ⟨by decide, by decide, by decide⟩

end C16
