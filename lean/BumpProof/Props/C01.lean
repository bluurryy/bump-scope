/-
  Props/C01.lean — property C01: live allocations are valid, aligned and pairwise disjoint.

  Part 1: what the fast path `tryCur` (`RawChunk::alloc / prepare_allocation /
          prepare_allocation_range`) returns, from the C11 theorems about the generated bump arithmetic.
  Part 2: the invariant `LiveOK` on the ghost list of live blocks and its preservation by
          `stepCore`'s `.allocate` (fast path, next chunk, new chunk, refused), `.allocLayout`, `.deallocate`
          and `.scopeExit` (with `resetTo_killFrom`, `checkpoint_placedAt`).
  The full statement is `liveOK_invariant_target`; its resolution is in Props/Targets.lean.

  Definitions (namespace `Arena.Mem`, in `Lemmas/FnTry.lean` (`Carved`), `MemPlaced.lean` (the predicates on blocks;
  their lemmas are in `MemLive.lean`), `MemLive.lean` (`MinAlignOK`), `MemAlloc.lean` (`SlowTry`)):
  * `Carved cfg c p size np`     : `[p, p+size)` is cut from the free side of chunk `c`, whose bump
                                   position moves from `c.pos` to `np`
                                   (up: `c.pos ≤ p ∧ p+size ≤ np ≤ contentEnd`; down:
                                   `contentStart ≤ p = np ∧ p+size ≤ c.pos`);
  * `InContent`, `OnAllocatedSide`, `Placed`, `BlocksDisjoint`, `RangesDisjoint`, `LiveOK`;
  * `CurPosOK cfg s`             : the position of the current chunk lies in its content range;
  * `MinAlignOK s`               : `s.minAlign ∈ {1,2,4,8,16}`;
  * `SlowTry cfg s t i' ct`      : `t` is the state on which the slow path finally calls `tryCur`
                                   (chunk `i'` = a later chunk of `s`, reset, or the chunk just granted);
  * `MemWF`, `HeadFresh`         : see `Props/C02.lean`.
-/
import BumpProof.Lemmas.MemSlow
import BumpProof.Lemmas.MemExLive

namespace C01
open Arena Arena.Mem Rs

/-! ## Part 1: the fast path -/

/-- `RawChunk::alloc` on the current chunk: the address satisfies the requested alignment, the block
    lies inside the OLD free range of the current chunk (so it cannot touch anything handed out
    before), the new position is `minAlign`-aligned and only that chunk's position changes.
    In particular no block is ever cut from the dummy chunk of an unallocated / claimed arena. -/
theorem tryCur_alloc {cfg : Cfg} {s s' : State} {L : Layout} {h : Hints} {p x : Nat}
    (hv : C11.Valid cfg.up (bumpProps cfg s L h))
    (hr : tryCur cfg .alloc s L h = .ok (some ((p, x), s'))) :
    ∃ i c np, s.cur = .chunk i ∧ s.chunks[i]? = some c ∧ L.align ∣ p ∧ s.minAlign ∣ np ∧
      Carved cfg c p L.size np ∧ s' = setPos s i np :=
  tryCur_alloc_carved hv hr

/-- corollary: the new block shares no byte with anything on the allocated side of the old position -/
theorem carved_disjoint_allocated {cfg : Cfg} {c : Chunk} {p size np : Nat} (hcv : Carved cfg c p size np)
    {addr sz : Nat} (hside : OnAllocatedSide cfg c addr sz) : RangesDisjoint addr sz p size := by
  unfold Carved at hcv
  unfold OnAllocatedSide at hside
  unfold RangesDisjoint
  cases hup : cfg.up <;> simp only [hup, Bool.false_eq_true, ↓reduceIte] at hcv hside <;> omega

/-- corollary: the new block lies in the content range of the chunk (never in its header), given that
    the old position did -/
theorem carved_in_content {cfg : Cfg} {c : Chunk} {p size np : Nat} (hcv : Carved cfg c p size np)
    (hpos : c.contentStart cfg ≤ c.pos ∧ c.pos ≤ c.contentEnd cfg) : InContent cfg c p size :=
  (hcv.between (by split <;> omega)).1

/-- `prepare_allocation`: same block as `alloc`, state untouched -/
theorem tryCur_prepare {cfg : Cfg} {s s' : State} {L : Layout} {h : Hints} {p x : Nat}
    (hv : C11.Valid cfg.up (bumpProps cfg s L h))
    (hr : tryCur cfg .prepare s L h = .ok (some ((p, x), s'))) :
    s' = s ∧ ∃ i c np, s.cur = .chunk i ∧ s.chunks[i]? = some c ∧ L.align ∣ p ∧ s.minAlign ∣ np ∧
      Carved cfg c p L.size np := by
  rw [tryCur_eq_of_valid hv, tryCurSpec_prepare_eq] at hr
  obtain ⟨⟨v, s1⟩, ha, e⟩ := Option.map_eq_some_iff.mp (Except.ok.inj hr)
  cases e
  obtain ⟨i, c, np, a1, a2, _, a4, _, a6, a7, _⟩ := tryCurSpec_alloc hv ha
  exact ⟨rfl, i, c, np, a1, a2, a4, a6, a7⟩

/-- `prepare_allocation_range`: a range with aligned ends inside the free range of the current chunk,
    at least as long as requested; state untouched -/
theorem tryCur_range {cfg : Cfg} {s s' : State} {L : Layout} {h : Hints} {a b : Nat}
    (hv : C11.Valid cfg.up (bumpProps cfg s L h)) (hsz : L.align ∣ L.size)
    (hr : tryCur cfg .range s L h = .ok (some ((a, b), s'))) :
    s' = s ∧ ∃ i c, s.cur = .chunk i ∧ s.chunks[i]? = some c ∧ L.align ∣ a ∧ L.align ∣ b ∧ a + L.size ≤ b ∧
      (if cfg.up then c.pos ≤ a ∧ b ≤ c.contentEnd cfg else c.contentStart cfg ≤ a ∧ b ≤ c.pos) :=
  tryCurSpec_range hv hsz (Except.ok.inj ((tryCur_eq_of_valid hv).symm.trans hr))

/-! ## Part 2: `LiveOK` and its preservation -/

theorem liveOK_iff (cfg : Cfg) (s : State) :
    LiveOK cfg s ↔
      (∀ b ∈ s.live, b.align ∣ b.addr) ∧
      (∀ b ∈ s.live, 0 < b.size → ∃ i j c, s.cur = .chunk i ∧ j ≤ i ∧ s.chunks[j]? = some c ∧
          (c.contentStart cfg ≤ b.addr ∧ b.addr + b.size ≤ c.contentEnd cfg) ∧
          (j = i → if cfg.up then b.addr + b.size ≤ c.pos else c.pos ≤ b.addr)) ∧
      s.live.Pairwise (fun a b => a.size = 0 ∨ b.size = 0 ∨ a.addr + a.size ≤ b.addr ∨ b.addr + b.size ≤ a.addr) :=
  ⟨fun h => ⟨h.aligned, h.placed, h.disjoint⟩, fun h => ⟨h.1, h.2.1, h.2.2⟩⟩

/-- every non-empty live block lies inside memory the arena owns (a chunk of the list) -/
theorem liveOK_block_in_chunk {cfg : Cfg} {s : State} (h : LiveOK cfg s) {b : Block} (hb : b ∈ s.live)
    (hs : 0 < b.size) : BlockInChunks s b.addr (b.addr + b.size) := by
  obtain ⟨i, j, c, _, _, hc, hin, _⟩ := h.placed b hb hs
  have := inContent_in_chunk hin
  exact ⟨c, List.mem_of_getElem? hc, this.1, this.2⟩

/-- fast-path allocation: the state `tryCur` returns plus the new block satisfy `LiveOK` -/
theorem allocate_fast_outcome {cfg : Cfg} {s s' : State} {L : Layout} {h : Hints} {p x : Nat}
    (hl : LiveOK cfg s) (hd : ChunksDisjoint s.chunks) (hp : CurPosOK cfg s)
    (hv : C11.Valid cfg.up (bumpProps cfg s L h))
    (hr : tryCur cfg .alloc s L h = .ok (some ((p, x), s'))) (init : Nat) :
    LiveOK cfg (addBlock s' p L.size L.align init).1 :=
  let ⟨ho, hal⟩ := allocOutcome_tryCur hl ((disjoint_iff s).2 hd) hp hv hr
  ho.addBlock hal init

/-- slow path, step 1 (no arithmetic involved): a successful `inAnotherChunk` ends with a successful
    `tryCur` on a state `t` in which a later chunk of `s` (reset) or the freshly granted chunk is current -/
theorem slow_path_inv {cfg : Cfg} {k : Kind} {s s' : State} {L : Layout} {h : Hints} {v : Nat × Nat}
    (hr : inAnotherChunk cfg k s L h = .ok (s', .ok v)) :
    ∃ t i' ct, SlowTry cfg s t i' ct ∧ tryCur cfg k t L h = .ok (some (v, s')) :=
  inAnotherChunk_inv hr

/-- slow path, step 2: the block cut from that chunk is aligned, placed and disjoint from every live
    block (they all lie in earlier chunks, and chunk ranges are disjoint) -/
theorem slow_path_outcome {cfg : Cfg} {s t s' : State} {i' : Nat} {ct : Chunk} {L : Layout} {h : Hints} {p x : Nat}
    (hl : LiveOK cfg s) (hwf : MemWF s) (hfr : HeadFresh s)
    (hst : SlowTry cfg s t i' ct) (hv : C11.Valid cfg.up (bumpProps cfg t L h))
    (hr : tryCur cfg .alloc t L h = .ok (some ((p, x), s'))) (init : Nat) :
    LiveOK cfg (addBlock s' p L.size L.align init).1 :=
  let ⟨ho, hal⟩ := allocOutcome_slow hl hwf hfr hst hv hr
  ho.addBlock hal init

/-- `stepCore`'s `.allocate` (`Allocator::allocate / allocate_zeroed` through any wrapper), whichever
    path serves it — fast path, a later chunk, a new chunk — or when it is refused, keeps `LiveOK`.
    `hv` / `hvslow`: the bump requests made are valid inputs in the sense of C11. -/
theorem stepCore_allocate {cfg : Cfg} {g g' : GState} {L : Layout} {zeroed : Bool} {via : Via} {out : Out}
    (hl : LiveOK cfg g.s) (hwf : MemWF g.s) (hfr : HeadFresh g.s) (hp : CurPosOK cfg g.s)
    (hv : C11.Valid cfg.up (bumpProps cfg g.s L Hints.custom))
    (hvslow : ∀ t i' ct, SlowTry cfg g.s t i' ct → C11.Valid cfg.up (bumpProps cfg t L Hints.custom))
    (h : stepCore cfg g (.allocate L zeroed via) = .ok (g', out)) : LiveOK cfg g'.s :=
  stepCore_allocate_liveOK_of h (fun _ _ h1 => allocGeneric_error_liveOK hl (alloc_error h1))
    (fun _ _ h1 => alloc_allocOutcome hl hwf hfr hp hv hvslow h1)

/-- the same restricted to the fast path (no hypothesis about the base allocator or other chunks' bump
    requests needed) -/
theorem stepCore_allocate_fast {cfg : Cfg} {g g' : GState} {L : Layout} {zeroed : Bool} {via : Via} {out : Out}
    {r : (Nat × Nat) × State}
    (hl : LiveOK cfg g.s) (hd : ChunksDisjoint g.s.chunks) (hp : CurPosOK cfg g.s)
    (hv : C11.Valid cfg.up (bumpProps cfg g.s L Hints.custom))
    (hfast : tryCur cfg .alloc g.s L Hints.custom = .ok (some r))
    (h : stepCore cfg g (.allocate L zeroed via) = .ok (g', out)) : LiveOK cfg g'.s := by
  obtain ⟨⟨p, x⟩, s'⟩ := r
  have ha := alloc_of_tryCur hfast
  refine stepCore_allocate_liveOK_of h (fun s1 e h1 => ?_) (fun s1 p' h1 => ?_)
  · cases ha.symm.trans h1
  · cases ha.symm.trans h1
    exact allocOutcome_tryCur hl ((disjoint_iff g.s).2 hd) hp hv hfast

/-- the block `stepCore`'s `.allocate` reports has exactly the requested size and is a live block of the
    new state, with that id, address, size and the requested alignment -/
theorem stepCore_allocate_block {cfg : Cfg} {g g' : GState} {L : Layout} {zeroed : Bool} {via : Via}
    {id addr size : Nat}
    (h : stepCore cfg g (.allocate L zeroed via) = .ok (g', .block id addr size)) :
    size = L.size ∧ ∃ b ∈ g'.s.live, b.id = id ∧ b.addr = addr ∧ b.size = L.size ∧ b.align = L.align := by
  obtain ⟨_, _, s1, r, _, hr⟩ := Hist.ok_allocate h
  cases r with
  | error e => cases hr.2
  | ok p =>
    obtain ⟨s2, _, rfl, ho⟩ := hr
    cases ho
    exact ⟨rfl, _, List.mem_append_right _ (List.mem_singleton.mpr rfl), rfl, rfl, rfl, rfl⟩

/-- `stepCore`'s `.deallocate` (through any wrapper, also when it is a no-op for the arena) keeps
    `LiveOK`: when the position moves back over the removed block, all others stay on the allocated side -/
theorem stepCore_deallocate {cfg : Cfg} {g g' : GState} {b : Nat} {via : Via} {out : Out}
    (hl : LiveOK cfg g.s) (hma : MinAlignOK g.s)
    (h : stepCore cfg g (.deallocate b via) = .ok (g', out)) : LiveOK cfg g'.s := by
  obtain ⟨blk, s', hmem, rfl, hs', rfl⟩ := stepCore_deallocate_inv h
  rcases hs' with rfl | hs'
  · exact hl.removeBlock _
  · exact liveOK_deallocate hl hma hmem hs'

/-- `stepCore`'s `.scopeExit` keeps `LiveOK`, provided the blocks older than the scope were placed
    relative to the scope's checkpoint (`PlacedAt`; this is what entering the scope recorded) -/
theorem stepCore_scopeExit {cfg : Cfg} {g g' : GState} {out : Out}
    (hl : LiveOK cfg g.s) (hma : MinAlignOK g.s)
    (hcp : ∀ cp rest m ms, g.s.frames = .scope cp :: rest → g.marks = m :: ms →
      ∀ b ∈ g.s.live, b.id < m → 0 < b.size → PlacedAt cfg g.s cp b.addr b.size)
    (h : stepCore cfg g .scopeExit = .ok (g', out)) : LiveOK cfg g'.s := by
  obtain ⟨_, cp, rest, m, ms, s', hf, hm, hs', rfl, _⟩ := Hist.ok_scopeExit h
  -- the states differ in `frames` only, which `LiveOK` does not look at
  exact LiveOK.of_geom (s := killFrom s' m) rfl rfl rfl (liveOK_resetTo_killFrom hl hma (hcp cp rest m ms hf hm) hs')

/-- `reset_to` + dropping the younger blocks (the core of scope exit, `reset_to` and the error path of
    `alloc_try_with`) -/
theorem resetTo_killFrom {cfg : Cfg} {s s' : State} {cp : Checkpoint} {m : Nat}
    (hl : LiveOK cfg s) (hma : MinAlignOK s)
    (hcp : ∀ b ∈ s.live, b.id < m → 0 < b.size → PlacedAt cfg s cp b.addr b.size)
    (h : resetTo cfg s cp = .ok s') : LiveOK cfg (killFrom s' m) :=
  liveOK_resetTo_killFrom hl hma hcp h

/-- entering a scope records a checkpoint relative to which every live block is placed -/
theorem checkpoint_placedAt {cfg : Cfg} {s : State} (hl : LiveOK cfg s) {b : Block} (hb : b ∈ s.live)
    (hs : 0 < b.size) : PlacedAt cfg s (checkpoint cfg s) b.addr b.size := by
  obtain ⟨i, j, c, h1, h2, h3, h4, h5⟩ := hl.placed b hb hs
  refine ⟨i, j, c, h1, h2, h3, h4, fun hji => ?_⟩
  subst hji
  rw [show (checkpoint cfg s).addr = c.pos from curPos_chunk h1 h3]
  exact h5 rfl

/-- `stepCore`'s `.allocLayout` (`try_allocate_layout / _sized / _slice`: fast path with the layout's
    hints, slow path with a plain layout) keeps `LiveOK` -/
theorem stepCore_allocLayout {cfg : Cfg} {g g' : GState} {L : Layout} {h : Hints} {out : Out}
    (hl : LiveOK cfg g.s) (hwf : MemWF g.s) (hfr : HeadFresh g.s) (hp : CurPosOK cfg g.s)
    (hv : C11.Valid cfg.up (bumpProps cfg g.s L h))
    (hvslow : ∀ t i' ct, SlowTry cfg g.s t i' ct → C11.Valid cfg.up (bumpProps cfg t L Hints.custom))
    (hstep : stepCore cfg g (.allocLayout L h) = .ok (g', out)) : LiveOK cfg g'.s := by
  obtain ⟨_, _, _, s1, r, ha, hr⟩ := Hist.ok_allocLayout hstep
  cases r with
  | error e => obtain ⟨rfl, _⟩ := hr; exact allocGeneric_error_liveOK hl ha
  | ok v =>
    obtain ⟨rfl, _⟩ := hr
    have ho := allocGeneric_allocOutcome hl hwf hfr hp hv hvslow ha
    exact ho.1.addBlock ho.2 0

/-! ## Summary theorem (partial) and the full target -/

/-- the bump requests an operation makes are valid inputs in the sense of C11 (`debug_assert_valid`
    holds): on the current state for the fast path, on every possible slow-path state for the slow path -/
def BumpReqsValid (cfg : Cfg) (s : State) : Op → Prop
  | .allocate L _ _ => C11.Valid cfg.up (bumpProps cfg s L Hints.custom) ∧
      ∀ t i' ct, SlowTry cfg s t i' ct → C11.Valid cfg.up (bumpProps cfg t L Hints.custom)
  | .allocLayout L h => C11.Valid cfg.up (bumpProps cfg s L h) ∧
      ∀ t i' ct, SlowTry cfg s t i' ct → C11.Valid cfg.up (bumpProps cfg t L Hints.custom)
  | _ => True

/-- the operations for which preservation of `LiveOK` is proved -/
inductive Covered : Op → Prop
  | allocate (L z via) : Covered (.allocate L z via)
  | allocLayout (L h) : Covered (.allocLayout L h)
  | deallocate (b via) : Covered (.deallocate b via)
  | scopeExit : Covered .scopeExit

/-- the checkpoint of the innermost open scope (when a scope frame is on top) bounds the blocks older than that scope -/
def ScopeTopPlaced (cfg : Cfg) (g : GState) : Prop :=
  ∀ cp rest m ms, g.s.frames = .scope cp :: rest → g.marks = m :: ms →
    ∀ b ∈ g.s.live, b.id < m → 0 < b.size → PlacedAt cfg g.s cp b.addr b.size

/-- PARTIAL: `LiveOK` is preserved by allocate / allocate_zeroed / the typed alloc fast paths /
    deallocate / scope exit, through every wrapper, on every path (fast, next chunk, new chunk, refused).
    FULL FORM (all 34 constructors, side conditions discharged by the invariant of histories):
    `C01.stepCore_preserves_liveOK` in Props/Targets.lean; for histories `C01.reachable_liveOK` (Props/Hist.lean). -/
theorem stepCore_preserves_liveOK_partial {cfg : Cfg} {g g' : GState} {op : Op} {out : Out}
    (hop : Covered op)
    (hl : LiveOK cfg g.s) (hwf : MemWF g.s) (hfr : HeadFresh g.s) (hp : CurPosOK cfg g.s)
    (hma : MinAlignOK g.s) (hsc : ScopeTopPlaced cfg g) (hv : BumpReqsValid cfg g.s op)
    (h : stepCore cfg g op = .ok (g', out)) : LiveOK cfg g'.s := by
  cases hop with
  | allocate L z via => exact stepCore_allocate hl hwf hfr hp hv.1 hv.2 h
  | allocLayout L hh => exact stepCore_allocLayout hl hwf hfr hp hv.1 hv.2 h
  | deallocate b via => exact stepCore_deallocate hl hma h
  | scopeExit => exact stepCore_scopeExit hl hma hsc h

/-- RESOLUTION (Props/Targets.lean): NOT resolved as stated (case C) — `C01.liveOK_invariant_corrected` proves the
    statement with `Arena.Hist.Inv` as witness for admissible configurations (`CfgOK`), covered operations and
    `RespsSane` responses below `2^63`; the statement below also quantifies over configurations outside `CfgOK`,
    for which no preservation proof exists (no counterexample is known either).  History form: `C01.reachable_liveOK`.
    The statement: there is an inductive invariant of the model that implies `LiveOK`, holds initially and is
    preserved by every non-faulting step under sane base-allocator responses. -/
def liveOK_invariant_target : Prop :=
  ∃ Inv : Cfg → GState → Prop,
    (∀ cfg g, Inv cfg g → LiveOK cfg g.s) ∧
    (∀ cfg, Inv cfg { s := initState cfg, marks := [] }) ∧
    (∀ cfg g op resps g' out reqs, Inv cfg g → RespsSane cfg g.s resps →
      step cfg g op resps = .ok (g', out, reqs) → Inv cfg g')

/-! ## Non-vacuity: concrete states / inputs meeting the hypotheses (see `Lemmas/MemEx.lean`) -/

section NonVacuity
open Arena.Mem.Ex

example : C11.Valid cfgUp.up (bumpProps cfgUp stUp L8 Hints.custom) := exValidUp
example : ∃ r, tryCur cfgUp .alloc stUp L8 Hints.custom = .ok (some r) := ⟨_, rfl⟩
example : ∃ r, tryCur cfgUp .prepare stUp L8 Hints.custom = .ok (some r) := ⟨_, rfl⟩
example : L8.align ∣ L8.size ∧ ∃ r, tryCur cfgUp .range stUp L8 Hints.custom = .ok (some r) := ⟨by decide, _, rfl⟩
example : CurPosOK cfgUp stUp ∧ ChunksDisjoint stUp.chunks := ⟨stUp_curPosOK, stUp_wf.1⟩

example : ∃ g' out, stepCore cfgUp { s := stUp, marks := [] } (.allocate L8 true .plain) = .ok (g', out) := stUp_allocate
example : ∃ g' out, stepCore cfgUp { s := stUp, marks := [] } (.deallocate 0 .plain) = .ok (g', out) := stUp_deallocate
example : MinAlignOK stUp := .inl rfl

-- evaluating the slow path (a new 1024-byte chunk is built) by `rfl` exceeds the default recursion depth
set_option maxRecDepth 100000 in
example : ∃ g' out, stepCore cfgUp { s := stUpR, marks := [] } (.allocate L200 false .plain) = .ok (g', out) :=
  ⟨_, _, rfl⟩

example : ∃ g' out, stepCore cfgUp gScope .scopeExit = .ok (g', out) := gScope_exit

example : MinAlignOK stDown := .inl rfl
example : ∃ g' out, stepCore cfgDown { s := stDown, marks := [] } (.deallocate 0 .plain) = .ok (g', out) :=
  ⟨_, _, rfl⟩

-- all hypotheses of `stepCore_preserves_liveOK_partial` / `stepCore_allocate` hold together:
example : LiveOK cfgUp stUp ∧ MemWF stUp ∧ HeadFresh stUp ∧ CurPosOK cfgUp stUp ∧ MinAlignOK stUp ∧
    BumpReqsValid cfgUp stUp (.allocate L8 true .plain) :=
  ⟨stUp_liveOK, stUp_wf, stUp_fresh, stUp_curPosOK, .inl rfl, exValidUp, stUp_noSlow⟩
-- … and for an allocation that needs a new chunk from the base allocator:
example : LiveOK cfgUp stUpR ∧ MemWF stUpR ∧ HeadFresh stUpR ∧ CurPosOK cfgUp stUpR ∧ MinAlignOK stUpR ∧
    BumpReqsValid cfgUp stUpR (.allocate L200 false .plain) :=
  ⟨stUpR_liveOK, stUpR_wf, stUpR_fresh, stUpR_curPosOK, .inl rfl, exValidUpR, stUpR_slowValid⟩
-- … and for the scope exit:
example : LiveOK cfgUp gScope.s ∧ MinAlignOK gScope.s ∧ ScopeTopPlaced cfgUp gScope :=
  ⟨LiveOK.of_geom (s := stUp) rfl rfl rfl stUp_liveOK, .inl rfl, gScope_placedAt⟩

end NonVacuity

end C01
