/-
  Props/C19.lean — "A BumpPool hands every arena to one user at a time".

  Model: `BumpProof/Pool/Model.lean` (`/repo/src/bump_pool.rs`).  A history is a `List Step`: one
  linearisation of the critical sections (`get*`, guard drop, `mem::forget` of a guard, allocation
  through a guard, `get*` calls whose construction is refused or PANICS inside the critical section
  (poisoning the mutex), and — only when no guard is live, as `&mut self`/`self` enforce — `reset`,
  `reset_to_start`, drop of the pool) of an execution with ANY number of guards and threads.  The
  theorems about reachable states quantify over all histories `h` that the model accepts from a new pool
  (`run init h = .ok s`; the rejected ones use a guard that does not exist, reuse the id of a live
  guard, or reset/drop a borrowed pool — none of which safe Rust can express); the theorems about what ONE
  step or a continuation does (marked "from any state") hold from an arbitrary state, reachable or not.
  `Inv`, `Steps` (the cases of an accepted step) are in `Lemmas/PoolInv.lean`; `DropInv`, `erase'` in `Lemmas/PoolHist.lean`.

  Reading of the property text fixed here: "live guards" = guards handed out and not yet DROPPED; a guard
  passed to `mem::forget` is never dropped, its arena never returns to the pool (it is leaked, as the
  SAFETY comment of `Deref for BumpPoolGuard` says), and it keeps counting as live in `peakLive`.  `reset`,
  `reset_to_start` and drop of the pool reach every arena except those leaked ones.

  What is NOT provable in this model and is therefore TRUSTED (claim level: partial):
    * that the critical sections really are atomic — `std::sync::Mutex` (lock/unlock, poisoning is
      ignored by `PoisonError::into_inner`), and the Rust rule that the `MutexGuard` temporary of
      `match self.lock().pop() { … }` lives to the end of the statement, so pop-or-create is ONE
      critical section;
    * that an arena pushed by one thread and popped by another is seen consistently by the second
      thread (`unsafe impl Send for Bump` + the happens-before edge of the mutex): runtime;
    * that a step list is a faithful linearisation: the harness obtains it from a ticket taken inside
      the lock (`verif_hooks::pool_lock_acquired`), replays it on this model and compares the
      identity of the arena behind every guard (correspondence), next to direct oracles on the
      implementation (exclusivity registry, `bumps().len()` vs peak, patterned blocks re-read,
      statistics after `reset`/`reset_to_start`);
    * the arena itself (what `Bump::reset`, `reset_to_start`, `Drop` and an allocation do to ONE
      arena) is the `Arena` engine (C01–C05); here an arena is the list of tags of its blocks plus
      counters of the single-arena operations applied to it.
-/
import BumpProof.Lemmas.ListNodup
import BumpProof.Lemmas.PoolHist

namespace C19
open Pool

/-! ## (1) Exclusivity -/

/-- In every reachable state the arenas inside live guards are pairwise distinct, none of them is in
    the idle stack (or among the leaked ones), the idle stack holds no arena twice, and live guards
    are distinct values. -/
theorem exclusive {h : List Step} {s : State} (hr : run init h = .ok s) :
    (s.owned.map (·.2)).Nodup ∧ s.idle.Nodup ∧ s.leaked.Nodup ∧
    (∀ p ∈ s.owned, p.2 ∉ s.idle ∧ p.2 ∉ s.leaked) ∧ (∀ a ∈ s.idle, a ∉ s.leaked) ∧
    (s.owned.map (·.1)).Nodup :=
  (inv_run inv_init hr).exclusive

/-- No two live guards ever refer to the same arena. -/
theorem no_shared_arena {h : List Step} {s : State} (hr : run init h = .ok s)
    {g₁ g₂ : GuardId} {a : ArenaId} (h₁ : (g₁, a) ∈ s.owned) (h₂ : (g₂, a) ∈ s.owned) : g₁ = g₂ :=
  (Prod.mk.inj (List.eq_of_nodup_map (·.2) (exclusive hr).1 h₁ h₂ rfl)).1

/-- non-vacuity: three guards with overlapping lifetimes; the history is accepted -/
example : (run init [.get 0 .ok, .get 1 .ok, .alloc 0 7, .put 0, .get 2 .ok, .alloc 2 8, .put 1, .put 2]).isOk = true := by
  decide

/-! ## (2) Reuse before create; no arena is lost -/

/-- (From any state.) A `get*` constructs a new arena only if the idle stack is empty at that moment; every other step, and
    every `get*` that finds an idle arena, leaves the number of arenas unchanged. -/
theorem creates_only_when_idle_empty {s s' : State} {st : Step} {o : Out} (e : step s st = .ok (s', o)) :
    (s'.created = s.created ∧ ∀ a, o ≠ .got a true) ∨
    (s.idle = [] ∧ s'.created = s.created + 1 ∧ o = .got s.created true) :=
  (created_step e).imp_right fun ⟨_, _, ho, hidle, hc⟩ => ⟨hidle, hc, ho⟩

/-- The arena most recently returned by a dropped guard is what the next `get*` hands out (no arena is
    constructed while a returned one waits). -/
theorem returned_arena_is_reused_first {s s₁ s₂ : State} {g g' : GuardId} {c : Create} {a : ArenaId} {o₁ o₂ : Out}
    (ha : arenaOf g s.owned = some a) (e₁ : step s (.put g) = .ok (s₁, o₁))
    (e₂ : step s₁ (.get g' c) = .ok (s₂, o₂)) : o₂ = .got a false := by
  cases step_steps e₁ with
  | put hd ht =>
    have hb := takeOut_arenaOf ht
    rw [ha] at hb; cases hb
    cases step_steps e₂ with
    | getIdle hd' hg hi => cases hi; rfl
    | getFresh _ _ hi | getFail _ _ hi | getPanic _ _ hi => cases hi

/-- The number of arenas ever created never exceeds the peak number of simultaneously live guards of the
    history (`peakLive` is a function of the observable history only: which calls returned a guard, which
    guards were dropped). -/
theorem created_le_peak {h : List Step} {s : State} {log : List (Step × Out)}
    (hr : runLog init h = .ok (s, log)) : s.created ≤ peakLive log :=
  created_le_peakFrom inv_init hr (Nat.le_refl _)

/-- Every arena that was ever created is in exactly one place: idle in the pool, inside a live guard, or
    inside a forgotten guard (and nothing else is in those places). -/
theorem none_lost {h : List Step} {s : State} (hr : run init h = .ok s) (a : ArenaId) :
    a < s.created ↔ (a ∈ s.idle ∨ (∃ g, (g, a) ∈ s.owned) ∨ a ∈ s.leaked) :=
  (inv_run inv_init hr).none_lost a

/-- accounting: idle arenas + guards handed out and not dropped = arenas created -/
theorem idle_plus_live {h : List Step} {s : State} (hr : run init h = .ok s) :
    s.idle.length + (s.owned.length + s.leaked.length) = s.created :=
  (inv_run inv_init hr).length

/-- non-vacuity + tightness: two guards live at once, then two more gets one at a time (the second with a
    base allocator that would refuse a new arena — it is not asked): two arenas, peak 2 -/
example : (runLog init [.get 0 .ok, .get 1 .ok, .put 0, .put 1, .get 2 .ok, .put 2, .get 3 .fail, .put 3]).toOption.map
    (fun r => (r.1.created, peakLive r.2)) = some (2, 2) := by decide

/-- the reading of "live" matters for `mem::forget`: a forgotten guard is never dropped, its arena never
    comes back, so it keeps counting as live (otherwise one guard at a time could create two arenas) -/
example : (runLog init [.get 0 .ok, .forget 0, .get 1 .ok]).toOption.map
    (fun r => (r.1.created, peakLive r.2, r.1.owned.length)) = some (2, 2, 1) := by decide

/-! ## (3) Stability of what was allocated through a guard -/

/-- One step changes the contents of an arena only if it is an allocation through the guard that
    currently owns that arena (and then appends exactly the new block), or a reset/rewind/drop of the pool. -/
theorem contents_change_only_by_owner {s s' : State} {st : Step} {o : Out}
    (e : step s st = .ok (s', o)) (a : ArenaId)
    (hne : (s'.arenas a).tags ≠ (s.arenas a).tags) :
    st.isClear = true ∨
    ∃ g t, st = .alloc g t ∧ (g, a) ∈ s.owned ∧ (s'.arenas a).tags = (s.arenas a).tags ++ [t] := by
  cases hc : st.isClear with
  | true => exact Or.inl rfl
  | false =>
    right
    rcases arena_step e hc a with h | ⟨g, t, hst, hg, h⟩
    · exact absurd (by rw [h]) hne
    · exact ⟨g, t, hst, arenaOf_mem hg, by rw [h]; rfl⟩

/-- (From any state `m`, in particular any reachable one.) Between resets the contents of every arena only grow: whatever happens in between — guard drops,
    hand-over to other guards and threads, other allocations — what was there is still there, in place. -/
theorem contents_only_grow {h₂ : List Step} {m s : State} (e : run m h₂ = .ok s) (hc : ∀ st ∈ h₂, st.isClear = false) (a : ArenaId) :
    (m.arenas a).tags <+: (s.arenas a).tags :=
  tags_prefix_run e hc a

/-- A block allocated through guard `g` is still in its arena after any continuation without a reset, in
    particular after `g` was dropped and the arena was handed to other guards. -/
theorem survives_handover {h₂ : List Step} {m s : State} {g : GuardId} {t : Tag} {a : ArenaId}
    (hg : arenaOf g m.owned = some a)
    (e : run m (.alloc g t :: h₂) = .ok s) (hc : ∀ st ∈ h₂, st.isClear = false) :
    (m.arenas a).tags ++ [t] <+: (s.arenas a).tags := by
  obtain ⟨s1, o, h1, e'⟩ := run_cons_ok e
  have := tags_prefix_run e' hc a
  cases step_steps h1 with
  | alloc hd hg' =>
    rw [hg] at hg'; cases hg'
    simpa [update, Arena.alloc] using this

/-- non-vacuity: guard 0 writes 7, is dropped, guard 1 (another thread) gets the same arena and writes 8 -/
example : (run init [.get 0 .ok, .alloc 0 7, .put 0, .get 1 .ok, .alloc 1 8, .put 1]).toOption.map
    (fun s => ((s.arenas 0).tags, s.created)) = some ([7, 8], 1) := by decide

/-! ## (4) `reset`, `reset_to_start`, drop of the pool reach every arena, each exactly once -/

/-- `BumpPool::reset` is `Bump::reset` applied exactly once to every arena ever created (except those
    inside forgotten guards, which the pool no longer has), and nothing else changes. -/
theorem reset_every_arena {h : List Step} {s s' : State} {o : Out} (hr : run init h = .ok s)
    (e : step s .reset = .ok (s', o)) :
    (∀ a, a < s.created → a ∉ s.leaked → s'.arenas a = (s.arenas a).reset) ∧
    (∀ a, (s.created ≤ a ∨ a ∈ s.leaked) → s'.arenas a = s.arenas a) ∧
    s'.idle = s.idle ∧ s'.created = s.created := by
  cases step_steps e with
  | reset hd ho => exact and_assoc.1 ⟨mapOver_covers (inv_run inv_init hr) ho _, rfl, rfl⟩

/-- `BumpPool::reset_to_start` is `Bump::reset_to_start` applied exactly once to every arena (with the same exception). -/
theorem reset_to_start_every_arena {h : List Step} {s s' : State} {o : Out} (hr : run init h = .ok s)
    (e : step s .resetToStart = .ok (s', o)) :
    (∀ a, a < s.created → a ∉ s.leaked → s'.arenas a = (s.arenas a).resetToStart) ∧
    (∀ a, (s.created ≤ a ∨ a ∈ s.leaked) → s'.arenas a = s.arenas a) ∧
    s'.idle = s.idle ∧ s'.created = s.created := by
  cases step_steps e with
  | resetToStart hd ho => exact and_assoc.1 ⟨mapOver_covers (inv_run inv_init hr) ho _, rfl, rfl⟩

/-- Dropping the pool drops every arena ever created (except those inside forgotten guards) exactly once. -/
theorem drop_every_arena {h : List Step} {s s' : State} {o : Out} (hr : run init h = .ok s)
    (e : step s .drop = .ok (s', o)) :
    (∀ a, a < s.created → a ∉ s.leaked → (s'.arenas a).drops = 1) ∧
    (∀ a, (s.created ≤ a ∨ a ∈ s.leaked) → (s'.arenas a).drops = 0) := by
  cases step_steps e with
  | drop hd ho =>
    have h0 := (dropInv_run inv_init dropInv_init hr).none_before hd
    have c := mapOver_covers (inv_run inv_init hr) ho Arena.drop
    exact ⟨fun a ha hl => (congrArg Arena.drops (c.1 a ha hl)).trans (congrArg (· + 1) (h0 a)),
      fun a ha => (congrArg Arena.drops (c.2 a ha)).trans (h0 a)⟩

/-- In no history is an arena dropped twice, and none is dropped before the pool is. -/
theorem no_double_drop {h : List Step} {s : State} (hr : run init h = .ok s) (a : ArenaId) :
    (s.arenas a).drops ≤ 1 ∧ (s.dropped = false → (s.arenas a).drops = 0) := by
  have hd := dropInv_run inv_init dropInv_init hr
  exact ⟨hd.at_most_once a, fun h => hd.none_before h a⟩

/-- With no guard live and none forgotten, the idle vector the loop runs over holds ALL arenas. -/
theorem idle_is_everything {h : List Step} {s : State} (hr : run init h = .ok s)
    (hown : s.owned = []) (hleak : s.leaked = []) : s.idle.Perm (List.range s.created) := by
  have := (inv_run inv_init hr).perm
  simpa [State.all, hown, hleak] using this

/-- non-vacuity: two arenas with contents, all guards dropped, then reset, a rewind and drop -/
example : (run init [.get 0 .ok, .get 1 .ok, .alloc 0 1, .alloc 1 2, .put 1, .put 0, .reset, .get 2 .ok, .alloc 2 3, .put 2,
    .resetToStart, .drop]).toOption.map
    (fun s => ((s.arenas 0).resets, (s.arenas 1).resets, (s.arenas 0).rewinds, (s.arenas 1).drops, (s.arenas 0).tags.length, (s.arenas 2).drops)) =
    some (1, 1, 1, 1, 0, 0) := by decide

/-- the `&mut self` gate: a pool with a live guard cannot be reset (the model rejects the history) -/
example : (run init [.get 0 .ok, .reset]).toOption.isNone = true := by decide

/-! ## (5) A `get*` that fails or panics changes nothing; a poisoned mutex changes nothing

  `pool.get_with_size(usize::MAX)` / `get_with_capacity(huge)` with no idle arena panic ("capacity
  overflow") while the lock guard temporary is alive, which poisons the mutex.  `lock()` and `bumps()`
  recover with `PoisonError::into_inner`.  All theorems of (1)–(4) already quantify over histories
  containing such calls (`Step.get g .panic`); the statements below say what the call itself does and
  that nothing afterwards depends on the poison flag — in particular a guard dropped afterwards still
  returns its arena to the pool. -/

/-- A panicking `get*` either finds an idle arena (then it behaves like any other `get*` and nothing is
    constructed, so nothing panics) or leaves idle stack, guards, leaked arenas, arena count and all arena
    contents exactly as they were and yields no guard. -/
theorem panicking_get_changes_nothing {s s' : State} {g : GuardId} {o : Out}
    (e : step s (.get g .panic) = .ok (s', o)) :
    (s.idle = [] ∧ o = .panicked ∧ s'.unpoison = s.unpoison ∧ s'.poisoned = true) ∨
    (∃ a rest, s.idle = a :: rest ∧ o = .got a false ∧ s'.poisoned = s.poisoned) := by
  cases step_steps e with
  | getIdle hd hg hi => exact Or.inr ⟨_, _, hi, rfl, rfl⟩
  | getPanic hd hg hi => exact Or.inl ⟨hi, rfl, rfl, rfl⟩

/-- A refused construction (`try_get*` returning `Err`) leaves the pool exactly as it was. -/
theorem failed_get_changes_nothing {s s' : State} {g : GuardId} {c : Create}
    (e : step s (.get g c) = .ok (s', .failed)) : s' = s ∧ s.idle = [] ∧ c = .fail := by
  cases step_steps e with
  | getFail hd hg hi => exact ⟨rfl, hi, rfl⟩

/-- Dropping a guard pushes its arena onto the idle stack — whatever the poison flag says — and neither
    drops nor alters any arena. -/
theorem guard_drop_returns_arena {s s' : State} {g : GuardId} {a : ArenaId} {o : Out}
    (ha : arenaOf g s.owned = some a) (e : step s (.put g) = .ok (s', o)) :
    s'.idle = a :: s.idle ∧ s'.arenas = s.arenas ∧ s'.created = s.created ∧ s'.leaked = s.leaked := by
  cases step_steps e with
  | put hd ht =>
    have hb := takeOut_arenaOf ht
    rw [ha] at hb; cases hb
    exact ⟨rfl, rfl, rfl, rfl⟩

/-- Nothing depends on the poison flag: two states that differ only in it (e.g. the pool before and after a
    panicking `get*`) accept the same histories, return the same guards/arenas/errors at every call and end
    in states that again differ at most in the flag. -/
theorem poison_is_irrelevant {s t : State} (h : List Step) (e : s.unpoison = t.unpoison) :
    (runLog s h).map erase' = (runLog t h).map erase' :=
  runLog_congr h e

/-- non-vacuity: guard 0 lives; a panicking get with no idle arena poisons the pool and creates nothing;
    guard 0 is dropped AFTER the poisoning and its arena (with its contents) is idle again; the next
    panicking get finds it and succeeds; reset still reaches it. -/
example : (runLog init [.get 0 .ok, .alloc 0 5, .get 1 .panic, .put 0, .get 2 .panic, .alloc 2 6, .put 2, .reset]).toOption.map
    (fun r => (r.1.created, r.1.poisoned, r.1.idle, (r.1.arenas 0).resets)) = some (1, true, [0], 1) := by decide

example : (runLog init [.get 0 .ok, .alloc 0 5, .get 1 .panic, .put 0, .get 2 .panic, .alloc 2 6, .put 2, .reset]).toOption.map
    (fun r => (peakLive r.2, r.2.map (·.2))) =
    some (1, [.got 0 true, .done, .panicked, .done, .got 0 false, .done, .done, .done]) := by decide

end C19
