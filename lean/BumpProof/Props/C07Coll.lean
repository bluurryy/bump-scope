/-
  Props/C07Coll.lean — the collection clause of property C07: a collection on which a single
  push / insert / reserve / extend / append / resize FAILED still has its previous length and contents;
  nothing is leaked or dropped twice; `try_*` methods return `Err`, panicking methods never return normally.

  Model: `Coll/Vecs.lean` / `Coll/Rev.lean`.  Every growing operation starts with `generic_reserve*(…)?`
  (`fixed_bump_vec.rs` l.1629 / l.2374, `bump_vec.rs` l.1909 / l.2655, `mut_bump_vec.rs`, `mut_bump_vec_rev.rs`
  l.1869 / l.2265; the four types share the text of the operations).  A refused reservation is
  `reserve … = none` / `reserveOne … = none` / `rreserve … = none`; the model's exit `.panic false` stands for
  BOTH faces of the early return: `Err(_)` of the `try_*` method and the unwinding of its panicking twin
  (`panic_on_error`) — neither returns normally.
  When is it refused (`*_refused_*` below): a `FixedBumpVec` / `BumpBox` that is too full; a `MutBumpVec` /
  `MutBumpVecRev` for which even what the arena can give (`capIn`, observed) is not enough.  A `BumpVec` whose
  allocator refuses takes the same early return — in the correspondence runs (`coll … failing`) it is
  announced to the driver as kind `fixed`: "a vector for which every growth is refused".
  The "capacity overflow" of `BumpVec::splice` with a lying `size_hint` (the reservation panics in the MIDDLE of
  `Splice::drop`) is `C06.splice_drops_once` / `C06.splice_overflow_contents` / `C08.splice_refines`.

  All statements: for every vector, every argument, every oracle; none needs the vector to be well-formed except
  `append` (the slice passed in is dropped) and `failed_op_unchanged` (which also concludes well-formedness).
-/
import BumpProof.Lemmas.CollBasic
import BumpProof.Lemmas.CollFail

namespace C07Coll
open Coll

/-! ## when a reservation is refused -/

theorem reserve_refused_fixed (env : Env) (v : Vec) (n : Nat) (hk : env.kind = .fixed ∨ env.kind = .box)
    (hn : n > v.cap - v.len) : reserve env v n = none := by
  unfold reserve growAmortized
  rcases hk with hk | hk <;> simp [hn, hk]

theorem reserveOne_refused_fixed (env : Env) (v : Vec) (hk : env.kind = .fixed ∨ env.kind = .box)
    (hn : v.len ≥ v.cap) : reserveOne env v = none := by
  unfold reserveOne
  rcases hk with hk | hk <;> simp [hn, hk]

theorem reserve_refused_mut (env : Env) (v : Vec) (n : Nat) (hk : env.kind = .mut ∨ env.kind = .rev)
    (hn : n > v.cap - v.len) (hc : v.len + n > env.capIn) : reserve env v n = none := by
  unfold reserve growAmortized
  have : ¬ v.len + n ≤ env.capIn := by omega
  rcases hk with hk | hk <;> simp [hn, hk, this]

theorem reserveOne_refused_mut (env : Env) (v : Vec) (hk : env.kind = .mut ∨ env.kind = .rev)
    (hn : v.cap = v.len) (hc : v.len + 1 > env.capIn) : reserveOne env v = none := by
  unfold reserveOne growAmortized
  have : ¬ v.len + 1 ≤ env.capIn := by omega
  rcases hk with hk | hk <;> simp [hn, hk, this]

theorem reserve_exact_refused_fixed (env : Env) (v : Vec) (n : Nat) (hk : env.kind = .fixed ∨ env.kind = .box)
    (hn : n > v.cap - v.len) : reserveExact env v n = none := by
  unfold reserveExact
  rcases hk with hk | hk <;> simp [hn, hk]

theorem reserve_exact_refused_mut (env : Env) (v : Vec) (n : Nat) (hk : env.kind = .mut ∨ env.kind = .rev)
    (hn : n > v.cap - v.len) (hc : v.len + n > env.capIn) : reserveExact env v n = none := by
  unfold reserveExact
  have : ¬ v.len + n ≤ env.capIn := by omega
  rcases hk with hk | hk <;> simp [hn, hk, this]

theorem rev_reserve_refused (env : Env) (v : Vec) (n : Nat) (hn : n > v.cap - v.len) (hc : v.len + n > env.capIn) :
    rreserve env v n = none := by
  unfold rreserve rgrowAmortized
  have : ¬ v.len + n ≤ env.capIn := by omega
  simp [hn, this]

/-- "capacity overflow": a request whose total `len + additional` exceeds the largest element count with a valid
    layout (`maxCap = isize::MAX / size_of::<T>()`) is refused by EVERY kind of vector — `FixedBumpVec`, `BumpVec`,
    `MutBumpVec`, `MutBumpVecRev` —, whatever the allocator could give, before anything is touched
    (`try_*`: `Err`, panicking twin: "capacity overflow"); with the `*_failed_unchanged` theorems below: the
    vector is as it was -/
theorem reserve_overflow_refused (env : Env) (v : Vec) (n m : Nat) (hm : env.maxCap = some m) (hl : v.len ≤ v.cap)
    (hc : v.cap ≤ m) (h : v.len + n > m) : reserve env v n = none := by
  have hn : n > v.cap - v.len := by omega
  have hf : env.fits (max (max (v.cap * 2) (v.len + n)) env.minCap) = false :=
    fits_false hm (Nat.lt_of_lt_of_le h (Nat.le_trans (Nat.le_max_right ..) (Nat.le_max_left ..)))
  unfold reserve growAmortized
  rw [if_pos hn]
  simp only [hf]
  cases env.kind <;> simp

theorem reserve_exact_overflow_refused (env : Env) (v : Vec) (n m : Nat) (hm : env.maxCap = some m) (hl : v.len ≤ v.cap)
    (hc : v.cap ≤ m) (h : v.len + n > m) : reserveExact env v n = none := by
  have hn : n > v.cap - v.len := by omega
  have hf : env.fits (v.len + n) = false := fits_false hm h
  unfold reserveExact
  cases hk : env.kind <;> simp [hn, hf]

theorem rev_reserve_overflow_refused (env : Env) (v : Vec) (n m : Nat) (hm : env.maxCap = some m) (hl : v.len ≤ v.cap)
    (hc : v.cap ≤ m) (h : v.len + n > m) : rreserve env v n = none := by
  have hn : n > v.cap - v.len := by omega
  have hf : env.fits (max (max (v.cap * 2) (v.len + n)) env.minCap) = false :=
    fits_false hm (Nat.lt_of_lt_of_le h (Nat.le_trans (Nat.le_max_right ..) (Nat.le_max_left ..)))
  unfold rreserve rgrowAmortized
  rw [if_pos hn, hf]
  simp

/-- non-vacuity: a `BumpVec<u64>` (`maxCap = (2^63-1)/8`) holding 3 of 4: `try_reserve_exact(usize::MAX/8 + 1)` and
    `try_reserve(usize::MAX)` are refused, `try_reserve(1)` is not -/
example : reserveExact { kind := .bump, maxCap := some 1152921504606846975 } (Vec.mk' [1, 2, 3] 1) 2305843009213693952 = none ∧
    reserve { kind := .bump, maxCap := some 1152921504606846975 } (Vec.mk' [1, 2, 3] 1) 18446744073709551615 = none ∧
    reserve { kind := .bump, maxCap := some 1152921504606846975 } (Vec.mk' [1, 2, 3] 1) 1 = some (Vec.mk' [1, 2, 3] 1) := by
  decide

/-- a reservation is refused only when it does not fit (that it never touches the vector it is refused for needs no
    theorem: `reserve` / `reserve_exact` are functions of the vector, the caller keeps `v`) -/
theorem reserve_refused_only_if_needed (env : Env) (v : Vec) (n : Nat) (h : reserve env v n = none) :
    n > v.cap - v.len := reserve_none_gt h

/-! ## one failed operation leaves the vector as it was -/

theorem push_failed_unchanged (env : Env) (v : Vec) (id : Id) (h : reserveOne env v = none) :
    push env v id = .ok ⟨dropArg v id, .panic false, []⟩ := by simp [push, h]

/-- `try_insert` / `insert` (any index) -/
theorem insert_failed_unchanged (env : Env) (v : Vec) (i : Nat) (id : Id) (h : reserveOne env v = none) :
    insert env v i id = .ok ⟨dropArg v id, .panic false, []⟩ := by
  unfold Coll.insert; split <;> simp [h]

/-- `try_extend_from_slice_clone`: not a single `Clone::clone` ran (the oracle is untouched) -/
theorem extend_from_slice_clone_failed_unchanged (env : Env) (v : Vec) (n : Nat) (o : List Outcome)
    (h : reserve env v n = none) : extendFromSliceClone env v n o = .ok ⟨v, .panic false, o⟩ := by simp [extendFromSliceClone, h]

theorem extend_from_within_clone_failed_unchanged (env : Env) (v : Vec) (s e : Nat) (o : List Outcome)
    (h : reserve env v (e - s) = none) : extendFromWithinClone env v s e o = .ok ⟨v, .panic false, o⟩ := by
  unfold extendFromWithinClone; split <;> simp [h]

/-- `try_resize(new_len, value)`: `value` is dropped, nothing else happens -/
theorem resize_failed_unchanged (env : Env) (v : Vec) (n : Nat) (value : Id) (o : List Outcome)
    (h : reserve env v (n - v.len) = none) : resize env v n value o = .ok ⟨dropArg v value, .panic false, o⟩ := by
  have hn : n > v.len := Nat.lt_of_sub_pos (Nat.zero_lt_of_lt (reserve_none_gt h))
  simp [resize, hn, extendWith, h]

/-- `try_resize_with(new_len, f)`: `f` is not called -/
theorem resize_with_failed_unchanged (env : Env) (v : Vec) (n : Nat) (o : List Outcome)
    (h : reserve env v (n - v.len) = none) : resizeWith env v n o = .ok ⟨v, .panic false, o⟩ := by
  have hn : n > v.len := Nat.lt_of_sub_pos (Nat.zero_lt_of_lt (reserve_none_gt h))
  simp [resizeWith, hn, h]

/-- `try_append(other)`: `self` is untouched, the owned slice passed in is dropped with exactly its elements -/
theorem append_failed_unchanged (env : Env) (v other : Vec) (ho : other.WF) (h : reserve env v other.len = none) :
    ∃ other', append env v other = .ok (⟨v, .panic false, []⟩, other') ∧ other'.len = 0 ∧ other'.abs = [] ∧
      other'.dropLog = other.dropLog ++ other.abs ∧ other'.escaped = other.escaped := by
  refine ⟨{ other with slots := H other.cap, len := 0, dropLog := other.dropLog ++ other.abs }, ?_, rfl, ?_, rfl, rfl⟩
  · unfold append; simp only [h]; rw [dropRange_owner env.bombs true other other.abs ho.shape]
  · simp [Vec.abs, idsOf]

theorem rev_push_failed_unchanged (env : Env) (v : Vec) (id : Id) (h : rreserve env v 1 = none) :
    rpush env v id = .ok ⟨dropArg v id, .panic false, []⟩ := by simp [rpush, h]

theorem rev_insert_failed_unchanged (env : Env) (v : Vec) (i : Nat) (id : Id) (h : rreserve env v 1 = none) :
    rinsert env v i id = .ok ⟨dropArg v id, .panic false, []⟩ := by
  unfold rinsert; split <;> simp [h]

theorem rev_extend_from_slice_clone_failed_unchanged (env : Env) (v : Vec) (n : Nat) (o : List Outcome)
    (h : rreserve env v n = none) : rextendFromSliceClone env v n o = .ok ⟨v, .panic false, o⟩ := by simp [rextendFromSliceClone, h]

theorem rev_resize_failed_unchanged (env : Env) (v : Vec) (n : Nat) (value : Id) (o : List Outcome)
    (h : rreserve env v (n - v.len) = none) : rresize env v n value o = .ok ⟨dropArg v value, .panic false, o⟩ := by
  have hn : n > v.len := Nat.lt_of_sub_pos (Nat.zero_lt_of_lt (rreserve_none_gt h))
  simp [rresize, hn, rextendWith, h]

theorem rev_resize_with_failed_unchanged (env : Env) (v : Vec) (n : Nat) (o : List Outcome)
    (h : rreserve env v (n - v.len) = none) : rresizeWith env v n o = .ok ⟨v, .panic false, o⟩ := by
  have hn : n > v.len := Nat.lt_of_sub_pos (Nat.zero_lt_of_lt (rreserve_none_gt h))
  simp [rresizeWith, hn, h]

theorem rev_append_failed_unchanged (env : Env) (v other : Vec) (ho : other.WF) (h : rreserve env v other.len = none) :
    ∃ other', rappend env v other = .ok (⟨v, .panic false, []⟩, other') ∧ other'.len = 0 ∧
      other'.dropLog = other.dropLog ++ other.abs ∧ other'.escaped = other.escaped := by
  refine ⟨{ other with slots := H other.cap, len := 0, dropLog := other.dropLog ++ other.abs }, ?_, rfl, rfl, rfl⟩
  unfold rappend; simp only [h]; rw [dropRange_owner env.bombs true other other.abs ho.shape]

end C07Coll

open Coll C07Coll in
/-- a single failed operation: the buffer, the length, the capacity and the hand-outs are the ones before,
    and exactly the by-value arguments were dropped (the `match`: without arguments the result is literally `v`) -/
theorem Coll.failed_step_unchanged (env : Env) (v : Vec) (op : Op) (h : roomOf env v op = false) :
    stepVec env v op = .ok (match argsOf op with | [] => v | a => { v with dropLog := v.dropLog ++ a }) := by
  cases op <;> simp only [roomOf, Bool.true_eq_false] at h
  case push id =>
    have h' : reserveOne env v = none := by simpa using h
    simp [stepVec, push_failed_unchanged env v id h', argsOf, Except.map, dropArg]
  case insert i id =>
    have h' : reserveOne env v = none := by simpa using h
    simp [stepVec, insert_failed_unchanged env v i id h', argsOf, Except.map, dropArg]
  case extendClone n o =>
    have h' : reserve env v n = none := by simpa using h
    simp [stepVec, extend_from_slice_clone_failed_unchanged env v n o h', argsOf, Except.map]
  case extendWithin s e o =>
    have h' : reserve env v (e - s) = none := by simpa using h
    simp [stepVec, extend_from_within_clone_failed_unchanged env v s e o h', argsOf, Except.map]
  case resize n value o =>
    have h' : reserve env v (n - v.len) = none := by simpa using h
    simp [stepVec, resize_failed_unchanged env v n value o h', argsOf, Except.map, dropArg]
  case resizeWith n o =>
    have h' : reserve env v (n - v.len) = none := by simpa using h
    simp [stepVec, resize_with_failed_unchanged env v n o h', argsOf, Except.map]

namespace C07Coll
open Coll

/-- **C07, collections**: whichever growing operation of the history-level operation type (`Coll/Run.lean`) fails
    — for every vector, argument and oracle — buffer, length, capacity, contents and hand-outs are the ones
    before, exactly the by-value arguments were dropped (once), the vector is still well-formed (so it can be
    used and dropped as before: `C06.history_drops_once` applies to whatever follows) -/
theorem failed_op_unchanged (env : Env) (v : Vec) (op : Op) (hv : v.WF) (hfresh : (v.total ++ argsOf op).Nodup)
    (h : roomOf env v op = false) :
    ∃ v', stepVec env v op = .ok v' ∧ v'.slots = v.slots ∧ v'.len = v.len ∧ v'.cap = v.cap ∧ v'.abs = v.abs ∧
      v'.escaped = v.escaped ∧ v'.dropLog = v.dropLog ++ argsOf op ∧ v'.WF := by
  refine ⟨_, failed_step_unchanged env v op h, ?_⟩
  cases hargs : argsOf op with
  | nil =>
    simp only [List.append_nil, true_and]
    exact hv
  | cons x xs =>
    rw [hargs] at hfresh
    exact ⟨rfl, rfl, rfl, rfl, rfl, rfl, hv.1, (total_dropLog_append v _).nodup_iff.mpr hfresh⟩

/-- non-vacuity: a full `FixedBumpVec` `[1,2,3]`: `try_push(9)` is refused, 9 is dropped, the vector is unchanged -/
example : roomOf { kind := .fixed } (Vec.mk' [1, 2, 3] 0) (.push 9) = false ∧
    push { kind := .fixed } (Vec.mk' [1, 2, 3] 0) 9 = .ok ⟨{ slots := I [1, 2, 3], len := 3, dropLog := [9] }, .panic false, []⟩ := by
  decide

/-- a `MutBumpVec` `[1,2]` that owns 3 slots and cannot get more than 4: `try_extend_from_slice_clone` of 3 is
    refused without a single clone; of 1 it goes through -/
example : extendFromSliceClone { kind := .mut, capIn := 4 } (Vec.mk' [1, 2] 1) 3 [.ret 7, .ret 8, .ret 9] =
      .ok ⟨Vec.mk' [1, 2] 1, .panic false, [.ret 7, .ret 8, .ret 9]⟩ ∧
    extendFromSliceClone { kind := .mut, capIn := 4 } (Vec.mk' [1, 2] 1) 1 [.ret 7] =
      .ok ⟨Vec.mk' [1, 2, 7] 0, .ret (), []⟩ := by decide

/-- `MutBumpVecRev` `[1,2]` (elements at the end of 2 slots), the arena cannot give more: `try_resize(4, 5)` -/
example : rresize { kind := .rev, capIn := 2 } { slots := I [1, 2], len := 2 } 4 5 [.ret 6] =
    .ok ⟨{ slots := I [1, 2], len := 2, dropLog := [5] }, .panic false, [.ret 6]⟩ := by decide

end C07Coll
