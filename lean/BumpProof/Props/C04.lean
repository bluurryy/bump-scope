/-
  Props/C04.lean — references into a scope cannot outlive it in safe code; weakening settings conversions
  are rejected at compile time.

  PARTIAL (rustc trusted): what is proved here is about the region calculus of `Life/Calculus.lean`
  (see its header for the program shapes it covers) and about the signature table `Gen/Sigs.lean`
  that is re-extracted from the Rust sources on every run.

  `sound`: for EVERY table that satisfies the decidable adequacy predicate `sigOK`, every program the calculus' type
  checker accepts runs without any fault: no value is used after its memory epoch ended, no handle after its arena was
  dropped, nothing crosses a thread boundary with a base allocator that is not `Send`/`Sync` (induction over the program:
  `check_sound`, `step_sound` in `Lemmas/LifeSound.lean`; invariant in `Lemmas/LifeInv.lean`).  `sigs_ok`: the extracted
  table satisfies `sigOK` once the recorded deviation C04-a (`impl BumpAllocatorCoreScope<'a> for &'a mut Bump`) is taken
  out; with it the statement is false (`sound_target_fails`: a well-typed program reads a value after `reset`, the Lean
  image of the known finding).

  Part of `sigOK` is that a conversion between lifetime-carrying values (`From`, the accessors of Stats / Chunk /
  AnyStats / AnyChunk, iterator items, `AsRef`/`Borrow`/`Deref`, `from_parts`) names only lifetimes of its input on its
  output (`convs_tied`; the `From<Stats> for AnyStats` header with two elided lifetimes violates it: `untiedFrom`, crate
  commit 19ca7c2).  With it the output carries exactly the region of its source and is invalidated with it (`conversion_keeps_region`,
  `converted_invalidated_with_source`; `sound` covers the `vconv` / `join` statements); without it a well-typed program
  reads freed memory (`untied_from_unsound`, `untied_from_parts_unsound`).

  `hand_impls_ok` (every hand-written `unsafe impl Send/Sync` requires the auto trait of every type parameter the type
  stores a value of) is at table level only: these types are not objects of the calculus.  `conversions_do_not_weaken`:
  a settings conversion that passes the extracted const assertions keeps the direction, does not lower the minimum
  alignment on a borrow or on a scope, does not upgrade guaranteed-allocated and does not change claimable on a borrow,
  for all settings.

  The tables (`C04.table`, `untiedFrom`, `untiedFromParts`) and the witness programs stand in `Lemmas/LifeWitness.lean`.

  That rustc enforces the calculus' discipline on real programs is not proved; the calculus' checker is
  compared with rustc on a generated corpus by checks/engines/life.py.
-/
import BumpProof.Lemmas.LifeSettings
import BumpProof.Lemmas.LifeSound
import BumpProof.Lemmas.LifeWitness

namespace C04
open Life

/-- every extracted signature, `BumpAllocatorCoreScope` implementor (minus C04-a), settings assertion,
    auto-trait impl and conversion between lifetime-carrying values is adequate for what the method / type does at run time -/
theorem sigs_ok : sigOK table = true := by decide +kernel

/-- … and C04-a is exactly what is missing: the table as extracted is not adequate -/
theorem extracted_table_has_deviation : sigOK Gen.Sigs.table = false :=
  -- the conjunct that fails is `scopeImpls.all implAdequate`
  Bool.eq_false_iff.2 fun h => absurd (sigOK_iff.1 h).2.1 (by decide)

/-- **Soundness of the calculus.**  For every signature table that satisfies `sigOK`, every flag combination
    (`A: Send`, `A: Sync`) and every program: if the type checker accepts the program, it runs to completion
    without a fault (`uaf`, `deadArena`, `crossThread`, `stuck`). -/
theorem sound (t : Table) (hok : sigOK t = true) (fl : Flags) (p : List Stmt) (Γ' : SEnv)
    (hc : check t fl SEnv.empty p = .ok Γ') : ∃ σ', run fl DState.empty p = .ok σ' := by
  rcases check_sound hok fl p Inv.empty hc with ⟨σ', h, _⟩
  exact ⟨σ', h⟩

/-- in particular no statement of an accepted program faults: none uses a value after its epoch ended (nor a dead arena,
    nor crosses threads unsafely) -/
theorem no_use_after_end (t : Table) (hok : sigOK t = true) (fl : Flags) (p : List Stmt) (Γ' : SEnv)
    (hc : check t fl SEnv.empty p = .ok Γ') (k : Nat) (f : Fault) : run fl DState.empty p ≠ .error (k, f) := by
  rcases sound t hok fl p Γ' hc with ⟨σ', h⟩
  rw [h]; nofun

/-- the full claim for the crate: soundness for the table exactly as extracted -/
def sound_target : Prop :=
  ∀ (fl : Flags) (p : List Stmt) (Γ' : SEnv), check Gen.Sigs.table fl SEnv.empty p = .ok Γ' →
    ∃ σ', run fl DState.empty p = .ok σ'

/-- what is proved: soundness for the extracted table without the recorded deviation C04-a -/
theorem sound_partial (fl : Flags) (p : List Stmt) (Γ' : SEnv) (hc : check table fl SEnv.empty p = .ok Γ') :
    ∃ σ', run fl DState.empty p = .ok σ' := sound table sigs_ok fl p Γ' hc

/-- with the `&'a mut Bump` implementor in the table the witness type-checks and is a use after `reset` -/
theorem c04a_typechecks_and_faults :
    verdict Gen.Sigs.table ⟨true, true⟩ c04a_witness = none ∧ faultOf ⟨true, true⟩ c04a_witness = some (0, .uaf) :=
  c04a_both.1

/-- … so the full claim fails for the table as extracted (the negation is proved, the witness is replayed on
    the real crate by the check: lifecases/findings/c04a_refmut_bump.rs) -/
theorem sound_target_fails : ¬ sound_target := fun h => by
  obtain ⟨Γ', hc⟩ := verdict_none c04a_typechecks_and_faults.1
  obtain ⟨σ', hr⟩ := h _ _ Γ' hc
  have := faultOf_some c04a_typechecks_and_faults.2
  rw [hr] at this; cases this

/-- without that implementor the same program is rejected -/
example : verdict table ⟨true, true⟩ c04a_witness = some (2, .notApplicable) := c04a_both.2

/-- every hand-written `unsafe impl Send/Sync` of the crate bounds every type parameter the type stores a value of (the
    allocator parameter of `mut_bump_vec::IntoIter<T, A>`, of `Bump<A, S>`, the element type of the boxes and vectors) -/
theorem hand_impls_ok : handImplsAdequate Gen.Sigs.table = true := by decide +kernel

/-- … and dropping the `A: Send` bound of `mut_bump_vec::IntoIter` (seed C04-f) is not adequate -/
example : handImplsAdequate { table with handImpls :=
    [⟨.send, "mut_bump_vec::IntoIter", [("T", .send)], ["T", "A"], "mut_bump_vec/into_iter.rs"⟩] } = false := by decide +kernel

/-- every extracted conversion names only lifetimes of its input on its output -/
theorem convs_tied : convsAdequate Gen.Sigs.table = true :=
  -- `table` differs from the extracted table in `scopeImpls` only
  (sigOK_convs sigs_ok : convsAdequate table = true)

/-- for an adequate table, `let x = Out::from(v)` (an accessor, an iterator item) gives `x` exactly the region of `v` -/
theorem conversion_keeps_region (t : Table) (hok : sigOK t = true) (fl : Flags) (Γ Γ' : SEnv) (x v : Var)
    (input name : String) (hc : checkStmt t fl Γ (.vconv x v input name) = .ok Γ') :
    ∃ e ∈ Γ.ents, e.var = v ∧ e.valid = true ∧
      Γ'.ents = ⟨x, .val, .own, e.self, e.self, true, Γ.depth⟩ :: Γ.ents := by
  rcases checkVconv_ok hc with ⟨c, e, hlc, he, hvar, hv, _, hd⟩
  rw [convRegion_tied (sigOK_conv hok hlc)] at hd
  rcases declare_ok hd with ⟨_, rfl⟩
  exact ⟨e, he, hvar, hv, rfl⟩

/-- … hence every invalidation (a conflicting use, a move, a drop of anything the source borrows: the only ways an
    epoch can end) that hits the source hits the converted value: the checker invalidates only through
    `killEnts p` (`useShr`, `useMut`, `remove`), i.e. `kill1 p` on every entry -/
theorem converted_invalidated_with_source (p : Loan → Bool) (e : Entry) (x : Var) (d : Nat) (hv : e.valid = true) :
    (kill1 p e).valid = (kill1 p ⟨x, .val, .own, e.self, e.self, true, d⟩).valid :=
  kill1_valid_congr p rfl hv

/-- with the `From<Stats> for AnyStats` header that has two elided lifetimes (`untiedFrom`; the crate before 19ca7c2) the
    table is not adequate, and
    `anystats_witness` (`let s = b.stats(); let a = AnyStats::from(s); drop(b); a.count()`) is accepted and reads freed memory -/
theorem untied_from_unsound :
    sigOK untiedFrom = false ∧ verdict untiedFrom ⟨true, true⟩ anystats_witness = none ∧
    faultOf ⟨true, true⟩ anystats_witness = some (0, .uaf) :=
  ⟨Bool.eq_false_iff.2 fun h => absurd (sigOK_convs h) (by decide), anystats_both.1⟩

/-- with the table as extracted the same program is rejected: `a` is invalidated by the drop of `b` -/
example : verdict table ⟨true, true⟩ anystats_witness = some (0, .dead) := anystats_both.2

/-- the same for `BumpVec::from_parts` taking a `FixedBumpVec` of an unrelated lifetime (`untiedFromParts`,
    `from_parts_witness`) -/
theorem untied_from_parts_unsound :
    sigOK untiedFromParts = false ∧ verdict untiedFromParts ⟨true, true⟩ from_parts_witness = none ∧
    faultOf ⟨true, true⟩ from_parts_witness = some (0, .uaf) :=
  ⟨Bool.eq_false_iff.2 fun h => absurd (sigOK_convs h) (by decide), from_parts_both.1⟩

example : verdict table ⟨true, true⟩ from_parts_witness = some (0, .dead) := from_parts_both.2

/-- **Settings conversions.**  For the extracted const assertions and ALL settings (any minimum alignment): a
    conversion that compiles does not weaken a guarantee (`required`: direction kept; minimum alignment not lowered
    on a borrow / on a scope taken by value; guaranteed-allocated not upgraded and claimable unchanged on a borrow). -/
theorem conversions_do_not_weaken (owner name : String) (old new : Settings)
    (hc : convOK table owner name old new = some true) :
    ∃ k, convKind owner name = some k ∧ required k old new = true :=
  conv_sound (sigOK_settings sigs_ok) hc

/-! ### non-vacuity: programs the checker accepts / rejects with the extracted table -/

/-- `let x = b.scoped(|s| { let y = s.alloc(..); touch(&y); drop(y); }); drop(b)` is accepted … -/
example : verdict table ⟨true, true⟩
    [.newBump 0, .enter 1 2 0 .enterScoped "Bump" "scoped", .call 3 1 .alloc "BumpScope" "alloc", .use 3, .drop 3,
     .exit none, .drop 0] = none := by decide +kernel

/-- … returning `y` from the closure is rejected … -/
example : verdict table ⟨true, true⟩
    [.newBump 0, .enter 1 2 0 .enterScoped "Bump" "scoped", .call 3 1 .alloc "BumpScope" "alloc", .exit (some 3)]
    = some (0, .escape) := by decide +kernel

/-- … holding a value across the drop of its guard is rejected … -/
example : verdict table ⟨true, true⟩
    [.newBump 0, .call 1 0 .mkGuard "Bump" "scope_guard", .call 2 1 .guardScope "BumpScopeGuard" "scope",
     .call 3 2 .alloc "BumpScope" "alloc_str", .drop 1, .use 3] = some (0, .dead) := by decide +kernel

/-- … moving a `Bump` to another thread needs `A: Send` … -/
example : verdict table ⟨false, false⟩ [.newBump 0, .send 0] = some (0, .notSend) := by decide +kernel
example : verdict table ⟨true, false⟩ [.newBump 0, .send 0] = none := by decide +kernel

/-- … lowering the minimum alignment on a shared borrow is rejected by the const assertions, raising it on an
    exclusive borrow is accepted -/
example : convOK table "Bump" "borrow_with_settings" ⟨true, 4, true, true⟩ ⟨true, 1, true, true⟩ = some false := by decide +kernel
example : convOK table "Bump" "borrow_mut_with_settings" ⟨true, 1, true, true⟩ ⟨true, 4, true, true⟩ = some true := by decide +kernel

end C04
