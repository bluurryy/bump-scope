/-
  Props/C08.lean — property C08: the vector types behave like `std::vec::Vec` on every operation.

  Abstraction: `Vec.abs v` = the ids of the first `len` slots (what `Deref<Target = [T]>` shows).
  For every modelled operation, every WELL-FORMED vector (any length, any spare capacity), every
  argument and every oracle (the per-operation `*_refines` theorems for callbacks that return, `rets bs ++ o`;
  `dedup_by_calls`, `splice_refines`, `step_refines`, `history_refines` also for panicking ones): the model does not
  fault, `abs` of the result is the plain
  `List` function that `std::vec::Vec` implements (`filter`, `take`, `eraseIdx`, `insertIdx`-like
  `take i ++ x :: drop i`, `++`, …), the returned value agrees, out-of-range arguments make the model
  panic EXACTLY when std's precondition fails (and then change nothing), `len ≤ cap` afterwards.
  Capacity (`reserve_*` theorems): a reservation that fits returns the very same buffer (no
  reallocation while the promise suffices), a successful one leaves `cap ≥ len + additional`, a
  `FixedBumpVec` refuses exactly when it is too full and never changes its buffer, a `BumpVec` refuses only on
  capacity overflow (`reserve_bump_iff`; never when `env.maxCap = none`).
  Documented differences built into the specs: `retain` hands out `&mut T` (irrelevant for ids),
  `split_off` takes a range and works in place (see `Props/C16.lean`).
  Also here: `BumpVec::splice` (`splice_refines`: like `Vec::splice`, whatever `size_hint` the source reports),
  `BumpVec::map` (`vec_map_refines`: contents, order and the documented capacity on both code paths), and
  the HISTORY-LEVEL refinement `history_refines` (`Coll/Run.lean`): every finite sequence of the 18
  single-vector operations yields the contents of the same sequence run on plain lists.
  Definitions used in the statements that live in `Lemmas/`: `rets`, `keptBy` (`CollStd`), `room`, `roomOne`, `grown`
  (`CollGrow`), `rroom`, `rgrown` (`CollRev`), `Vec.RWF` (`CollView`), `capsOf` (`CollSplice`), `proj` (`CollDedup`).
-/
import BumpProof.Props.C06

namespace C08
open Coll

/-- `keptBy` with the answers of a pure predicate is `List.filter` -/
theorem keptBy_pred (p : Id → Bool) (xs : List Id) :
    keptBy (· != 0) xs (xs.map fun x => if p x then 1 else 0) = xs.filter p := by
  induction xs with
  | nil => rfl
  | cons x xs ih =>
    simp only [List.map_cons, keptBy_cons, List.filter_cons, ih]
    cases p x <;> simp

/-- from a refinement equation to the observable facts -/
theorem refines_of_eq {α : Type} {res : M (Out α)} {v' : Vec} {r : SpecOut α} {rest : List Outcome}
    (hres : res = .ok ⟨v'.after r, r.exit, rest⟩) (hle : r.final.length ≤ v'.cap) :
    ∃ out, res = .ok out ∧ out.vec.abs = r.final ∧ out.exit = r.exit ∧ out.rest = rest ∧
      out.vec.len ≤ out.vec.cap ∧ out.vec.cap = v'.cap :=
  View.refines (V := .fwd) hres hle

/-- `retain` with answers `bs` (no panic): the survivors are those whose answer was `true`, in order;
    capacity and buffer are untouched -/
theorem retain_refines (v : Vec) (hv : v.WF) (bs : List Nat) (o : List Outcome) (hb : bs.length = v.len) :
    ∃ r, retain [] v (rets bs ++ o) = .ok r ∧ r.vec.abs = keptBy (· != 0) v.abs bs ∧ r.exit = .ret () ∧ r.rest = o ∧
      r.vec.len ≤ r.vec.cap ∧ r.vec.cap = v.cap := by
  have hl := hv.shape.2
  have hcap := hv.len_le_cap
  have hlen := sieve_length_le (· != 0) [] [] v.abs (rets bs ++ o)
  obtain ⟨r, h1, h2, h3, h4, h5, h6⟩ := refines_of_eq (retain_eq [] v v.abs (rets bs ++ o) hv.shape)
    (by rw [retainSpec]; simp only [List.length_nil, Nat.zero_add] at hlen; omega)
  have hsp : retainSpec [] v.abs (rets bs ++ o) = _ := sieve_rets (· != 0) v.abs [] bs o (by omega)
  rw [hsp] at h2 h3 h4
  exact ⟨r, h1, h2, h3, h4, h5, h6⟩

/-- `dedup_by` with answers `bs` (`bs[k]` = `same_bucket(xs[k+1], previous survivor)`): the first
    element stays, later ones stay iff their answer was `false` -/
theorem dedup_by_refines (v : Vec) (hv : v.WF) (x : Id) (xs : List Id) (hx : v.abs = x :: xs)
    (bs : List Nat) (o : List Outcome) (hb : bs.length = xs.length) :
    ∃ r, dedupBy [] v (rets bs ++ o) = .ok r ∧ r.vec.abs = x :: keptBy (· == 0) xs bs ∧ r.exit = .ret () ∧ r.rest = o ∧
      r.vec.len ≤ r.vec.cap ∧ r.vec.cap = v.cap := by
  have hl := hv.shape.2
  have heq := dedupBy_eq [] v v.abs (rets bs ++ o) hv.shape
  rw [hx] at heq
  have hsp : dedupSpec [] (x :: xs) (rets bs ++ o) = _ := sieve_rets (· == 0) xs [x] bs o hb
  have hlen := sieve_length_le (· == 0) [] [x] xs (rets bs ++ o)
  simp only [dedupSpec] at hsp heq
  rw [hsp] at heq hlen
  have hcap := hv.len_le_cap
  rw [hx] at hl
  have := refines_of_eq heq (Nat.le_trans hlen (Nat.le_trans (Nat.le_of_eq (Nat.add_comm ..)) (show (x :: xs).length ≤ v.cap from hl ▸ hcap)))
  simpa using this

/-- WHICH pairs `dedup_by(same_bucket)` hands to the callback: exactly those `Vec::dedup_by` does — every element
    after the first is compared with the last element RETAINED so far (not with its predecessor in the original
    sequence); for every oracle (incl. panics) and every set of panicking destructors -/
theorem dedup_by_calls (bombs : List Id) (v : Vec) (hv : v.WF) (x : Id) (xs : List Id) (hx : v.abs = x :: xs) (o : List Outcome) :
    dedupCalls bombs v o = dedupCallsSpec bombs x xs o := by
  exact dedupCalls_eq bombs v x xs o (hx ▸ hv.shape)

/-- `[1,2,3]`, the callback answers "same" for the first call: 2 is removed and 3 is then compared with 1 (the last
    retained element), not with 2 -/
example : dedupCalls [] (Vec.mk' [1, 2, 3] 0) [.ret 1, .ret 0] = [(2, 1), (3, 1)] := by decide

/-- `dedup_by_key(key)` with keys `ks` (two per comparison: `key(cur)`, `key(prev)`): as `dedup_by` with the
    answers `key(cur) == key(prev)` -/
theorem dedup_by_key_refines (v : Vec) (hv : v.WF) (x : Id) (xs : List Id) (hx : v.abs = x :: xs)
    (ks : List (Nat × Nat)) (hb : ks.length = xs.length) :
    ∃ r, dedupByKey [] v (rets (ks.flatMap fun p => [p.1, p.2])) = .ok r ∧
      r.vec.abs = x :: keptBy (· == 0) xs (ks.map fun p => if p.1 = p.2 then 1 else 0) ∧ r.exit = .ret () := by
  have hpair : ∀ ks : List (Nat × Nat), pairUp (rets (ks.flatMap fun p => [p.1, p.2])) = rets (ks.map fun p => if p.1 = p.2 then 1 else 0) := by
    intro ks
    induction ks with
    | nil => rfl
    | cons p ks ih => simp only [List.flatMap_cons, rets, List.map_cons, List.cons_append, List.nil_append, pairUp]; simp only [rets] at ih; rw [ih]
  obtain ⟨r, h1, h2, h3, -, -, -⟩ := dedup_by_refines v hv x xs hx (ks.map fun (p : Nat × Nat) => if p.1 = p.2 then 1 else 0) [] (by simpa using hb)
  have hp := dedupByKey_pair [] v (rets (ks.flatMap fun p => [p.1, p.2]))
  rw [hpair ks] at hp
  simp only [List.append_nil] at h1
  obtain ⟨r', e1, e2, e3⟩ := proj_ok hp h1
  exact ⟨r', e1, by rw [e2]; exact h2, by rw [e3]; exact h3⟩

theorem truncate_refines (v : Vec) (hv : v.WF) (n : Nat) :
    ∃ r, truncate [] v n = .ok r ∧ r.vec.abs = v.abs.take n ∧ r.exit = .ret () ∧
      r.vec.len ≤ r.vec.cap ∧ r.vec.cap = v.cap := by
  obtain ⟨r, h1, h2, h3, -, h5, h6⟩ := refines_of_eq (truncate_eq [] v v.abs n hv.shape)
    (final_le_of_perm hv (truncateSpec_perm [] v.abs n))
  exact ⟨r, h1, h2.trans (truncateSpec_final ..), h3.trans (truncateSpec_exit_nil ..), h5, h6⟩

theorem clear_refines (v : Vec) (hv : v.WF) :
    ∃ r, clear [] v = .ok r ∧ r.vec.abs = [] ∧ r.exit = .ret () ∧ r.vec.cap = v.cap := by
  have heq := clear_eq [] v v.abs hv.shape
  obtain ⟨r, h1, h2, h3, -, -, h6⟩ := refines_of_eq heq (by simp [clearSpec])
  exact ⟨r, h1, by simpa [clearSpec] using h2, by simpa [clearSpec, dropExit] using h3, h6⟩

theorem pop_refines (v : Vec) (hv : v.WF) :
    ∃ r, pop v = .ok r ∧ r.vec.abs = v.abs.dropLast ∧ r.exit = .ret v.abs.getLast? ∧
      r.vec.len ≤ r.vec.cap ∧ r.vec.cap = v.cap := by
  obtain ⟨r, h1, h2, h3, -, h5, h6⟩ := refines_of_eq (pop_eq v v.abs hv.shape) (final_le_of_perm hv (popSpec_perm v.abs))
  refine ⟨r, h1, ?_, ?_, h5, h6⟩
  · rw [h2]; unfold popSpec; split
    · rename_i h; simp at h; simp [h]
    · rfl
  · rw [h3]; unfold popSpec; split <;> simp_all

/-- `remove(index)`: panics exactly when `index ≥ len` (and then changes nothing), otherwise removes
    and returns the element at `index`, keeping the order of the others -/
theorem remove_refines (v : Vec) (hv : v.WF) (i : Nat) :
    ∃ r, remove v i = .ok r ∧ r.vec.len ≤ r.vec.cap ∧ r.vec.cap = v.cap ∧
      (match v.abs[i]? with
       | some x => r.vec.abs = v.abs.eraseIdx i ∧ r.exit = .ret x
       | none => r.vec.abs = v.abs ∧ r.exit = .panic false) := by
  obtain ⟨r, h1, h2, h3, -, h5, h6⟩ := refines_of_eq (remove_eq v v.abs i hv.shape) (final_le_of_perm hv (removeSpec_perm v.abs i))
  refine ⟨r, h1, h5, h6, ?_⟩
  rw [h2, h3]; unfold removeSpec
  split <;> simp_all

/-- `swap_remove(index)`: panics exactly when `index ≥ len`; otherwise the last element takes the place
    of the removed one -/
theorem swap_remove_refines (v : Vec) (hv : v.WF) (i : Nat) :
    ∃ r, swapRemove v i = .ok r ∧ r.vec.len ≤ r.vec.cap ∧ r.vec.cap = v.cap ∧
      (match v.abs[i]?, v.abs.getLast? with
       | some x, some l => r.vec.abs = (v.abs.set i l).dropLast ∧ r.exit = .ret x
       | _, _ => r.vec.abs = v.abs ∧ r.exit = .panic false) := by
  obtain ⟨r, h1, h2, h3, -, h5, h6⟩ := refines_of_eq (swapRemove_eq v v.abs i hv.shape)
    (final_le_of_perm hv (swapRemoveSpec_perm v.abs i))
  refine ⟨r, h1, h5, h6, ?_⟩
  rw [h2, h3]; unfold swapRemoveSpec
  split <;> simp_all

/-! ## capacity: reservations -/

/-- no reallocation while the capacity suffices: the reservation returns the very same vector -/
theorem reserve_fits (env : Env) (v : Vec) (n : Nat) (h : v.len + n ≤ v.cap) : reserve env v n = some v :=
  Coll.reserve_fits env v n h

/-- a successful reservation keeps contents, length and logs, never shrinks, and fulfils its promise -/
theorem reserve_promise (env : Env) (v v' : Vec) (hv : v.WF) (n : Nat) (h : reserve env v n = some v') :
    v'.abs = v.abs ∧ v'.len = v.len ∧ v.len + n ≤ v'.cap ∧ v.cap ≤ v'.cap ∧ v'.WF := by
  have ⟨g, hc⟩ := reserve_some hv.shape h
  have ⟨hwf, _, habs⟩ := View.Shape.wf (V := .fwd) (g.shape hv.shape.2) hv g.dropLog g.escaped
  exact ⟨habs, g.len, hc, g.cap, hwf⟩

/-- `FixedBumpVec`: refuses exactly when the request does not fit, and never changes the buffer -/
theorem reserve_fixed (env : Env) (v : Vec) (n : Nat) (hk : env.kind = .fixed) :
    reserve env v n = if n > v.cap - v.len then none else some v :=
  Coll.reserve_fixed env v n hk

/-- `BumpVec`: a reservation is refused EXACTLY when it does not fit and the capacity it would grow to has no
    layout ("capacity overflow", `maxCap`); allocation failure is not a model outcome (it aborts / errors in C07) -/
theorem reserve_bump_iff (env : Env) (v : Vec) (n : Nat) (hk : env.kind = .bump) :
    (reserve env v n).isSome = (decide (n ≤ v.cap - v.len) || env.fits (max (max (v.cap * 2) (v.len + n)) env.minCap)) := by
  unfold reserve growAmortized
  by_cases h : n > v.cap - v.len
  · have h' : ¬ n ≤ v.cap - v.len := by omega
    simp only [h, ↓reduceIte, hk, h', decide_false, Bool.false_or]
    cases env.fits (max (max (v.cap * 2) (v.len + n)) env.minCap) <;> simp
  · have h' : n ≤ v.cap - v.len := by omega
    simp [h, h']

/-- … in an unbounded address space (`maxCap = none`): never -/
theorem reserve_bump (env : Env) (v : Vec) (n : Nat) (hk : env.kind = .bump) (hm : env.maxCap = none) :
    (reserve env v n).isSome = true := by
  obtain ⟨v', h⟩ := Coll.reserve_bump env v n hk hm
  rw [h]; rfl

theorem reserveOne_bump (env : Env) (v : Vec) (hk : env.kind = .bump) (hm : env.maxCap = none) : roomOne env v = true := by
  obtain ⟨v', h⟩ := Coll.reserveOne_bump env v hk hm
  rw [roomOne, h]; rfl

theorem reserveOne_fixed (env : Env) (v : Vec) (hk : env.kind = .fixed) : roomOne env v = decide (v.len < v.cap) := by
  unfold roomOne reserveOne
  simp only [hk]
  split <;> simp <;> omega

/-- `reserve_exact(additional)` on a `BumpVec`: never refused, the buffer is untouched when it fits,
    otherwise the capacity becomes EXACTLY `len + additional` -/
theorem reserve_exact_bump (env : Env) (v : Vec) (hv : v.WF) (n : Nat) (hk : env.kind = .bump) (hm : env.maxCap = none) :
    ∃ v', reserveExact env v n = some v' ∧ v'.abs = v.abs ∧ v'.len = v.len ∧
      (v.len + n ≤ v.cap → v' = v) ∧ (v.len + n > v.cap → v'.cap = v.len + n) := by
  have hl := hv.shape.2
  have hcap := hv.len_le_cap
  unfold reserveExact
  by_cases h : n > v.cap - v.len
  · simp only [h, ↓reduceIte, hk, Env.fits, hm]
    have ⟨g, hc⟩ := growTo_grows hv.shape (v.len + n)
    exact ⟨_, rfl, (g.shape hl).abs, g.len,
      fun hle => absurd (Nat.le_sub_of_add_le' hle) (Nat.not_le.2 h),
      fun hgt => hc.trans (Nat.max_eq_right (Nat.le_of_lt hgt))⟩
  · simp only [h, ↓reduceIte]
    exact ⟨v, rfl, rfl, rfl, fun _ => rfl, fun hgt => absurd (Nat.sub_lt_left_of_lt_add hcap hgt) h⟩

/-- `shrink_to_fit`: the contents never change and `len ≤ cap' ≤ cap`; if the allocator gives the block
    back (`capIn = len`), the capacity is exactly the length, otherwise nothing happens -/
theorem shrink_to_fit_keeps (env : Env) (v : Vec) (hv : v.WF) :
    (shrinkToFit env v).abs = v.abs ∧ (shrinkToFit env v).len = v.len ∧ (shrinkToFit env v).WF ∧
      v.len ≤ (shrinkToFit env v).cap ∧ (shrinkToFit env v).cap ≤ v.cap ∧
      ((shrinkToFit env v).cap = v.cap ∨ (shrinkToFit env v).cap = v.len) := by
  have hcap := hv.len_le_cap
  unfold shrinkToFit
  split
  · exact ⟨rfl, rfl, hv, hcap, Nat.le_refl _, Or.inl rfl⟩
  · split
    · obtain ⟨ha, hw, hc⟩ := hv.take_slots (Nat.le_refl _) hcap
      exact ⟨ha, rfl, hw, Nat.le_of_eq hc.symm, by rw [hc]; exact hcap, Or.inr hc⟩
    · exact ⟨rfl, rfl, hv, hcap, Nat.le_refl _, Or.inl rfl⟩

/-- `shrink_to(min_capacity)`: contents and length are kept, the vector stays well-formed — in particular its
    buffer IS the (possibly moved) block the allocator handed back —, and the capacity either stays or becomes
    exactly `max(len, min_capacity)`; nothing happens unless that is below the old capacity -/
theorem shrink_to_keeps (env : Env) (v : Vec) (hv : v.WF) (m : Nat) :
    (shrinkTo env v m).abs = v.abs ∧ (shrinkTo env v m).len = v.len ∧ (shrinkTo env v m).WF ∧
      v.len ≤ (shrinkTo env v m).cap ∧ (shrinkTo env v m).cap ≤ v.cap ∧
      ((shrinkTo env v m).cap = v.cap ∨ (shrinkTo env v m).cap = max v.len m) ∧
      (v.cap ≤ max v.len m → shrinkTo env v m = v) := by
  have hcap := hv.len_le_cap
  unfold shrinkTo
  simp only
  split
  · exact ⟨rfl, rfl, hv, hcap, Nat.le_refl _, Or.inl rfl, fun _ => rfl⟩
  · rename_i hlt
    split
    · obtain ⟨ha, hw, hc⟩ := hv.take_slots (Nat.le_max_left v.len m) (Nat.le_of_not_ge hlt)
      exact ⟨ha, rfl, hw, by rw [hc]; exact Nat.le_max_left .., by rw [hc]; exact Nat.le_of_not_ge hlt, Or.inr hc,
        fun h => absurd h hlt⟩
    · exact ⟨rfl, rfl, hv, hcap, Nat.le_refl _, Or.inl rfl, fun _ => rfl⟩

/-- `Extend::extend(iter)` on a `BumpVec` behaves like `Vec::extend`: every item is appended in order, whatever
    `size_hint` the source reports — unless the up-front reservation for the CLAIMED length overflows: then the
    call panics and the vector is exactly as before -/
theorem extend_refines (env : Env) (hk : env.kind = .bump) (hm : env.maxCap = none) (v : Vec) (hv : v.WF) (src : List Id) (hint : Nat)
    (lie : Option Nat) (maxCap : Nat) :
    ∃ r, extendIter env v src hint lie maxCap = .ok r ∧
      (if capOverflow env maxCap v v.len (spliceLower hint lie src.length) then
         r.vec.abs = v.abs ∧ r.vec.len = v.len ∧ r.vec.cap = v.cap ∧ r.exit = .panic false
       else r.vec.abs = v.abs ++ src ∧ r.exit = .ret () ∧ r.vec.len ≤ r.vec.cap ∧ v.cap ≤ r.vec.cap) := by
  have h := extendIter_bump env hk hm v v.abs src hint lie maxCap hv.shape
  by_cases hov : capOverflow env maxCap v v.len (spliceLower hint lie src.length) = true
  · simp only [hov, ↓reduceIte] at h ⊢
    exact ⟨_, h, rfl, rfl, rfl, rfl⟩
  · simp only [hov, Bool.false_eq_true, ↓reduceIte] at h ⊢
    obtain ⟨v', e, hh, hc⟩ := h
    exact ⟨_, e, hh.shape.abs, rfl, hh.shape.len_le_cap, hc⟩

/-- `push`: with room the value is appended; a full `FixedBumpVec` panics and stays as it is -/
theorem push_refines (env : Env) (v : Vec) (hv : v.WF) (id : Id) :
    ∃ r, push env v id = .ok r ∧ r.vec.len ≤ r.vec.cap ∧
      (if roomOne env v then r.vec.abs = v.abs ++ [id] ∧ r.exit = .ret () else r.vec.abs = v.abs ∧ r.exit = .panic false) := by
  have hl := hv.shape.2
  obtain ⟨r, h1, h2, h3, -, h5, -⟩ := refines_of_eq (push_eq env v v.abs id hv.shape)
    (grownOne_cap_le hv (hl ▸ pushSpec_len (roomOne env v) v.abs id))
  refine ⟨r, h1, h5, ?_⟩
  rw [h2, h3, pushSpec]
  cases roomOne env v <;> exact ⟨rfl, rfl⟩

/-- `push_with(f)`: with room it is `push(f())`; when the reservation is refused `f` is not even called — the
    vector is untouched and no value ever existed -/
theorem push_with_refines (env : Env) (v : Vec) (id : Id) :
    pushWith env v id = (if roomOne env v then push env v id else .ok ⟨v, .panic false, []⟩) := by
  unfold pushWith roomOne
  cases reserveOne env v <;> simp

/-- `insert(index, value)`: panics exactly when `index > len` (or a `FixedBumpVec` is full) and then
    changes nothing; otherwise `value` ends up at `index` with the later elements shifted by one -/
theorem insert_refines (env : Env) (v : Vec) (hv : v.WF) (i : Nat) (id : Id) :
    ∃ r, insert env v i id = .ok r ∧ r.vec.len ≤ r.vec.cap ∧
      (if i ≤ v.len ∧ roomOne env v then r.vec.abs = v.abs.take i ++ id :: v.abs.drop i ∧ r.exit = .ret ()
       else r.vec.abs = v.abs ∧ r.exit = .panic false) := by
  have hl := hv.shape.2
  have heq := insert_eq env v v.abs i id hv.shape
  by_cases hi : i ≤ v.len ∧ roomOne env v = true
  · have hle := grownOne_cap_le hv (hl ▸ insertSpec_len (roomOne env v) v.abs i id)
    rw [if_pos hi.1] at heq
    obtain ⟨r, h1, h2, h3, -, h5, -⟩ := refines_of_eq heq hle
    refine ⟨r, h1, h5, ?_⟩
    rw [if_pos hi, h2, h3, insertSpec, if_pos ⟨hl ▸ hi.1, hi.2⟩]
    exact ⟨rfl, rfl⟩
  · have hsp := insertSpec_of_not id (fun h => hi ⟨hl ▸ h.1, h.2⟩)
    have hcap : v.cap ≤ (if i ≤ v.len then grownOne env v else v).cap := by
      split
      · exact (grownOne_grows' hv).1.cap
      · exact Nat.le_refl _
    obtain ⟨r, h1, h2, h3, -, h5, -⟩ := refines_of_eq heq (by rw [hsp, hl]; exact Nat.le_trans hv.len_le_cap hcap)
    refine ⟨r, h1, h5, ?_⟩
    rw [if_neg hi, h2, h3, hsp]
    exact ⟨rfl, rfl⟩

/-- `extend_from_slice_clone` whose clones get the ids `ids`: they are appended in order -/
theorem extend_from_slice_clone_refines (env : Env) (v : Vec) (hv : v.WF) (ids : List Id) (o : List Outcome)
    (hroom : room env v ids.length = true) :
    ∃ r, extendFromSliceClone env v ids.length (rets ids ++ o) = .ok r ∧ r.vec.abs = v.abs ++ ids ∧ r.exit = .ret () ∧
      r.rest = o ∧ r.vec.len ≤ r.vec.cap := by
  have hl := hv.shape.2
  have ⟨g, hc⟩ := grown_grows' (env := env) (n := ids.length) hv
  have heq := extendFromSliceClone_eq env v v.abs ids.length (rets ids ++ o) hv.shape
  rw [hroom] at heq
  simp only [extendCloneSpecR, ↓reduceIte, extendCloneSpec_rets] at heq
  have := hc hroom
  obtain ⟨r, h1, h2, h3, h4, h5, -⟩ := refines_of_eq heq (by simp; omega)
  exact ⟨r, h1, h2, h3, h4, h5⟩

/-- `extend_from_within_clone(start..end)`: panics exactly for `start > end` or `end > len` (nothing
    changes); otherwise the clones (ids `ids`) of the range are appended in order -/
theorem extend_from_within_clone_refines (env : Env) (v : Vec) (hv : v.WF) (start end_ : Nat) (ids : List Id) (o : List Outcome)
    (hroom : room env v (end_ - start) = true) (hids : ids.length = end_ - start) :
    ∃ r, extendFromWithinClone env v start end_ (rets ids ++ o) = .ok r ∧
      (if start > end_ ∨ end_ > v.len then r.vec.abs = v.abs ∧ r.exit = .panic false
       else r.vec.abs = v.abs ++ ids ∧ r.exit = .ret () ∧ r.rest = o) := by
  by_cases hr : start > end_ ∨ end_ > v.len
  · rw [extendFromWithinClone_bad env v start end_ _ hr]
    exact ⟨_, rfl, by simp [hr]⟩
  · rw [extendFromWithinClone_eq env v v.abs start end_ _ hv.shape (by omega)]
    rw [← hids] at hroom ⊢
    obtain ⟨r, h1, h2, h3, h4, _⟩ := extend_from_slice_clone_refines env v hv ids o hroom
    exact ⟨r, h1, by simp [hr, h2, h3, h4]⟩

/-- `resize(new_len, value)`: shrinking is `truncate`; growing appends `new_len - len - 1` clones and
    then `value` itself -/
theorem resize_refines (env : Env) (v : Vec) (hv : v.WF) (newLen : Nat) (value : Id) (ids : List Id) (o : List Outcome)
    (hb : env.bombs = []) (hroom : room env v (newLen - v.len) = true) (hids : ids.length = newLen - v.len - 1) :
    ∃ r, resize env v newLen value (rets ids ++ o) = .ok r ∧ r.exit = .ret () ∧ r.vec.len ≤ r.vec.cap ∧
      r.vec.abs = (if newLen > v.len then v.abs ++ ids ++ [value] else v.abs.take newLen) := by
  have hl := hv.shape.2
  have hcap := hv.len_le_cap
  have heq := resize_eq env v v.abs newLen value (rets ids ++ o) hv.shape
  rw [hroom] at heq
  by_cases h : newLen > v.len
  · have hn : ids.length + 1 = newLen - v.len := by rw [hids]; exact Nat.sub_add_cancel (Nat.sub_pos_of_lt h)
    rw [resizeSpec_rets env.bombs value o (hl ▸ h) (hl ▸ hn)] at heq
    obtain ⟨r, h1, h2, h3, -, h5, -⟩ := refines_of_eq heq (grown_cap_le hv (by
      rw [hroom, if_pos rfl, List.length_append, List.length_append, List.length_singleton, Nat.add_assoc, hn, hl]
      exact Nat.le_refl _))
    rw [if_pos h]
    exact ⟨r, h1, h3, h5, h2⟩
  · rw [grown_sub_of_le h, resizeSpec, if_neg (hl ▸ h), hb] at heq
    rw [if_neg h]
    have hlen := truncateSpec_len [] v.abs newLen
    obtain ⟨r, h1, h2, h3, -, h5, -⟩ := refines_of_eq heq (Nat.le_trans hlen (hl ▸ hcap))
    refine ⟨r, h1, ?_, h5, h2.trans (truncateSpec_final ..)⟩
    rw [h3]; simp only [truncateSpec_exit_nil]; rfl

/-- `pop_if(pred)`: empty → `None` without calling `pred`; `pred(last)` true → the last element is
    popped; false → nothing changes -/
theorem pop_if_refines (v : Vec) (hv : v.WF) (b : Nat) (o : List Outcome) :
    ∃ r, popIf v (.ret b :: o) = .ok r ∧ r.vec.cap = v.cap ∧
      (match v.abs.getLast? with
       | none => r.vec.abs = v.abs ∧ r.exit = .ret none ∧ r.rest = .ret b :: o
       | some x => if b ≠ 0 then r.vec.abs = v.abs.dropLast ∧ r.exit = .ret (some x) ∧ r.rest = o
                   else r.vec.abs = v.abs ∧ r.exit = .ret none ∧ r.rest = o) := by
  obtain ⟨r, h1, h2, h3, h4, -, h6⟩ := refines_of_eq (popIf_eq v v.abs (.ret b :: o) hv.shape)
    (final_le_of_perm hv (popIfSpec_perm ..))
  refine ⟨r, h1, h6, ?_⟩
  rw [h2, h3, h4]; unfold popIfSpec
  cases hx : v.abs.getLast? with
  | none => simp
  | some x => simp only; split <;> simp

/-- `resize_with(new_len, f)` with `f` returning the values `ids`: they are appended in order; shrinking truncates -/
theorem resize_with_refines (env : Env) (v : Vec) (hv : v.WF) (newLen : Nat) (ids : List Id) (o : List Outcome)
    (hb : env.bombs = []) (hroom : room env v (newLen - v.len) = true) (hids : ids.length = newLen - v.len) :
    ∃ r, resizeWith env v newLen (rets ids ++ o) = .ok r ∧ r.exit = .ret () ∧ r.vec.len ≤ r.vec.cap ∧
      r.vec.abs = (if newLen > v.len then v.abs ++ ids else v.abs.take newLen) := by
  have hl := hv.shape.2
  have hcap := hv.len_le_cap
  have heq := resizeWith_eq env v v.abs newLen (rets ids ++ o) hv.shape
  rw [hroom] at heq
  by_cases h : newLen > v.len
  · rw [resizeWithSpec_rets env.bombs o (hl ▸ h) (hl ▸ hids)] at heq
    obtain ⟨r, h1, h2, h3, -, h5, -⟩ := refines_of_eq heq
      (grown_cap_le hv (by rw [hroom, if_pos rfl, List.length_append, hids, hl]; exact Nat.le_refl _))
    rw [if_pos h]
    exact ⟨r, h1, h3, h5, h2⟩
  · have h' : ¬ newLen > v.abs.length := by omega
    rw [grown_sub_of_le h] at heq
    simp only [h, ↓reduceIte, resizeWithSpec, h', hb] at heq ⊢
    have hlen := truncateSpec_len [] v.abs newLen
    obtain ⟨r, h1, h2, h3, -, h5, -⟩ := refines_of_eq heq (Nat.le_trans hlen (hl ▸ hcap))
    exact ⟨r, h1, h3.trans (truncateSpec_exit_nil ..), h5, h2.trans (truncateSpec_final ..)⟩

/-- `drain(start..end)`: panics exactly for `start > end` or `end > len` (and then changes nothing);
    otherwise the calls of `next` / `next_back` yield the elements of the range from its two ends
    (`pullsSpec`, a double-ended queue), dropping the `Drain` removes the whole range, `keep_rest`
    removes only what was yielded -/
theorem drain_refines (v : Vec) (hv : v.WF) (start end_ : Nat) (script : List Pull) (fin : Fin) :
    ∃ r, drain [] v start end_ script fin = .ok r ∧ r.vec.len ≤ r.vec.cap ∧ r.vec.cap = v.cap ∧
      (if start > end_ ∨ end_ > v.len then r.vec.abs = v.abs ∧ r.exit = .panic false
       else
         r.exit = .ret (pullsSpec ((v.abs.take end_).drop start) script).1 ∧
         r.vec.abs = v.abs.take start ++
            (match fin with | .drop => [] | .keepRest => (pullsSpec ((v.abs.take end_).drop start) script).2) ++
            v.abs.drop end_) := by
  have hl := hv.shape.2
  obtain ⟨r, h1, h2, h3, -, h5, h6⟩ := refines_of_eq (drain_eq [] v v.abs start end_ script fin hv.shape)
    (final_le_of_perm hv (drainSpec_perm [] v.abs start end_ script fin))
  refine ⟨r, h1, h5, h6, ?_⟩
  rw [h2, h3]
  unfold drainSpec
  rw [← hl]
  split
  · simp
  · cases fin <;> simp

/-- `into_iter()`: the pulls yield the elements from the two ends, afterwards nothing is owned -/
theorem into_iter_refines (v : Vec) (hv : v.WF) (script : List Pull) :
    ∃ r, intoIter [] v script = .ok r ∧ r.exit = .ret (pullsSpec v.abs script).1 ∧ r.vec.abs = [] := by
  have heq := intoIter_eq [] v v.abs script hv.shape
  obtain ⟨r, h1, h2, h3, -, -, -⟩ := refines_of_eq heq (by simp [intoIterSpec])
  exact ⟨r, h1, by rw [h3]; simp [intoIterSpec], by rw [h2]; simp [intoIterSpec]⟩

/-- `extract_if(pred)` consumed to the end, answers `bs`: the elements whose answer is `true` are
    yielded in order, the others stay in order (`Vec::extract_if` over the whole vector) -/
theorem extract_if_refines (v : Vec) (hv : v.WF) (bs : List Nat) (o : List Outcome) (calls : Nat)
    (hb : bs.length = v.len) (hc : calls > v.len) :
    ∃ r, extractIf v calls (rets bs ++ o) = .ok r ∧ r.exit = .ret (keptBy (· != 0) v.abs bs) ∧
      r.vec.abs = keptBy (· == 0) v.abs bs ∧ r.rest = o ∧ r.vec.len ≤ r.vec.cap ∧ r.vec.cap = v.cap := by
  have hl := hv.shape.2
  obtain ⟨r, h1, h2, h3, h4, h5, h6⟩ := refines_of_eq (extractIf_eq v v.abs calls (rets bs ++ o) hv.shape)
    (final_le_of_perm hv (extractSpec_perm calls v.abs (rets bs ++ o)))
  have hrun := extractRun_rets v.abs [] bs o calls (by omega) (by omega)
  refine ⟨r, h1, ?_, ?_, ?_, h5, h6⟩
  · rw [h3]; simp [extractSpec, hrun]
  · rw [h2]; simp [extractSpec, hrun]
  · rw [h4]; simp [extractSpec, hrun]

/-- `map_in_place(f)` with `f` returning the values `ids`: same length, results in order -/
theorem map_in_place_refines (v : Vec) (hv : v.WF) (ids : List Id) (o : List Outcome) (hi : ids.length = v.len) :
    ∃ r, mapInPlace [] v (rets ids ++ o) = .ok r ∧ r.exit = .ret () ∧ r.vec.abs = ids ∧ r.vec.len = v.len ∧ r.rest = o := by
  have hl := hv.shape.2
  have hcap := hv.len_le_cap
  have heq := mapInPlace_eq [] v v.abs (rets ids ++ o) hv.shape
  rw [mapSpec_rets v.abs [] ids o (by omega)] at heq
  obtain ⟨r, h1, h2, h3, h4, -, -⟩ := refines_of_eq heq (by simp; omega)
  refine ⟨r, h1, h3, by simpa using h2, ?_, h4⟩
  have : r.vec.abs.length = r.vec.len := by
    rw [h1] at heq; cases heq; simp [Vec.after, Vec.abs]
  rw [← this, h2]; simp; omega

/-- `append(other)` with room: the elements of `other` follow those of `self`, `other` is left empty -/
theorem append_refines (env : Env) (v other : Vec) (hv : v.WF) (ho : other.WF) (hroom : room env v other.len = true) :
    ∃ r o', append env v other = .ok (r, o') ∧ r.exit = .ret () ∧ r.vec.abs = v.abs ++ other.abs ∧
      o'.len = 0 ∧ r.vec.len ≤ r.vec.cap := by
  have hl := hv.shape.2
  have hlo := ho.shape.2
  have heq := append_eq env v other v.abs other.abs hv.shape ho.shape
  have ⟨g, hc⟩ := grown_grows' (env := env) (n := other.len) hv
  have := hc hroom
  rw [hroom] at heq
  have hsh := View.after_shape (V := .fwd) (grown env v other.len) (appendSpec true v.abs other.abs) (by simp [appendSpec]; omega)
  exact ⟨_, _, heq, by simp [appendSpec], by rw [after_abs]; simp [appendSpec], rfl, hsh.len_le_cap⟩

/-! ## `MutBumpVecRev`: `Vec` with front and back mirrored

  `rabs v` = what `as_slice()` shows (index 0 = front).  `push` / `pop` / `extend*` / `append` /
  `truncate` act on the FRONT (`VecDeque::push_front`, `pop_front`, …; `truncate(n)` keeps the LAST `n`),
  `swap_remove` fills the gap with the FIRST element, `insert` / `remove` take ordinary indices. -/

theorem rrefines_of_eq {α : Type} {res : M (Out α)} {v' : Vec} {r : SpecOut α} {rest : List Outcome}
    (hres : res = .ok ⟨v'.rafter r, r.exit, rest⟩) (hle : r.final.length ≤ v'.cap) :
    ∃ out, res = .ok out ∧ out.vec.rabs = r.final ∧ out.exit = r.exit ∧ out.rest = rest ∧
      out.vec.len ≤ out.vec.cap ∧ out.vec.cap = v'.cap :=
  View.refines (V := .bwd) hres hle

theorem rev_push_refines (env : Env) (v : Vec) (hv : v.RWF) (id : Id) :
    ∃ r, rpush env v id = .ok r ∧ r.vec.len ≤ r.vec.cap ∧
      (if rroom env v 1 then r.vec.rabs = id :: v.rabs ∧ r.exit = .ret () else r.vec.rabs = v.rabs ∧ r.exit = .panic false) := by
  have hl := hv.shape.2
  obtain ⟨r, h1, h2, h3, -, h5, -⟩ := rrefines_of_eq (rpush_eq env v v.rabs id hv.shape)
    (rgrown_cap_le hv (by rw [← hl, rpushSpec]; split <;> simp))
  refine ⟨r, h1, h5, ?_⟩
  rw [h2, h3, rpushSpec]
  cases rroom env v 1 <;> exact ⟨rfl, rfl⟩

theorem rev_pop_refines (v : Vec) (hv : v.RWF) :
    ∃ r, rpop v = .ok r ∧ r.vec.rabs = v.rabs.tail ∧ r.exit = .ret v.rabs.head? ∧ r.vec.cap = v.cap := by
  obtain ⟨r, h1, h2, h3, -, -, h6⟩ := rrefines_of_eq (rpop_eq v v.rabs hv.shape) (rfinal_le_of_perm hv (rpopSpec_perm v.rabs))
  refine ⟨r, h1, ?_, ?_, h6⟩
  · rw [h2]; unfold rpopSpec; cases v.rabs <;> rfl
  · rw [h3]; unfold rpopSpec; cases v.rabs <;> rfl

/-- `truncate(n)` keeps the LAST `n` elements -/
theorem rev_truncate_refines (v : Vec) (hv : v.RWF) (n : Nat) :
    ∃ r, rtruncate [] v n = .ok r ∧ r.vec.rabs = v.rabs.drop (v.len - n) ∧ r.exit = .ret () ∧ r.vec.cap = v.cap := by
  have hl := hv.shape.2
  obtain ⟨r, h1, h2, h3, -, -, h6⟩ := rrefines_of_eq (rtruncate_eq [] v v.rabs n hv.shape)
    (rfinal_le_of_perm hv (rtruncateSpec_perm [] v.rabs n))
  exact ⟨r, h1, hl ▸ h2.trans (rtruncateSpec_final ..), h3.trans (rtruncateSpec_exit_nil ..), h6⟩

theorem rev_remove_refines (v : Vec) (hv : v.RWF) (i : Nat) :
    ∃ r, rremove v i = .ok r ∧ r.vec.cap = v.cap ∧
      (match v.rabs[i]? with
       | some x => r.vec.rabs = v.rabs.eraseIdx i ∧ r.exit = .ret x
       | none => r.vec.rabs = v.rabs ∧ r.exit = .panic false) := by
  obtain ⟨r, h1, h2, h3, -, -, h6⟩ := rrefines_of_eq (rremove_eq v v.rabs i hv.shape) (rfinal_le_of_perm hv (removeSpec_perm v.rabs i))
  refine ⟨r, h1, h6, ?_⟩
  rw [h2, h3]; unfold removeSpec
  split <;> simp_all

/-- `swap_remove(i)`: the FIRST element takes the place of the removed one -/
theorem rev_swap_remove_refines (v : Vec) (hv : v.RWF) (i : Nat) :
    ∃ r, rswapRemove v i = .ok r ∧ r.vec.cap = v.cap ∧
      (match v.rabs[i]?, v.rabs.head? with
       | some x, some f => r.vec.rabs = (v.rabs.set i f).tail ∧ r.exit = .ret x
       | _, _ => r.vec.rabs = v.rabs ∧ r.exit = .panic false) := by
  obtain ⟨r, h1, h2, h3, -, -, h6⟩ := rrefines_of_eq (rswapRemove_eq v v.rabs i hv.shape)
    (rfinal_le_of_perm hv (rswapRemoveSpec_perm v.rabs i))
  refine ⟨r, h1, h6, ?_⟩
  rw [h2, h3]; unfold rswapRemoveSpec
  split <;> simp_all

theorem rev_insert_refines (env : Env) (v : Vec) (hv : v.RWF) (i : Nat) (id : Id) (hroom : rroom env v 1 = true) :
    ∃ r, rinsert env v i id = .ok r ∧
      (if i ≤ v.len then r.vec.rabs = v.rabs.take i ++ id :: v.rabs.drop i ∧ r.exit = .ret ()
       else r.vec.rabs = v.rabs ∧ r.exit = .panic false) := by
  have hl := hv.shape.2
  have heq := rinsert_eq env v v.rabs i id hv.shape
  by_cases hi : i ≤ v.len
  · have hle := rgrown_cap_le hv (hl ▸ insertSpec_len (rroom env v 1) v.rabs i id)
    rw [if_pos hi] at heq
    obtain ⟨r, h1, h2, h3, -, -, -⟩ := rrefines_of_eq heq hle
    refine ⟨r, h1, ?_⟩
    rw [if_pos hi, h2, h3, insertSpec, if_pos ⟨hl ▸ hi, hroom⟩]
    exact ⟨rfl, rfl⟩
  · have hsp := insertSpec_of_not (room := rroom env v 1) id (fun h => hi (hl ▸ h.1))
    rw [if_neg hi] at heq
    obtain ⟨r, h1, h2, h3, -, -, -⟩ := rrefines_of_eq heq (by rw [hsp, hl]; exact hv.len_le_cap)
    refine ⟨r, h1, ?_⟩
    rw [if_neg hi, h2, h3, hsp]
    exact ⟨rfl, rfl⟩

/-- the clones of `extend_from_slice_clone` are pushed to the front one after the other -/
theorem rextendCloneSpec_rets (ids : List Id) : ∀ (xs : List Id) (o : List Outcome),
    rextendCloneSpec xs ids.length (rets ids ++ o) = { final := ids.reverse ++ xs, exit := .ret (), rest := o } := by
  intro xs o
  rw [rextendCloneSpec_closed, extendCloneSpec_rets, clonedIds_rets]

theorem rev_pop_if_refines (v : Vec) (hv : v.RWF) (b : Nat) (o : List Outcome) :
    ∃ r, rpopIf v (.ret b :: o) = .ok r ∧
      (match v.rabs with
       | [] => r.vec.rabs = [] ∧ r.exit = .ret none
       | x :: rest => if b ≠ 0 then r.vec.rabs = rest ∧ r.exit = .ret (some x) else r.vec.rabs = x :: rest ∧ r.exit = .ret none) := by
  obtain ⟨r, h1, h2, h3, -, -, -⟩ := rrefines_of_eq (rpopIf_eq v v.rabs (.ret b :: o) hv.shape)
    (rfinal_le_of_perm hv (rpopIfSpec_perm ..))
  refine ⟨r, h1, ?_⟩
  rw [h2, h3]; unfold rpopIfSpec
  cases v.rabs with
  | nil => simp
  | cons x rest => simp only; split <;> simp

/-- `resize_with(new_len, f)` on a reverse vector: the produced values are pushed to the front one by one -/
theorem rev_resize_with_refines (env : Env) (v : Vec) (hv : v.RWF) (newLen : Nat) (ids : List Id) (o : List Outcome)
    (hnl : newLen > v.len) (hroom : rroom env v (newLen - v.len) = true) (hids : ids.length = newLen - v.len) :
    ∃ r, rresizeWith env v newLen (rets ids ++ o) = .ok r ∧ r.exit = .ret () ∧ r.vec.rabs = ids.reverse ++ v.rabs := by
  have hl := hv.shape.2
  have heq := rresizeWith_eq env v v.rabs newLen (rets ids ++ o) hv.shape
  have ⟨g, hc⟩ := rgrown_grows (env := env) (n := newLen - v.len) hv
  have := hc hroom
  have h' : newLen > v.rabs.length := hl ▸ hnl
  have hn : newLen - v.rabs.length = ids.length := by rw [hl]; exact hids.symm
  rw [hroom] at heq
  simp only [↓reduceIte, rresizeWithSpec, h', rextendCloneSpecR, hn] at heq
  have hspec : rextendCloneSpec v.rabs ids.length (rets ids ++ o) = { final := ids.reverse ++ v.rabs, exit := .ret (), rest := o } :=
    rextendCloneSpec_rets ids v.rabs o
  rw [hspec] at heq
  obtain ⟨r, h1, h2, h3, -, -, -⟩ := rrefines_of_eq heq (by
    show (ids.reverse ++ v.rabs).length ≤ _
    rw [List.length_append, List.length_reverse, hids, hl, Nat.add_comm]; exact this)
  exact ⟨r, h1, h3, h2⟩

theorem rev_extend_from_slice_clone_refines (env : Env) (v : Vec) (hv : v.RWF) (ids : List Id) (o : List Outcome)
    (hroom : rroom env v ids.length = true) :
    ∃ r, rextendFromSliceClone env v ids.length (rets ids ++ o) = .ok r ∧ r.vec.rabs = ids.reverse ++ v.rabs ∧
      r.exit = .ret () ∧ r.rest = o := by
  have hl := hv.shape.2
  have ⟨g, hc⟩ := rgrown_grows (env := env) (n := ids.length) hv
  have heq := rextendFromSliceClone_eq env v v.rabs ids.length (rets ids ++ o) hv.shape
  rw [hroom] at heq
  simp only [rextendCloneSpecR, ↓reduceIte, rextendCloneSpec_rets] at heq
  have := hc hroom
  obtain ⟨r, h1, h2, h3, h4, -, -⟩ := rrefines_of_eq heq (by simp; omega)
  exact ⟨r, h1, h2, h3, h4⟩

/-- `append(other)` puts `other` IN FRONT -/
theorem rev_append_refines (env : Env) (v other : Vec) (hv : v.RWF) (ho : other.WF) (hroom : rroom env v other.len = true) :
    ∃ r o', rappend env v other = .ok (r, o') ∧ r.exit = .ret () ∧ r.vec.rabs = other.abs ++ v.rabs ∧ o'.len = 0 := by
  have hl := hv.shape.2
  have hlo := ho.shape.2
  have heq := rappend_eq env v other v.rabs other.abs hv.shape ho.shape
  have ⟨g, hc⟩ := rgrown_grows (env := env) (n := other.len) hv
  have := hc hroom
  rw [hroom] at heq
  have hsh := View.after_shape (V := .bwd) (rgrown env v other.len) (rappendSpec true v.rabs other.abs) (by simp [rappendSpec]; omega)
  have ha : ((rgrown env v other.len).rafter (rappendSpec true v.rabs other.abs)).rabs = _ := hsh.abs
  exact ⟨_, _, heq, by simp [rappendSpec], by rw [ha]; simp [rappendSpec], rfl⟩

/-- `splice(start..end, src)` behaves like `Vec::splice`: out-of-range arguments panic and leave the
    contents alone; otherwise the pulls return the front/back of the range, and (no panicking destructors)
    afterwards the vector is `xs[..start] ++ src ++ xs[end..]` — whatever `size_hint` the source reports, as
    long as no reservation for a CLAIMED count overflows; when one does (`spliceWritten … = (w, true)`, only a
    lying source gets there) the call panics and the vector is `xs[..start] ++ w ++ xs[end..]` with `w` the
    prefix of `src` written so far — like `Vec::splice` after a panic inside its `Splice::drop` -/
theorem splice_refines (env : Env) (hk : env.kind = .bump) (hm : env.maxCap = none) (hb : env.bombs = []) (v : Vec) (hv : v.WF) (start end_ : Nat)
    (src : List Id) (hint : Nat) (lie : Option Nat) (maxCap : Nat) (script : List Pull) :
    ∃ r, splice env v start end_ src hint lie maxCap script = .ok r ∧ r.vec.len ≤ r.vec.cap ∧ v.cap ≤ r.vec.cap ∧
      (if start > end_ ∨ end_ > v.len then r.vec.abs = v.abs ∧ r.exit = .panic false
       else
         r.vec.abs = v.abs.take start ++ (spliceWritten (capsOf env v hint lie maxCap) start end_ v.len src).1 ++ v.abs.drop end_ ∧
         r.exit = (if (spliceWritten (capsOf env v hint lie maxCap) start end_ v.len src).2 then .panic false
                   else .ret (pullsSpec ((v.abs.take end_).drop start) script).1)) := by
  have hl := hv.shape.2
  obtain ⟨v', e, h, hc⟩ := splice_holds env hk hm v v.abs start end_ src hint lie maxCap script hv.shape
  have habs : v'.abs = (spliceSpec env.bombs (capsOf env v hint lie maxCap) v.abs start end_ src script).final :=
    h.shape.abs
  have hle : v'.len ≤ v'.cap := h.shape.len_le_cap
  refine ⟨_, e, hle, hc, ?_⟩
  simp only [habs]
  unfold spliceSpec
  by_cases hr : start > end_ ∨ end_ > v.len
  · have hr' : start > end_ ∨ end_ > v.abs.length := by omega
    simp [hr, hr']
  · have hr' : ¬ (start > end_ ∨ end_ > v.abs.length) := by omega
    have hany : ∀ l : List Id, l.any ([] : List Id).contains = false := by intro l; simp
    rw [if_neg hr, if_neg hr', hb]
    simp only [hany, Bool.false_eq_true, ↓reduceIte, hl]
    trivial

/-- an honest source (`lie = none`) on a vector whose sizes are nowhere near the layout bound never runs into
    "capacity overflow": everything is written, as `Vec::splice` does -/
theorem splice_honest_never_overflows (c : SpliceCaps) (start end_ xsLen : Nat) (src : List Id) (hl : c.lie = none)
    (hse : start ≤ end_ ∧ end_ ≤ xsLen)
    (hfit : max (max (c.cap * 2) (xsLen + src.length)) c.minCap ≤ c.maxCap) :
    spliceWritten c start end_ xsLen src = (src, false) := by
  have hlow : ∀ n, spliceLower c.hintCap c.lie n ≤ n := fun n => by
    unfold spliceLower; rw [hl]; exact Nat.min_le_left ..
  have hov : ∀ len add, len ≤ xsLen → add ≤ src.length → c.overflows len add = false := by
    intro len add h1 h2
    rw [SpliceCaps.overflows, Bool.and_eq_false_iff]
    refine .inr (decide_eq_false (Nat.not_lt.2 (Nat.le_trans (Nat.max_le.2 ⟨Nat.max_le.2 ⟨?_, ?_⟩, Nat.le_max_right ..⟩) hfit)))
    · exact Nat.le_trans (Nat.le_max_left ..) (Nat.le_max_left ..)
    · exact Nat.le_trans (Nat.add_le_add h1 h2) (Nat.le_trans (Nat.le_max_right ..) (Nat.le_max_left ..))
  have hmax : ∀ n, n ≤ src.length → ¬ spliceLower c.hintCap c.lie n > c.maxCap := fun n hn =>
    Nat.not_lt.2 (Nat.le_trans (hlow n) (Nat.le_trans (Nat.le_trans hn (Nat.le_add_left ..))
      (Nat.le_trans (Nat.le_trans (Nat.le_max_right ..) (Nat.le_max_left ..)) hfit)))
  unfold spliceWritten
  by_cases h1 : end_ = xsLen
  · rw [if_pos h1, hov start _ (Nat.le_trans hse.1 hse.2) (hlow _), if_neg Bool.false_ne_true]
  · rw [if_neg h1]
    simp only
    by_cases h2 : src.length < end_ - start
    · rw [if_pos h2]
    · have hr : (src.drop (end_ - start)).length ≤ src.length := by rw [List.length_drop]; exact Nat.sub_le ..
      rw [if_neg h2, hov xsLen _ (Nat.le_refl _) (Nat.le_trans (hlow _) hr), if_neg (fun h => Bool.false_ne_true h.2),
        if_neg (Nat.not_lt.2 (hlow _)), if_neg (hmax _ (by rw [List.length_drop]; exact Nat.le_trans (Nat.sub_le ..) hr))]

/-- `v.map(f)` behaves like `v.into_iter().map(f).collect()`: one result per element, in order, and the
    capacity of the result is what the documentation promises: `cap * size_of::<T>() / size_of::<U>()` when the
    buffer is reused (and the length fits it), exactly `len` on the fallback path -/
theorem vec_map_refines (bombs : List Id) (lay : MapLay) (v : Vec) (hv : v.WF) (ids : List Id) (o : List Outcome)
    (hi : ids.length = v.len) :
    ∃ r, vecMap bombs lay v (rets ids ++ o) = .ok r ∧ r.exit = .ret () ∧ r.rest = o ∧ r.vec.abs = ids ∧ r.vec.len = v.len ∧
      r.vec.len ≤ r.vec.cap ∧ r.vec.cap = (if lay.inPlace then v.cap * lay.st / lay.su else v.len) := by
  have hl := hv.shape.2
  have hcap := hv.len_le_cap
  have heq := vecMap_eq bombs lay v v.abs (rets ids ++ o) hv.shape
  by_cases hip : lay.inPlace = true
  · simp only [hip, ↓reduceIte] at heq ⊢
    rw [vecMapSpec_rets false v.abs [] ids o (hi.trans hl.symm)] at heq
    simp only [mapAfter, List.nil_append] at heq
    have hfit : ids.length ≤ v.cap * lay.st / lay.su := by
      simp only [MapLay.inPlace, Bool.and_eq_true, decide_eq_true_eq, bne_iff_ne, ne_eq] at hip
      obtain ⟨⟨⟨_, hsu⟩, _⟩, hle⟩ := hip
      rw [Nat.le_div_iff_mul_le (Nat.pos_of_ne_zero hsu)]
      calc ids.length * lay.su ≤ v.cap * lay.su := Nat.mul_le_mul_right _ (hi ▸ hcap)
        _ ≤ v.cap * lay.st := Nat.mul_le_mul_left _ hle
    generalize v.cap * lay.st / lay.su = N at heq hfit ⊢
    refine ⟨_, heq, rfl, rfl, ?_, rfl, ?_, ?_⟩
    · simp only [Vec.abs, hi.symm]; simp
    · simp only [Vec.cap, List.length_append, length_I, length_H]; exact hi ▸ Nat.le_add_right ..
    · simp only [Vec.cap, List.length_append, length_I, length_H]; exact Nat.add_sub_cancel' hfit
  · simp only [hip, Bool.false_eq_true, ↓reduceIte] at heq ⊢
    rw [vecMapSpec_rets true v.abs [] ids o (hi.trans hl.symm)] at heq
    simp only [mapAfter, List.nil_append] at heq
    refine ⟨_, heq, rfl, rfl, ?_, hi, ?_, ?_⟩
    · simp only [Vec.abs]; simp
    · simp only [Vec.cap, List.length_append, length_I, length_H]; exact Nat.le_add_right ..
    · simp only [Vec.cap, List.length_append, length_I, length_H]; exact Nat.add_sub_cancel' (Nat.le_of_eq hi)

/-- the three layout cases of `generic_map` (`bump_vec.rs` l.2364), and the zero-sized ones -/
example : ({ st := 16, su := 16 } : MapLay).inPlace = true ∧ ({ st := 16, su := 8 } : MapLay).inPlace = true ∧
    ({ st := 16, su := 24 } : MapLay).inPlace = false ∧ ({ st := 16, su := 16, alignOk := false } : MapLay).inPlace = false ∧
    ({ st := 0, su := 8 } : MapLay).inPlace = false ∧ ({ st := 16, su := 0 } : MapLay).inPlace = false := by decide

/-! ## histories (`Coll/Run.lean`): every finite sequence of modelled operations refines the same
   sequence on plain lists -/

/-- one step: the contents afterwards are what the list-level operation gives (for every behaviour of
    the callbacks, incl. panics and panicking destructors); needs only the shape, not freshness -/
theorem step_refines (env : Env) (v : Vec) (op : Op) (hv : v.WF) :
    ∃ v', stepVec env v op = .ok v' ∧ v'.abs = specStep env.bombs v.abs (roomOf env v op) op := by
  have hl := hv.shape.2
  have lift : ∀ {α : Type} {res : M (Out α)} {w : Vec} {r : SpecOut α} {e : Exit α} {rest : List Outcome},
      res = .ok ⟨w.after r, e, rest⟩ → ∃ v', res.map (·.vec) = .ok v' ∧ v'.abs = r.final := by
    intro α res w r e rest h
    exact ⟨_, by rw [h]; rfl, after_abs w r⟩
  cases op with
  | retain o => exact lift (retain_eq env.bombs v v.abs o hv.shape)
  | dedupBy o => exact lift (dedupBy_eq env.bombs v v.abs o hv.shape)
  | dedupByKey o =>
    obtain ⟨r', h1, h2, _⟩ := proj_ok (dedupByKey_pair env.bombs v o) (dedupBy_eq env.bombs v v.abs (pairUp o) hv.shape)
    exact ⟨r'.vec, by simp only [stepVec]; rw [h1]; rfl, by rw [h2]; exact after_abs _ _⟩
  | truncate n => exact lift (truncate_eq env.bombs v v.abs n hv.shape)
  | clear => exact lift (clear_eq env.bombs v v.abs hv.shape)
  | pop => exact lift (pop_eq v v.abs hv.shape)
  | popIf o => exact lift (popIf_eq v v.abs o hv.shape)
  | remove i => exact lift (remove_eq v v.abs i hv.shape)
  | swapRemove i => exact lift (swapRemove_eq v v.abs i hv.shape)
  | push id => exact lift (push_eq env v v.abs id hv.shape)
  | insert i id => exact lift (insert_eq env v v.abs i id hv.shape)
  | extendClone n o => exact lift (extendFromSliceClone_eq env v v.abs n o hv.shape)
  | extendWithin s e o =>
    by_cases hr : s ≤ e ∧ e ≤ v.len
    · have hr' : s ≤ e ∧ e ≤ v.abs.length := by omega
      simp only [stepVec, specStep, roomOf, hr', and_self, ↓reduceIte]
      rw [extendFromWithinClone_eq env v v.abs s e o hv.shape hr]
      exact lift (extendFromSliceClone_eq env v v.abs (e - s) o hv.shape)
    · have hr' : ¬ (s ≤ e ∧ e ≤ v.abs.length) := by omega
      simp only [stepVec, specStep, hr', ↓reduceIte]
      rw [extendFromWithinClone_bad env v s e o (by omega)]
      exact ⟨v, rfl, rfl⟩
  | resize n value o => exact lift (resize_eq env v v.abs n value o hv.shape)
  | resizeWith n o => exact lift (resizeWith_eq env v v.abs n o hv.shape)
  | drain s e script fin => exact lift (drain_eq env.bombs v v.abs s e script fin hv.shape)
  | extractIf calls o => exact lift (extractIf_eq v v.abs calls o hv.shape)
  | mapInPlace o => exact lift (mapInPlace_eq env.bombs v v.abs o hv.shape)

/-- HISTORY LEVEL: from a well-formed vector, the contents after EVERY finite sequence of modelled
    operations (ids brought in fresh) are the contents the same sequence produces on a plain list, given
    the allocation results; the run never faults -/
theorem history_refines (env : Env) (ops : List Op) : ∀ (v : Vec), v.WF → (v.total ++ insRun env v ops).Nodup →
    run env v ops = .ok (runD env v ops) ∧
      (runD env v ops).abs = specRun env.bombs v.abs ops (roomsRun env v ops) := by
  induction ops with
  | nil => intro v _ _; simp [run, runD, specRun]
  | cons op ops ih =>
    intro v hv hfresh
    have hsub : (v.total ++ insOf env v op).Nodup := by
      simp only [insRun] at hfresh
      rw [← List.append_assoc] at hfresh
      exact (List.nodup_append.mp hfresh).1
    obtain ⟨v', hstep, hwf, hp⟩ := C06.step_drops_once env v op hv hsub
    obtain ⟨v'', hstep', habs⟩ := step_refines env v op hv
    have hv'' : v'' = v' := by rw [hstep] at hstep'; exact (Except.ok.inj hstep').symm
    subst hv''
    have hD : stepD env v op = v'' := by simp [stepD, hstep]
    simp only [insRun, hD] at hfresh
    rw [← List.append_assoc] at hfresh
    have hfresh' : (v''.total ++ insRun env v'' ops).Nodup :=
      (hp.append_right _).nodup_iff.mpr hfresh
    obtain ⟨h1, h2⟩ := ih v'' hwf hfresh'
    simp only [run, runD, roomsRun, specRun, hstep, hD]
    exact ⟨h1, by rw [h2, habs]⟩

/-- a `BumpVec` never refuses a reservation (allocation failure aborts / is C07's), so its histories
    refine the list-level run with every reservation granted -/
theorem roomsRun_bump (env : Env) (hk : env.kind = .bump) (hm : env.maxCap = none) (ops : List Op) : ∀ v : Vec,
    roomsRun env v ops = ops.map fun _ => true := by
  induction ops with
  | nil => intro v; rfl
  | cons op ops ih =>
    intro v
    simp only [roomsRun, List.map_cons, ih]
    congr 1
    -- `reserveOne_bump`, `reserve_bump` are this namespace's `isSome` forms (`Coll.reserve_bump` says `∃ v', … = some v'`)
    have h1 := reserveOne_bump env v hk hm
    unfold roomOne at h1
    cases op <;> simp [roomOf, h1, reserve_bump env v _ hk hm]

/-- at the end of every history the length is within the capacity -/
theorem history_len_le_cap (env : Env) (ops : List Op) (v : Vec) (hv : v.WF)
    (hfresh : (v.total ++ insRun env v ops).Nodup) : (runD env v ops).len ≤ (runD env v ops).cap :=
  (C06.history_drops_once env ops v hv hfresh).2.1.len_le_cap

/-- non-vacuity: the history of `Props/C06.lean` on plain lists: `[1,2,3]` → push 4 → retain (keep 1, remove 2,
    panic) → drain(0..2) → resize_with(4) whose closure panics at the second call: `[4,7]` -/
example : specRun [2] [1, 2, 3]
      [.push 4, .retain [.ret 1, .ret 0, .panic], .drain 0 2 [.front] .drop, .resizeWith 4 [.ret 7, .panic]]
      [true, true, true, true] = [4, 7] := by decide

example : roomsRun { bombs := [2], kind := .bump, capIn := 8 } (Vec.mk' [1, 2, 3] 0)
      [.push 4, .retain [.ret 1, .ret 0, .panic], .drain 0 2 [.front] .drop, .resizeWith 4 [.ret 7, .panic]] =
    [true, true, true, true] := by decide

/-- non-vacuity: `[1,2,3,4,5].retain(|x| answers 1,0,1,1,0)` on a vector with 2 spare slots -/
example : ∃ r, retain [] (Vec.mk' [1, 2, 3, 4, 5] 2) (rets [1, 0, 1, 1, 0]) = .ok r ∧ r.vec.abs = [1, 3, 4] ∧ r.vec.cap = 7 :=
  ⟨_, rfl, by decide, by decide⟩

example : (Vec.mk' [1, 2, 3, 4, 5] 2).WF := ⟨⟨[1, 2, 3, 4, 5], by decide, by decide⟩, by decide⟩

end C08
