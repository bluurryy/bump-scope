/-
  Props/C02.lean — property C02: bytes of a live block change only through its owner.

  Theorems about the memory functions of the arena model (`Arena/Model.lean`, `Arena/Step.lean`):
  which bytes `writeRange` / `copyBytes` / `zeroRange` touch, that the allocation, deallocation,
  reserve and reset paths never write, and frame + prefix-preservation theorems for every
  reallocating operation (`grow`, `shrink`, `WithoutShrink::shrink`, `shrink_slice`,
  `allocate_prepared(_rev)`, `allocate_prepared_slice(_rev)`).

  Hypotheses (definitions in namespace `Arena.Mem`: `Lemmas/MemBasic.lean`, `MemWrite.lean`, `MemFresh.lean`;
  `Realloc` in `MemOps.lean`; `LiveOK`, `CurPosOK` in `MemPlaced.lean`, `SlowTry` in `MemAlloc.lean`):
  * `MemWF s`      : chunk address ranges pairwise disjoint, every chunk carries `size` bytes;
  * `HeadFresh s`  : the next base-allocator response (if a grant) overlaps no existing chunk;
  * `InChunks s a` : `a` is an address of some chunk of `s` (bytes outside every chunk are not
                     memory of the arena; `readByte` returns 0 for them).
  `Realloc s s' ptr np n total` : the first `n` bytes of `[np, …)` in `s'` equal those of `[ptr, …)`
  in `s`, and no byte of a chunk of `s` outside `[np, np+total)` changed.
-/
import BumpProof.Lemmas.MemOps
import BumpProof.Lemmas.MemSlow
import BumpProof.Lemmas.MemExLive

namespace C02
open Arena Arena.Mem Rs

/-! ## `writeRange`, `copyBytes`, `zeroRange` -/

theorem writeRange_inside {cfg : Cfg} {s s' : State} {lo hi : Nat} {f : Nat → UInt8}
    (hwf : MemWF s) (h : writeRange cfg s lo hi f = .ok s') {a : Nat} (h1 : lo ≤ a) (h2 : a < hi) :
    readByte s' a = f a :=
  writeRange_read_in hwf.1 hwf.2 h h1 h2

/-- a write changes no byte outside `[lo, hi)` (no well-formedness needed) -/
theorem writeRange_outside {cfg : Cfg} {s s' : State} {lo hi : Nat} {f : Nat → UInt8}
    (h : writeRange cfg s lo hi f = .ok s') {a : Nat} (h1 : a < lo ∨ hi ≤ a) :
    readByte s' a = readByte s a :=
  writeRange_read_out h h1

/-- a write changes nothing but chunk bytes: positions, chunk geometry, current chunk, live blocks,
    frames, … are untouched -/
theorem writeRange_only_data {cfg : Cfg} {s s' : State} {lo hi : Nat} {f : Nat → UInt8}
    (h : writeRange cfg s lo hi f = .ok s') :
    s' = { s with chunks := s'.chunks } ∧ s'.chunks.map Chunk.memGeom = s.chunks.map Chunk.memGeom :=
  writeRange_onlyData h

/-- a successful non-empty write stays inside the content range (not the header) of one chunk -/
theorem writeRange_in_content {cfg : Cfg} {s s' : State} {lo hi : Nat} {f : Nat → UInt8}
    (h : writeRange cfg s lo hi f = .ok s') (hlt : lo < hi) :
    ∃ c ∈ s.chunks, c.contentStart cfg ≤ lo ∧ hi ≤ c.contentEnd cfg := by
  rcases writeRange_ok h with ⟨h0, _⟩ | ⟨_, i, c, hc, _, _, h3, h4, _⟩
  · omega
  · exact ⟨c, List.mem_of_getElem? hc, h3, h4⟩

/-- memmove semantics, also for overlapping ranges -/
theorem copyBytes_dst {cfg : Cfg} {s s' : State} {src dst len : Nat} {b : Bool}
    (hwf : MemWF s) (h : copyBytes cfg s src dst len b = .ok s') {k : Nat} (hk : k < len) :
    readByte s' (dst + k) = readByte s (src + k) :=
  copyBytes_read_dst hwf h hk

theorem copyBytes_outside {cfg : Cfg} {s s' : State} {src dst len : Nat} {b : Bool}
    (h : copyBytes cfg s src dst len b = .ok s') {a : Nat} (ha : a < dst ∨ dst + len ≤ a) :
    readByte s' a = readByte s a :=
  writeRange_read_out (copyBytes_writeRange h) ha

theorem copyBytes_only_data {cfg : Cfg} {s s' : State} {src dst len : Nat} {b : Bool}
    (h : copyBytes cfg s src dst len b = .ok s') :
    s' = { s with chunks := s'.chunks } ∧ s'.chunks.map Chunk.memGeom = s.chunks.map Chunk.memGeom :=
  copyBytes_onlyData h

/-- `copy_nonoverlapping` with overlapping ranges is a fault (UB), never a silent success -/
theorem copyBytes_nonoverlapping_faults (cfg : Cfg) (s : State) {src dst len : Nat}
    (hlen : 0 < len) (h1 : src < dst + len) (h2 : dst < src + len) :
    ∃ what, copyBytes cfg s src dst len true = .error (.ub what) := by
  unfold copyBytes
  rw [if_neg (by omega), if_pos ⟨by simp, h1, h2⟩]
  exact ⟨_, rfl⟩

/-- zeroing: the range reads 0 afterwards whatever it held before -/
theorem zeroRange_zero {cfg : Cfg} {s s' : State} {addr len : Nat} (hwf : MemWF s)
    (h : zeroRange cfg s addr len = .ok s') {a : Nat} (h1 : addr ≤ a) (h2 : a < addr + len) :
    readByte s' a = 0 :=
  writeRange_read_in hwf.1 hwf.2 h h1 h2

theorem zeroRange_outside {cfg : Cfg} {s s' : State} {addr len : Nat}
    (h : zeroRange cfg s addr len = .ok s') {a : Nat} (h1 : a < addr ∨ addr + len ≤ a) :
    readByte s' a = readByte s a :=
  writeRange_read_out h h1

/-! ## Operations that never write -/

/-- allocation (fast path, next chunk, new chunk) changes no byte of an existing chunk -/
theorem alloc_never_writes {cfg : Cfg} {s s' : State} {L : Layout} {r : Except AErr Nat}
    (h : alloc cfg s L = .ok (s', r)) {a : Nat} (ha : InChunks s a) : readByte s' a = readByte s a :=
  (alloc_memExt h).readByte ha

/-- the typed fast paths / prepare paths (`allocGeneric` for `alloc`, `prepare`, `range`) -/
theorem allocGeneric_never_writes {cfg : Cfg} {k : Kind} {s s' : State} {L : Layout} {hh hSlow : Hints}
    {r : Except AErr (Nat × Nat)} (h : allocGeneric cfg k s L hh hSlow = .ok (s', r)) {a : Nat}
    (ha : InChunks s a) : readByte s' a = readByte s a :=
  (MemExt.of_path (Fn.allocGeneric_path h)).readByte ha

theorem deallocate_never_writes {cfg : Cfg} {s s' : State} {ptr size : Nat}
    (h : deallocate cfg s ptr size = .ok s') (a : Nat) : readByte s' a = readByte s a :=
  readByte_congr (memOf_of_path (Fn.deallocate_path h)) a

theorem reserve_never_writes {cfg : Cfg} {s s' : State} {n : Nat} {r : Except AErr Unit}
    (h : reserve cfg s n = .ok (s', r)) {a : Nat} (ha : InChunks s a) : readByte s' a = readByte s a :=
  (MemExt.of_path (Hist.reserve_path h)).readByte ha

theorem reserveDyn_never_writes {cfg : Cfg} {s s' : State} {n : Nat} {r : Except AErr Unit}
    (h : reserveDyn cfg s n = .ok (s', r)) {a : Nat} (ha : InChunks s a) : readByte s' a = readByte s a :=
  (MemExt.of_path (Hist.reserveDyn_path h)).readByte ha

theorem makeAllocated_never_writes {cfg : Cfg} {s s' : State} {r : Except AErr Unit}
    (h : makeAllocated cfg s = .ok (s', r)) {a : Nat} (ha : InChunks s a) : readByte s' a = readByte s a :=
  (MemExt.of_path (Fn.makeAllocated_path h)).readByte ha

theorem resetTo_never_writes {cfg : Cfg} {s s' : State} {cp : Checkpoint}
    (h : resetTo cfg s cp = .ok s') (a : Nat) : readByte s' a = readByte s a :=
  readByte_congr (memOf_of_path (Fn.resetTo_path h)) a

theorem resetToStart_never_writes (cfg : Cfg) (s : State) (a : Nat) :
    readByte (resetToStart cfg s) a = readByte s a :=
  readByte_congr (memOf_of_path (Fn.resetToStart_path cfg s)) a

/-- `reset` frees all chunks but the last; the bytes of the chunk that survives are untouched -/
theorem reset_never_writes (cfg : Cfg) (s : State) (hd : ChunksDisjoint s.chunks) {a : Nat}
    (ha : InChunks (reset cfg s) a) : readByte (reset cfg s) a = readByte s a := by
  unfold reset at ha ⊢
  split
  · rename_i i hcur
    simp only [hcur] at ha
    split
    · rfl
    · rename_i last hlast
      simp only [hlast] at ha
      obtain ⟨c, hc, h1, h2⟩ := ha
      rw [List.mem_singleton.mp hc] at h1 h2
      rw [List.getLast?_eq_getElem?] at hlast
      rw [readByte_of_findIdx? (findIdx?_owner hd hlast h1 h2) hlast,
        readByte_of_findIdx? (findIdx?_owner (List.pairwise_singleton _ _) (i := 0) rfl h1 h2) rfl]
      rfl
  · rfl

theorem alignTo_never_writes {cfg : Cfg} {s s' : State} {n : Nat}
    (h : alignTo cfg s n = .ok s') (a : Nat) : readByte s' a = readByte s a :=
  readByte_congr (memOf_of_path (Fn.alignTo_path h)) a

theorem alignGuardDrop_never_writes {cfg : Cfg} {s s' : State} {n : Nat}
    (h : alignGuardDrop cfg s n = .ok s') (a : Nat) : readByte s' a = readByte s a :=
  readByte_congr (memOf_of_path (Fn.alignGuardDrop_path h)) a

/-- the second half of `BumpAlignGuard::drop` (re-aligning the chunk the guard started in) writes no byte -/
theorem alignChunkAt_never_writes {cfg : Cfg} {s s' : State} {n : Nat} {st : Cur}
    (h : alignChunkAt cfg s n st = .ok s') (a : Nat) : readByte s' a = readByte s a :=
  readByte_congr (memOf_of_path (Fn.alignChunkAt_path h)) a

/-- the chunk list stays well-formed across an allocation when the base allocator grants fresh memory -/
theorem alloc_keeps_wf {cfg : Cfg} {s s' : State} {L : Layout} {r : Except AErr Nat}
    (hwf : MemWF s) (hfr : HeadFresh s) (h : alloc cfg s L = .ok (s', r)) : MemWF s' :=
  alloc_wfPres h hwf hfr

/-! ## Reallocation: prefix preserved, nothing outside the new block written -/

/-- `grow`, every branch (in place upwards; in place downwards with overlapping or non-overlapping
    copy; moved within the chunk, to the next chunk or to a new chunk) -/
theorem grow_realloc {cfg : Cfg} {s s' : State} {ptr oldSize np : Nat} {newL : Layout}
    (hwf : MemWF s) (hfr : HeadFresh s) (hold : ∀ k, k < oldSize → InChunks s (ptr + k))
    (h : grow cfg s ptr oldSize newL = .ok (s', .ok np)) :
    Realloc s s' ptr np oldSize newL.size ∧ oldSize ≤ newL.size :=
  (grow_cases h).realloc hwf hfr hold

/-- `shrink` (fits / does not fit the new alignment, upwards / downwards, `SHRINKS` on or off) -/
theorem shrink_realloc {cfg : Cfg} {s s' : State} {ptr oldSize np nsize : Nat} {newL : Layout}
    (hwf : MemWF s) (hfr : HeadFresh s) (hold : ∀ k, k < newL.size → InChunks s (ptr + k))
    (h : shrink cfg s ptr oldSize newL = .ok (s', .ok (np, nsize))) :
    Realloc s s' ptr np newL.size nsize :=
  ((shrink_cases h).realloc hwf hfr hold).1

theorem shrinkWithoutShrink_realloc {cfg : Cfg} {s s' : State} {ptr oldSize np nsize : Nat} {newL : Layout}
    (hwf : MemWF s) (hfr : HeadFresh s) (hold : ∀ k, k < newL.size → InChunks s (ptr + k))
    (h : shrinkWithoutShrink cfg s ptr oldSize newL = .ok (s', .ok (np, nsize))) :
    Realloc s s' ptr np newL.size nsize ∧ nsize = newL.size :=
  let ⟨hr, hn⟩ := shrinkWithoutShrink_cases h
  ⟨(hr.realloc hwf hfr hold).1, hn _ rfl⟩

theorem shrinkSlice_realloc {cfg : Cfg} {s s' : State} {ptr oldSize newSize ealign np : Nat}
    (hwf : MemWF s) (hold : ∀ k, k < newSize → InChunks s (ptr + k))
    (h : shrinkSlice cfg s ptr oldSize newSize ealign = .ok (s', some np)) :
    Realloc s s' ptr np newSize newSize :=
  Slid.realloc (shrinkSlice_cases h) (.refl s) hwf hold (Nat.le_refl _)

/-- `shrink_slice` that declines does nothing at all -/
theorem shrinkSlice_declined {cfg : Cfg} {s s' : State} {ptr oldSize newSize ealign : Nat}
    (h : shrinkSlice cfg s ptr oldSize newSize ealign = .ok (s', none)) : s' = s :=
  shrinkSlice_cases h

/-- `allocate_prepared(_rev)`: the committed block holds what the used part of the prepared range
    held (`[rend - size, rend)` for the rev variant, `[rstart, rstart + size)` otherwise) -/
theorem allocatePrepared_realloc {cfg : Cfg} {s s' : State} {size rstart rend addr : Nat} {rev : Bool}
    (hwf : MemWF s) (hold : ∀ k, k < size → InChunks s ((if rev then rend - size else rstart) + k))
    (h : allocatePrepared cfg s size rstart rend rev = .ok (s', addr)) :
    Realloc s s' (if rev then rend - size else rstart) addr size size :=
  (Hist.allocatePrepared_commit h).realloc hwf

theorem allocatePreparedSlice_realloc {cfg : Cfg} {s s' : State} {ptr len cap esize ealign addr : Nat} {rev : Bool}
    (hwf : MemWF s)
    (hold : ∀ k, k < len * esize → InChunks s ((if rev then ptr - len * esize else ptr) + k))
    (h : allocatePreparedSlice cfg s ptr len cap esize ealign rev = .ok (s', addr)) :
    Realloc s s' (if rev then ptr - len * esize else ptr) addr (len * esize) (len * esize) :=
  have := (Hist.allocatePreparedSlice_commit h).realloc hwf
  by cases rev <;> exact this

/-! ## Zeroed allocation and zeroed grow (as `stepCore` composes them) -/

/-- `allocate_zeroed`: the new block reads 0 (even if the memory was used before) and no other byte
    of an existing chunk changed -/
theorem allocate_zeroed {cfg : Cfg} {s s1 s2 : State} {L : Layout} {p : Nat}
    (hwf : MemWF s) (hfr : HeadFresh s)
    (h1 : alloc cfg s L = .ok (s1, .ok p)) (h2 : zeroRange cfg s1 p L.size = .ok s2) :
    (∀ a, p ≤ a → a < p + L.size → readByte s2 a = 0) ∧
    (∀ a, (a < p ∨ p + L.size ≤ a) → InChunks s a → readByte s2 a = readByte s a) := by
  have hwf1 := alloc_wfPres h1 hwf hfr
  refine ⟨fun a ha hb => zeroRange_zero hwf1 h2 ha hb, fun a ha hin => ?_⟩
  rw [zeroRange_outside h2 ha, (alloc_memExt h1).readByte hin]

/-- `grow_zeroed`: old contents carried over, the new tail reads 0, nothing outside the new block
    changed -/
theorem grow_zeroed {cfg : Cfg} {s s1 s2 : State} {ptr oldSize np : Nat} {newL : Layout}
    (hwf : MemWF s) (hfr : HeadFresh s) (hold : ∀ k, k < oldSize → InChunks s (ptr + k))
    (h1 : grow cfg s ptr oldSize newL = .ok (s1, .ok np))
    (h2 : zeroRange cfg s1 (np + oldSize) (newL.size - oldSize) = .ok s2) :
    (∀ k, k < oldSize → readByte s2 (np + k) = readByte s (ptr + k)) ∧
    (∀ k, oldSize ≤ k → k < newL.size → readByte s2 (np + k) = 0) ∧
    (∀ a, (a < np ∨ np + newL.size ≤ a) → InChunks s a → readByte s2 a = readByte s a) := by
  have hwf1 := (grow_cases h1).wfPres hwf hfr
  obtain ⟨hr, hle⟩ := grow_realloc hwf hfr hold h1
  refine ⟨fun k hk => ?_, fun k hk1 hk2 => ?_, fun a ha hin => ?_⟩
  · rw [zeroRange_outside h2 (by omega)]; exact hr.prefix_eq k hk
  · exact zeroRange_zero hwf1 h2 (by omega) (by omega)
  · rw [zeroRange_outside h2 (by omega)]; exact hr.frame a ha hin

/-! ## Live blocks across whole operations of `stepCore` (uses the C01 invariant `LiveOK`) -/

/-- `allocate` / `allocate_zeroed` (any path: fast, next chunk, new chunk, refused) leaves every byte of
    every block that was live before untouched — also when the new block is zeroed.
    Hypotheses as for `C01.stepCore_allocate`. -/
theorem stepCore_allocate_keeps_live_bytes {cfg : Cfg} {g g' : GState} {L : Layout} {zeroed : Bool} {via : Via}
    {out : Out}
    (hl : LiveOK cfg g.s) (hwf : MemWF g.s) (hfr : HeadFresh g.s) (hp : CurPosOK cfg g.s)
    (hv : C11.Valid cfg.up (bumpProps cfg g.s L Hints.custom))
    (hvslow : ∀ t i' ct, SlowTry cfg g.s t i' ct → C11.Valid cfg.up (bumpProps cfg t L Hints.custom))
    (h : stepCore cfg g (.allocate L zeroed via) = .ok (g', out))
    {b : Block} (hb : b ∈ g.s.live) {k : Nat} (hk : k < b.size) :
    readByte g'.s (b.addr + k) = readByte g.s (b.addr + k) := by
  have hin : InChunks g.s (b.addr + k) := by
    obtain ⟨i, j, c, _, _, hc, hcont, _⟩ := hl.placed b hb (by omega)
    have := inContent_in_chunk hcont
    exact ⟨c, List.mem_of_getElem? hc, by omega, by omega⟩
  obtain ⟨_, _, s1, r1, ha, hcase⟩ := Hist.ok_allocate h
  have h1 : readByte s1 (b.addr + k) = readByte g.s (b.addr + k) := (alloc_memExt ha).readByte hin
  cases r1 with
  | error e => rw [hcase.1]; exact h1
  | ok p =>
    obtain ⟨s2, hz, rfl, _⟩ := hcase
    show readByte s2 _ = _
    rw [← h1]
    cases zeroed
    · cases hz; rfl
    · -- the zeroed block is disjoint from `b`
      have hd := (alloc_allocOutcome hl hwf hfr hp hv hvslow ha).1.disj b ((alloc_grown ha).ghost.1 ▸ hb)
      apply zeroRange_outside (show zeroRange cfg s1 p L.size = .ok s2 from hz)
      unfold RangesDisjoint at hd
      omega

/-- `deallocate` (through any wrapper) changes no byte at all -/
theorem stepCore_deallocate_never_writes {cfg : Cfg} {g g' : GState} {b : Nat} {via : Via} {out : Out}
    (h : stepCore cfg g (.deallocate b via) = .ok (g', out)) (a : Nat) : readByte g'.s a = readByte g.s a := by
  obtain ⟨blk, s', _, _, hs', rfl⟩ := stepCore_deallocate_inv h
  rcases hs' with rfl | hs'
  · rfl
  · exact readByte_congr (memOf_of_path (Fn.deallocate_path hs')) a

/-- leaving a scope changes no byte at all -/
theorem stepCore_scopeExit_never_writes {cfg : Cfg} {g g' : GState} {out : Out}
    (h : stepCore cfg g .scopeExit = .ok (g', out)) (a : Nat) : readByte g'.s a = readByte g.s a := by
  obtain ⟨_, cp, rest, m, ms, s', _, _, hs', rfl, _⟩ := Hist.ok_scopeExit h
  exact readByte_congr (memOf_of_path (Fn.resetTo_path hs')) a

/-! ## Non-vacuity: concrete states / inputs meeting the hypotheses (see `Lemmas/MemEx.lean`) -/

section NonVacuity
open Arena.Mem.Ex

example : MemWF stUp ∧ HeadFresh stUp ∧ ∀ k, k < 8 → InChunks stUp (96 + k) :=
  ⟨stUp_wf, stUp_fresh, fun k hk => stUp_in _ (by omega) (by omega)⟩
example : MemWF stDown ∧ HeadFresh stDown ∧ ∀ k, k < 8 → InChunks stDown (80 + k) :=
  ⟨stDown_wf, stDown_fresh, fun k hk => stDown_in _ (by omega) (by omega)⟩

example : ∃ s', writeRange cfgUp stUp 96 104 (fun _ => 1) = .ok s' := ⟨_, rfl⟩
example : ∃ s', copyBytes cfgUp stUp 96 100 8 false = .ok s' := ⟨_, rfl⟩      -- overlapping memmove
example : ∃ s', zeroRange cfgUp stUp 96 8 = .ok s' := ⟨_, rfl⟩
example : ∃ s' p, alloc cfgUp stUp { size := 8, align := 8 } = .ok (s', .ok p) := ⟨_, _, rfl⟩
example : ∃ s', deallocate cfgUp stUp 96 8 = .ok s' := ⟨_, rfl⟩
example : ∃ s' r, reserve cfgUp stUp 8 = .ok (s', r) := ⟨_, _, rfl⟩
example : ∃ s', resetTo cfgUp stUp { cur := .chunk 0, addr := 96 } = .ok s' := ⟨_, rfl⟩
example : ∃ s', alignTo cfgUp stUp 8 = .ok s' := ⟨_, rfl⟩
example : InChunks (reset cfgUp stUp) 100 ∧ ChunksDisjoint stUp.chunks :=
  ⟨⟨chunkUp.resetPos cfgUp, by simp [reset, stUp], by decide, by decide⟩, stUp_wf.1⟩
example : ∃ s' np, grow cfgUp stUp 96 8 { size := 16, align := 1 } = .ok (s', .ok np) := ⟨_, _, rfl⟩
example : ∃ s' np, grow cfgDown stDown 80 8 { size := 12, align := 1 } = .ok (s', .ok np) := ⟨_, _, rfl⟩
-- a grow that must move the block into a freshly granted chunk
example : MemWF stUpR ∧ HeadFresh stUpR := ⟨stUpR_wf, stUpR_fresh⟩
-- evaluating the slow path (a new 1024-byte chunk is built) by `rfl` exceeds the default recursion depth
set_option maxRecDepth 100000 in
example : ∃ s' np, grow cfgUp stUpR 96 8 { size := 200, align := 1 } = .ok (s', .ok np) := ⟨_, _, rfl⟩
example : ∃ s' r, shrink cfgUp stUp 96 8 { size := 4, align := 1 } = .ok (s', .ok r) := ⟨_, _, rfl⟩
example : ∃ s' r, shrink cfgDown stDown 80 8 { size := 4, align := 1 } = .ok (s', .ok r) := ⟨_, _, rfl⟩
example : ∃ s' r, shrinkWithoutShrink cfgUp stUp 96 8 { size := 4, align := 1 } = .ok (s', .ok r) := ⟨_, _, rfl⟩
example : ∃ s' r, shrinkSlice cfgDown stDown 80 8 4 1 = .ok (s', some r) := ⟨_, _, rfl⟩
example : ∃ s', shrinkSlice cfgUp { stUp with chunks := [{ chunkUp with pos := 112 }] } 96 8 4 1 = .ok (s', none) :=
  ⟨_, rfl⟩
example : ∃ s' r, allocatePrepared cfgUp stUp 4 104 128 true = .ok (s', r) := ⟨_, _, rfl⟩
example : ∃ s' r, allocatePreparedSlice cfgUp stUp 128 2 3 4 4 true = .ok (s', r) := ⟨_, _, rfl⟩
example : ∃ s1 p s2, alloc cfgUp stUp { size := 8, align := 8 } = .ok (s1, .ok p) ∧
    zeroRange cfgUp s1 p 8 = .ok s2 := ⟨_, _, _, rfl, rfl⟩
example : ∃ s1 np s2, grow cfgUp stUp 96 8 { size := 16, align := 1 } = .ok (s1, .ok np) ∧
    zeroRange cfgUp s1 (np + 8) (16 - 8) = .ok s2 := ⟨_, _, _, rfl, rfl⟩

-- `stepCore_allocate_keeps_live_bytes`: hypotheses hold for a zeroed fast-path allocation and for an
-- allocation that needs a new chunk; block 0 (`[96, 104)`) is live in both states
example : LiveOK cfgUp stUp ∧ MemWF stUp ∧ HeadFresh stUp ∧ CurPosOK cfgUp stUp ∧
    C11.Valid cfgUp.up (bumpProps cfgUp stUp L8 Hints.custom) ∧
    (∀ t i' ct, SlowTry cfgUp stUp t i' ct → C11.Valid cfgUp.up (bumpProps cfgUp t L8 Hints.custom)) ∧
    blk 96 ∈ stUp.live ∧
    ∃ g' out, stepCore cfgUp { s := stUp, marks := [] } (.allocate L8 true .plain) = .ok (g', out) :=
  ⟨stUp_liveOK, stUp_wf, stUp_fresh, stUp_curPosOK, exValidUp, stUp_noSlow, by simp [stUp], stUp_allocate⟩
example : LiveOK cfgUp stUpR ∧ MemWF stUpR ∧ HeadFresh stUpR ∧ CurPosOK cfgUp stUpR ∧
    C11.Valid cfgUp.up (bumpProps cfgUp stUpR L200 Hints.custom) ∧
    (∀ t i' ct, SlowTry cfgUp stUpR t i' ct → C11.Valid cfgUp.up (bumpProps cfgUp t L200 Hints.custom)) ∧
    blk 96 ∈ stUpR.live :=
  ⟨stUpR_liveOK, stUpR_wf, stUpR_fresh, stUpR_curPosOK, exValidUpR, stUpR_slowValid, by simp [stUpR, stUp]⟩
example : ∃ g' out, stepCore cfgUp { s := stUp, marks := [] } (.deallocate 0 .plain) = .ok (g', out) := stUp_deallocate
example : ∃ g' out, stepCore cfgUp gScope .scopeExit = .ok (g', out) := gScope_exit

end NonVacuity

/-- RESOLUTION (Props/Targets.lean): NOT resolved as stated (case C) — `C02.live_bytes_preserved_corrected` proves it
    with `Arena.Hist.Inv` as witness for admissible configurations (`CfgOK`), covered operations and `RespsSane`
    responses below `2^63` (see `C01.liveOK_invariant_corrected` for what the statement below asks beyond that).
    History forms: `C02.reachable_live_bytes`, `C02.history_live_bytes` (Props/Hist.lean).
    The statement: in every state satisfying an inductive invariant (as in `C01.liveOK_invariant_target`), a step
    that does not fault leaves every byte of every block that stays live (and is not the target of a `.write`)
    unchanged. -/
def live_bytes_preserved_target : Prop :=
  ∃ Inv : Cfg → GState → Prop,
    (∀ cfg, Inv cfg { s := initState cfg, marks := [] }) ∧
    (∀ cfg g op resps g' out reqs, Inv cfg g → RespsSane cfg g.s resps →
      step cfg g op resps = .ok (g', out, reqs) → Inv cfg g') ∧
    (∀ cfg g op resps g' out reqs, Inv cfg g → RespsSane cfg g.s resps →
      step cfg g op resps = .ok (g', out, reqs) →
      ∀ b ∈ g.s.live, b ∈ g'.s.live → (∀ seed, op ≠ .write b.id seed) →
        ∀ k, k < b.size → readByte g'.s (b.addr + k) = readByte g.s (b.addr + k))

end C02
