/-
  Props/C09.lean — property C09: the string types (`BumpBox<str>`, `FixedBumpString`, `BumpString`,
  `MutBumpString`) behave like `std::string::String` and always hold valid UTF-8; C-string
  constructors.  (What the theorems share: Lemmas/Str*.lean; model: Str/*.lean.)

  Reading guide
  * `Str.State` = allocation `buf` + `len`; contents `s.bytes = buf.take len`.
  * `Holds s cs`  : `len ≤ capacity` and the contents are the UTF-8 encoding (Lean core's
    `String.utf8EncodeChar`) of the characters `cs`.   `WF s` : `len ≤ capacity` and the contents are
    `Valid`; equivalently `∃ cs, Holds s cs` (`wf_iff`).
  * `CharPos cs i`: byte index `i` is in range and on a character boundary of `cs`
    (some prefix of `cs` encodes to exactly `i` bytes) — the SPECIFICATION notion; the
    implementation's byte test is `isCharBoundary` (theorem `isCharBoundary_iff`).
  * `AllWF r`     : whatever the outcome `r` (ok / allocation error / PANIC), the string afterwards is
    `WF`, and `r` is not the undefined-behaviour fault (an out-of-bounds copy, an `unwrap_unchecked`
    on `None`).
  * `GrowsToText al s need r out`: `r` is an allocation error leaving `s` unchanged iff the string
    is FIXED and has less than `need` spare bytes; otherwise `r` is `ok` and the string holds `out`
    (a fixed string keeps its capacity).
  All theorems quantify over ALL strings, indices, characters, texts and predicate oracles.
-/
import BumpProof.Lemmas.StrCstr
import BumpProof.Lemmas.StrCtor
import BumpProof.Lemmas.StrExtra
import BumpProof.Lemmas.StrRefine

namespace C09
open Str

/-- decoding the encoding of any character sequence gives it back (so the encoder is injective and
    `core::str::from_utf8` accepts everything `encode_utf8` produces) -/
theorem decode_encode (cs : List Char) : decode (encode cs) = some cs := Str.decode_encode cs

/-- the decoder accepts ONLY encodings (no overlong forms, surrogates, values above U+10FFFF,
    stray or missing continuation bytes) -/
theorem decode_sound (l : Bytes) (cs : List Char) (h : decode l = some cs) : l = encode cs :=
  Str.decode_some h

/-- the executable validity test used by the driver decides `Valid` -/
theorem validUtf8_iff (l : Bytes) : validUtf8 l = true ↔ Valid l := Str.validUtf8_iff l

/-- `Valid` (the encoding, by Lean core's `String.utf8EncodeChar`, of some character sequence) is
    exactly Lean core's `ByteArray.IsValidUTF8`, the invariant of core's `String` -/
theorem valid_iff_core (l : Bytes) : Valid l ↔ ByteArray.IsValidUTF8 l.toByteArray := by
  constructor
  · rintro ⟨cs, rfl⟩
    exact ⟨cs, by rw [List.utf8Encode, encode_eq_flatMap]⟩
  · rintro ⟨cs, h⟩
    refine ⟨cs, ?_⟩
    rw [encode_eq_flatMap]
    have := congrArg (fun b => b.data.toList) h
    simpa [List.utf8Encode, List.toList_data_toByteArray] using this

theorem valid_append (a b : Bytes) (ha : Valid a) (hb : Valid b) : Valid (a ++ b) := ha.append hb

example : Valid [0x61, 0xC3, 0xA9, 0xE2, 0x82, 0xAC, 0xF0, 0x9F, 0x98, 0x80] := by decide
example : ¬ Valid [0xC3] := by decide
example : ¬ Valid [0xC0, 0x80] := by decide          -- overlong
example : ¬ Valid [0xED, 0xA0, 0x80] := by decide    -- surrogate
example : ¬ Valid [0xF4, 0x90, 0x80, 0x80] := by decide  -- above U+10FFFF

/-- for every valid string and EVERY index (in or out of range): the byte test of
    `core::str::is_char_boundary` (index 0, index len, or `(b as i8) >= -0x40`) holds iff some prefix of
    the characters encodes to exactly `i` bytes -/
theorem isCharBoundary_iff (cs : List Char) (i : Nat) :
    isCharBoundary (encode cs) i = true ↔ CharPos cs i := Str.isCharBoundary_iff cs i

theorem valid_split (l : Bytes) (i : Nat) (hv : Valid l) (hb : isCharBoundary l i = true) :
    Valid (l.take i) ∧ Valid (l.drop i) := by
  obtain ⟨cs, rfl⟩ := hv
  obtain ⟨a, b, rfl, rfl⟩ := (Str.isCharBoundary_iff cs i).1 hb
  rw [encode_append, List.take_left, List.drop_left]
  exact ⟨⟨a, rfl⟩, ⟨b, rfl⟩⟩

theorem isCharBoundary_out_of_range (l : Bytes) (i : Nat) (h : l.length < i) : isCharBoundary l i = false := by
  unfold isCharBoundary
  rw [if_neg (by omega), if_pos (by omega)]
  simp; omega

example : isCharBoundary (encode ['a', 'é']) 2 = false := by decide
example : CharPos ['a', 'é'] 1 := ⟨['a'], ['é'], rfl, by decide⟩

/-- `push`: refines `cs ++ [ch]`; never panics; a fixed string fails iff `ch` does not fit -/
theorem push_refines (al : Alloc) (s : State) (ch : Char) (cs : List Char) (h : Holds s cs) :
    GrowsToText al s ch.utf8Size (push al s ch) (cs ++ [ch]) := push_spec al s ch cs h

theorem push_valid (al : Alloc) (s : State) (ch : Char) (h : WF s) : AllWF (push al s ch) :=
  allWF_of_step h (.push ch) rfl

theorem push_str_refines (al : Alloc) (s : State) (t cs : List Char) (h : Holds s cs) :
    GrowsToText al s (encode t).length (pushStr al s (encode t)) (cs ++ t) := pushStr_spec al s t cs h

theorem push_str_valid (al : Alloc) (s : State) (str : Bytes) (h : WF s) (hv : Valid str) :
    AllWF (pushStr al s str) := by
  obtain ⟨t, rfl⟩ := hv
  exact allWF_of_step h (.pushStr t) rfl

example : Holds (State.ofBytes (encode ['a', 'é']) 8) ['a', 'é'] := holds_ofBytes _ _
example : push .fixed (State.ofBytes (encode ['a', 'é']) 4) '€' = .err (State.ofBytes (encode ['a', 'é']) 4) := by decide

/-- `insert` at a character position: refines `cs1 ++ [ch] ++ cs2` -/
theorem insert_refines (al : Alloc) (s : State) (idx : Nat) (ch : Char) (cs1 cs2 : List Char)
    (h : Holds s (cs1 ++ cs2)) (hi : (encode cs1).length = idx) :
    GrowsToText al s ch.utf8Size (insert al s idx ch) (cs1 ++ [ch] ++ cs2) :=
  insert_spec al s idx ch cs1 cs2 h hi

/-- `insert` panics iff the index is out of range or not on a character boundary (that the string then still holds `cs` is
    part of `step_refines_spec`) -/
theorem insert_panics_iff (al : Alloc) (s : State) (idx : Nat) (ch : Char) (cs : List Char) (h : Holds s cs) :
    (insert al s idx ch).isPanic = true ↔ ¬ CharPos cs idx := insertStr_isPanic al s idx (encodeChar ch) cs h

theorem insert_valid (al : Alloc) (s : State) (idx : Nat) (ch : Char) (h : WF s) : AllWF (insert al s idx ch) :=
  allWF_of_step h (.insert idx ch) rfl

theorem insert_str_refines (al : Alloc) (s : State) (idx : Nat) (t cs1 cs2 : List Char)
    (h : Holds s (cs1 ++ cs2)) (hi : (encode cs1).length = idx) :
    GrowsToText al s (encode t).length (insertStr al s idx (encode t)) (cs1 ++ t ++ cs2) :=
  insertStr_spec al s idx t cs1 cs2 h hi

theorem insert_str_panics_iff (al : Alloc) (s : State) (idx : Nat) (t cs : List Char) (h : Holds s cs) :
    (insertStr al s idx (encode t)).isPanic = true ↔ ¬ CharPos cs idx := insertStr_isPanic al s idx (encode t) cs h

theorem insert_str_valid (al : Alloc) (s : State) (idx : Nat) (str : Bytes) (h : WF s) (hv : Valid str) :
    AllWF (insertStr al s idx str) := by
  obtain ⟨t, rfl⟩ := hv
  exact allWF_of_step h (.insertStr idx t) rfl

example : insert .exact (State.ofBytes (encode ['a', 'é'])) 2 'b' = .panic (State.ofBytes (encode ['a', 'é'])) := by decide

/-- `pop` returns the last character (none for the empty string) and the string holds the rest; never panics -/
theorem pop_refines (s : State) (cs : List Char) (h : Holds s cs) :
    (cs = [] ∧ pop s = .ok none s) ∨
    (∃ cs' c s', cs = cs' ++ [c] ∧ pop s = .ok (some c) s' ∧ Holds s' cs') := by
  rcases eq_nil_or_snoc cs with rfl | ⟨cs', c, rfl⟩
  · exact Or.inl ⟨rfl, pop_nil s h⟩
  · obtain ⟨s', hp, hh⟩ := pop_snoc s cs' c h
    exact Or.inr ⟨cs', c, s', rfl, hp, hh⟩

theorem pop_valid (s : State) (h : WF s) : AllWF (pop s) := allWF_of_step (al := .exact) h .pop rfl

/-- `truncate` to a character position keeps exactly the prefix -/
theorem truncate_refines (s : State) (n : Nat) (cs1 cs2 : List Char) (h : Holds s (cs1 ++ cs2))
    (hn : (encode cs1).length = n) : ∃ s', truncate s n = .ok () s' ∧ Holds s' cs1 :=
  truncate_ok s n cs1 cs2 h hn

/-- `truncate` panics iff `new_len ≤ len` is not a character boundary (beyond the length it is a no-op:
    `truncate_beyond_len`) -/
theorem truncate_panics_iff (s : State) (n : Nat) (cs : List Char) (h : Holds s cs) :
    (truncate s n).isPanic = true ↔ (n ≤ s.len ∧ ¬ CharPos cs n) := by
  by_cases hle : n ≤ s.len
  · by_cases hc : CharPos cs n
    · obtain ⟨a, b, rfl, hl⟩ := hc
      obtain ⟨s', ht, _⟩ := truncate_ok s n a b h hl
      rw [ht]; simp [Res.isPanic]; intro _; exact ⟨a, b, rfl, hl⟩
    · rw [truncate_panic s n cs h hle hc]; simp [Res.isPanic, hle, hc]
  · rw [truncate_beyond s n (by omega)]; simp [Res.isPanic, hle]

theorem truncate_beyond_len (s : State) (n : Nat) (hn : s.len < n) : truncate s n = .ok () s :=
  truncate_beyond s n hn

theorem truncate_valid (s : State) (n : Nat) (h : WF s) : AllWF (truncate s n) :=
  allWF_of_step (al := .exact) h (.truncate n) rfl

theorem clear_refines (s : State) : ∃ s', clear s = .ok () s' ∧ Holds s' [] := clear_spec s

/-- `remove` at the start of character `c` returns `c` and closes the gap -/
theorem remove_refines (s : State) (idx : Nat) (c : Char) (cs1 cs2 : List Char)
    (h : Holds s (cs1 ++ c :: cs2)) (hi : (encode cs1).length = idx) :
    ∃ s', remove s idx = .ok c s' ∧ Holds s' (cs1 ++ cs2) := remove_ok s idx c cs1 cs2 h hi

/-- `remove` panics iff `idx ≥ len` or `idx` is not on a character boundary (that the string then still holds `cs` is
    part of `step_refines_spec`) -/
theorem remove_panics_iff (s : State) (idx : Nat) (cs : List Char) (h : Holds s cs) :
    (remove s idx).isPanic = true ↔ (¬ CharPos cs idx ∨ s.len ≤ idx) := by
  by_cases hp : ¬ CharPos cs idx ∨ s.len ≤ idx
  · rw [remove_panic s idx cs h hp]; exact ⟨fun _ => hp, fun _ => rfl⟩
  · obtain ⟨a, b, rfl, hl⟩ := Classical.not_not.1 fun hc => hp (Or.inl hc)
    cases b with
    | nil => exact absurd (Or.inr (by rw [h.len]; simp [← hl])) hp
    | cons c b =>
      obtain ⟨s', hr, _⟩ := remove_ok s idx c a b h hl
      rw [hr]; exact ⟨nofun, fun hx => absurd hx hp⟩

theorem remove_valid (s : State) (idx : Nat) (h : WF s) : AllWF (remove s idx) :=
  allWF_of_step (al := .exact) h (.remove idx) rfl

example : remove (State.ofBytes (encode ['a', 'é', 'b'])) 1 = .ok 'é' { buf := [0x61, 0x62, 0xA9, 0x62], len := 2 } := by decide

/-- for EVERY oracle (any mixture of `keep`/`drop`, a panic at any call): `retain` returns `ok` with
    the kept characters, or — the predicate panicked — unwinds with exactly the characters kept before
    the panic (the `SetLenOnDrop` guard); the oracle list is consumed one outcome per character in the
    original order (`retainSpec`) -/
theorem retain_refines (s : State) (cs : List Char) (oracle : List Outcome) (h : Holds s cs) :
    ∃ s', retain s oracle = (if (retainSpec cs oracle).2 then Res.panic s' else Res.ok () s') ∧
      Holds s' (retainSpec cs oracle).1 := retain_spec s cs oracle h

/-- `retain` panics iff the predicate does -/
theorem retain_panics_iff (s : State) (cs : List Char) (oracle : List Outcome) (h : Holds s cs) :
    (retain s oracle).isPanic = true ↔ (retainSpec cs oracle).2 = true := by
  obtain ⟨s', hr, _⟩ := retain_spec s cs oracle h
  rw [hr]; split <;> simp_all [Res.isPanic]

/-- valid UTF-8 after `retain`, ALSO when the predicate panicked -/
theorem retain_valid (s : State) (oracle : List Outcome) (h : WF s) : AllWF (retain s oracle) :=
  allWF_of_step (al := .exact) h (.retain oracle) rfl

/-- without a panicking outcome `retain` is `List.filter` by the oracle -/
theorem retainSpec_no_panic (cs : List Char) (keep : List Bool) (hk : keep.length = cs.length) :
    retainSpec cs (keep.map fun b => if b then Outcome.keep else Outcome.drop) =
      (((cs.zip keep).filter (·.2)).map (·.1), false) := by
  induction cs generalizing keep with
  | nil => rfl
  | cons c cs ih =>
    cases keep with
    | nil => simp at hk
    | cons b bs =>
      have := ih bs (by simpa using hk)
      cases b <;> simp [retainSpec, this]

example : retainSpec ['a', 'é', 'b'] [.keep, .drop, .panic] = (['a'], true) := by decide
example : retain (State.ofBytes (encode ['a', 'é', 'b'])) [.drop, .keep, .panic] =
    .panic { buf := [0xC3, 0xA9, 0xA9, 0x62], len := 2 } := by decide

/-- range resolution (`slice::range`): the explicit form `start..end` -/
theorem sliceRange_explicit (a b len : Nat) :
    sliceRange (.incl a) (.excl b) len = if a ≤ b ∧ b ≤ len then some (a, b) else none :=
  sliceRange_incl_excl a b len

theorem sliceRange_bounds (sb eb : Bound) (len a b : Nat) (h : sliceRange sb eb len = some (a, b)) :
    a ≤ b ∧ b ≤ len := sliceRange_some h

/-- `drain(range)` over the characters `cs2` (yielding the first `k` of them before the drop)
    removes exactly `cs2` -/
theorem drain_refines (s : State) (sb eb : Bound) (k a b : Nat) (cs1 cs2 cs3 : List Char)
    (h : Holds s (cs1 ++ cs2 ++ cs3)) (hr : sliceRange sb eb s.len = some (a, b))
    (ha : (encode cs1).length = a) (hb : (encode (cs1 ++ cs2)).length = b) :
    ∃ s', drain s sb eb k = .ok (cs2.take k) s' ∧ Holds s' (cs1 ++ cs3) :=
  drain_ok s sb eb k a b cs1 cs2 cs3 h hr ha hb

theorem drain_panics_iff (s : State) (sb eb : Bound) (k : Nat) (cs : List Char) (h : Holds s cs) :
    (drain s sb eb k).isPanic = true ↔ RangeBad cs sb eb s.len :=
  isPanic_iff_rangeBad h (drain_panic s sb eb k cs h) fun a b c1 c2 c3 hr h' h1 h2 => by
    obtain ⟨s', hd, _⟩ := drain_ok s sb eb k a b c1 c2 c3 h' hr h1 h2
    rw [hd]; rfl

theorem drain_valid (s : State) (sb eb : Bound) (k : Nat) (h : WF s) : AllWF (drain s sb eb k) :=
  allWF_of_step (al := .exact) h (.drain sb eb k) rfl

/-- `replace_range(range, t)` over the characters `cs2`: the string holds `cs1 ++ t ++ cs3`; a
    fixed string fails (unchanged) iff the replacement is longer than the range by more than the
    spare capacity -/
theorem replace_range_refines (al : Alloc) (s : State) (sb eb : Bound) (t : List Char) (a b : Nat)
    (cs1 cs2 cs3 : List Char) (h : Holds s (cs1 ++ cs2 ++ cs3)) (hr : sliceRange sb eb s.len = some (a, b))
    (ha : (encode cs1).length = a) (hb : (encode (cs1 ++ cs2)).length = b) :
    GrowsToText al s ((encode t).length - (encode cs2).length) (replaceRange al s sb eb (encode t))
      (cs1 ++ t ++ cs3) := replaceRange_ok al s sb eb t a b cs1 cs2 cs3 h hr ha hb

theorem replace_range_panics_iff (al : Alloc) (s : State) (sb eb : Bound) (t cs : List Char) (h : Holds s cs) :
    (replaceRange al s sb eb (encode t)).isPanic = true ↔ RangeBad cs sb eb s.len :=
  isPanic_iff_rangeBad h (replaceRange_panic al s sb eb _ cs h) fun a b c1 c2 c3 hr h' h1 h2 =>
    grows_not_panic (replaceRange_ok al s sb eb t a b c1 c2 c3 h' hr h1 h2)

theorem replace_range_valid (al : Alloc) (s : State) (sb eb : Bound) (str : Bytes) (h : WF s) (hv : Valid str) :
    AllWF (replaceRange al s sb eb str) := by
  obtain ⟨t, rfl⟩ := hv
  exact allWF_of_step h (.replaceRange sb eb t) rfl

/-- `extend_from_within(range)` appends a copy of the characters `cs2` -/
theorem extend_from_within_refines (al : Alloc) (s : State) (sb eb : Bound) (a b : Nat)
    (cs1 cs2 cs3 : List Char) (h : Holds s (cs1 ++ cs2 ++ cs3)) (hr : sliceRange sb eb s.len = some (a, b))
    (ha : (encode cs1).length = a) (hb : (encode (cs1 ++ cs2)).length = b) :
    GrowsToText al s (encode cs2).length (extendFromWithin al s sb eb) (cs1 ++ cs2 ++ cs3 ++ cs2) :=
  extendFromWithin_ok al s sb eb a b cs1 cs2 cs3 h hr ha hb

theorem extend_from_within_panics_iff (al : Alloc) (s : State) (sb eb : Bound) (cs : List Char) (h : Holds s cs) :
    (extendFromWithin al s sb eb).isPanic = true ↔ RangeBad cs sb eb s.len :=
  isPanic_iff_rangeBad h (extendFromWithin_panic al s sb eb cs h) fun a b c1 c2 c3 hr h' h1 h2 =>
    grows_not_panic (extendFromWithin_ok al s sb eb a b c1 c2 c3 h' hr h1 h2)

theorem extend_from_within_valid (al : Alloc) (s : State) (sb eb : Bound) (h : WF s) :
    AllWF (extendFromWithin al s sb eb) :=
  allWF_of_step h (.extendFromWithin sb eb) rfl

example : RangeBad ['a', 'é'] (.incl 1) (.excl 2) 3 := Or.inr ⟨1, 2, by decide, Or.inr (by
  rw [← Str.isCharBoundary_iff]; decide)⟩
example : ¬ RangeBad ['a', 'é'] (.incl 1) (.excl 3) 3 :=
  not_rangeBad_of_split (a := 1) (b := 3) (cs1 := ['a']) (cs2 := ['é']) (cs3 := []) (by decide) rfl (by decide) (by decide)

/-! ## split_off (in place, range form) — `BumpBox<str>`, `FixedBumpString`, `BumpString` -/

/-- for BOTH orders of the checks (`f = true`: the order of the crate; `f = false`: the order with finding C09-a): a range on
    character boundaries is split off in place — the returned string holds `cs2`, the string keeps
    `cs1 ++ cs3`, and the two capacities add up to the old capacity -/
theorem splitOff_refines (f : Bool) (s : State) (sb eb : Bound) (a b : Nat) (cs1 cs2 cs3 : List Char)
    (h : Holds s (cs1 ++ cs2 ++ cs3)) (hr : sliceRange sb eb s.len = some (a, b))
    (ha : (encode cs1).length = a) (hb : (encode (cs1 ++ cs2)).length = b) :
    ∃ o s', splitOff f s sb eb = .ok o s' ∧ Holds o cs2 ∧ Holds s' (cs1 ++ cs3) ∧ o.cap + s'.cap = s.cap :=
  splitOff_ok f s sb eb a b cs1 cs2 cs3 h hr ha hb

/-- the order of the crate (`Str.c09aFixed = true`, what the driver runs): `split_off` panics
    exactly when the range does not resolve or an end is not on a character boundary -/
theorem splitOff_panics_iff (s : State) (sb eb : Bound) (cs : List Char) (h : Holds s cs) :
    (splitOff true s sb eb).isPanic = true ↔ RangeBad cs sb eb s.len :=
  (splitOff_isPanic true h).trans ⟨fun hx => hx.1, fun hb => ⟨hb, fun hf => nomatch hf⟩⟩

/-- the full "panics iff" statement for the order with finding C09-a (`f = false`); it is FALSE, see
    `splitOff_c09a_target_false` -/
def splitOff_panics_iff_target : Prop :=
  ∀ (s : State) (sb eb : Bound) (cs : List Char), Holds s cs →
    ((splitOff false s sb eb).isPanic = true ↔ RangeBad cs sb eb s.len)

/-- the order with finding C09-a (`f = false`) satisfies "panics iff" only with the finding carved out: the range
    must not be an empty range strictly inside the string -/
theorem splitOff_panics_iff_partial (s : State) (sb eb : Bound) (cs : List Char) (h : Holds s cs)
    (hne : ∀ a, sliceRange sb eb s.len = some (a, a) → a = 0 ∨ a = s.len) :
    (splitOff false s sb eb).isPanic = true ↔ RangeBad cs sb eb s.len :=
  (splitOff_isPanic false h).trans ⟨fun hx => hx.1, fun hb => ⟨hb, fun _ => hne⟩⟩

/-- witness of finding C09-a on the order `f = false`: `"aé".split_off(2..2)` — index 2 is inside
    `é` — returns the empty string and leaves the string alone instead of panicking -/
theorem splitOff_c09a_witness :
    splitOff false (State.ofBytes (encode ['a', 'é'])) (.incl 2) (.excl 2) =
        .ok { buf := [], len := 0 } (State.ofBytes (encode ['a', 'é'])) ∧
      RangeBad ['a', 'é'] (.incl 2) (.excl 2) 3 ∧
      (splitOff true (State.ofBytes (encode ['a', 'é'])) (.incl 2) (.excl 2)).isPanic = true := by
  refine ⟨by decide, Or.inr ⟨2, 2, by decide, Or.inl ?_⟩, by decide⟩
  rw [← Str.isCharBoundary_iff]; decide

/-- hence the full "panics iff" statement is false for the order with finding C09-a -/
theorem splitOff_c09a_target_false : ¬ splitOff_panics_iff_target := by
  intro ht
  have h := ht (State.ofBytes (encode ['a', 'é'])) (.incl 2) (.excl 2) ['a', 'é'] (holds_ofBytes _ _)
  have hw := splitOff_c09a_witness
  rw [hw.1] at h
  have := h.2 hw.2.1
  simp [Res.isPanic] at this

/-- valid UTF-8 in BOTH strings after `split_off`, for both orders, every range, also on a panic
    (the order with finding C09-a never breaks validity: it only fails to panic) -/
theorem splitOff_valid (f : Bool) (s : State) (sb eb : Bound) (h : WF s) :
    match splitOff f s sb eb with
    | .ok o s' => WF o ∧ WF s'
    | .err s' => WF s'
    | .panic s' => WF s'
    | .fault => False := by
  obtain ⟨cs, hc⟩ := (wf_iff s).1 h
  rcases rangeBad_or_split cs sb eb s.len with hbad | ⟨a, b, c1, c2, c3, hr, rfl, h1, h2⟩
  · by_cases hne : f = false → ∀ a, sliceRange sb eb s.len = some (a, a) → a = 0 ∨ a = s.len
    · rw [splitOff_panic f hc hbad hne]; exact h
    · obtain ⟨rfl, hex⟩ := Classical.not_imp.1 hne
      obtain ⟨a, h0⟩ := Classical.not_forall.1 hex
      obtain ⟨hr, hz⟩ := Classical.not_imp.1 h0
      rw [splitOff_unfixed_empty s sb eb a hr (fun e => hz (Or.inl e)) (fun e => hz (Or.inr e))]
      exact ⟨⟨by simp [WFL], [], rfl⟩, h⟩
  · obtain ⟨o, s', hs, ho, hs', _⟩ := splitOff_ok f s sb eb a b c1 c2 c3 hc hr h1 h2
    rw [hs]; exact ⟨ho.wf, hs'.wf⟩

/-- the model switch is on the order of the crate -/
theorem c09a_switch : c09aFixed = true := rfl

/-- `alloc_cstr_from_str`: the text up to the first NUL (or all of it), then one NUL -/
theorem alloc_cstr_from_str_eq (src : Bytes) : allocCstrFromStr src = cstrSpec src := by
  unfold allocCstrFromStr cstrSpec allocCstr
  cases h : nulPos src with
  | none => simp only; rw [nulPos_none h]
  | some n => simp only; exact (nulPos_some h).1

/-- `alloc_cstr` copies a C string (text without NUL + NUL) unchanged, which is its own `cstrSpec` -/
theorem alloc_cstr_eq (text : Bytes) (h : text.count 0 = 0) : allocCstr (text ++ [0]) = cstrSpec (text ++ [0]) := by
  unfold allocCstr cstrSpec
  have hall : ∀ a ∈ text, (a != 0) = true := fun a ha =>
    bne_iff_ne.2 fun h0 => List.count_eq_zero.1 h (h0 ▸ ha)
  rw [List.takeWhile_append_of_pos hall]
  simp

/-- the specified result contains exactly one NUL and ends with it -/
theorem cstr_one_nul (text : Bytes) : (cstrSpec text).count 0 = 1 ∧ (cstrSpec text).getLast? = some 0 := by
  unfold cstrSpec
  exact ⟨by rw [List.count_append, takeWhile_no_zero]; rfl, by simp⟩

/-- `into_cstr` of a (growable) string: returns `cstrSpec` of the contents; the boxed string the
    bytes are taken from holds valid UTF-8 (the characters up to the first NUL character + NUL) -/
theorem into_cstr_refines (s : State) (cs : List Char) (h : Holds s cs) :
    ∃ s', intoCstr .exact s = .ok (cstrSpec s.bytes) s' ∧ Holds s' (cstrText cs) ∧ s'.bytes = cstrSpec s.bytes := by
  unfold intoCstr
  cases hn : nulPos s.bytes with
  | some n =>
    simp only
    obtain ⟨h1, h2⟩ := nulPos_some hn
    rw [bytes_length h.1] at h2
    rw [if_pos h2]
    have hb : ({ s with len := n + 1 } : State).bytes = cstrSpec s.bytes := by
      rw [bytes_setLen s _ h2]; exact h1
    refine ⟨_, by rw [hb], ⟨?_, ?_⟩, hb⟩
    · have := h.1; unfold WFL at *; simp only; omega
    · rw [hb, h.2, cstrSpec_encode]
  | none =>
    simp only
    obtain ⟨s', hp, hh, _⟩ := (push_spec .exact s (Char.ofNat 0) cs h).growable rfl
    rw [hp]
    simp only
    have hb : s'.bytes = cstrSpec s.bytes := by
      rw [hh.2, h.2, cstrSpec_encode]
      unfold cstrText
      have : cs.takeWhile (· != Char.ofNat 0) = cs := by
        have e := takeWhile_encode cs
        rw [← h.2, nulPos_none hn, h.2] at e
        exact (encode_inj e).symm
      rw [this]
    refine ⟨s', by rw [hb], ?_, hb⟩
    refine ⟨hh.1, ?_⟩
    rw [hb, h.2, cstrSpec_encode]

/-- `alloc_cstr_fmt`: a literal format string goes through `alloc_cstr_from_str`; otherwise the
    pieces `core::fmt` writes are pushed and `into_cstr` is applied to their concatenation -/
theorem alloc_cstr_fmt_literal (lit : Bytes) (ps : List Bytes) :
    ∃ s', allocCstrFmt (some lit) ps = .ok (cstrSpec lit) s' := by
  exact ⟨_, by rw [allocCstrFmt, alloc_cstr_from_str_eq]⟩

theorem alloc_cstr_fmt_pieces (ps : List (List Char)) :
    ∃ s', allocCstrFmt none (ps.map encode) = .ok (cstrSpec (encode ps.flatten)) s' := by
  unfold allocCstrFmt
  obtain ⟨s1, hg, hh⟩ := allocCstrFmt_go ps (State.ofBytes []) [] (holds_ofBytes [] 0)
  simp only [hg]
  obtain ⟨s', hi, _, _⟩ := into_cstr_refines s1 _ hh
  rw [hi, hh.2]
  exact ⟨s', by simp⟩

example : cstrSpec [0x61, 0x00, 0x62] = [0x61, 0x00] := by decide
example : allocCstrFromStr (encode ['a', 'é']) = [0x61, 0xC3, 0xA9, 0x00] := by decide

/-- `len ≤ capacity` is part of well-formedness (so it holds after every operation of every history, `run_valid`) -/
theorem len_le_capacity (s : State) (h : WF s) : s.len ≤ s.cap := h.1

/-- `generic_reserve` requests NO growth from the allocator while `additional ≤ capacity - len` -/
theorem reserve_no_realloc (al : Alloc) (s : State) (n : Nat) (h : n ≤ s.cap - s.len) : reserve al s n = some s := by
  unfold reserve; rw [if_pos (by simpa [State.cap] using h)]

/-- `reserve(n)`: contents untouched; afterwards at least `n` spare bytes (the promise); the new
    capacity is the old one if the room sufficed, else `max(2·cap, len+n, 8)` for a `BumpString`
    (`generic_grow_amortized`), the arena's grant (≥ that) for a `MutBumpString`; a fixed string fails -/
theorem reserve_refines (al : Alloc) (s : State) (n : Nat) (cs : List Char) (h : Holds s cs) :
    if al.isFixed = true ∧ s.cap - s.len < n then reserveOp al s n = .err s
    else ∃ s', reserveOp al s n = .ok () s' ∧ Holds s' cs ∧ n ≤ s'.cap - s'.len ∧ CapAfter al s n s'.cap :=
  reserveOp_spec al s n cs h

/-- `reserve_exact(n)`: a growing `BumpString` gets exactly `len + n` -/
theorem reserve_exact_refines (al : Alloc) (s : State) (n : Nat) (cs : List Char) (h : Holds s cs) :
    if al.isFixed = true ∧ s.cap - s.len < n then reserveExactOp al s n = .err s
    else ∃ s', reserveExactOp al s n = .ok () s' ∧ Holds s' cs ∧ n ≤ s'.cap - s'.len ∧
      (n ≤ s.cap - s.len → s' = s) ∧ (s.cap - s.len < n → al = .exact → s'.cap = s.len + n) :=
  reserveExactOp_spec al s n cs h

/-- `with_capacity(c)`: empty, capacity ≥ `c` (exactly `c` for `BumpString` / `FixedBumpString`) -/
theorem with_capacity_promise (al : Alloc) (c : Nat) :
    Holds (withCapacity al c) [] ∧ c ≤ (withCapacity al c).cap ∧
      ((∀ g, al ≠ .atLeast g) → (withCapacity al c).cap = c) := withCapacity_spec al c

/-- `from_str_in(text)` holds the text; a `BumpString` gets exactly `len` bytes -/
theorem from_str_refines (al : Alloc) (cs : List Char) :
    Holds (fromStr al (encode cs)) cs ∧ ((∀ g, al ≠ .atLeast g) → (fromStr al (encode cs)).cap = (encode cs).length) := by
  obtain ⟨_, _, he⟩ := withCapacity_spec al (encode cs).length
  unfold fromStr
  simp only [State.cap] at he ⊢
  refine ⟨⟨by unfold WFL; simp, by simp [State.bytes]⟩, fun hx => ?_⟩
  have := he hx
  simp only [List.length_append, List.length_drop]; omega

/-- every growing operation obeys the same capacity rule (`CapAfter` inside `GrowsToText`): e.g. a
    `push` into sufficient room leaves the capacity alone, a growing `push` on a `BumpString`
    yields exactly `max(2·cap, len + size, 8)` -/
theorem push_capacity (s : State) (ch : Char) (cs : List Char) (h : Holds s cs) :
    ∃ s', push .exact s ch = .ok () s' ∧
      s'.cap = if ch.utf8Size ≤ s.cap - s.len then s.cap else amortizedCap s.cap (s.len + ch.utf8Size) := by
  obtain ⟨s', hr, _, hca⟩ := (push_spec .exact s ch cs h).growable rfl
  refine ⟨s', hr, ?_⟩
  split
  · rename_i hle; exact hca.1 hle
  · rename_i hnle; exact hca.2 (by omega)

/-- a run of `push_str`s that fits into the spare room (what `reserve` / `with_capacity` promised)
    never reallocates: same capacity after all of them (for every allocator kind) -/
theorem no_realloc_while_promise_suffices (al : Alloc) (ts : List (List Char)) (s : State) (cs : List Char)
    (h : Holds s cs) (hfit : (ts.map fun t => (encode t).length).sum ≤ s.cap - s.len) :
    ∃ s', ts.foldl (fun (r : Option State) t => r.bind fun s => (pushStr al s (encode t)).state?) (some s) = some s' ∧
      Holds s' (cs ++ ts.flatten) ∧ s'.cap = s.cap := by
  induction ts generalizing s cs with
  | nil => exact ⟨s, rfl, by simpa using h, rfl⟩
  | cons t ts ih =>
    simp only [List.map_cons, List.sum_cons] at hfit
    have hp := pushStr_spec al s t cs h
    unfold GrowsToText at hp
    rw [if_neg (by omega)] at hp
    obtain ⟨s1, hr, hh, hca⟩ := hp
    have hc1 : s1.cap = s.cap := hca.1 (by omega)
    have hl1 : s1.len = s.len + (encode t).length := by
      rw [hh.len, h.len, encode_append, List.length_append]
    obtain ⟨s', hf, hh', hc'⟩ := ih s1 (cs ++ t) hh (by rw [hc1, hl1]; omega)
    refine ⟨s', ?_, by simpa using hh', by rw [hc', hc1]⟩
    simp only [List.foldl_cons, Option.bind_some, hr, Res.state?]
    exact hf

example : (withCapacity .exact 5).cap = 5 := by decide
example : ∃ s', push .exact (State.ofBytes (encode ['a']) 1) 'é' = .ok () s' ∧ s'.cap = 8 := ⟨_, rfl, by decide⟩

/-- `extend_zeroed(n)` / `try_extend_zeroed(n)`: appends `n` NUL characters; a fixed string without
    the room reports the allocation error and is unchanged (bytes AND length) -/
theorem extend_zeroed_refines (al : Alloc) (s : State) (n : Nat) (cs : List Char) (h : Holds s cs) :
    GrowsToText al s n (extendZeroed al s n) (cs ++ List.replicate n (Char.ofNat 0)) := by
  unfold extendZeroed
  have := appendBytes_spec al s (List.replicate n 0) h.1
  rw [List.length_replicate] at this
  exact this.text (cs := cs ++ List.replicate n (Char.ofNat 0)) (by rw [h.2, encode_append, encode_replicate_nul])

theorem extend_zeroed_valid (al : Alloc) (s : State) (n : Nat) (h : WF s) : AllWF (extendZeroed al s n) := by
  obtain ⟨cs, hc⟩ := (wf_iff s).1 h
  exact (extend_zeroed_refines al s n cs hc).allWF h

/-- `fmt::Write::write_str` / `write_char` are `try_push_str` / `try_push` (so `push_str_refines`,
    `push_refines` and their validity theorems apply verbatim) -/
theorem write_str_eq (al : Alloc) (s : State) (str : Bytes) : writeStr al s str = pushStr al s str := rfl
theorem write_char_eq (al : Alloc) (s : State) (c : Char) : writeChar al s c = push al s c := rfl

/-- `Extend<char>` / `Extend<&char>`: everything is appended, or — only a FIXED string — the
    operation stops with an allocation error after the first `k` characters (or before any), and
    the string holds exactly the old contents plus those `k` characters: valid UTF-8 either way -/
theorem extend_chars_refines (al : Alloc) (xs : List Char) (s : State) (cs : List Char) (h : Holds s cs) :
    ∃ k s', ((extendChars al s xs = .ok () s' ∧ k = xs.length) ∨
             (extendChars al s xs = .err s' ∧ al.isFixed = true ∧ (k < xs.length ∨ s' = s))) ∧
            Holds s' (cs ++ xs.take k) := by
  unfold extendChars
  have hc := reserve_cases al s xs.length h.1
  split at hc
  · rename_i hfix
    rw [hc]
    exact ⟨0, s, Or.inr ⟨rfl, hfix.1, Or.inr rfl⟩, by simpa using h⟩
  · obtain ⟨ext, hr, hroom, _⟩ := hc
    rw [hr]
    obtain ⟨k, s', hk, hh⟩ := pushAllChars_spec al xs _ cs (h.append_buf ext)
    refine ⟨k, s', ?_, hh⟩
    rcases hk with ⟨e, hk⟩ | ⟨e, hf, hk⟩
    · exact Or.inl ⟨e, hk⟩
    · exact Or.inr ⟨e, hf, Or.inl hk⟩

theorem extend_chars_growable (al : Alloc) (hal : al.isFixed = false) (xs : List Char) (s : State) (cs : List Char)
    (h : Holds s cs) : ∃ s', extendChars al s xs = .ok () s' ∧ Holds s' (cs ++ xs) := by
  obtain ⟨k, s', hk, hh⟩ := extend_chars_refines al xs s cs h
  rcases hk with ⟨e, rfl⟩ | ⟨_, hf, _⟩
  · exact ⟨s', e, by simpa using hh⟩
  · rw [hal] at hf; simp at hf

/-- `Extend<&str>` / repeated `+=` -/
theorem extend_strs_refines (al : Alloc) (ps : List (List Char)) (s : State) (cs : List Char) (h : Holds s cs) :
    ∃ k s', ((extendStrs al s (ps.map encode) = .ok () s' ∧ k = ps.length) ∨
             (extendStrs al s (ps.map encode) = .err s' ∧ al.isFixed = true ∧ k < ps.length)) ∧
            Holds s' (cs ++ (ps.take k).flatten) :=
  extendStrs_spec al ps s cs h

/-- `shrink_to(n)`, for BOTH answers of the arena: the contents and the length never change,
    `len ≤ capacity` still holds, the capacity is either unchanged or exactly `max(len, n)` (only if
    the arena shrank and that is smaller), never grows and never drops below `min(n, old capacity)` -/
theorem shrink_to_refines (s : State) (n : Nat) (arenaShrinks : Bool) (cs : List Char) (h : Holds s cs) :
    ∃ s', shrinkTo s n arenaShrinks = .ok () s' ∧ Holds s' cs ∧ s'.len = s.len ∧
      (s'.cap = s.cap ∨ (arenaShrinks = true ∧ max s.len n < s.cap ∧ s'.cap = max s.len n)) ∧
      s'.cap ≤ s.cap ∧ min n s.cap ≤ s'.cap := by
  have hw := h.1
  unfold WFL at hw
  unfold shrinkTo
  simp only
  by_cases h1 : s.buf.length ≤ max s.len n
  · rw [if_pos h1]
    exact ⟨s, rfl, h, rfl, Or.inl rfl, Nat.le_refl _, by simp only [State.cap]; omega⟩
  · rw [if_neg h1]
    cases arenaShrinks with
    | false => exact ⟨s, rfl, h, rfl, Or.inl rfl, Nat.le_refl _, by simp only [State.cap]; omega⟩
    | true =>
      simp only [↓reduceIte]
      refine ⟨_, rfl, ⟨by unfold WFL; simp; omega, ?_⟩, rfl, Or.inr ⟨by trivial, by simp only [State.cap]; omega, by simp [State.cap]; omega⟩,
        by simp [State.cap]; omega, by simp [State.cap]; omega⟩
      rw [← h.2]
      simp only [State.bytes, List.take_take]
      congr 1; omega

/-- `shrink_to_fit` is `shrink_to(0)` -/
theorem shrink_to_fit_eq (s : State) (b : Bool) : shrinkToFit s b = shrinkTo s 0 b := by
  unfold shrinkToFit shrinkTo
  simp

/-- `into_str` / `into_boxed_str` / `into_fixed_string` / `into_bytes` / `into_string` hand out
    exactly the contents (whether or not the `shrink_to_fit` inside `into_boxed_str` succeeds) -/
theorem into_bytes_refines (s : State) (b : Bool) (cs : List Char) (h : Holds s cs) : intoBytes s b = encode cs := by
  unfold intoBytes
  rw [shrink_to_fit_eq]
  obtain ⟨s', hs, hh, _⟩ := shrink_to_refines s 0 b cs h
  rw [hs]; exact hh.2

example : shrinkTo (State.ofBytes (encode ['a', 'é']) 10) 5 true = .ok () { buf := [0x61, 0xC3, 0xA9, 0, 0], len := 3 } := by decide
example : extendChars .fixed (State.ofBytes (encode ['a']) 4) ['b', '€', 'c'] =
    .err { buf := [0x61, 0x62, 0, 0], len := 2 } := by decide

/-- `clone()` of a `BumpString`: the clone holds the same characters (valid UTF-8), in a NEW
    allocation of exactly `len` bytes (capacity = len, whatever the original's capacity) -/
theorem clone_refines (s : State) (cs : List Char) (h : Holds s cs) :
    Holds (cloneStr s) cs ∧ (cloneStr s).cap = s.len ∧ (cloneStr s).len = s.len := by
  have hl := bytes_length h.1
  refine ⟨⟨?_, ?_⟩, ?_, rfl⟩
  · unfold WFL cloneStr; simp only; omega
  · rw [← h.2]
    unfold cloneStr
    simp only [State.bytes, List.take_take, Nat.min_self]
  · simp only [cloneStr, State.cap]; exact hl

example : cloneStr (State.ofBytes (encode ['a', 'é']) 10) = { buf := [0x61, 0xC3, 0xA9], len := 3 } := by decide

/-- `from_utf8` accepts exactly the valid byte strings, and the accepted string IS the input, unchanged -/
theorem from_utf8_accepts (v s : State) (h : fromUtf8 v = some s) : s = v ∧ Valid s.bytes := by
  unfold fromUtf8 at h
  split at h
  · rename_i hv
    simp only [Option.some.injEq] at h; subst h
    exact ⟨rfl, (validUtf8_iff _).1 hv⟩
  · simp at h

theorem from_utf8_rejects_iff (v : State) : fromUtf8 v = none ↔ ¬ Valid v.bytes := by
  unfold fromUtf8
  rw [← validUtf8_iff]
  split <;> simp_all

theorem from_utf8_wf (v s : State) (hv : v.len ≤ v.cap) (h : fromUtf8 v = some s) : WF s := by
  obtain ⟨rfl, hval⟩ := from_utf8_accepts v s h
  exact ⟨hv, hval⟩

/-- `char::decode_utf16` as modelled inverts the UTF-16 encoding (surrogate pairs included) -/
theorem decode_utf16_encode (cs : List Char) : decodeUtf16 (encodeUtf16 cs) = cs.map some := by
  induction cs with
  | nil => rfl
  | cons c cs ih =>
    have hv := charRange c
    have hc : Char.ofNat c.toNat = c := Char.ofNat_toNat c
    simp only [encodeUtf16, encodeUtf16Char, List.map_cons]
    split
    · rename_i hlt
      have hu : (UInt16.ofNat c.toNat).toNat = c.toNat := by simp; omega
      rw [List.singleton_append, decodeUtf16_unit (by omega), hu, hc, ih]
    · rename_i hge
      -- `c - 0x10000 = a * 1024 + b`
      have e := Nat.div_add_mod (c.toNat - 0x10000) 1024
      have hb := Nat.mod_lt (c.toNat - 0x10000) (by decide : 0 < 1024)
      generalize (c.toNat - 0x10000) / 1024 = a at e ⊢
      generalize (c.toNat - 0x10000) % 1024 = b at e hb ⊢
      rw [List.cons_append, List.singleton_append, decodeUtf16_pair (by omega) hb,
        show 0x10000 + a * 1024 + b = c.toNat by omega, hc, ih]

/-- `from_utf16` (and the lossy variant) of well-formed UTF-16 holds exactly the characters -/
theorem from_utf16_refines (al : Alloc) (hal : al.isFixed = false) (cs : List Char) :
    ∃ s', fromUtf16 al (encodeUtf16 cs) = some (.ok () s') ∧ Holds s' cs := by
  unfold fromUtf16
  rw [decode_utf16_encode]
  exact pushDecoded_fresh al hal cs _

theorem from_utf16_lossy_refines (al : Alloc) (hal : al.isFixed = false) (cs : List Char) :
    ∃ s', fromUtf16Lossy al (encodeUtf16 cs) = some (.ok () s') ∧ Holds s' cs := by
  unfold fromUtf16Lossy
  rw [decode_utf16_encode]
  rw [List.map_map]
  exact pushDecoded_fresh al hal cs _

/-- for ARBITRARY UTF-16 input (lone surrogates included): whatever string `from_utf16` /
    `from_utf16_lossy` produce is valid UTF-8 -/
theorem from_utf16_valid (al : Alloc) (v : List UInt16) (r : Res Unit) (h : fromUtf16 al v = some r) : AllWF r :=
  pushDecoded_wf al _ _ (withCapacity_spec al _).1.wf r h

theorem from_utf16_lossy_valid (al : Alloc) (v : List UInt16) (r : Res Unit) (h : fromUtf16Lossy al v = some r) :
    AllWF r := pushDecoded_wf al _ _ (withCapacity_spec al _).1.wf r h

example : encodeUtf16 ['a', '😀'] = [0x61, 0xD83D, 0xDE00] := by decide
example : decodeUtf16 [0xD83D, 0x61] = [none, some 'a'] := by decide
example : fromUtf8 (State.ofBytes [0x61, 0xC3]) = none := by decide

/-- one operation (arbitrary arguments, any outcome — also a panic or an allocation error, after
    which the caller keeps using the string) takes a well-formed string to a well-formed string
    and never reaches undefined behaviour; for every allocator kind and both `split_off` orders -/
theorem step_valid (al : Alloc) (f : Bool) (s : State) (op : Op) (h : WF s) :
    ∃ s', step al f s op = some s' ∧ WF s' := by
  obtain ⟨cs, hc⟩ := (wf_iff s).1 h
  have ht : ∃ s', step al true s op = some s' ∧ WF s' := by
    obtain ⟨s', cs', h1, _, hh⟩ := outRel_next (step_refines al s cs op hc)
    exact ⟨s', h1, hh.wf⟩
  -- only `split_off` looks at the order of the checks
  cases op with
  | splitOff sb eb other =>
    have := splitOff_valid f s sb eb h
    unfold step
    simp only [stepOut]
    generalize splitOff f s sb eb = r at this ⊢
    cases r with
    | ok o s' =>
      cases other with
      | true => exact ⟨o, rfl, this.1⟩
      | false => exact ⟨s', rfl, this.2⟩
    | err s' => exact ⟨s', rfl, this⟩
    | panic s' => exact ⟨s', rfl, this⟩
    | fault => exact this.elim
  | _ => exact ht

/-- **every history**: from a well-formed string, any finite sequence of operations with any
    arguments and any allocator behaviour (continuing after panics and allocation errors, continuing
    with either half after `split_off`) never reaches undefined behaviour and ends in a well-formed
    string — valid UTF-8 and `len ≤ capacity` after every operation of the sequence -/
theorem run_valid (f : Bool) (s : State) (ops : List (Alloc × Op)) (h : WF s) :
    ∃ s', run f s ops = some s' ∧ WF s' := by
  induction ops generalizing s with
  | nil => exact ⟨s, rfl, h⟩
  | cons p ops ih =>
    obtain ⟨al, op⟩ := p
    obtain ⟨s1, h1, hw⟩ := step_valid al f s op h
    simp only [run, h1]
    exact ih s1 hw

/-- clone and original are INDEPENDENT: whatever single operation (any arguments, any outcome) is
    applied to the clone, the original still holds its characters — and vice versa — and the string
    operated on is well formed afterwards.  (In the byte model strings are values, so independence is
    structural; on the implementation it is what the `CLOBBERED` / other-live-string oracles test.) -/
theorem clone_independent (al : Alloc) (f : Bool) (s : State) (cs : List Char) (op : Op) (h : Holds s cs) :
    (∃ c', step al f (cloneStr s) op = some c' ∧ WF c') ∧ Holds s cs ∧
    (∃ s', step al f s op = some s' ∧ WF s') ∧ Holds (cloneStr s) cs :=
  ⟨step_valid al f (cloneStr s) op (clone_refines s cs h).1.wf, h, step_valid al f s op h.wf, (clone_refines s cs h).1⟩

theorem ofBytes_wf (cs : List Char) (cap : Nat) : WF (State.ofBytes (encode cs) cap) := (holds_ofBytes cs cap).wf

example : ∃ s', run true (State.ofBytes (encode ['a', 'é']) 6)
    [(.fixed, .insert 2 'x'), (.fixed, .push '€'), (.fixed, .push '€'), (.fixed, .retain [.keep, .panic]),
     (.fixed, .splitOff (.incl 1) .unbounded true)] = some s' ∧ WF s' :=
  run_valid _ _ _ (ofBytes_wf _ _)

/-- ONE operation, any arguments, any allocator kind: the outcome on the byte model and the outcome
    of the specification `specStep` (what `String` does; byte indices; `split_off` in its range form)
    are of the same kind — `ok` / allocation error / PANIC, so the model panics exactly when the
    specification is undefined —, the returned values are equal, and the string afterwards holds the
    specified characters (also after a panic) -/
theorem step_refines_spec (al : Alloc) (s : State) (cs : List Char) (op : Op) (h : Holds s cs) :
    OutRel (specStep al (s.cap - s.len) cs op) (stepOut al true s op) := step_refines al s cs op h

/-- **every history** is simulated in lock step by the specification (the only thing the
    specification takes from the model is the spare capacity, which only FIXED strings look at) -/
theorem run_refines (s : State) (cs : List Char) (ops : List (Alloc × Op)) (h : Holds s cs) :
    Simulates true s cs ops := by
  induction ops generalizing s cs with
  | nil => trivial
  | cons p ops ih =>
    obtain ⟨al, op⟩ := p
    have hr := step_refines al s cs op h
    obtain ⟨s', cs', h1, h2, hh⟩ := outRel_next hr
    refine ⟨hr, ?_⟩
    rw [h1, h2]
    exact ih s' cs' hh

/-- for growable strings (`BumpString`, `MutBumpString`, any grants) the specification run does not
    depend on the model at all: the trace of outcomes of the byte model and the trace of
    `specRun` (pure `List Char`) are related position by position -/
theorem run_refines_spec_growable (s : State) (cs : List Char) (ops : List (Alloc × Op)) (h : Holds s cs)
    (hg : ∀ p ∈ ops, p.1.isFixed = false) :
    TraceRel (specRun cs (ops.map (·.2))) (modelRun true s ops) := by
  induction ops generalizing s cs with
  | nil => trivial
  | cons p ops ih =>
    obtain ⟨al, op⟩ := p
    have hal : al.isFixed = false := hg (al, op) (by simp)
    have hr := step_refines al s cs op h
    rw [specStep_growable al _ cs op hal] at hr
    obtain ⟨s', cs', h1, h2, hh⟩ := outRel_next hr
    simp only [List.map_cons, specRun, modelRun, h1, h2]
    exact ⟨hr, ih s' cs' hh (fun q hq => hg q (by simp [hq]))⟩

/-- the specification's splitting function returns exactly the splits of `cs` into a prefix of `i` bytes and the
    rest, i.e. the witnesses of `CharPos cs i` -/
theorem splitAtByte_iff (cs : List Char) (i : Nat) (a b : List Char) :
    splitAtByte cs i = some (a, b) ↔ cs = a ++ b ∧ (encode a).length = i := by
  constructor
  · exact splitAtByte_some
  · rintro ⟨rfl, rfl⟩; exact splitAtByte_of a b

example : specStep .exact 0 ['a', 'é', 'b'] (.remove 1) = .ok ['a', 'b'] (.char 'é') := by decide
example : specStep .exact 0 ['a', 'é', 'b'] (.remove 2) = .panic ['a', 'é', 'b'] := by decide
example : specStep .fixed 1 ['a'] (.push 'é') = .err ['a'] := by decide

end C09
